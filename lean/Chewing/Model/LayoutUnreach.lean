import Chewing.Model.LayoutKeys
/-!
Executable check behind the refutations of completeness (known finding F21): along every path the editor
can drive a layout (`Layout.enter`: absorbed keys and Backspace from the fresh state) the syllable carries no
tone, and from no such state does a key commit one of the listed readings or a syllable that offers one as
an alternative.  For the Pinyin variants the check (`pinyinNeverB`) is evaluated by the kernel.  For Hsu, ET26 and DaChen26 the
refutations are proved by argument (`Proofs/LayoutUnreach26.lean`, with the same invariants: the sets of `hsuInv` / `et26Inv` /
`dc26Inv` are `hsuNeed` / `et26Need` / `dc26Need` there); `unreachCheck` can be run on them, and no theorem rests on it.
-/
namespace Chewing
open Gen

/-- a key event with the given key code and key index (the single-syllable layouts read nothing else) -/
def mkKey (x : Nat) : KeyEv := { index := x, code := x, unicode := 0, mods := 0 }

/-- the code of the toneless tuple `(i, m, r)` (= `encode i m r 0`, in a form the kernel evaluates cheaply) -/
def codeOf (i m r : Nat) : Nat := if i + m + r == 0 then 32768 else i * 512 + m * 128 + r * 8

/-- `c` is a toneless syllable whose components satisfy `inv` -/
def invCode (inv : Nat → Nat → Nat → Bool) (c : Nat) : Bool :=
  c % 8 == 0 && inv (c / 512 % 64) (c / 128 % 4) (c / 8 % 16)

def stepCheck (L : Layout) (gaps : List Nat) (inv : Nat → Nat → Nat → Bool) (c key : Nat) : Bool :=
  match L.press c (mkKey key) with
  | some (.absorb, c') => invCode inv c'
  | some (.commit, r') => !gaps.contains r'
  | _ => true

/-- the check for the toneless syllables whose initial index is `i`: Backspace, and every key of `rel`
    (the keys the layout reacts to) -/
def unreachCheck (L : Layout) (gaps : List Nat) (inv : Nat → Nat → Nat → Bool) (rel : List Nat) (i : Nat) : Bool :=
  (List.range 4).all fun m => (List.range 14).all fun r =>
    !inv i m r ||
      (invCode inv (removeLast (codeOf i m r)) &&
       rel.all fun key => stepCheck L gaps inv (codeOf i m r) key)

/-- no `alt_syllables` list contains one of `gaps` (so a gap cannot be entered through a carrier) -/
def altFree (tbl : List (List Nat × List (List Nat))) (gaps : List Nat) : Bool :=
  tbl.all fun row => row.2.all fun a =>
    match sylOf a with
    | some s => !gaps.contains s
    | none => true

def hsuRelKeys : List Nat := hsuEndKeys ++ hsuKeys.map (·.1)
def et26RelKeys : List Nat := et26EndKeys ++ et26Keys.map (·.1)
def dc26RelKeys : List Nat := dc26EndKeys ++ dc26Keys.map (·.1)

/-! the invariants: which lone rimes the editor can never leave in the layout -/

/-- Hsu: ㄝ (rime 4) only after a medial, ㄟ (rime 6) only after an initial or medial -/
def hsuInv (i m r : Nat) : Bool := (r != 4 || m != 0) && (r != 6 || i != 0 || m != 0)
/-- ET26: ㄝ and ㄟ only after an initial or medial -/
def et26Inv (i m r : Nat) : Bool := (r != 4 || i != 0 || m != 0) && (r != 6 || i != 0 || m != 0)
/-- DaChen26: ㄝ and ㄥ (rime 12) only after an initial or medial -/
def dc26Inv (i m r : Nat) : Bool := (r != 4 || i != 0 || m != 0) && (r != 12 || i != 0 || m != 0)

/-! ### Pinyin: every way the end-key branch can produce a syllable -/

/-- the tone an end key can carry -/
def pinyinToneOpts : List (Option Nat) := none :: pinyinToneKeys.map fun row => some row.2
/-- the initial the split can find -/
def pinyinIniOpts : List (Option Nat) := (none :: pinyinInitials.map fun row => some row.2).eraseDups
/-- the (medial, rime) the split can find -/
def pinyinFinOpts : List (Option Nat × Option Nat) :=
  ((none, none) :: pinyinFinals.map fun row => (row.2.1, row.2.2)).eraseDups

def commitsIn (gaps : List Nat) (res : Option (Behavior × PinyinState)) : Bool :=
  match res with
  | some (.commit, st) => gaps.contains st.syl
  | _ => false

/-- no exact-match row, and no (initial, final, tone) combination, commits one of `gaps` under variant `v` -/
def pinyinNeverB (v : Nat) (gaps : List Nat) : Bool :=
  pinyinToneOpts.all fun t =>
    ((variantTable v).all fun row => !commitsIn gaps (pinyinAmb row t)) &&
    (pinyinCommon.all fun row => !commitsIn gaps (pinyinAmb row t)) &&
    (pinyinIniOpts.all fun i => pinyinFinOpts.all fun f => !commitsIn gaps (pinyinBuild v i f.1 f.2 t))

end Chewing
