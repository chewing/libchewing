import Chewing.Model.Layout
import Chewing.Model.LayoutPinyin
import Chewing.Gen.Readings
/-!
Explicit inverses of the layouts: for a reading (syllable code) the list of Qwerty key codes that enters it
(`keysFor…`), and the executable check that it does (`entersB`).  Used by the completeness theorems of C14,
which evaluate the check over the generated table of readings of `data/word.src`.
-/
namespace Chewing
open Gen

/-- the key event of an unmodified key on the Qwerty keyboard, `Qwerty.map(code)`: on Qwerty the matrix
    position, the `KeyCode` and the `KeyIndex` of a key coincide (`Proofs/LayoutTables.lean`, `qwertyKey_spec`:
    `genericMap qwertyKb code 0 = some (qwertyKey code)` for all 63 key codes) -/
def qwertyKey (code : Nat) : KeyEv :=
  { index := code, code := code, unicode := qwertyKb.2.1.getD code 0, mods := 0 }

/-- `KeyCode::Backspace` (checked against the generated enum in `Proofs/LayoutTables.lean`) -/
def keyCodeBackspace : Nat := 52

/-- the way the editor (`EnteringSyllable::next`) drives a layout from `c`: Backspace is `remove_last`, every
    other key but the last is absorbed, the last one commits; result = the committed syllable (`read()`
    after `Commit`) -/
def Layout.enter (L : Layout) (c : Nat) : List KeyEv → Option Nat
  | [] => none
  | [k] =>
    match L.press c k with
    | some (.commit, c') => some c'
    | _ => none
  | k :: ks =>
    if k.code == keyCodeBackspace then L.enter (removeLast c) ks
    else
      match L.press c k with
      | some (.absorb, c') => L.enter c' ks
      | _ => none

/-- `keys` (Qwerty key codes, typed unmodified from the fresh state) enter the reading `r`: they commit `r`
    itself, or a syllable that has a word of its own (so the editor inserts it) and whose `alt_syllables`
    contain `r` (so its candidate list offers the characters read `r`) -/
def entersB (L : Layout) (keys : List Nat) (r : Nat) : Bool :=
  match L.enter clearSyl (keys.map qwertyKey) with
  | some c => c == r || (readingCodes.contains c && (L.alt c).contains r)
  | none => false

/-- one of the candidate key lists enters `r` -/
def entersAny (L : Layout) (cands : List (List Nat)) (r : Nat) : Bool := cands.any fun keys => entersB L keys r

def keyCodeSpace : Nat := 48

/-! ### table-driven layouts: invert the table -/

def keyOfSym (tbl : List (Nat × Nat)) (b : Nat) : Option Nat :=
  (tbl.find? (·.2 == b)).map (·.1)

/-- keys of the present non-tone components in order, then the tone key (`K48` = first tone); a reading
    that is only a tone mark is the tone key (absorbed on an empty buffer) followed by `K48` -/
def tableKeysFor (tbl : List (Nat × Nat)) (r : Nat) : List Nat :=
  let body := ([initial r, medial r, rime r].filterMap id).filterMap (keyOfSym tbl)
  let toneKey := ((tone r).bind (keyOfSym tbl)).toList
  if body.isEmpty then toneKey ++ [keyCodeSpace]
  else body ++ (if toneKey.isEmpty then [keyCodeSpace] else toneKey)

/-! ### the 26-key layouts -/

/-- first key of a (key, condition, a, b) table that stands for `sym` when the syllable typed so far has /
    has not an initial-or-medial (`hasIM`) and a medial (`hasMed`) -/
def rowKey (tbl : List (Nat × Nat × Nat × Nat)) (hasIM hasMed : Bool) (sym : Nat) : Option Nat :=
  (tbl.find? fun row =>
    match row.2.1 with
    | 0 => row.2.2.1 == sym
    | 1 => (if hasIM then row.2.2.1 else row.2.2.2) == sym
    | 2 => (if hasMed then row.2.2.1 else row.2.2.2) == sym
    | _ => false).map (·.1)

/-- the end key that writes tone `t` (`none` = first tone = Space) -/
def toneKeyFor (toneKeys : List (Nat × Nat)) (t : Option Nat) : Nat :=
  match t with
  | none => keyCodeSpace
  | some t => ((toneKeys.find? (·.2 == t)).map (·.1)).getD keyCodeSpace

/-- the initial whose lone occurrence an end key rewrites into the rime `x` -/
def rewriteSource (rw : List (Nat × Nat × Nat)) (x : Nat) : Option Nat :=
  (rw.find? fun row => row.2.1 == 1 && row.2.2 == x).map (·.1)

/-- Hsu / ET26: the keys of the components in order.  `subst` maps an initial to the initial actually typed
    (the layout rewrites it back in context); a lone rime that an end key produces from a lone initial is
    typed as that initial. -/
def direct26 (tbl : List (Nat × Nat × Nat × Nat)) (rw : List (Nat × Nat × Nat)) (toneKeys : List (Nat × Nat))
    (subst : Nat → Nat) (r : Nat) : List Nat :=
  let i := initial r
  let m := medial r
  let x := rime r
  let body :=
    match i, m, x with
    | none, none, some x =>
      match rewriteSource rw x with
      | some src => (rowKey tbl false false src).toList
      | none => (rowKey tbl false false x).toList
    | _, _, _ =>
      (i.bind fun s => rowKey tbl false false (subst s)).toList ++
      (m.bind fun s => rowKey tbl i.isSome false s).toList ++
      (x.bind fun s => rowKey tbl (i.isSome || m.isSome) m.isSome s).toList
  body ++ [toneKeyFor toneKeys (tone r)]

/-- the syllable whose `alt_syllables` row offers `r` -/
def carrierOf (alt : List (List Nat × List (List Nat))) (r : Nat) : Option Nat :=
  (alt.find? fun row => row.2.any fun a => sylOf a == some r).bind fun row => sylOf row.1

/-- candidate key lists for `r`: type it directly, else a layout-specific detour, else type the syllable
    that carries it as an alternative -/
def cands26 (direct detour : Nat → List Nat) (alt : List (List Nat × List (List Nat))) (r : Nat) : List (List Nat) :=
  [direct r, detour r] ++ ((carrierOf alt r).map direct).toList

/-- detours for a reading that is a lone initial: type the initial the layout rewrites in context, a medial
    that triggers the rewrite, Backspace (drops the medial), then the tone key -/
def loneInitialDetours (tbl : List (Nat × Nat × Nat × Nat)) (toneKeys : List (Nat × Nat)) (subst : Nat → Nat)
    (r : Nat) : List (List Nat) :=
  match initial r, medial r, rime r with
  | some s, none, none =>
    [Sym.I, Sym.U, Sym.IU].map fun m =>
      (rowKey tbl false false (subst s)).toList ++ (rowKey tbl true false m).toList ++
        [keyCodeBackspace, toneKeyFor toneKeys (tone r)]
  | _, _, _ => []

/-- the explicit inverse: the first candidate that enters `r` -/
def keysFor (L : Layout) (cands : Nat → List (List Nat)) (r : Nat) : List Nat :=
  ((cands r).find? fun keys => entersB L keys r).getD []

def hsuSubst (s : Nat) : Nat :=
  if s == Sym.J then Sym.ZH else if s == Sym.Q then Sym.CH else if s == Sym.X then Sym.SH else s

def hsuCands (r : Nat) : List (List Nat) :=
  cands26 (direct26 hsuKeys hsuEndRewrites hsuToneKeys hsuSubst) (fun _ => []) hsuAltTable r ++
    loneInitialDetours hsuKeys hsuToneKeys hsuSubst r

def et26Subst (s : Nat) : Nat :=
  if s == Sym.ZH then Sym.J else if s == Sym.SH then Sym.X else if s == Sym.Q then Sym.G else s

/-- a lone ㄑ with a tone: ㄍ, ㄧ (which turns ㄍ into ㄑ), Backspace (drops the ㄧ), tone key -/
def et26Detour (r : Nat) : List Nat :=
  if initial r == some Sym.Q && (medial r).isNone && (rime r).isNone then
    (rowKey et26Keys false false Sym.G).toList ++ (rowKey et26Keys true false Sym.I).toList ++
      [keyCodeBackspace, toneKeyFor et26ToneKeys (tone r)]
  else []

def et26Cands (r : Nat) : List (List Nat) :=
  cands26 (direct26 et26Keys et26EndRewrites et26ToneKeys et26Subst) et26Detour et26AltTable r ++
    loneInitialDetours et26Keys et26ToneKeys et26Subst r

/-- DaChen26: keys are `KeyIndex` values (= Qwerty key codes); a symbol that is the alternative of a
    `default_or_alt` key is that key twice; ㄧ/ㄚ (`K21`) and ㄩ/ㄡ (`K44`) follow their cycles -/
def dc26SymKeys (hasIM : Bool) (sym : Nat) : List Nat :=
  match dc26Keys.find? (fun row =>
      (row.2.1 == 0 && row.2.2.1 == sym) ||
      (row.2.1 == 1 && (if hasIM then row.2.2.1 else row.2.2.2) == sym) ||
      ((row.2.1 == 3 || row.2.1 == 4) && (row.2.2.1 == sym || row.2.2.2 == sym))) with
  | none => []
  | some row => if (row.2.1 == 3 || row.2.1 == 4) && row.2.2.2 == sym then [row.1, row.1] else [row.1]

def dc26KeysFor (r : Nat) : List Nat :=
  let i := initial r
  let m := medial r
  let x := rime r
  let iKeys := (i.map (dc26SymKeys false)).getD []
  let mxKeys :=
    if x == some Sym.A then
      (if m.isNone then [21, 21] else if m == some Sym.I then [21, 21, 21]
       else (m.map (dc26SymKeys i.isSome)).getD [] ++ [21])
    else if x == some Sym.OU then
      (if m.isNone then [44, 44] else (if m == some Sym.I then [21] else (m.map (dc26SymKeys i.isSome)).getD []) ++ [44])
    else
      (if m == some Sym.I then [21] else if m == some Sym.IU then [44] else (m.map (dc26SymKeys i.isSome)).getD []) ++
      (x.map (dc26SymKeys (i.isSome || m.isSome))).getD []
  iKeys ++ mxKeys ++ [toneKeyFor dc26ToneKeys (tone r)]

/-! ### Pinyin -/

/-- the editor's way of driving the Pinyin layout (as `Layout.enter`) -/
def pinyinEnter (v : Nat) : PinyinState → List KeyEv → Option Nat
  | _, [] => none
  | st, [k] =>
    match pinyinPress v st k with
    | some (.commit, st') => some st'.syl
    | _ => none
  | st, k :: ks =>
    if k.code == keyCodeBackspace then pinyinEnter v (pinyinRemoveLast st) ks
    else
      match pinyinPress v st k with
      | some (.absorb, st') => pinyinEnter v st' ks
      | _ => none

/-- Pinyin has no `alt_syllables`: a reading must be committed itself -/
def entersPinyinB (v : Nat) (keys : List Nat) (r : Nat) : Bool :=
  pinyinEnter v PinyinState.init (keys.map qwertyKey) == some r

/-- key code of a lower-case letter (through `KEYCODE_MAP`) -/
def letterKey (ch : Nat) : Nat := (asciiItem keycodeMap ch).1

def pinyinToneKeyFor (t : Option Nat) : Nat :=
  match t with
  | none => keyCodeSpace
  | some t => ((pinyinToneKeys.find? (·.2 == t)).map (·.1)).getD keyCodeSpace

/-- candidate spellings of `(initial, medial, rime)`: every initial row for the initial (standard forms
    first) with every final row for the medial/rime pair; no final at all for a bare initial; the finals
    that stand for nothing (`ih`, `r`, `z`) for a bare tone -/
def pinyinSpellings (i m x : Option Nat) : List (List Nat) :=
  let inis : List (List Nat) :=
    match i with
    | none => [[]]
    | some s => ((pinyinInitials.filter (·.2 == s)).map (·.1)).reverse
  let fins : List (List Nat) :=
    (if m.isNone && x.isNone && i.isSome then [[]] else []) ++
    ((pinyinFinals.filter fun e => e.2.1 == m && e.2.2 == x).map (·.1)) ++
    (if x.isNone then (pinyinFinals.filter fun e => e.2.1.isNone && e.2.2 == m && m.isSome).map (·.1) else [])
  inis.flatMap fun a => fins.map fun b => a ++ b

/-- candidate key lists: each spelling's letters, then the tone key -/
def pinyinCands (r : Nat) : List (List Nat) :=
  (pinyinSpellings (initial r) (medial r) (rime r)).map fun s => s.map letterKey ++ [pinyinToneKeyFor (tone r)]

def entersPinyinAny (v : Nat) (cands : List (List Nat)) (r : Nat) : Bool := cands.any fun keys => entersPinyinB v keys r

/-- the explicit inverse: the first candidate that commits `r` under variant `v` -/
def pinyinKeysFor (v : Nat) (r : Nat) : List Nat :=
  ((pinyinCands r).find? fun keys => entersPinyinB v keys r).getD []

/-! ### known finding F21: the readings a layout cannot enter (codes; spellings in the comments) -/

/-- Hsu: ㄝˋ ㄟˋ ㄑ˙ -/
def hsuGaps : List Nat := [36, 52, 6657]
/-- ET26: ㄝˋ ㄟˋ -/
def et26Gaps : List Nat := [36, 52]
/-- DaChen26: ˙ ˊ ˇ ˋ ㄝ ㄝˋ ㄥ -/
def dc26Gaps : List Nat := [1, 2, 3, 4, 32, 36, 96]
/-- Pinyin: ㄧㄞˊ (all variants); ㄈㄨㄥˋ and ㄐ (THL, MPS2) -/
def pinyinGaps (v : Nat) : List Nat := if v == 0 then [170] else [170, 2404, 6144]

/-! ### blocks of the readings table -/

def readingBlockSize : Nat := 360
def readingBlock (k : Nat) : List Nat := (readingCodes.drop (readingBlockSize * k)).take readingBlockSize

end Chewing
