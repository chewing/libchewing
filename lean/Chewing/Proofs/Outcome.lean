import Chewing.Model.Basic
/-!
What every proof about a modelled call starts from: the `if` rule for an arbitrary predicate, how `Outcome.map`
computes, and `ResAll P r`, "whatever `r` returns satisfies `P`".
-/
namespace Chewing

/-- a predicate holds of an `if` when it holds of each arm under the arm's condition; `P` is found by unification when
    the `if` is the last argument of the goal -/
theorem ite_intro {α : Sort _} {P : α → Prop} {c : Prop} [Decidable c] {a b : α} (h1 : c → P a) (h2 : ¬ c → P b) :
    P (if c then a else b) := by
  split
  · exact h1 ‹_›
  · exact h2 ‹_›

namespace Outcome

theorem map_map {α β γ : Type} (f : α → β) (g : β → γ) (x : Outcome α) :
    (x.map f).map g = x.map (fun a => g (f a)) := by
  cases x <;> rfl

@[simp] theorem map_ok {α β : Type} (f : α → β) (a : α) : (Outcome.ok a).map f = .ok (f a) := rfl
@[simp] theorem map_panic {α β : Type} (f : α → β) (p : String) : (Outcome.panic p : Outcome α).map f = .panic p := rfl
@[simp] theorem map_fuel {α β : Type} (f : α → β) : (Outcome.outOfFuel : Outcome α).map f = .outOfFuel := rfl

theorem map_id' {α : Type} (x : Outcome α) : x.map (fun a => a) = x := by
  cases x <;> rfl

theorem map_congr {α β : Type} {f g : α → β} (x : Outcome α) (h : ∀ a, f a = g a) : x.map f = x.map g := by
  cases x <;> simp [Outcome.map, h]

theorem of_map_ok {α β : Type} {f : α → β} {r : Outcome α} {b : β} (h : r.map f = .ok b) : ∃ a, r = .ok a ∧ f a = b := by
  cases r with
  | ok a => exact ⟨a, rfl, Outcome.ok.inj h⟩
  | panic p => cases h
  | outOfFuel => cases h

end Outcome

theorem C01.ok_unique {α : Type} {r : Outcome α} {a b : α} (h1 : r = .ok a) (h2 : r = .ok b) : a = b :=
  Outcome.ok.inj (h1.symm.trans h2)

theorem C02.map_ok {α β : Type} {r : Outcome α} {f : α → β} {b : β} (h : r.map f = .ok b) : ∃ a, r = .ok a ∧ f a = b :=
  Outcome.of_map_ok h

theorem C05.map_ok {α β : Type} {f : α → β} {r : Outcome α} {b : β} (h : r.map f = .ok b) : ∃ a, r = .ok a ∧ f a = b :=
  Outcome.of_map_ok h

/-- every value `r` can return satisfies `P` -/
def ResAll {α : Type} (P : α → Prop) (r : Outcome α) : Prop := ∀ a, r = .ok a → P a

variable {α β : Type} {Q : α → Prop}

theorem ResAll.ok {a : α} (h : Q a) : ResAll Q (.ok a) := by
  intro a' e; cases e; exact h

theorem ResAll.panic (p : String) : ResAll Q (.panic p) := fun _ e => nomatch e

theorem ResAll.fuel : ResAll Q .outOfFuel := fun _ e => nomatch e

theorem ResAll.ite {c : Prop} [Decidable c] {a b : Outcome α} (h1 : c → ResAll Q a) (h2 : ¬ c → ResAll Q b) :
    ResAll Q (if c then a else b) := ite_intro h1 h2

theorem ResAll.map {R : β → Prop} {f : α → β} {r : Outcome α} (h : ResAll (fun a => R (f a)) r) :
    ResAll R (r.map f) := fun _ e => by
  obtain ⟨a, ea, rfl⟩ := Outcome.of_map_ok e
  exact h a ea

end Chewing
