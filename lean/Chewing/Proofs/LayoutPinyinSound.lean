import Chewing.Proofs.LayoutSound
import Chewing.Model.LayoutUnreach
/-!
Soundness of the Pinyin layout: whatever `key_press` leaves in `syllable` / `syllable_alt` is composable
(if the call returns at all; `none` models the `unwrap()` panics of the builder, see Props/C14.lean).
-/
namespace Chewing
open Gen

/-- a syllable built through the order-checking builder from symbols other than `ˉ` is composable: the builder on symbols
    is the parser on their characters (`go_map_charOf`), none of which is `ˉ` -/
theorem insertAll_comp (syms : List Nat) {bld b' : Builder} {i m r t : Nat} (ha : AbsOk bld i m r t)
    (h5 : Tup 5 i m r t) (h : bld.insertAll syms = .ok b') (hlt : ∀ s ∈ syms, s < 41) : Comp b'.value := by
  have hgo : parse.go bld (syms.map charOf) = .ok b'.value := by
    rw [go_map_charOf syms bld fun b hb => Nat.lt_succ_of_lt (hlt b hb), h]; rfl
  obtain ⟨i', m', r', t', ht, hv, -⟩ := go_spell _ ha h5 hgo fun c hc e => by
    obtain ⟨b, hb, rfl⟩ := List.mem_map.mp hc
    have h1 := chars_tbl.2.1 b (Nat.lt_succ_of_lt (hlt b hb))
    rw [e, ← chars_tbl.2.2.1, chars_tbl.2.1 41 (by decide)] at h1
    exact absurd (Option.some.inj h1) (Nat.ne_of_gt (hlt b hb))
  exact ⟨i', m', r', t', ht, hv⟩

theorem sylOf_comp {syms : List Nat} {c : Nat} (h : sylOf syms = some c) (hlt : ∀ s ∈ syms, s < 41) : Comp c := by
  unfold sylOf at h
  split at h
  · rename_i b hb
    cases h
    exact insertAll_comp syms absOk_new (by unfold Tup; omega) hb hlt
  · cases h

/-- every symbol in the exact-match tables, and every symbol the split of the letters or an end key can supply, is one of
    the 41 symbols other than `ˉ` -/
theorem pinyin_syms :
    (∀ tbl ∈ [pinyinCommon, pinyinHanyu, pinyinThl, pinyinMps2], ∀ row ∈ tbl,
      (∀ s ∈ row.2.1, s < 41) ∧ ∀ s ∈ row.2.2, s < 41) ∧
    (∀ o ∈ pinyinToneOpts, ∀ t ∈ o, t < 41) ∧ (∀ o ∈ pinyinIniOpts, ∀ s ∈ o, s < 41) ∧
    (∀ f ∈ pinyinFinOpts, (∀ s ∈ f.1, s < 41) ∧ ∀ s ∈ f.2, s < 41) := by
  decide +kernel

def PinyinInv (st : PinyinState) : Prop := Comp st.syl ∧ Comp st.alt

theorem pinyinInv_init : PinyinInv PinyinState.init := ⟨comp_empty, comp_empty⟩

theorem variantTable_mem (v : Nat) : variantTable v ∈ [pinyinCommon, pinyinHanyu, pinyinThl, pinyinMps2] := by
  unfold variantTable
  split <;> simp

theorem pinyinAmb_inv {tbl : List (List Nat × List Nat × List Nat)}
    (htbl : tbl ∈ [pinyinCommon, pinyinHanyu, pinyinThl, pinyinMps2]) {row : List Nat × List Nat × List Nat}
    (hrow : row ∈ tbl) {tone : Option Nat} (ht : ∀ t, tone = some t → t < 41) {b : Behavior} {st' : PinyinState}
    (h : pinyinAmb row tone = some (b, st')) : PinyinInv st' := by
  have hr := pinyin_syms.1 tbl htbl row hrow
  unfold pinyinAmb at h
  split at h
  · rename_i p a hp ha
    have cp := sylOf_comp hp hr.1
    have ca := sylOf_comp ha hr.2
    split at h
    · cases h; exact ⟨cp, ca⟩
    · rename_i t
      obtain ⟨p', hp', cp', _⟩ := update_eff cp (ht t rfl)
      obtain ⟨a', ha', ca', _⟩ := update_eff ca (ht t rfl)
      rw [hp', ha'] at h
      cases h; exact ⟨cp', ca'⟩
  · cases h

theorem opt_lt_of_find {α : Type} {l : List α} {p : α → Bool} {f : α → Option Nat} (hall : ∀ x ∈ l, ∀ s, f x = some s → s < 41)
    {s : Nat} (h : (l.find? p).bind f = some s) : s < 41 := by
  cases hf : l.find? p with
  | none => simp [hf] at h
  | some x =>
    simp [hf] at h
    exact hall x (List.mem_of_find?_eq_some hf) s h

theorem pinyinBuild_inv {v : Nat} {ini0 med0 rim0 tone : Option Nat} {b : Behavior} {st' : PinyinState}
    (hi : ∀ s, ini0 = some s → s < 41) (hfm : ∀ s, med0 = some s → s < 41) (hfr : ∀ s, rim0 = some s → s < 41)
    (htone : ∀ s, tone = some s → s < 41) (h : pinyinBuild v ini0 med0 rim0 tone = some (b, st')) :
    PinyinInv st' := by
  unfold pinyinBuild at h
  dsimp only at h
  have h1 : ∀ s, (hanyuEmptyRime v ini0 med0 rim0).1 = some s → s < 41 := by
    intro s; unfold hanyuEmptyRime; split
    · intro hs; cases hs
    · exact hfm s
  have h2 : ∀ s, (hanyuEmptyRime v ini0 med0 rim0).2 = some s → s < 41 := by
    intro s; unfold hanyuEmptyRime; split
    · intro hs; cases hs
    · exact hfr s
  generalize (hanyuEmptyRime v ini0 med0 rim0) = mr at h h1 h2
  have h3 : ∀ s, hanyuJqxU v ini0 mr.1 mr.2 = some s → s < 41 := by
    intro s; unfold hanyuJqxU; split
    · intro hs; cases hs; decide
    · exact h1 s
  generalize hanyuJqxU v ini0 mr.1 mr.2 = med2 at h h3
  have h4 : ∀ s, thlInitial v ini0 med2 = some s → s < 41 := by
    intro s; unfold thlInitial
    repeat' split
    all_goals first
      | exact hi s
      | (intro hs; cases hs; decide)
  generalize thlInitial v ini0 med2 = ini at h h4
  have h5 : ∀ s, thlSupplemental v ini med2 mr.2 = some s → s < 41 := by
    intro s; unfold thlSupplemental; split
    · intro hs; cases hs
    · exact h3 s
  generalize thlSupplemental v ini med2 mr.2 = med at h h5
  split at h
  · rename_i bld hb
    cases h
    have : Comp bld.value := by
      refine insertAll_comp _ absOk_new (by unfold Tup; omega) hb ?_
      intro s hs
      simp only [List.mem_append, Option.mem_toList] at hs
      rcases hs with ((hs | hs) | hs) | hs
      · exact h4 s hs
      · exact h5 s hs
      · exact h2 s hs
      · exact htone s hs
    exact ⟨this, this⟩
  · cases h

/-- the end-key branch of `key_press` is one of: an exact-match row of the variant's or the common table; nothing to build;
    the builder on what a row of the initials and a row of the finals supply — with one of the tones an end key carries -/
theorem pinyinCommit_cases {v : Nat} {st : PinyinState} {code : Nat} {P : Option (Behavior × PinyinState) → Prop}
    (amb : ∀ tone ∈ pinyinToneOpts, ∀ tbl ∈ [variantTable v, pinyinCommon], ∀ row ∈ tbl, P (pinyinAmb row tone))
    (absorb : P (some (.absorb, { st with keySeq := [] })))
    (build : ∀ tone ∈ pinyinToneOpts, ∀ i ∈ pinyinIniOpts, ∀ f ∈ pinyinFinOpts, P (pinyinBuild v i f.1 f.2 tone)) :
    P (pinyinCommit v st code) := by
  have ht : (pinyinToneKeys.find? (·.1 == code)).map (·.2) ∈ pinyinToneOpts := by
    unfold pinyinToneOpts
    cases hf : pinyinToneKeys.find? (·.1 == code) with
    | none => simp
    | some row =>
      simp only [Option.map_some, List.mem_cons, List.mem_map]
      exact Or.inr ⟨row, List.mem_of_find?_eq_some hf, rfl⟩
  unfold pinyinCommit
  simp only
  split
  · next row hf => exact amb _ ht _ (.head _) row (List.mem_of_find?_eq_some hf)
  · split
    · next row hf => exact amb _ ht _ (.tail _ (.head _)) row (List.mem_of_find?_eq_some hf)
    · split
      · exact absorb
      · refine build _ ht _ ?_ (_, _) ?_
        · unfold pinyinIniOpts
          rw [List.mem_eraseDups]
          cases hs : (pinyinSplit st.keySeq).1 with
          | none => simp
          | some e =>
            simp only [Option.map_some, List.mem_cons, List.mem_map]
            refine Or.inr ⟨e, ?_, rfl⟩
            unfold pinyinSplit at hs
            simp only at hs
            exact List.mem_of_find?_eq_some hs
        · unfold pinyinFinOpts
          rw [List.mem_eraseDups]
          cases hs : (pinyinSplit st.keySeq).2 with
          | none => simp
          | some e =>
            simp only [List.mem_cons, List.mem_map]
            refine Or.inr ⟨e, ?_, rfl⟩
            unfold pinyinSplit at hs
            simp only at hs
            exact List.mem_of_find?_eq_some hs

theorem pinyinCommit_inv {v : Nat} {st st' : PinyinState} {code : Nat} {b : Behavior} (hst : PinyinInv st)
    (h : pinyinCommit v st code = some (b, st')) : PinyinInv st' := by
  obtain ⟨-, ht, hi, hf⟩ := pinyin_syms
  revert h
  refine pinyinCommit_cases (P := fun r => r = some (b, st') → PinyinInv st') (fun tone hto tbl htbl row hrow h => ?_)
    (fun h => by cases h; exact hst)
    fun tone hto i hi' f hf' h => pinyinBuild_inv (hi i hi') (hf f hf').1 (hf f hf').2 (ht tone hto) h
  refine pinyinAmb_inv (tbl := tbl) ?_ hrow (ht tone hto) h
  rcases List.mem_cons.mp htbl with rfl | htbl
  · exact variantTable_mem v
  · rw [List.mem_singleton.mp htbl]; simp

/-- `Pinyin::key_press` keeps both syllables composable -/
theorem pinyinPress_inv {v : Nat} {st st' : PinyinState} {k : KeyEv} {b : Behavior} (hst : PinyinInv st)
    (h : pinyinPress v st k = some (b, st')) : PinyinInv st' := by
  unfold pinyinPress at h
  split at h
  · cases h; exact hst
  · split at h
    · split at h
      · cases h; exact hst
      · split at h
        · cases h; exact hst
        · cases h; exact hst
    · exact pinyinCommit_inv hst h

end Chewing
