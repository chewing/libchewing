import Chewing.Model.Syllable
/-!
The one fact about `validCode` (the values `Syllable::try_from` accepts, `Model/Syllable.lean`) that the models of
the dictionary readers need: a valid code is not zero.  The exact characterisation is `Chewing.C13.decode_total_iff`.
-/
namespace Chewing

theorem validCode_zero : validCode 0 = false := by decide

theorem validCode_ne_zero {s : Nat} (h : validCode s = true) : s ≠ 0 :=
  fun e => by rw [e, validCode_zero] at h; cases h

theorem not_validCode_of_zero {s : Nat} (h : s = 0) : validCode s = false := h ▸ validCode_zero

/-- `Syllable::try_from(..).unwrap()` over valid codes does not panic (`make_dict_entry`, the readers' syllable stacks) -/
theorem any_invalid_false {l : List Nat} (h : ∀ s ∈ l, validCode s = true) : (l.any (fun s => !validCode s)) = false := by
  rw [List.any_eq_false]
  intro s hs
  simp [h s hs]

end Chewing
