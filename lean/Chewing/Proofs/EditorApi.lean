import Chewing.Proofs.EditorKey
import Chewing.Proofs.EditorEffect
/-!
What the public calls other than a key and `select(n)` leave behind, as a relation (in the manner of
`EnteringEff`): `ApiEff env e op sh' st'` lists the shared states and states `e.apply env op` can end with, the shared
state as `e.shared` with the fields the call writes.  It is proved once against the model (`apply_eff`); what such a
call does to the pre-edit buffer, the commit buffer, the phonetic buffer, the configuration or the bound of the state
is then an induction on the relation.  `apply_cases` is the case principle for all calls: a key, `select(n)`, or `ApiEff`.
-/
namespace Chewing

variable {D L : Type} (env : Env D L)

/-- the calls that end with `revalidate_selecting` -/
def Op.revalidates : Op L → Prop
  | .setOptions _ | .setLayout _ | .learn _ _ | .unlearn _ _ => True
  | _ => False

/-- the shared state and the state after a public call other than a key and `select(n)` -/
inductive ApiEff (e : Editor D L) : Op L → Shared D L → St → Prop
  /-- a call refused -/
  | same {op : Op L} : op = .cancelSelecting ∨ op = .commit ∨ (∃ w, op = .jump w) → ApiEff e op e.shared e.state
  /-- `start_selecting` — in `EnteringSyllable` with the phonetic buffer cleared first —: no list -/
  | stay (l : L) (b : KB) : l = e.shared.syl ∨ l = env.clearSyl e.shared.syl →
      ApiEff e .startSelecting { e.shared with syl := l, last := b } e.state
  | opened (l : L) (sym : Sym) (s : Selecting) : l = e.shared.syl ∨ l = env.clearSyl e.shared.syl →
      OpensOn env { e.shared with syl := l } sym s →
      ApiEff e .startSelecting { e.shared with syl := l, com := e.shared.com.pushCursor.clampCursor, last := .absorb }
        (.selecting s)
  | cancelled (s : Selecting) : e.state = .selecting s →
      ApiEff e .cancelSelecting { Shared.cancelSelecting e.shared with last := .absorb } .entering
  | committed (sh : Shared D L) : e.state = .entering → e.shared.com.isEmpty = false →
      Shared.commit env e.shared = .ok sh → ApiEff e .commit sh e.state
  | cleared : ApiEff e .clear (Shared.clear env e.shared) .entering
  | acked : ApiEff e .ack { e.shared with commitBuf := [] } e.state
  | sylCleared : ApiEff e .clearSyl { e.shared with syl := env.clearSyl e.shared.syl } e.state
  | engine (k : EngineKind) : ApiEff e (.setEngine k) { e.shared with engine := k } e.state
  | options (o : Options) (l : L) : l = e.shared.syl ∨ l = env.clearSyl e.shared.syl →
      ApiEff e (.setOptions o) { e.shared with syl := l, options := o } e.state
  | layout (l : L) : ApiEff e (.setLayout l) { e.shared with syl := l } e.state
  /-- `learn_phrase` / `unlearn_phrase`: the dictionary and its dirty counter -/
  | dict {op : Op L} (sh1 : Shared D L) : (∃ k p, op = .learn k p ∨ op = .unlearn k p) → C02.LearnFrame e.shared sh1 →
      ApiEff e op sh1 e.state
  /-- `leave_entering_syllable_if_empty`, the last step of a call that may have emptied the phonetic buffer -/
  | left {op : Op L} {sh : Shared D L} : ApiEff e op sh .enteringSyllable → ApiEff e op sh .entering
  /-- a jump moves an open phrase list to another range, the final `revalidate_selecting` an open list to its last page -/
  | relisted {op : Op L} {sh : Shared D L} (s s' : Selecting) : op.revalidates ∨ (∃ w, op = .jump w) →
      ApiEff e op sh (.selecting s) → ApiEff e op sh (.selecting s')
  /-- … or closes a list that has become empty: it was open before the call, over the same buffer -/
  | closed {op : Op L} (sh1 : Shared D L) (s : Selecting) : op.revalidates → ApiEff e op sh1 (.selecting s) →
      e.state = .selecting s → sh1.com = e.shared.com → ApiEff e op (Shared.cancelSelecting sh1) .entering

variable {env}

theorem leaveIfEmpty_eff {e x : Editor D L} {op : Op L} (h : ApiEff env e op x.shared x.state) :
    ApiEff env e op (Editor.leaveIfEmpty env x).shared (Editor.leaveIfEmpty env x).state := by
  unfold Editor.leaveIfEmpty
  split
  · next hc => exact .left (eq_of_beq ((Bool.and_eq_true _ _).mp hc).2 ▸ h)
  · exact h

/-- the calls that end with `revalidate_selecting` run it on an editor `x` in which a list is open only if it was open
    before the call, over the same buffer -/
theorem apply_revalidates {e e' : Editor D L} {op : Op L} (h : e.apply env op = .ok e') (ho : op.revalidates) :
    ∃ x : Editor D L, ApiEff env e op x.shared x.state ∧ (∀ s, x.state = .selecting s → e.state = .selecting s) ∧
      x.shared.com = e.shared.com ∧ x.revalidate env = .ok e' := by
  cases op with
  | setOptions o =>
    refine ⟨e.setOptions env o, leaveIfEmpty_eff ?_, fun _ => leaveIfEmpty_selecting env _, ?_, h⟩
    · dsimp only
      split
      · exact .options o _ (.inr rfl)
      · exact .options o _ (.inl rfl)
    · rw [Editor.setOptions, C05.leaveIfEmpty_shared]
      dsimp only
      split <;> rfl
  | setLayout l =>
    exact ⟨e.setLayout env l, leaveIfEmpty_eff (.layout l), fun _ => leaveIfEmpty_selecting env _,
      by rw [Editor.setLayout, C05.leaveIfEmpty_shared], h⟩
  | learn k p =>
    simp only [Editor.apply] at h
    split at h
    · next sh b hr =>
      have hf := C02.learnPhrase_frame env e.shared k p _ hr
      exact ⟨{ e with shared := sh }, .dict sh ⟨k, p, .inl rfl⟩ hf, fun _ hs => hs, hf.fields.1, h⟩
    · cases h
    · cases h
  | unlearn k p =>
    exact ⟨{ e with shared := Shared.unlearnPhrase env e.shared k p }, .dict _ ⟨k, p, .inr rfl⟩ rfl, fun _ hs => hs, rfl, h⟩
  | _ => exact ho.elim

/-- **every result of a public call other than a key and `select(n)` is one of `ApiEff`** -/
theorem apply_eff {e e' : Editor D L} {op : Op L} (hk : ∀ ev, op ≠ .key ev) (hn : ∀ n, op ≠ .select n)
    (h : e.apply env op = .ok e') : ApiEff env e op e'.shared e'.state := by
  by_cases ho : op.revalidates
  · obtain ⟨x, h1, hst, hc, hv⟩ := apply_revalidates h ho
    rcases revalidate_cases env hv with ⟨rfl, _⟩ | ⟨s, tp, hs, _, _, _, rfl⟩ | ⟨s, hs, _, rfl⟩
    · exact h1
    · exact .relisted s _ (.inl ho) (hs ▸ h1)
    · exact .closed _ s ho (hs ▸ h1) (hst s hs) hc
  cases op with
  | key ev => exact absurd rfl (hk ev)
  | select n => exact absurd rfl (hn n)
  | startSelecting =>
    obtain ⟨⟨e1, b⟩, hr, rfl⟩ := Outcome.of_map_ok h
    refine editorStartSelecting_all env (Q := fun x => ApiEff env e .startSelecting x.1.shared x.1.state)
      (fun sh t _ ho he => ?_) _ hr
    subst he
    refine leaveIfEmpty_eff ?_
    have hs : ∀ l, l = e.shared.syl ∨ l = env.clearSyl e.shared.syl →
        startSelecting env { e.shared with syl := l } = .ok (sh, t) →
        ApiEff env e .startSelecting (applyTrans sh e.state t).1 (applyTrans sh e.state t).2 := fun l hl =>
      startSelecting_opensOn env (sh := { e.shared with syl := l })
        (P := fun sh t => ApiEff env e .startSelecting (applyTrans sh e.state t).1 (applyTrans sh e.state t).2)
        (.stay l _ hl) (fun sym s ho => .opened l sym s hl ho) sh t
    rcases ho with ⟨_, hq⟩ | ⟨_, hq⟩ | ⟨_, _, rfl, rfl⟩
    · exact hs _ (.inl rfl) hq
    · exact hs _ (.inr rfl) hq
    · exact .stay _ _ (.inl rfl)
  | cancelSelecting =>
    cases h
    unfold Editor.cancelSelecting
    split
    · next s hs => exact .cancelled s hs
    · exact .same (.inl rfl)
  | commit =>
    obtain ⟨⟨e1, b⟩, hr, rfl⟩ := Outcome.of_map_ok h
    exact C06.commit_api_all env (Q := fun x => ApiEff env e .commit x.1.shared x.1.state)
      (fun _ => .same (.inr (.inl rfl))) (fun sh hs hne hq => .committed sh hs hne hq) _ hr
  | clear => cases h; exact .cleared
  | ack => cases h; exact .acked
  | setEngine k => cases h; exact .engine k
  | clearSyl => cases h; exact leaveIfEmpty_eff .sylCleared
  | setOptions _ | setLayout _ | learn _ _ | unlearn _ _ => exact absurd trivial ho
  | jump w =>
    obtain ⟨⟨e1, b⟩, hr, rfl⟩ := Outcome.of_map_ok h
    exact jump_all env (Q := fun x => ApiEff env e (.jump w) x.1.shared x.1.state) (.same (.inr (.inr ⟨w, rfl⟩)))
      (fun s _ _ hs _ _ => .relisted s _ (.inr ⟨w, rfl⟩) (hs ▸ .same (.inr (.inr ⟨w, rfl⟩)))) _ hr

/-- **case principle for `Editor.apply`**: a key, `select(n)`, or one of `ApiEff` -/
theorem apply_cases {C : Prop} {e e' : Editor D L} {op : Op L} (h : e.apply env op = .ok e')
    (hkey : ∀ ev b, op = .key ev → e.processKey env ev = .ok (e', b) → C)
    (hsel : ∀ n b, op = .select n → e.select env n = .ok (e', b) → C)
    (hapi : ApiEff env e op e'.shared e'.state → C) : C := by
  by_cases hk : ∃ ev, op = .key ev
  · obtain ⟨ev, rfl⟩ := hk
    obtain ⟨⟨_, b⟩, hr, rfl⟩ := Outcome.of_map_ok h
    exact hkey ev b rfl hr
  by_cases hn : ∃ n, op = .select n
  · obtain ⟨n, rfl⟩ := hn
    obtain ⟨⟨_, b⟩, hr, rfl⟩ := Outcome.of_map_ok h
    exact hsel n b rfl hr
  exact hapi (apply_eff (fun ev c => hk ⟨ev, c⟩) (fun n c => hn ⟨n, c⟩) h)

end Chewing
