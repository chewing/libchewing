import Chewing.Model.TrieCodec
import Chewing.Proofs.Der
import Chewing.Proofs.TrieBytes
/-!
The document level: `Trie::new` on the bytes of `write` gives back the metadata, the index and
the phrase section (`openTrie_write`; `info_roundtrip` of Props/C11.lean is its metadata part).
-/
namespace Chewing.TrieCodec
open Chewing.Der

/-- what `String` guarantees of the five metadata fields -/
def ValidInfo (i : Info) : Prop :=
  (∀ c ∈ i.name, IsScalar c) ∧ (∀ c ∈ i.copyright, IsScalar c) ∧ (∀ c ∈ i.license, IsScalar c) ∧
  (∀ c ∈ i.version, IsScalar c) ∧ (∀ c ∈ i.software, IsScalar c)

theorem le_of_tlv_le (tag : Nat) {c : Bytes} {n : Nat} (h : (tlv tag c).length ≤ n) : c.length ≤ n := by
  have := tlv_length_ge tag c; omega

theorem le_of_append_le {a b : Bytes} {n : Nat} (h : (a ++ b).length ≤ n) : a.length ≤ n ∧ b.length ≤ n := by
  rw [List.length_append] at h
  exact ⟨Nat.le_of_add_right_le h, Nat.le_of_add_left_le h⟩

theorem decInfo_encInfo (i : Info) (r : Bytes) (hi : ValidInfo i) (hl : (encInfo i).length ≤ maxLen) :
    decInfo (encInfo i ++ r) = some (i, r) := by
  obtain ⟨h1, h2, h3, h4, h5⟩ := hi
  have hb := le_of_tlv_le _ hl
  refine decSeq_encSeq _ _ r i ?_ hb
  have ⟨hb, f5⟩ := le_of_append_le hb
  have ⟨hb, f4⟩ := le_of_append_le hb
  have ⟨hb, f3⟩ := le_of_append_le hb
  have ⟨f1, f2⟩ := le_of_append_le hb
  have h := decUtf8_encUtf8 i.software [] h5 (le_of_tlv_le _ f5)
  rw [List.append_nil] at h
  simp only [List.append_assoc, decUtf8_encUtf8 _ _ h1 (le_of_tlv_le _ f1), decUtf8_encUtf8 _ _ h2 (le_of_tlv_le _ f2),
    decUtf8_encUtf8 _ _ h3 (le_of_tlv_le _ f3), decUtf8_encUtf8 _ _ h4 (le_of_tlv_le _ f4), h]

theorem le_of_docBody_le {info : Info} {index data : Bytes} {n : Nat} (h : (docBody info index data).length ≤ n) :
    (encInfo info).length ≤ n ∧ index.length ≤ n ∧ data.length ≤ n := by
  have ⟨h, h5⟩ := le_of_append_le h
  have ⟨h, h4⟩ := le_of_append_le h
  exact ⟨(le_of_append_le h).2, le_of_tlv_le _ h4, le_of_tlv_le _ h5⟩

theorem decBody_docBody (info : Info) (index data : Bytes) (hi : ValidInfo info)
    (hl : (docBody info index data).length ≤ maxLen) :
    decBody (docBody info index data) = some ({ info := info, index := index, data := data }, []) := by
  obtain ⟨h3, h4, h5⟩ := le_of_docBody_le hl
  have h := decSeq_encSeq (fun d => some (d, [])) data [] data rfl h5
  rw [List.append_nil] at h
  simp only [decBody, docBody, List.append_assoc, decUtf8_encUtf8 magic _ (by decide) (by decide),
    decUint_encUint 1 0 _ (by decide) (by decide) (by decide), decInfo_encInfo info _ hi h3,
    decOctets_encOctets index _ h4, h]
  simp

/-- `Trie::new` on a document within `Length::MAX` whose index passes the validation: the metadata and the two
    sections, as they were encoded -/
theorem openTrie_doc (info : Info) (index data : Bytes) (hi : ValidInfo info)
    (hlen : (encSeq (docBody info index data)).length ≤ maxLen) (hv : validIndex index data = true) :
    openTrie (encSeq (docBody info index data)) = some { info := info, index := index, data := data } := by
  have hbl := le_of_tlv_le _ hlen
  have h := decSeq_encSeq decBody _ [] _ (decBody_docBody info index data hi hbl) hbl
  rw [List.append_nil] at h
  simp only [openTrie, if_neg (Nat.not_lt.mpr hlen), h, if_pos hv]

/-- **info_roundtrip** (and the two sections): the real reader's view of a written file -/
theorem openTrie_write (b : Builder) (hi : ValidInfo b.info) (bytes : Bytes) (hw : b.write = some bytes)
    (hv : ∀ recs data, b.buffers = some (recs, data) → recs.length < 4294967296 → data.length < 4294967296 →
      validIndex (recs.flatMap recBytes) data = true) :
    ∃ recs data, b.buffers = some (recs, data) ∧
      bytes = encSeq (docBody b.info (recs.flatMap recBytes) data) ∧
      openTrie bytes = some { info := b.info, index := recs.flatMap recBytes, data := data } ∧
      recs.length < 4294967296 ∧ data.length < 4294967296 := by
  unfold Builder.write at hw
  split at hw
  · cases hw
  next recs data hb =>
    simp only at hw
    split at hw
    next hlen =>
      cases hw
      -- both sections lie inside the body, which is shorter than `Length::MAX` < 2³²
      obtain ⟨-, hr, hd⟩ := le_of_docBody_le (le_of_tlv_le _ hlen)
      rw [flatMap_recBytes_length] at hr
      unfold maxLen at hr hd
      have hrl : recs.length < 4294967296 := by omega
      have hdl : data.length < 4294967296 := by omega
      exact ⟨recs, data, hb, rfl, openTrie_doc _ _ _ hi hlen (hv recs data hb hrl hdl), hrl, hdl⟩
    · cases hw

end Chewing.TrieCodec
