import Chewing.Model.TrieCodec
import Chewing.Proofs.TriePhrase
import Chewing.Proofs.KeyedList
/-!
The builder tree: `insert` is a map update with in-place replacement (`find_insert`), and the
shape invariant `WF` (distinct sibling syllables, each the code of a `Syllable` — non-zero, 16 bits,
a value `Syllable::try_from` accepts (`validCode`) —, no empty leaf, no childless leafless node,
valid phrases) holds for everything built from valid entries.
-/
namespace Chewing.TrieCodec

theorem upsert_eq : ∀ (ps : List Phrase) (p : Phrase), upsert ps p = upsertBy (·.text) ps p
  | [], _ => rfl
  | _ :: rest, p => by rw [upsert, upsertBy, upsert_eq rest p]

theorem upsert_ne_nil (ps : List Phrase) (p : Phrase) : upsert ps p ≠ [] :=
  upsert_eq ps p ▸ upsertBy_ne_nil _ ps p

theorem mem_upsert_self (ps : List Phrase) (p : Phrase) : p ∈ upsert ps p := by
  induction ps with
  | nil => simp [upsert]
  | cons q qs ih => simp only [upsert]; split <;> simp [ih]

theorem mem_upsert {ps : List Phrase} {p q : Phrase} (h : q ∈ upsert ps p) : q = p ∨ q ∈ ps := by
  induction ps with
  | nil => exact Or.inl (List.mem_singleton.mp h)
  | cons r rs ih =>
    simp only [upsert] at h
    split at h
    · exact (List.mem_cons.mp h).imp_right (List.mem_cons_of_mem _)
    · rcases List.mem_cons.mp h with rfl | h
      · exact Or.inr List.mem_cons_self
      · exact (ih h).imp_right (List.mem_cons_of_mem _)

/-- the texts after an insert: unchanged if the text was present (the phrase is replaced where it
    stood), otherwise the new text is appended -/
theorem upsert_texts (ps : List Phrase) (p : Phrase) :
    (upsert ps p).map (·.text) =
      if p.text ∈ ps.map (·.text) then ps.map (·.text) else ps.map (·.text) ++ [p.text] := by
  rw [upsert_eq, upsertBy_keys]
  congr

/-- a re-inserted phrase replaces the earlier one: the stored phrase with that text is the new one -/
theorem upsert_find (ps : List Phrase) (p : Phrase) (hnd : (ps.map (·.text)).Nodup) :
    ∀ q ∈ upsert ps p, q.text = p.text → q = p := fun _ hq ht =>
  ((mem_upsertBy (List.pairwise_map.mp hnd)).mp (upsert_eq ps p ▸ hq)).resolve_right fun h => h.2 ht

theorem upsert_nodup (ps : List Phrase) (p : Phrase) (hnd : (ps.map (·.text)).Nodup) :
    ((upsert ps p).map (·.text)).Nodup :=
  upsert_texts ps p ▸ nodup_add_if_absent hnd p.text

theorem child_modify_self (f : Forest) (s : Nat) (g : NodeData → NodeData) :
    (f.modify s g).child s = some (g ((f.child s).getD (none, .nil))) := by
  induction f with
  | nil => simp [Forest.modify, Forest.child]
  | cons t l sub next _ ih =>
    simp only [Forest.modify, Forest.child]
    split
    · next ht => simp [Forest.child, ht]
    · next ht => simp [Forest.child, ht, ih]

theorem child_modify_of_ne (f : Forest) {s s' : Nat} (g : NodeData → NodeData) (h : s' ≠ s) :
    (f.modify s g).child s' = f.child s' := by
  induction f with
  | nil => simp [Forest.modify, Forest.child, h.symm]
  | cons t l sub next _ ih =>
    simp only [Forest.modify]
    split
    · next ht => simp only [Forest.child, if_neg (ht ▸ h.symm)]
    · simp only [Forest.child, ih]

theorem findNode_empty (k : List Nat) : findNode k (none, .nil) = none := by
  cases k <;> rfl

theorem findNode_insertNode (k k' : List Nat) (p : Phrase) (nd : NodeData) :
    findNode k' (insertNode k p nd) =
      if k' = k then some (upsert ((findNode k nd).getD []) p) else findNode k' nd := by
  induction k generalizing k' nd with
  | nil => cases k' <;> simp [insertNode, findNode]
  | cons s rest ih =>
    cases k' with
    | nil => simp [insertNode, findNode]
    | cons s' rest' =>
      simp only [insertNode, findNode, List.cons.injEq]
      by_cases hs : s' = s
      · subst hs
        rw [child_modify_self]
        simp only [ih, true_and]
        cases nd.2.child s' with
        | none => simp only [Option.getD_none, findNode_empty]
        | some nd' => rfl
      · rw [child_modify_of_ne _ _ hs]
        simp only [hs, false_and, if_false]

/-- `insert` on the builder is an update of the map key ↦ phrase vector, the phrase replacing the
    one with the same text where it stood or being appended -/
theorem find_insert (b : Builder) (k k' : List Nat) (p : Phrase) :
    (b.insert k p).find k' = if k' = k then some (upsert ((b.find k).getD []) p) else b.find k' := by
  have := findNode_insertNode k k' p (b.leaf, b.kids)
  simpa [Builder.insert, Builder.find] using this

/-- the reference map of an entry list (what the statement calls "the phrases inserted for a key") -/
def refFind (es : List Entry) (k : List Nat) : Option (List Phrase) :=
  es.foldl (fun acc e => if e.1 = k then some (upsert (acc.getD []) e.2) else acc) none

theorem find_foldl_insert (es : List Entry) (b : Builder) (k : List Nat) :
    (es.foldl (fun b e => b.insert e.1 e.2) b).find k =
      es.foldl (fun acc e => if e.1 = k then some (upsert (acc.getD []) e.2) else acc) (b.find k) := by
  induction es generalizing b with
  | nil => rfl
  | cons e es ih =>
    simp only [List.foldl_cons, ih, find_insert]
    by_cases h : k = e.1
    · subst h; simp
    · have : ¬ e.1 = k := fun e' => h e'.symm
      simp [h, this]

theorem find_ofEntries (info : Info) (es : List Entry) (k : List Nat) :
    (Builder.ofEntries info es).find k = refFind es k := by
  unfold Builder.ofEntries
  rw [find_foldl_insert]
  have : ({ info := info } : Builder).find k = none := by cases k <;> rfl
  rw [this]
  rfl

/-- what the empty builder has and every insert of an entry of `es` keeps, `ofEntries info es` has -/
theorem ofEntries_induct {P : Builder → Prop} {info : Info} {es : List Entry} (h0 : P { info := info })
    (hstep : ∀ b, ∀ e ∈ es, P b → P (b.insert e.1 e.2)) : P (Builder.ofEntries info es) := by
  unfold Builder.ofEntries
  generalize ({ info := info } : Builder) = b at h0
  induction es generalizing b with
  | nil => exact h0
  | cons e es ih =>
    exact ih (fun b e' he' => hstep b e' (List.mem_cons_of_mem _ he')) _ (hstep b e List.mem_cons_self h0)

theorem info_insert (b : Builder) (k : List Nat) (p : Phrase) : (b.insert k p).info = b.info := rfl

theorem info_ofEntries (info : Info) (es : List Entry) : (Builder.ofEntries info es).info = info :=
  ofEntries_induct (P := fun b => b.info = info) rfl fun b e _ hb => (info_insert b e.1 e.2).trans hb

/-! ### shape invariants

`Forest.WF` and `Forest.Good` are two instances of one shape; what `insert` preserves is proved of the shape. -/

/-- a leaf is never empty and holds valid phrases -/
def LeafOK (l : Option (List Phrase)) : Prop := ∀ ps, l = some ps → ps ≠ [] ∧ ∀ p ∈ ps, ValidPhrase p

def Forest.WF : Forest → Prop
  | .nil => True
  | .cons s l sub next =>
    0 < s ∧ s < 65536 ∧ validCode s = true ∧ next.child s = none ∧ LeafOK l ∧ (l.isSome = true ∨ sub ≠ .nil) ∧ sub.WF ∧ next.WF

def Builder.WF (b : Builder) : Prop := LeafOK b.leaf ∧ b.kids.WF

/-- sibling syllables are pairwise distinct and every node has a leaf or a child -/
def Forest.Good : Forest → Prop
  | .nil => True
  | .cons s l sub next => next.child s = none ∧ (l.isSome = true ∨ sub ≠ .nil) ∧ sub.Good ∧ next.Good

/-- a non-root node of a tree with invariant `R` and leaves in `L`: it has a leaf or a child -/
def NodeIn (R : Forest → Prop) (L : Option (List Phrase) → Prop) (nd : NodeData) : Prop :=
  L nd.1 ∧ (nd.1.isSome = true ∨ nd.2 ≠ .nil) ∧ R nd.2

/-- `R` is the invariant "sibling syllables are pairwise distinct and satisfy `C`, every leaf satisfies `L`, every
    node has a leaf or a child" -/
structure Shape (R : Forest → Prop) (C : Nat → Prop) (L : Option (List Phrase) → Prop) : Prop where
  nil : R .nil
  cons {s l sub next} : R (.cons s l sub next) ↔ C s ∧ next.child s = none ∧ NodeIn R L (l, sub) ∧ R next

theorem WF_shape : Shape Forest.WF (fun s => 0 < s ∧ s < 65536 ∧ validCode s = true) LeafOK where
  nil := trivial
  cons := by intros; simp only [Forest.WF, NodeIn, and_assoc]

theorem Good_shape : Shape Forest.Good (fun _ => True) (fun _ => True) where
  nil := trivial
  cons := by intros; simp only [Forest.Good, NodeIn, true_and, and_assoc]

theorem Forest.WF.good {f : Forest} (hf : f.WF) : f.Good := by
  induction f with
  | nil => trivial
  | cons s l sub next ihs ihn => exact ⟨hf.2.2.2.1, hf.2.2.2.2.2.1, ihs hf.2.2.2.2.2.2.1, ihn hf.2.2.2.2.2.2.2⟩

theorem modify_ne_nil (f : Forest) (s : Nat) (g : NodeData → NodeData) : f.modify s g ≠ .nil := by
  cases f with
  | nil => simp [Forest.modify]
  | cons t l sub next => simp only [Forest.modify]; split <;> simp

namespace Shape
variable {R : Forest → Prop} {C : Nat → Prop} {L : Option (List Phrase) → Prop} (h : Shape R C L)
include h

theorem child {f : Forest} (hf : R f) {s : Nat} {nd : NodeData} (hc : f.child s = some nd) :
    C s ∧ NodeIn R L nd := by
  induction f with
  | nil => cases hc
  | cons t l sub next _ ih =>
    obtain ⟨ht, _, hnd, hnext⟩ := h.cons.mp hf
    simp only [Forest.child] at hc
    split at hc
    · next hts => cases hc; exact ⟨hts ▸ ht, hnd⟩
    · exact ih hnext hc

theorem modify {f : Forest} {s : Nat} {g : NodeData → NodeData} (hs : C s) (hf : R f)
    (hg0 : NodeIn R L (g (none, .nil))) (hg : ∀ nd, NodeIn R L nd → NodeIn R L (g nd)) : R (f.modify s g) := by
  induction f with
  | nil => exact h.cons.mpr ⟨hs, rfl, hg0, h.nil⟩
  | cons t l sub next _ ih =>
    obtain ⟨ht, hd, hnd, hnext⟩ := h.cons.mp hf
    simp only [Forest.modify]
    split
    · exact h.cons.mpr ⟨ht, hd, hg _ hnd, hnext⟩
    · next hts => exact h.cons.mpr ⟨ht, (child_modify_of_ne next g hts).trans hd, hnd, ih hnext⟩

/-- an insert below a node (the root, which may be empty, included) keeps the shape, if a leaf stays in `L` when a
    phrase is put into it -/
theorem insertNode {p : Phrase} (hL : ∀ l, L l → L (some (upsert (l.getD []) p))) (hnone : L none)
    {k : List Nat} (hk : ∀ s ∈ k, C s) (nd : NodeData) (hl : L nd.1) (hw : R nd.2) :
    NodeIn R L (TrieCodec.insertNode k p nd) := by
  induction k generalizing nd with
  | nil => exact ⟨hL _ hl, Or.inl rfl, hw⟩
  | cons s rest ih =>
    have ih := ih fun t ht => hk t (List.mem_cons_of_mem _ ht)
    exact ⟨hl, Or.inr (modify_ne_nil _ _ _),
      h.modify (hk s List.mem_cons_self) hw (ih _ hnone h.nil) fun nd' hnd' => ih nd' hnd'.1 hnd'.2.2⟩

end Shape

theorem LeafOK_upsert {p : Phrase} (hp : ValidPhrase p) (l : Option (List Phrase)) (hl : LeafOK l) :
    LeafOK (some (upsert (l.getD []) p)) := by
  intro ps hps
  cases hps
  refine ⟨upsert_ne_nil _ _, fun q hq => ?_⟩
  rcases mem_upsert hq with rfl | hq
  · exact hp
  · cases l with
    | none => cases hq
    | some ps' => exact (hl ps' rfl).2 q hq

theorem WF_insert (b : Builder) (k : List Nat) (p : Phrase) (hb : b.WF)
    (hk : ∀ s ∈ k, 0 < s ∧ s < 65536 ∧ validCode s = true) (hp : ValidPhrase p) : (b.insert k p).WF :=
  have := WF_shape.insertNode (LeafOK_upsert hp) (fun _ => nofun) hk (b.leaf, b.kids) hb.1 hb.2
  ⟨this.1, this.2.2⟩

theorem mem_toItems_child {f : Forest} (hf : f.Good) (it : Item) :
    it ∈ f.toItems ↔ ∃ s l sub, it = .node s l sub ∧ f.child s = some (l, sub) := by
  induction f with
  | nil => simp [Forest.toItems, Forest.child]
  | cons t l sub next _ ih =>
    obtain ⟨h3, _, _, h7⟩ := hf
    simp only [Forest.toItems, List.mem_cons, ih h7, Forest.child]
    constructor
    · rintro (h | ⟨s, l', sub', h1, h2⟩)
      · exact ⟨t, l, sub, h, by simp⟩
      · refine ⟨s, l', sub', h1, ?_⟩
        have : ¬ t = s := by
          intro e; subst e; rw [h3] at h2; cases h2
        rw [if_neg this]; exact h2
    · rintro ⟨s, l', sub', h1, h2⟩
      by_cases hts : t = s
      · rw [if_pos hts] at h2
        cases h2
        exact Or.inl (by rw [h1, hts])
      · rw [if_neg hts] at h2
        exact Or.inr ⟨s, l', sub', h1, h2⟩

theorem toItems_syl_nodup {f : Forest} (hf : f.Good) : (f.toItems.map Item.syl).Nodup := by
  induction f with
  | nil => exact List.nodup_nil
  | cons t l sub next _ ih =>
    obtain ⟨h3, _, _, h7⟩ := hf
    simp only [Forest.toItems, List.map_cons, List.nodup_cons]
    refine ⟨?_, ih h7⟩
    intro hm
    obtain ⟨it, hit, hs⟩ := List.mem_map.mp hm
    obtain ⟨s, l', sub', e, hc⟩ := (mem_toItems_child h7 it).mp hit
    subst e
    simp only [Item.syl] at hs
    subst hs
    rw [h3] at hc
    cases hc

/-- what the Rust types guarantee of an entry `(&[Syllable], Phrase)`: every syllable is the code of a `Syllable`
    value — a non-zero `u16` that `Syllable::try_from` accepts (`validCode`: since the repair of C13's finding F47
    this is the invariant of the type `Syllable`, for `try_from`, the builder, `update` and `remove_*` alike; before
    it, every non-zero `u16` was a `Syllable`) —, and the phrase is valid.  `0 < s` follows from `validCode s`
    (`validCode_ne_zero`) and is kept for the proofs that use it directly. -/
def ValidEntry (e : Entry) : Prop := (∀ s ∈ e.1, 0 < s ∧ s < 65536 ∧ validCode s = true) ∧ ValidPhrase e.2

theorem WF_ofEntries (info : Info) (es : List Entry) (h : ∀ e ∈ es, ValidEntry e) :
    (Builder.ofEntries info es).WF :=
  ofEntries_induct (P := Builder.WF) ⟨fun _ => nofun, trivial⟩ fun b e he hb => WF_insert b e.1 e.2 hb (h e he).1 (h e he).2

end Chewing.TrieCodec
