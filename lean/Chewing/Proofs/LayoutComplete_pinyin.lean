import Chewing.Model.LayoutKeys
/-! Completeness check of the three Pinyin variants (outside the readings of known finding F21) over the generated
    readings of data/word.src, evaluated by the kernel (a finite quantifier; re-run whenever the tables, the readings or
    the model change).  The variants are the inner quantifier: finding the candidate spellings of a reading
    (`pinyinCands r`, independent of the variant) is the dear part, and the kernel then does it once per reading. -/
namespace Chewing
open Gen

theorem complete_pinyin_tbl :
    (readingCodes.all fun r => (List.range 3).all fun v =>
      (pinyinGaps v).contains r || entersPinyinAny v (pinyinCands r) r) = true := by
  decide +kernel

end Chewing
