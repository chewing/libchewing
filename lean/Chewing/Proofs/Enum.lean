/-!
Finite enumeration helpers: a `Bool`-valued check over `0..n` that the kernel evaluates
(`decide +kernel`), and the lemma that lifts it to the bounded universal statement.
A table theorem proved this way is a proof over the *whole* finite domain, re-run whenever
the generated tables change.
-/
namespace Chewing

def allLt (n : Nat) (p : Nat → Bool) : Bool := (List.range n).all p

theorem allLt_spec {n : Nat} {p : Nat → Bool} (h : allLt n p = true) :
    ∀ i, i < n → p i = true := by
  intro i hi
  exact List.all_eq_true.mp h i (List.mem_range.mpr hi)

end Chewing
