import Chewing.Model.TrieBuf
/-!
# Insertion sort, and: stable sorts under a total preorder are unique

The model sorts by insertion in eight places.  `isort` (`Model/TrieBuf.lean`) is the one the facts are proved
for: a permutation; sorted and stable when the comparator is a total preorder; the identity on a sorted list.
Every other sort of the model is tied to it by one equation in its own module: `Cli.insSort`,
`SysLoader.sortNames`, `sortByStart`, `Conversion.sortDesc` and `Learn.sortDesc` insert `x` in front of the
first `y` that it may stand before (`r x y`), and are `isort (fun a b => !decide (r b a))` by `isort_unique`;
`TrieCodec.sortBy` = `Cli.stableSort`, which insert from the other end, are `isort` of the reversed list under
the reversed comparator (`Proofs/TrieSort.lean`).

`slice::sort_by` is *some* stable sort (insertion sort up to 20 elements, a merge sort beyond).  The
three models of `TrieBuilder::write`'s leaf sort each picked an insertion sort: `isort` (C09), `TrieCodec.sortBy`
(C11, from the left, inserting from the right) and `Cli.stableSort` (C20, the same loop as C11's).  Since fix
ddfe893 the comparator is a total preorder, and then the choice does not matter: two lists that are sorted
(`lt b a = false` for `a` before `b`) and agree on every class of mutually equivalent elements *as lists*
(= stability) are equal (`sorted_stable_unique`).

Everything is relative to a carrier `S` (the comparator of C20's model is only known to be a total
preorder on texts that are Unicode scalar values).
-/
namespace Chewing

variable {α : Type}

theorem place_perm (lt : α → α → Bool) (x : α) (l : List α) : (place lt x l).Perm (x :: l) := by
  induction l with
  | nil => exact .refl _
  | cons y r ih =>
    unfold place
    split
    · exact (ih.cons y).trans (.swap x y r)
    · exact .refl _

theorem isort_perm (lt : α → α → Bool) (l : List α) : (isort lt l).Perm l := by
  induction l with
  | nil => exact .refl _
  | cons x l ih => exact (place_perm lt x _).trans (ih.cons x)

theorem mem_isort (lt : α → α → Bool) {l : List α} {x : α} : x ∈ isort lt l ↔ x ∈ l :=
  (isort_perm lt l).mem_iff

theorem mem_place (lt : α → α → Bool) {l : List α} {x y : α} : y ∈ place lt x l ↔ y = x ∨ y ∈ l := by
  rw [(place_perm lt x l).mem_iff, List.mem_cons]

/-- a function with the equations of insertion, putting `x` in front of the first `y` with `r x y`, is `place` -/
theorem place_unique {r : α → α → Prop} [DecidableRel r] {ins : α → List α → List α} (h0 : ∀ x, ins x [] = [x])
    (h1 : ∀ x y ys, ins x (y :: ys) = if r x y then x :: y :: ys else y :: ins x ys) (x : α) (l : List α) :
    ins x l = place (fun a b => !decide (r b a)) x l := by
  induction l with
  | nil => exact h0 x
  | cons y ys ih =>
    rw [h1, place, ih]
    by_cases h : r x y <;> simp [h]

/-- … and the sort that inserts with it is `isort`: what ties `Cli.insSort`, `SysLoader.sortNames`, `sortByStart`
    and both `sortDesc` to it -/
theorem isort_unique {r : α → α → Prop} [DecidableRel r] {ins : α → List α → List α} {sort : List α → List α}
    (h0 : ∀ x, ins x [] = [x])
    (h1 : ∀ x y ys, ins x (y :: ys) = if r x y then x :: y :: ys else y :: ins x ys)
    (s0 : sort [] = []) (s1 : ∀ x xs, sort (x :: xs) = ins x (sort xs)) (l : List α) :
    sort l = isort (fun a b => !decide (r b a)) l := by
  induction l with
  | nil => exact s0
  | cons x xs ih => rw [s1, ih, place_unique h0 h1]; rfl

/-- insertion keeps a list `R`-sorted: the elements `x` passes are `R`-before it, the one it stops at is
    `R`-after it, and so then are the later ones -/
theorem place_pairwise {R : α → α → Prop} {lt : α → α → Bool} {x : α} {l : List α}
    (h1 : ∀ y ∈ l, lt y x = true → R y x) (h2 : ∀ y ∈ l, lt y x = false → R x y)
    (h3 : ∀ y ∈ l, ∀ z ∈ l, R x y → R y z → R x z) (hs : l.Pairwise R) : (place lt x l).Pairwise R := by
  induction l with
  | nil => exact List.pairwise_singleton _ _
  | cons y r ih =>
    have ⟨hy, hr⟩ := List.pairwise_cons.mp hs
    unfold place
    split
    · next c =>
      refine List.pairwise_cons.mpr ⟨fun z hz => ?_, ih (fun z hz => h1 z (.tail _ hz))
        (fun z hz => h2 z (.tail _ hz)) (fun z hz w hw => h3 z (.tail _ hz) w (.tail _ hw)) hr⟩
      rcases (mem_place lt).mp hz with rfl | hz
      · exact h1 y (.head _) c
      · exact hy z hz
    · next c =>
      have hxy := h2 y (.head _) (Bool.not_eq_true _ ▸ c)
      refine List.pairwise_cons.mpr ⟨fun z hz => ?_, hs⟩
      rcases List.mem_cons.mp hz with rfl | hz
      · exact hxy
      · exact h3 y (.head _) z (.tail _ hz) hxy (hy z hz)

/-- stability of one insertion: `x` passes no element of a class it belongs to -/
theorem place_filter (lt : α → α → Bool) (p : α → Bool) (x : α) (l : List α)
    (h : ∀ b ∈ l, p b = true → p x = true → lt b x = false) : (place lt x l).filter p = (x :: l).filter p := by
  induction l with
  | nil => rfl
  | cons y r ih =>
    unfold place
    split
    · next hlt =>
      rw [List.filter_cons, ih fun b hb => h b (.tail _ hb)]
      cases hy : p y
      · simp [List.filter_cons, hy]
      · cases hx : p x
        · simp [hx, hy]
        · rw [h y (.head _) hy hx] at hlt; cases hlt
    · rfl

/-- stability: elements among which nothing compares `Less` keep their relative order -/
theorem isort_filter (lt : α → α → Bool) (p : α → Bool) (l : List α)
    (h : ∀ a ∈ l, ∀ b ∈ l, p a = true → p b = true → lt a b = false) : (isort lt l).filter p = l.filter p := by
  induction l with
  | nil => rfl
  | cons x l ih =>
    show (place lt x (isort lt l)).filter p = _
    rw [place_filter _ _ _ _ fun b hb => h b (.tail _ ((mem_isort lt).mp hb)) x (.head _), List.filter_cons,
      List.filter_cons, ih fun a ha b hb => h a (.tail _ ha) b (.tail _ hb)]

theorem place_map {β : Type} (lt1 : α → α → Bool) (lt2 : β → β → Bool) (f : α → β) (x : α) (l : List α)
    (h : ∀ b ∈ l, lt2 (f b) (f x) = lt1 b x) : place lt2 (f x) (l.map f) = (place lt1 x l).map f := by
  induction l with
  | nil => rfl
  | cons y r ih =>
    rw [List.map_cons, place, place, h y (.head _), ih fun b hb => h b (.tail _ hb)]
    split <;> rfl

/-- sorting commutes with a map under which the two comparators agree on the elements of the list -/
theorem isort_map {β : Type} (lt1 : α → α → Bool) (lt2 : β → β → Bool) (f : α → β) (l : List α)
    (h : ∀ a ∈ l, ∀ b ∈ l, lt2 (f a) (f b) = lt1 a b) : isort lt2 (l.map f) = (isort lt1 l).map f := by
  induction l with
  | nil => rfl
  | cons x l ih =>
    show place lt2 (f x) (isort lt2 (l.map f)) = (place lt1 x (isort lt1 l)).map f
    rw [ih fun a ha b hb => h a (.tail _ ha) b (.tail _ hb), place_map]
    exact fun b hb => h b (.tail _ ((mem_isort lt1).mp hb)) x (.head _)

namespace StableSort

/-- `lt` ("compares `Less`") is a total preorder on `S`: asymmetric, and "not after" is transitive -/
structure TPOn (lt : α → α → Bool) (S : α → Prop) : Prop where
  asymm : ∀ a b, S a → S b → lt a b = true → lt b a = false
  negtrans : ∀ a b c, S a → S b → S c → lt b a = false → lt c b = false → lt c a = false

/-- neither compares `Less` than the other (`Ordering::Equal` for a consistent comparator) -/
def eqv (lt : α → α → Bool) (a b : α) : Bool := !lt a b && !lt b a

/-- sorted: nothing stands before an element it compares `Greater` than -/
def Sorted (lt : α → α → Bool) (l : List α) : Prop := l.Pairwise (fun a b => lt b a = false)

/-- stable arrangement of `l`: every class of equivalent elements appears as in `l` -/
def StableOf (lt : α → α → Bool) (S : α → Prop) (l r : List α) : Prop :=
  ∀ a, S a → r.filter (eqv lt a) = l.filter (eqv lt a)

theorem TPOn.irrefl {lt : α → α → Bool} {S : α → Prop} (h : TPOn lt S) (a : α) (ha : S a) : lt a a = false := by
  cases e : lt a a with
  | false => rfl
  | true => rw [h.asymm a a ha ha e] at e; cases e

/-- the same preorder read from the other end -/
theorem TPOn.flip {lt : α → α → Bool} {S : α → Prop} (h : TPOn lt S) : TPOn (fun a b => lt b a) S :=
  ⟨fun a b ha hb => h.asymm b a hb ha, fun a b c ha hb hc h1 h2 => h.negtrans c b a hc hb ha h2 h1⟩

/-- a total transitive `r` ("may stand before"), as the comparator "`b` may not stand before `a`" -/
theorem TPOn.of_le {r : α → α → Prop} [DecidableRel r] (tot : ∀ a b, r a b ∨ r b a)
    (tr : ∀ a b c, r a b → r b c → r a c) : TPOn (fun a b => !decide (r b a)) (fun _ => True) := by
  constructor
  · intro a b _ _ h
    simpa using (tot a b).resolve_right (by simpa using h)
  · intro a b c _ _ _ h1 h2
    simp only [Bool.not_eq_false', decide_eq_true_eq] at *
    exact tr a b c h1 h2

/-- a total preorder pulled back along a map -/
theorem TPOn.pullback {β : Type} {lt1 : α → α → Bool} {S1 : α → Prop} (hp : TPOn lt1 S1) (lt2 : β → β → Bool)
    (S2 : β → Prop) (g : β → α) (hg : ∀ b, S2 b → S1 (g b))
    (h : ∀ a b, S2 a → S2 b → lt2 a b = lt1 (g a) (g b)) : TPOn lt2 S2 := by
  constructor
  · intro a b ha hb hab
    rw [h a b ha hb] at hab
    rw [h b a hb ha]
    exact hp.asymm _ _ (hg a ha) (hg b hb) hab
  · intro a b c ha hb hc h1 h2
    rw [h b a hb ha] at h1
    rw [h c b hc hb] at h2
    rw [h c a hc ha]
    exact hp.negtrans _ _ _ (hg a ha) (hg b hb) (hg c hc) h1 h2

theorem eqv_self {lt : α → α → Bool} {S : α → Prop} (h : TPOn lt S) (a : α) (ha : S a) : eqv lt a a = true := by
  simp [eqv, h.irrefl a ha]

/-- **uniqueness**: sorted + same equivalence classes in the same order ⇒ equal -/
theorem sorted_stable_unique {lt : α → α → Bool} {S : α → Prop} (hp : TPOn lt S) :
    ∀ (r1 r2 : List α), (∀ a ∈ r1, S a) → (∀ a ∈ r2, S a) → Sorted lt r1 → Sorted lt r2 →
      StableOf lt S r2 r1 → r1 = r2 := by
  -- a head is in its own class, so it occurs in the other list; the head of a sorted list is after no member
  have hmem {x : α} {r l : List α} (hx : S x) (e : (x :: r).filter (eqv lt x) = l.filter (eqv lt x)) : x ∈ l :=
    (List.mem_filter.mp (e ▸ List.mem_filter.mpr ⟨.head _, eqv_self hp x hx⟩)).1
  have hhead {x y : α} {r : List α} (hy : S y) (s : Sorted lt (y :: r)) (hx : x ∈ y :: r) : lt x y = false := by
    rcases List.mem_cons.mp hx with rfl | hx
    · exact hp.irrefl _ hy
    · exact (List.pairwise_cons.mp s).1 _ hx
  intro r1
  induction r1 with
  | nil =>
    intro r2 _ h2 _ _ h
    cases r2 with
    | nil => rfl
    | cons b r2 => cases hmem (h2 b (.head _)) (h b (h2 b (.head _))).symm
  | cons a r1 ih =>
    intro r2 h1 h2 s1 s2 h
    have ha := h1 a (.head _)
    cases r2 with
    | nil => cases hmem ha (h a ha)
    | cons b r2 =>
      have hb := h2 b (.head _)
      -- each head occurs in the other list, so neither is before the other: one class, hence the same element
      have he : eqv lt a b = true := by
        simp [eqv, hhead hb s2 (hmem ha (h a ha)), hhead ha s1 (hmem hb (h b hb).symm)]
      have h0 := h a ha
      rw [List.filter_cons_of_pos (eqv_self hp a ha), List.filter_cons_of_pos he] at h0
      cases (List.cons.inj h0).1
      refine congrArg _ (ih r2 (fun z hz => h1 z (.tail _ hz)) (fun z hz => h2 z (.tail _ hz))
        (List.pairwise_cons.mp s1).2 (List.pairwise_cons.mp s2).2 fun c hc => ?_)
      have := h c hc
      simp only [List.filter_cons] at this
      split at this
      · exact (List.cons.inj this).2
      · exact this

theorem isort_sorted {lt : α → α → Bool} {S : α → Prop} (hp : TPOn lt S) (l : List α) (hS : ∀ a ∈ l, S a) :
    Sorted lt (isort lt l) := by
  induction l with
  | nil => exact .nil
  | cons x l ih =>
    have hx := hS x (.head _)
    have hl : ∀ a ∈ isort lt l, S a := fun a ha => hS a (.tail _ ((mem_isort lt).mp ha))
    exact place_pairwise (fun y hy => hp.asymm y x (hl y hy) hx) (fun _ _ h => h)
      (fun y hy z hz => hp.negtrans x y z hx (hl y hy) (hl z hz)) (ih fun a ha => hS a (.tail _ ha))

/-- a sorted list is left alone -/
theorem isort_of_sorted {lt : α → α → Bool} {l : List α} (h : Sorted lt l) : isort lt l = l := by
  induction l with
  | nil => rfl
  | cons x l ih =>
    have ⟨hx, hl⟩ := List.pairwise_cons.mp h
    show place lt x (isort lt l) = _
    rw [ih hl]
    cases l with
    | nil => rfl
    | cons y r => rw [place, hx y (.head _)]; rfl

/-- members of one class do not compare `Less`: `b ≤ c` and `c ≤ a` give `b ≤ a` -/
theorem TPOn.eqv_not_lt {lt : α → α → Bool} {S : α → Prop} (hp : TPOn lt S) {a b c : α} (ha : S a) (hb : S b)
    (hc : S c) (h1 : eqv lt c a = true) (h2 : eqv lt c b = true) : lt a b = false := by
  simp only [eqv, Bool.and_eq_true, Bool.not_eq_true'] at h1 h2
  exact hp.negtrans b c a hb hc ha h2.1 h1.2

theorem isort_stable {lt : α → α → Bool} {S : α → Prop} (hp : TPOn lt S) (l : List α) (hS : ∀ a ∈ l, S a) :
    StableOf lt S l (isort lt l) :=
  fun _ hc => isort_filter lt _ l fun a ha b hb => hp.eqv_not_lt (hS a ha) (hS b hb) hc

/-- sorted by a total transitive `r` -/
theorem isort_le_pairwise {r : α → α → Prop} [DecidableRel r] (tot : ∀ a b, r a b ∨ r b a)
    (tr : ∀ a b c, r a b → r b c → r a c) (l : List α) : (isort (fun a b => !decide (r b a)) l).Pairwise r :=
  (isort_sorted (TPOn.of_le tot tr) l fun _ _ => trivial).imp (by simp)

end StableSort
end Chewing
