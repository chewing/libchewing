import Chewing.Model.Uhash
import Chewing.Proofs.Returns
/-!
No-panic / termination lemmas for the legacy readers (`Model/Uhash.lean`), for ALL byte strings.
-/
namespace Chewing.Uhash

theorem idx_returns {buf : List Nat} {i : Nat} (h : i < buf.length) : Returns (idx buf i) := by
  unfold idx
  rw [List.getElem?_eq_getElem h]
  exact ⟨_, rfl⟩

theorem slice_returns {buf : List Nat} {a b : Nat} (h : a ≤ b ∧ b ≤ buf.length) : Returns (slice buf a b) := by
  unfold slice
  rw [if_pos h]
  exact ⟨_, rfl⟩

theorem i32At_returns {buf : List Nat} {o : Nat} (h : o + 4 ≤ buf.length) : Returns (i32At buf o) := by
  unfold i32At
  obtain ⟨bs, hbs⟩ := slice_returns (buf := buf) (a := o) (b := o + 4) ⟨by omega, h⟩
  rw [hbs]
  exact ⟨_, rfl⟩

theorem readSyls_returns {buf : List Nat} : ∀ (n base : Nat), base + 2 * n ≤ buf.length → Returns (readSyls buf n base)
  | 0, _, _ => ⟨_, rfl⟩
  | n + 1, base, h => by
    unfold readSyls
    obtain ⟨bs, hbs⟩ := slice_returns (buf := buf) (a := base) (b := base + 2) ⟨by omega, by omega⟩
    rw [hbs]
    dsimp only
    split
    · exact ⟨_, rfl⟩
    · obtain ⟨r, hr⟩ := readSyls_returns (buf := buf) n (base + 2) (by omega)
      rw [hr]
      cases r <;> exact ⟨_, rfl⟩

/-- the repaired record decoder never panics on a 125-byte record (F14, F15 absent): every access is in bounds,
    the two guarded ones by the `skip` tests in front of them -/
theorem recBin_returns {buf : List Nat} (h : buf.length = 125) : Returns (recBin buf) :=
  (i32At_returns (by omega)).bind fun _ _ =>
  (i32At_returns (by omega)).bind fun _ _ =>
  (i32At_returns (by omega)).bind fun _ _ =>
  (i32At_returns (by omega)).bind fun _ _ =>
  .ite (fun _ => .pure _) fun _ =>
  (idx_returns (by omega)).bind fun len _ =>
  .ite (fun _ => .pure _) fun hlen =>
  have hlen' : 17 + 2 * len + 1 < 125 := Nat.lt_of_not_le hlen
  (idx_returns (by omega)).bind fun _ _ =>
  .ite (fun _ => .pure _) fun _ =>
  (idx_returns (by omega)).bind fun _ _ =>
  .ite (fun _ => .pure _) fun _ =>
  (readSyls_returns len 17 (by omega)).bind fun so _ =>
  match so with
  | none => .pure _
  | some _ =>
    (idx_returns (by omega)).bind fun bytes _ =>
    .ite (fun _ => .pure _) fun hb =>
    have hb' : 17 + 2 * len + bytes + 1 ≤ 125 := Nat.le_of_not_lt hb
    (slice_returns ⟨by omega, by omega⟩).bind fun _ _ =>
    .ite (fun _ => .pure _) fun _ => .pure _

/-- what a loader of legacy files is shown to do on a file of `n` bytes: it returns (no panic, fuel left), and a list of
    records it returns is no longer than `n` -/
def Within (n : Nat) (o : Outcome (Except Unit (List Rec))) : Prop :=
  ∃ r, o = .ok r ∧ ∀ rs, r = .ok rs → rs.length ≤ n

theorem Within.returns {n : Nat} {o : Outcome (Except Unit (List Rec))} (h : Within n o) : Returns o := h.imp fun _ h => h.1

theorem Within.error {n : Nat} : Within n (.ok (.error ())) := ⟨_, rfl, nofun⟩

/-- the record loop returns whenever the record decoder does and the fuel exceeds the input length, with at most one
    record per 125 bytes -/
theorem binLoop_spec {recf : List Nat → Outcome RecRes}
    (hrec : ∀ buf, buf.length = 125 → Returns (recf buf)) :
    ∀ (fuel : Nat) (rest : List Nat), rest.length < fuel →
      ∃ r, binLoop recf fuel rest = .ok r ∧ ∀ rs, r = .ok rs → rs.length * 125 ≤ rest.length
  | 0, _, h => by omega
  | fuel + 1, rest, h => by
    unfold binLoop
    split
    · exact ⟨_, rfl, fun rs h => by cases h; exact Nat.zero_le _⟩
    · rename_i hlen
      simp only [binFieldSize, Nat.not_lt] at hlen ⊢
      have hrest : (rest.drop 125).length + 125 = rest.length := by
        simp only [List.length_drop]
        omega
      obtain ⟨r, hr⟩ := hrec (rest.take 125) (by simp only [List.length_take]; omega)
      obtain ⟨q, hq, hb⟩ := binLoop_spec hrec fuel (rest.drop 125) (by omega)
      rw [hr]
      cases r with
      | skip => exact ⟨_, hq, fun rs h => by have := hb rs h; omega⟩
      | fail => exact ⟨_, rfl, nofun⟩
      | item r =>
        dsimp only
        rw [hq]
        cases q with
        | error e => exact ⟨_, rfl, nofun⟩
        | ok rs' =>
          refine ⟨_, rfl, fun rs h => ?_⟩
          cases h
          have := hb rs' rfl
          simp only [List.length_cons, Nat.add_mul]
          omega

theorem loadBinWith_spec {recf : List Nat → Outcome RecRes}
    (hrec : ∀ buf, buf.length = 125 → Returns (recf buf)) (b : List Nat) : Within b.length (loadBinWith recf b) := by
  unfold loadBinWith
  split
  · exact .error
  split
  · exact .error
  split
  · exact .error
  · obtain ⟨r, hr, hb⟩ := binLoop_spec hrec (b.length + 1) (b.drop (4 + cIntSize)) (by simp only [List.length_drop]; omega)
    refine ⟨r, hr, fun rs h => ?_⟩
    have := hb rs h
    simp only [List.length_drop] at this
    omega

theorem loadBin_spec (b : List Nat) : Within b.length (loadBin b) :=
  loadBinWith_spec (fun _ h => recBin_returns h) b

theorem textLines_length : ∀ (ls : List (List Nat)) (rs : List Rec), textLines ls = some rs → rs.length = ls.length
  | [], rs, h => by simp only [textLines, Option.some.injEq] at h; subst h; rfl
  | l :: ls, rs, h => by
    unfold textLines at h
    split at h
    · cases h
    · split at h
      · cases h
      · rename_i rs' hrs
        simp only [Option.some.injEq] at h
        subst h
        simp [textLines_length ls rs' hrs]

theorem linesAux_length : ∀ (b cur : List Nat), (linesAux b cur).length ≤ b.length + 1
  | [], cur => by unfold linesAux; split <;> simp
  | x :: rest, cur => by
    unfold linesAux
    split
    · have := linesAux_length rest []
      simp only [List.length_cons]; omega
    · have := linesAux_length rest (x :: cur)
      simp only [List.length_cons]; omega

/-- the text reader is a total function; it yields one record per line after the header, a line ends in a byte -/
theorem loadTextWith_spec (hdr : List Nat → Bool) (b : List Nat) : Within b.length (loadTextWith hdr b) := by
  have hl := linesAux_length b []
  unfold loadTextWith lines
  split
  · exact .error
  · rename_i first rest e
    split
    · exact .error
    · split
      · exact .error
      · rename_i rs hrs
        refine ⟨_, rfl, fun rs' h => ?_⟩
        cases h
        rw [textLines_length _ _ hrs]
        rw [e, List.length_cons] at hl
        omega

theorem loadText_spec (b : List Nat) : Within b.length (loadText b) := loadTextWith_spec _ b

/-- `try_load_bin(..).or_else(try_load_text)`: the text reader runs exactly when the binary one returned an error -/
theorem loadUhash_spec (b : List Nat) : Within b.length (loadUhash b) := by
  unfold loadUhash
  obtain ⟨r, hr, hb⟩ := loadBin_spec b
  rw [hr]
  cases r with
  | ok rs => exact ⟨_, rfl, fun rs' h => hb rs' (by cases h; rfl)⟩
  | error e => exact loadText_spec b

theorem loadUhash_returns (b : List Nat) : Returns (loadUhash b) := (loadUhash_spec b).returns

end Chewing.Uhash
