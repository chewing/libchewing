import Chewing.Proofs.SyllableParse
/-!
`Syllable::try_from(u16)` since the repair of F47, in arithmetic form (`tryFrom_arith`), and the exact set of values
it accepts: the codes `encode i m r t` of the tuples with `i ≤ 21, m ≤ 3, r ≤ 13, t ≤ 5` (`tryFrom_iff`; the all-absent
tuple is the empty pattern `0x8000`, `t = 5` is the value stored for the first-tone mark, F18).  Every value the
spelling parser, `update`, the removers and `pop` produce is such a code (`*_valid`): `validCode` is the invariant of
the type `Syllable`.
-/
namespace Chewing
open Gen

theorem tryFrom_consts : tryFromMarker = 32768 ∧ emptyPattern = 32768 ∧
    tryFromBounds = [(32256, 9, 20), (384, 7, 23), (120, 3, 36), (7, 0, 41)] ∧
    indexOf 20 = 21 ∧ indexOf 23 = 3 ∧ indexOf 36 = 13 ∧ indexOf 41 = 5 := by decide

theorem tryFrom_arith {c : Nat} (hc : c < 65536) :
    tryFromU16 c =
      if c = 0 then none
      else if c = 32768 then some c
      else if 32768 ≤ c ∨ 21 < c / 512 % 64 ∨ 3 < c / 128 % 4 ∨ 13 < c / 8 % 16 ∨ 5 < c % 8 then none
      else some c := by
  obtain ⟨e1, e2, e3, i1, i2, i3, i4⟩ := tryFrom_consts
  obtain ⟨f1, f2, f3, f4⟩ := field_arith c
  unfold tryFromU16
  rw [e1, e2, e3]
  simp only [List.any_cons, List.any_nil, Bool.or_false, i1, i2, i3, i4, f1, f2, f3, f4, and_32768]
  by_cases h0 : c = 0
  · simp [h0]
  by_cases h1 : c = 32768
  · simp [h1]
  have hm : ((c / 32768 % 2 * 32768 != 0) = true) ↔ 32768 ≤ c := by
    simp only [bne_iff_ne, ne_eq]
    omega
  simp only [beq_iff_eq, h0, h1, if_false, Nat.reduceBEq, Bool.false_eq_true, Bool.or_eq_true, hm, decide_eq_true_eq,
    gt_iff_lt]

/-- **the accepted values**: exactly the codes of the tuples of `Tup 6` -/
theorem tryFrom_iff {c : Nat} (hc : c < 65536) :
    tryFromU16 c = some c ↔ ∃ i m r t, Tup 6 i m r t ∧ c = encode i m r t := by
  rw [tryFrom_arith hc]
  constructor
  · intro h
    split at h
    · cases h
    next h0 =>
    split at h
    · next h1 => exact ⟨0, 0, 0, 0, absOk_new.tup, h1⟩
    split at h
    · cases h
    next hb =>
    simp only [not_or, Nat.not_le, Nat.not_lt] at hb
    obtain ⟨hlt, b1, b2, b3, b4⟩ := hb
    exact ⟨_, _, _, _, ⟨Nat.lt_succ_of_le b1, Nat.lt_succ_of_le b2, Nat.lt_succ_of_le b3, Nat.lt_succ_of_le b4⟩,
      (encode_unpack h0 hlt).symm⟩
  · rintro ⟨i, m, r, t, ht, rfl⟩
    by_cases hz : i = 0 ∧ m = 0 ∧ r = 0 ∧ t = 0
    · obtain ⟨rfl, rfl, rfl, rfl⟩ := hz
      decide
    · obtain ⟨f1, f2, f3, f4⟩ := encode_fields ht
      have hlt := encode_lt_marker ht hz
      rw [if_neg (Nat.ne_of_gt encode_pos), if_neg (Nat.ne_of_lt hlt), f1, f2, f3, f4, if_neg]
      obtain ⟨h1, h2, h3, h4⟩ := ht
      omega

theorem tryFrom_some {c s : Nat} (h : tryFromU16 c = some s) : s = c := by
  unfold tryFromU16 at h
  repeat' split at h
  all_goals first | cases h; rfl | cases h

theorem validCode_iff {c : Nat} (hc : c < 65536) :
    validCode c = true ↔ ∃ i m r t, Tup 6 i m r t ∧ c = encode i m r t := by
  rw [← tryFrom_iff hc]
  unfold validCode
  constructor
  · intro h
    cases hs : tryFromU16 c with
    | none => rw [hs] at h; cases h
    | some s => rw [tryFrom_some hs]
  · intro h; rw [h]; rfl

theorem validCode_encode {i m r t : Nat} (h : Tup 6 i m r t) : validCode (encode i m r t) = true :=
  (validCode_iff (encode_lt h)).mpr ⟨i, m, r, t, h, rfl⟩

/-- every value the spelling parser / the builder hands out is accepted by `try_from` (also the F18 values) -/
theorem go_tup6 (s : List Nat) : ∀ {bld : Builder} {i m r t : Nat} {v : Nat}, AbsOk bld i m r t →
    parse.go bld s = .ok v → ∃ i' m' r' t', Tup 6 i' m' r' t' ∧ v = encode i' m' r' t' := by
  induction s with
  | nil =>
    intro bld i m r t v ha hgo
    simp [parse.go] at hgo
    exact ⟨i, m, r, t, ha.tup, by rw [← hgo, ha.val]⟩
  | cons c cs ih =>
    intro bld i m r t v ha hgo
    obtain ⟨_, bld', -, -, hgo', -, -, ha'⟩ := go_ok_cons ha hgo
    exact ih ha' hgo'

theorem update_valid {c b : Nat} (hc : c < 65536) (hv : validCode c = true) (hb : b < 42) :
    ∃ v, update c b = some v ∧ v < 65536 ∧ validCode v = true := by
  obtain ⟨i, m, r, t, ht, rfl⟩ := (validCode_iff hc).mp hv
  have ht' := setAt_tup ht hb (.inl (Nat.le_refl _))
  exact ⟨_, update_encode ht hb, encode_lt ht', validCode_encode ht'⟩

theorem validCode_empty : validCode 32768 = true := by decide

/-- the removers (hence `pop`) keep the invariant: on a valid code they yield a valid code -/
theorem removeKind_valid {c : Nat} (k : Nat) (hc : c < 65536) (hv : validCode c = true) :
    removeKind k c < 65536 ∧ validCode (removeKind k c) = true := by
  obtain ⟨i, m, r, t, ht, rfl⟩ := (validCode_iff hc).mp hv
  rw [remove_encode ht]
  exact ⟨encode_lt (zeroAt_tup ht (by omega) k), validCode_encode (zeroAt_tup ht (by omega) k)⟩

theorem pop_valid {c : Nat} (hc : c < 65536) (hv : validCode c = true) :
    (pop c).2 < 65536 ∧ validCode (pop c).2 = true := by
  unfold pop
  split
  · exact removeKind_valid _ hc hv
  · exact ⟨hc, hv⟩

end Chewing
