import Chewing.Proofs.TrieLinkOrder
import Chewing.Proofs.TrieBufObs
/-!
# A prefix lookup through `entries()` sees the persisted phrases in FILE order (C09, F36)

Since fix c3d9fb2 `TrieBuf` answers a prefix lookup from `entries_iter()`, whose persisted part is the REAL
`Trie::entries()` — a depth-first iterator that lists the leaves of the file with every maximal chain "each
key a prefix of the next" of the sorted key list reversed (`TrieLink.build_entries_exact`).  C09's model
lists the persisted candidates in file order instead (`Trie.entries`).  The two agree on what a prefix
lookup selects: the matching keys all have the query's number of syllables, a chain of proper prefixes
holds at most one key of a given length, so reversing the chains does not move the selected keys relative
to each other.  Hence the persisted candidates of the repaired code are, as a LIST, what
`Trie::lookup_all_phrases(q, FuzzyPartialPrefix)` returned before the fix (`real_entries_fuzzy`).
-/
namespace Chewing.TrieLink
open Chewing.TrieCodec MapSpec

theorem fuzzyMatch_length : ∀ {k q : Key}, Trie.fuzzyMatch k q = true → k.length = q.length
  | [], [], _ => rfl
  | [], _ :: _, h => by simp [Trie.fuzzyMatch] at h
  | _ :: _, [], h => by simp [Trie.fuzzyMatch] at h
  | a :: as, b :: bs, h => by
    simp only [Trie.fuzzyMatch, Bool.and_eq_true] at h
    simp [fuzzyMatch_length h.2]

/-- the keys a prefix query selects, in the visiting order of `Trie::entries()` = in sorted (file) order -/
theorem trieOrder_filter_fuzzy (ks : List Key) (hn : ks.Nodup) (q : Key) :
    ((Cli.runs ks).flatMap List.reverse).filter (fun k => Trie.fuzzyMatch k q) = ks.filter (fun k => Trie.fuzzyMatch k q) := by
  have key : ∀ l : List Key, l.filter (fun k => Trie.fuzzyMatch k q) =
      (l.filter (fun k => k.length == q.length)).filter (fun k => Trie.fuzzyMatch k q) := by
    intro l
    rw [List.filter_filter]
    apply List.filter_congr
    intro k _
    cases hm : Trie.fuzzyMatch k q with
    | false => simp
    | true => simp [fuzzyMatch_length hm]
  rw [key, key ks, Cli.trieOrder_filter_length ks hn]

/-- **the real enumeration, filtered by a prefix query, is the model's**: for the bytes `TrieBuilder::write`
    produces from valid entries, the REAL `Trie::entries()` (byte-level model of C11, depth first) restricted
    to the keys matching `q` lists the same phrases in the same order as C09's file-order enumeration
    restricted to them — which is `Trie.lookupAll … .fuzzyPartialPrefix`, the list `Trie::lookup_all_phrases`
    returns for the prefix strategy -/
theorem real_entries_fuzzy (info : TrieCodec.Info) (es : List Entry) (hv : C11.ValidInput info es) (bytes : Der.Bytes)
    (hw : (TrieCodec.Builder.ofEntries info es).write = some bytes) (q : Key) :
    ∃ tr real, openTrie bytes = some tr ∧ TrieCodec.entries tr = .ok real ∧
      real.filter (fun e => Trie.fuzzyMatch e.1 q) = (Trie.entries (Trie.build es)).filter (fun e => Trie.fuzzyMatch e.1 q) ∧
      (real.filter (fun e => Trie.fuzzyMatch e.1 q)).map (·.2) = Trie.lookupAll (Trie.build es) q .fuzzyPartialPrefix := by
  obtain ⟨tr, ho, hreal, hmodel⟩ := build_entries_exact info es hv bytes hw
  have hg : ∀ k, ∀ e ∈ (sortLeaf ((refFind es k).getD [])).map (fun p => ((k, p) : Entry)), e.1 = k := by
    intro k e he
    obtain ⟨p, _, rfl⟩ := List.mem_map.mp he
    rfl
  have heq : (((Cli.runs (buildKeys es)).flatMap List.reverse).flatMap fun k =>
        (sortLeaf ((refFind es k).getD [])).map fun p => ((k, p) : Entry)).filter (fun e => Trie.fuzzyMatch e.1 q) =
      (Trie.entries (Trie.build es)).filter (fun e => Trie.fuzzyMatch e.1 q) := by
    have hsel := filter_flatMap_key (fun e : Entry => e.1) (fun k : Key => k) _ hg (fun k => Trie.fuzzyMatch k q)
    rw [hmodel, hsel, hsel, trieOrder_filter_fuzzy _ (buildKeys_nodup es)]
  refine ⟨tr, _, ho, hreal, heq, ?_⟩
  rw [heq]
  exact TrieBuf.trie_entries_fuzzy _ q

end Chewing.TrieLink
