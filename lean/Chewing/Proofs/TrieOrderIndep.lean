import Chewing.Model.TrieCodec
import Chewing.Proofs.TrieBuilder
import Chewing.Proofs.TrieSort
import Chewing.Proofs.TrieLayout
/-!
# The written bytes do not depend on the order in which different keys were inserted

`TrieCodec.Builder` keeps every node's children in first-insertion order (`Forest.modify` pushes a new child at
the end), so two insert sequences that build the same map key ↦ phrase vector give, in general, DIFFERENT trees.
`write` however sorts the children of every node by syllable before it queues them, and sibling syllables are
pairwise distinct, so what the breadth-first loop sees is a function of the map alone:

* `Forest.Good` — the shape invariant needed here (distinct sibling syllables; every node has a leaf or a child),
  for EVERY insert sequence (no validity hypothesis on the entries): `Good_ofEntries`;
* `ItemEq` — two queued items denote the same map (`findNode · (l, sub)`), both `Good`;
* `kids_rel` — extensionality, one level: for `Good` forests with the same denotation the children sorted by
  syllable correspond one to one (same syllable, same denotation below);
* `writeLoop_congr` — the loop maps queues that correspond item by item to the same buffers;
* `writeLoop_fuel` — fuel beyond the number of queued nodes is irrelevant (the two trees are not known to have
  the same size beforehand);
* `write_ext` — builders with the same metadata and the same `find` write the same bytes.
-/
namespace Chewing.TrieCodec
open Chewing.Der

theorem Good_insert (b : Builder) (k : List Nat) (p : Phrase) (hb : b.kids.Good) : (b.insert k p).kids.Good :=
  (Good_shape.insertNode (p := p) (fun _ _ => trivial) trivial (k := k) (fun _ _ => trivial) (b.leaf, b.kids) trivial hb).2.2

theorem Good_ofEntries (info : Info) (es : List Entry) : (Builder.ofEntries info es).kids.Good :=
  ofEntries_induct (P := fun b => b.kids.Good) trivial fun b e _ hb => Good_insert b e.1 e.2 hb

/-- liveness: below every node of a `Good` forest some key is present -/
theorem good_live (f : Forest) (hf : f.Good) :
    ∀ s l sub next, f = .cons s l sub next → ∃ k ps, findNode k (l, sub) = some ps := by
  induction f with
  | nil => intro s l sub next h; cases h
  | cons t l0 sub0 next0 ihs _ =>
    intro s l sub next h
    cases h
    obtain ⟨_, h5, h6, _⟩ := hf
    cases l0 with
    | some ps => exact ⟨[], ps, rfl⟩
    | none =>
      cases sub0 with
      | nil => simp at h5
      | cons s' l' sub' next' =>
        obtain ⟨k, ps, hk⟩ := ihs h6 s' l' sub' next' rfl
        exact ⟨s' :: k, ps, by simp [findNode, Forest.child, hk]⟩

theorem nodeGood_live {nd : NodeData} (h : NodeIn Forest.Good (fun _ => True) nd) : ∃ k ps, findNode k nd = some ps := by
  obtain ⟨l, sub⟩ := nd
  exact good_live (.cons 0 l sub .nil) ⟨rfl, h.2.1, h.2.2, trivial⟩ 0 l sub .nil rfl

/-- which syllables have a child is visible in the denotation -/
theorem child_isSome_iff {f : Forest} (hf : f.Good) (x : Option (List Phrase)) (s : Nat) :
    (f.child s).isSome = true ↔ ∃ k ps, findNode (s :: k) (x, f) = some ps := by
  constructor
  · intro h
    cases hc : f.child s with
    | none => rw [hc] at h; cases h
    | some nd =>
      obtain ⟨k, ps, hk⟩ := nodeGood_live (Good_shape.child hf hc).2
      exact ⟨k, ps, by simp [findNode, hc, hk]⟩
  · rintro ⟨k, ps, h⟩
    cases hc : f.child s with
    | none => simp [findNode, hc] at h
    | some nd => rfl

/-- two queued items denote the same thing: the same syllable and the same map below (both trees `Good`) -/
def ItemEq : Item → Item → Prop
  | .node s l sub, .node s' l' sub' =>
    s = s' ∧ sub.Good ∧ sub'.Good ∧ ∀ k, findNode k (l, sub) = findNode k (l', sub')
  | .leaf ps, .leaf ps' => ps = ps'
  | _, _ => False

/-- queues that correspond item by item -/
inductive QRel : List Item → List Item → Prop
  | nil : QRel [] []
  | cons {a b : Item} {q q' : List Item} : ItemEq a b → QRel q q' → QRel (a :: q) (b :: q')

theorem QRel.length_eq {q q' : List Item} (h : QRel q q') : q.length = q'.length := by
  induction h with
  | nil => rfl
  | cons _ _ ih => simp [ih]

theorem QRel.append {a a' b b' : List Item} (h1 : QRel a a') (h2 : QRel b b') : QRel (a ++ b) (a' ++ b') := by
  induction h1 with
  | nil => exact h2
  | cons h _ ih => exact QRel.cons h ih

/-- strictly ascending syllables + the same syllables + a pointwise link through membership ⇒ item by item -/
theorem qrel_of_ascending (A B : List Item) (hA : A.Pairwise (fun a b => a.syl < b.syl))
    (hB : B.Pairwise (fun a b => a.syl < b.syl)) (hs : ∀ s, (∃ a ∈ A, a.syl = s) ↔ (∃ b ∈ B, b.syl = s))
    (hrel : ∀ a ∈ A, ∀ b ∈ B, a.syl = b.syl → ItemEq a b) : QRel A B := by
  induction A generalizing B with
  | nil =>
    cases B with
    | nil => exact .nil
    | cons b B =>
      obtain ⟨_, h, _⟩ := (hs b.syl).mpr ⟨b, List.mem_cons_self, rfl⟩
      cases h
  | cons a A ih =>
    cases B with
    | nil =>
      obtain ⟨_, h, _⟩ := (hs a.syl).mp ⟨a, List.mem_cons_self, rfl⟩
      cases h
    | cons b B =>
      rw [List.pairwise_cons] at hA hB
      -- a syllable of an ascending list is that of the head, or greater and a syllable of the tail
      have split : ∀ {c : Item} {C : List Item} {s : Nat}, (∀ x ∈ C, c.syl < x.syl) → (∃ x ∈ c :: C, x.syl = s) →
          c.syl = s ∨ c.syl < s ∧ ∃ x ∈ C, x.syl = s := by
        rintro c C s hC ⟨x, hx, rfl⟩
        rcases List.mem_cons.mp hx with rfl | hx
        · exact Or.inl rfl
        · exact Or.inr ⟨hC x hx, x, hx, rfl⟩
      have hab : a.syl = b.syl := by
        rcases split hA.1 ((hs _).mpr ⟨b, List.mem_cons_self, rfl⟩) with h | ⟨h, _⟩
        · exact h
        rcases split hB.1 ((hs _).mp ⟨a, List.mem_cons_self, rfl⟩) with h' | ⟨h', _⟩
        · exact h'.symm
        · omega
      refine .cons (hrel a List.mem_cons_self b List.mem_cons_self hab) (ih B hA.2 hB.2 (fun s => ⟨?_, ?_⟩)
        fun x hx y hy => hrel x (List.mem_cons_of_mem _ hx) y (List.mem_cons_of_mem _ hy))
      · rintro ⟨x, hx, rfl⟩
        rcases split hB.1 ((hs _).mp ⟨x, List.mem_cons_of_mem _ hx, rfl⟩) with h | ⟨_, h⟩
        · have := hA.1 x hx; omega
        · exact h
      · rintro ⟨y, hy, rfl⟩
        rcases split hA.1 ((hs _).mpr ⟨y, List.mem_cons_of_mem _ hy, rfl⟩) with h | ⟨_, h⟩
        · have := hB.1 y hy; omega
        · exact h

/-- **extensionality, one level**: two `Good` forests below which the same keys lead to the same phrase vectors
    have — after the sort by syllable — corresponding children -/
theorem kids_rel {sub sub' : Forest} (hg : sub.Good) (hg' : sub'.Good) (x x' : Option (List Phrase))
    (h : ∀ t k, findNode (t :: k) (x, sub) = findNode (t :: k) (x', sub')) :
    QRel (sortBy sylLt sub.toItems) (sortBy sylLt sub'.toItems) := by
  have hsyl : ∀ (f : Forest), f.Good → ∀ s, (∃ a ∈ sortBy sylLt f.toItems, a.syl = s) ↔ (f.child s).isSome = true := by
    intro f hf s
    constructor
    · rintro ⟨a, ha, e⟩
      obtain ⟨s', l, g, e1, hc⟩ := (mem_toItems_child hf a).mp (mem_sortBy.mp ha)
      subst e1
      simp only [Item.syl] at e
      subst e
      rw [hc]; rfl
    · intro hc
      cases hc' : f.child s with
      | none => rw [hc'] at hc; cases hc
      | some nd =>
        exact ⟨.node s nd.1 nd.2, mem_sortBy.mpr ((mem_toItems_child hf _).mpr ⟨s, nd.1, nd.2, rfl, hc'⟩), rfl⟩
  refine qrel_of_ascending _ _ (sorted_kids_ascending' hg) (sorted_kids_ascending' hg') ?_ ?_
  · intro s
    rw [hsyl sub hg, hsyl sub' hg', child_isSome_iff hg x, child_isSome_iff hg' x']
    simp only [h]
  · intro a ha b hb hab
    obtain ⟨s, l, g, e1, hc⟩ := (mem_toItems_child hg a).mp (mem_sortBy.mp ha)
    obtain ⟨s', l', g', e2, hc'⟩ := (mem_toItems_child hg' b).mp (mem_sortBy.mp hb)
    subst e1; subst e2
    simp only [Item.syl] at hab
    subst hab
    refine ⟨rfl, (Good_shape.child hg hc).2.2.2, (Good_shape.child hg' hc').2.2.2, ?_⟩
    intro k
    have := h s k
    simpa [findNode, hc, hc'] using this

theorem writeLoop_congr (fuel : Nat) :
    ∀ (q q' : List Item) (cb : Nat) (dict : List Rec) (data : Bytes), QRel q q' →
      writeLoop fuel q cb dict data = writeLoop fuel q' cb dict data := by
  induction fuel with
  | zero =>
    intro q q' cb dict data h
    cases h with
    | nil => rfl
    | cons _ _ => rfl
  | succ fuel ih =>
    intro q q' cb dict data h
    cases h with
    | nil => rfl
    | @cons a b q q' hab hq =>
      cases a with
      | node s l sub =>
        cases b with
        | leaf ps => exact absurd hab (by simp [ItemEq])
        | node s' l' sub' =>
          obtain ⟨hs, hg, hg', hk⟩ := hab
          subst hs
          have hl : l = l' := by simpa [findNode] using hk []
          subst hl
          have hkids : QRel (kidsOf l sub) (kidsOf l sub') := by
            rw [kidsOf_eq, kidsOf_eq]
            refine QRel.append ?_ (kids_rel hg hg' l l (fun t k => hk (t :: k)))
            cases l with
            | none => exact QRel.nil
            | some ps => exact QRel.cons rfl QRel.nil
          simp only [writeLoop]
          rw [hkids.length_eq]
          split
          · rfl
          · exact ih _ _ _ _ _ (hq.append hkids)
      | leaf ps =>
        cases b with
        | node s' l' sub' => exact absurd hab (by simp [ItemEq])
        | leaf ps' =>
          have : ps = ps' := hab
          subst this
          simp only [writeLoop]
          split
          · rfl
          · exact ih _ _ _ _ _ hq

theorem writeLoop_fuel (fuel : Nat) :
    ∀ (q : List Item) (cb : Nat) (dict : List Rec) (data : Bytes), qsize q ≤ fuel →
      writeLoop (fuel + 1) q cb dict data = writeLoop fuel q cb dict data := by
  induction fuel with
  | zero =>
    intro q cb dict data hq
    cases q with
    | nil => rfl
    | cons it q =>
      exfalso
      have := item_size_pos it
      simp [qsize] at hq
      omega
  | succ fuel ih =>
    intro q cb dict data hq
    cases q with
    | nil => rfl
    | cons it q =>
      cases it with
      | node s l sub =>
        rw [writeLoop, writeLoop]
        split
        · rfl
        · refine ih _ _ _ _ ?_
          rw [qsize_append, qsize_kidsOf]
          simp only [qsize, List.map_cons, List.sum_cons, Item.size] at hq ⊢
          omega
      | leaf ps =>
        rw [writeLoop, writeLoop]
        split
        · rfl
        · refine ih _ _ _ _ ?_
          simp only [qsize, List.map_cons, List.sum_cons, Item.size] at hq ⊢
          omega

theorem writeLoop_fuel_add (fuel n : Nat) (q : List Item) (cb : Nat) (dict : List Rec) (data : Bytes)
    (hq : qsize q ≤ fuel) : writeLoop (fuel + n) q cb dict data = writeLoop fuel q cb dict data := by
  induction n with
  | zero => rfl
  | succ n ih => rw [← Nat.add_assoc, writeLoop_fuel _ _ _ _ _ (by omega), ih]

theorem buffers_ext (b b' : Builder) (hg : b.kids.Good) (hg' : b'.kids.Good)
    (h : ∀ k, b.find k = b'.find k) : b.buffers = b'.buffers := by
  unfold Builder.buffers
  have hq : ∀ (c : Builder), qsize [c.root] = c.root.size := fun c => by simp [qsize]
  have hrel : QRel [b.root] [b'.root] := QRel.cons ⟨rfl, hg, hg', h⟩ QRel.nil
  rw [← writeLoop_fuel_add b.root.size b'.root.size [b.root] 1 [] [] (by rw [hq]; omega),
    ← writeLoop_fuel_add b'.root.size b.root.size [b'.root] 1 [] [] (by rw [hq]; omega),
    Nat.add_comm b'.root.size b.root.size]
  exact writeLoop_congr _ _ _ _ _ _ hrel

/-- **the bytes are a function of the metadata and the map key ↦ phrase vector** -/
theorem write_ext (b b' : Builder) (hg : b.kids.Good) (hg' : b'.kids.Good) (hi : b.info = b'.info)
    (h : ∀ k, b.find k = b'.find k) : b.write = b'.write := by
  unfold Builder.write
  rw [buffers_ext b b' hg hg' h, hi]

theorem write_ofEntries_ext (info : Info) (es es' : List Entry)
    (h : ∀ k, refFind es k = refFind es' k) :
    (Builder.ofEntries info es).write = (Builder.ofEntries info es').write := by
  refine write_ext _ _ (Good_ofEntries info es) (Good_ofEntries info es') ?_ ?_
  · rw [info_ofEntries, info_ofEntries]
  · intro k
    rw [find_ofEntries, find_ofEntries, h k]

end Chewing.TrieCodec
