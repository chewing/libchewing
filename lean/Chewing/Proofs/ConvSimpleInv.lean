import Chewing.Proofs.ConvSimple
import Chewing.Proofs.ConvGlue
/-!
Per-interval facts of the simple engine's output.
-/
namespace Chewing.Conv

theorem simple_mem_cases {d : Dict} {c : Composition} {iv : Interval} (h : iv ∈ simpleList d c) :
    (∃ sym i, c.symbols[i]? = some sym ∧ Free c i ∧ iv = simpleInterval d sym i) ∨ iv ∈ c.selections := by
  rcases List.mem_append.mp h with h | h
  · obtain ⟨sym, i, h1, h2, rfl⟩ := mem_simpleSingles h
    exact Or.inl ⟨sym, i, List.mem_zipIdx_iff_getElem?.mp h1, h2, rfl⟩
  · exact Or.inr h

/-- provenance of the simple engine's intervals; the only other case is the spelling of a word-less syllable -/
theorem simple_prov {d : Dict} {c : Composition} {iv : Interval} (h : iv ∈ simpleList d c) :
    Prov d Strategy.standard c iv ∨ spellingShown d c iv := by
  rcases simple_mem_cases h with ⟨sym, i, hi, _, rfl⟩ | hs
  · cases sym with
    | chr cp => exact Or.inl (Prov.chr hi)
    | syl k =>
      cases hf : d.first [k] Strategy.standard with
      | none =>
        refine Or.inr ⟨k, hi, hf, ?_⟩
        simp [simpleInterval, hf]
      | some p =>
        left
        have hp : p ∈ d.lookup [k] Strategy.standard := List.mem_of_mem_head? (by simpa [Dict.first] using hf)
        have hs := slice_one hi
        have hlen : i + 1 ≤ c.symbols.length := (List.getElem?_eq_some_iff.mp hi).1
        have := Prov.dict (d := d) (strat := Strategy.standard) (c := c) (s := i) (e := i + 1) (ph := p)
          (by omega) hlen (by rw [hs]; intro sym hm; rw [List.mem_singleton.mp hm]; rfl)
          (by rw [hs]; exact hp)
        simpa [simpleInterval, hf] using this
  · have := Prov.sel (d := d) (strat := Strategy.standard) (b := iv.isPhrase) hs
    exact Or.inl this

theorem hasWord_first {d : Dict} {c : Composition} (hw : HasWord d Strategy.standard c) {i k : Nat}
    (hi : c.symbols[i]? = some (Sym.syl k)) : ∃ p, d.first [k] Strategy.standard = some p ∧ p ∈ d.lookup [k] Strategy.standard := by
  have := hw k (List.mem_of_getElem? hi)
  unfold Dict.first
  cases hl : d.lookup [k] Strategy.standard with
  | nil => exact absurd hl this
  | cons p ps => exact ⟨p, rfl, List.mem_cons_self ..⟩

theorem simple_prov_hasWord {d : Dict} {c : Composition} (hw : HasWord d Strategy.standard c) {iv : Interval}
    (h : iv ∈ simpleList d c) : Prov d Strategy.standard c iv := by
  rcases simple_prov h with hp | ⟨k, hi, hf, _⟩
  · exact hp
  · rcases simple_mem_cases h with ⟨sym, i, hi', _, rfl⟩ | hs
    · rw [(simpleInterval_range d sym i).1] at hi
      obtain ⟨p, hp, _⟩ := hasWord_first hw hi
      rw [hp] at hf
      cases hf
    · exact Prov.sel (b := iv.isPhrase) hs

/-- the simple engine builds its one alternative from the same four kinds of interval as the Chewing engine:
    its word for a free syllable is a word that `find_best_phrase` could have picked -/
theorem simple_kinds {d : Dict} {c : Composition} {iv : Interval} (hc : CompValid c) (h : iv ∈ simpleList d c) :
    IvKind d Strategy.standard c iv := by
  rcases simple_mem_cases h with ⟨sym, i, hi, hf, rfl⟩ | hs
  · cases sym with
    | chr cp => exact .chr hi
    | syl k =>
      cases hl : d.lookup [k] Strategy.standard with
      | nil =>
        have := IvKind.spell hi hl hf
        simpa [simpleInterval, Dict.first, hl] using this
      | cons p ps =>
        have hs := slice_one hi
        have := IvKind.dict (d := d) (strat := Strategy.standard) (c := c) (s := i) (e := i + 1) (p := p) (by omega)
          (List.getElem?_eq_some_iff.mp hi).1 (by rw [hs]; intro sym hm; rw [List.mem_singleton.mp hm]; rfl)
          (by rw [hs]; show p ∈ d.lookup [k] Strategy.standard; rw [hl]; exact List.mem_cons_self ..)
          (phraseOk_of_free hc hf p _ fun _ h => h) (hasBreakInside_single c i) (selConflict_of_free hf)
        simpa [simpleInterval, Dict.first, hl] using this
  · exact .sel (b := iv.isPhrase) hs

theorem simple_len {d : Dict} {c : Composition} (hc : CompValid c) (hw : HasWord d Strategy.standard c)
    (hwf : WellFormed d) {iv : Interval} (h : iv ∈ simpleList d c) : iv.text.length = iv.stop - iv.start :=
  (kind_inv2 hc hwf hw (simple_kinds hc h)).len

end Chewing.Conv
