import Chewing.Model.TrieCodec
import Chewing.Proofs.StableSort
/-!
The stable insertion sort of `write` (`sortBy`) takes the elements from the left and inserts each from the right
end of the sorted prefix: read from the other end, that is `isort` (`sortBy_eq_isort`).  So it is a permutation;
the identity when nothing compares `Less`; sorted (pairwise "not after") and stable when the comparator is a total
preorder on the elements, and then **any** function returning a sorted, stable arrangement of its input returns
the model's list (`stable_sort_is_sortBy`), `isort` among them (`isort_eq_sortBy`).
-/
namespace Chewing.TrieCodec

variable {α : Type}

theorem insTail_eq_place (lt : α → α → Bool) (x : α) (l : List α) :
    insTail lt x l = place (fun a b => lt b a) x l := by
  induction l with
  | nil => rfl
  | cons y ys ih => rw [insTail, place, ih]

theorem sortBy_eq_isort (lt : α → α → Bool) (l : List α) :
    sortBy lt l = (isort (fun a b => lt b a) l.reverse).reverse := by
  unfold sortBy isort
  rw [List.foldl_eq_foldr_reverse]
  congr
  funext x acc
  exact insTail_eq_place lt x acc

theorem sortBy_perm (lt : α → α → Bool) (l : List α) : (sortBy lt l).Perm l := by
  rw [sortBy_eq_isort]
  exact (List.reverse_perm _).trans ((isort_perm _ _).trans (List.reverse_perm l))

theorem mem_sortBy {lt : α → α → Bool} {l : List α} {x : α} : x ∈ sortBy lt l ↔ x ∈ l :=
  (sortBy_perm lt l).mem_iff

theorem sortBy_length (lt : α → α → Bool) (l : List α) : (sortBy lt l).length = l.length :=
  (sortBy_perm lt l).length_eq

theorem sortBy_sorted {lt : α → α → Bool} {S : α → Prop} (hp : StableSort.TPOn lt S) (l : List α)
    (hS : ∀ a ∈ l, S a) : StableSort.Sorted lt (sortBy lt l) := by
  rw [sortBy_eq_isort]
  exact List.pairwise_reverse.mpr (StableSort.isort_sorted hp.flip _ fun a ha => hS a (List.mem_reverse.mp ha))

theorem sortBy_filter_stable (lt : α → α → Bool) (p : α → Bool) (l : List α)
    (h : ∀ a ∈ l, ∀ b ∈ l, p a = true → p b = true → lt a b = false) :
    (sortBy lt l).filter p = l.filter p := by
  rw [sortBy_eq_isort, List.filter_reverse, isort_filter, List.filter_reverse, List.reverse_reverse]
  exact fun a ha b hb pa pb => h b (List.mem_reverse.mp hb) a (List.mem_reverse.mp ha) pb pa

/-- nothing compares `Less` ⇒ the order is kept (single-character leaves) -/
theorem sortBy_id (lt : α → α → Bool) (l : List α) (h : ∀ a ∈ l, ∀ b ∈ l, lt a b = false) :
    sortBy lt l = l := by
  have := sortBy_filter_stable lt (fun _ => true) l (fun a ha b hb _ _ => h a ha b hb)
  rwa [List.filter_eq_self.mpr (fun _ _ => rfl), List.filter_eq_self.mpr (fun _ _ => rfl)] at this

end Chewing.TrieCodec

namespace Chewing.StableSort
open TrieCodec

variable {α : Type}

theorem sortBy_stable {lt : α → α → Bool} {S : α → Prop} (hp : TPOn lt S) (l : List α) (hS : ∀ a ∈ l, S a) :
    StableOf lt S l (sortBy lt l) :=
  fun _ hc => sortBy_filter_stable lt _ l fun a ha b hb => hp.eqv_not_lt (hS a ha) (hS b hb) hc

/-- **any stable sort is the model's sort**: a sorted, stable arrangement of `l` whose elements are
    those of `l` is `sortBy lt l` -/
theorem stable_sort_is_sortBy {lt : α → α → Bool} {S : α → Prop} (hp : TPOn lt S) (l r : List α)
    (hS : ∀ a ∈ l, S a) (hr : ∀ a ∈ r, S a) (hs : Sorted lt r) (hst : StableOf lt S l r) :
    r = sortBy lt l :=
  sorted_stable_unique hp r _ hr (fun a ha => hS a (mem_sortBy.mp ha)) hs
    (sortBy_sorted hp l hS)
    fun a ha => by rw [hst a ha, sortBy_stable hp l hS a ha]

/-- C09's insertion sort and C11's are the same function on a total preorder -/
theorem isort_eq_sortBy {lt : α → α → Bool} {S : α → Prop} (hp : TPOn lt S) (l : List α) (hS : ∀ a ∈ l, S a) :
    isort lt l = sortBy lt l :=
  stable_sort_is_sortBy hp l _ hS (fun a ha => hS a ((mem_isort lt).mp ha)) (isort_sorted hp l hS)
    (isort_stable hp l hS)

theorem sortBy_map {β : Type} (lt1 : α → α → Bool) (lt2 : β → β → Bool) (f : α → β) (l : List α)
    (h : ∀ a ∈ l, ∀ b ∈ l, lt2 (f a) (f b) = lt1 a b) :
    sortBy lt2 (l.map f) = (sortBy lt1 l).map f := by
  rw [sortBy_eq_isort, sortBy_eq_isort, ← List.map_reverse, isort_map (fun a b => lt1 b a), List.map_reverse]
  exact fun a ha b hb => h b (List.mem_reverse.mp hb) a (List.mem_reverse.mp ha)

end Chewing.StableSort
