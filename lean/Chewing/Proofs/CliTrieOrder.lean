import Chewing.Proofs.CliTrieLink
/-!
# The concrete trie file is C20's entry-list model, order included

`Proofs/CliTrieLink.lean` ties the pieces of C20's model of the trie back end (insert, comparator, leaf sort) to C11's.
Here they are put together for the bytes `TrieBuilder::write` produced from the compiler's records
(`trie_file_is_model`): the file opens, the real reader's exact lookup is the model's `dictLookup .trie`, and — by
the `order` field of the `Answers` that `C11.opened` gives (which C11 states as `entries_order`), the enumeration of a written file as an
equation between lists — its `entries()` **is** the
model's `entries .trie rs`, same records, same order; hence `chewing-cli dump` prints the model's lines in the
model's order (`trie_dump_exact`).
-/
namespace Chewing.CliTrieLink
open Chewing.Cli

theorem mem_keysOf_trieInsert (k : Key) (m : TrieM) (r : Cli.Rec) :
    k ∈ keysOf (trieInsert m r) ↔ k ∈ keysOf m ∨ k = r.syls := by
  rw [keysOf_trieInsert]
  split
  · exact ⟨.inl, fun h => h.elim id (· ▸ ‹_›)⟩
  · simp

theorem mem_keysOf_foldl (k : Key) : ∀ (rs : List Cli.Rec) (m : TrieM),
    k ∈ keysOf (rs.foldl trieInsert m) ↔ k ∈ keysOf m ∨ k ∈ rs.map (·.syls)
  | [], m => by simp
  | r :: rs, m => by
    rw [List.foldl_cons, mem_keysOf_foldl k rs, mem_keysOf_trieInsert, List.map_cons, List.mem_cons, or_assoc]

theorem mem_keysOf_trieBuild (rs : List Cli.Rec) (k : Key) : k ∈ keysOf (trieBuild rs) ↔ k ∈ rs.map (·.syls) := by
  unfold trieBuild
  rw [mem_keysOf_foldl]
  simp [keysOf]

/-- **C20's trie back end is C11's byte-level file.**  `rs` are the records the compiler inserts (valid for the
    Rust types), `bytes` what `TrieBuilder::write` produced for them.  Then `Trie::new` opens the bytes with the
    metadata written, the real reader's `lookup_all_phrases(key)` of every key of non-zero syllables is, as
    (text, frequency) pairs, C20's `dictLookup .trie rs key`, and the list its `entries()` yields is, as records,
    C20's `entries .trie rs` — the keys in the order `trieOrder`, under each key the leaf in written order. -/
theorem trie_file_is_model (info : TrieCodec.Info) (hinfo : TrieCodec.ValidInfo info) (rs : List Cli.Rec)
    (hv : ∀ r ∈ rs, ValidRec r) (bytes : Der.Bytes)
    (hw : (TrieCodec.Builder.ofEntries info (rs.map toEntry)).write = some bytes) :
    ∃ tr ents, TrieCodec.openTrie bytes = some tr ∧ TrieCodec.about tr = info ∧
      (∀ k, C11.ValidKey k → (TrieCodec.lookupAll tr k .standard).map ofPhrase = dictLookup .trie rs k) ∧
      TrieCodec.entries tr = .ok ents ∧ ents.map ofEntry = Cli.entries .trie rs := by
  obtain ⟨tr, hopen, habout, h⟩ := C11.opened info (rs.map toEntry)
    ⟨hinfo, List.forall_mem_map.mpr fun r hr => validEntry_toEntry (hv r hr)⟩ bytes hw
  refine ⟨tr, _, hopen, habout, fun k hk => ?_, h.order (keysOf (trieBuild rs)) (trieBuild_inv rs).1 fun k => ?_, ?_⟩
  · rw [h.exact k hk]
    show (TrieCodec.sortLeaf ((TrieCodec.refFind (rs.map toEntry) k).getD [])).map ofPhrase = trieLookup (trieBuild rs) k
    unfold trieLookup
    rw [lookup_trieBuild, phraseSort_map]
  · rw [mem_keysOf_trieBuild, C11.inserted_some_iff, List.map_map]
    rfl
  · show _ = trieEntries (trieBuild rs)
    rw [trieEntries_eq, List.map_flatMap]
    refine flatMap_congr' (fun k _ => ?_)
    rw [lookup_trieBuild, phraseSort_map, List.map_map, List.map_map]
    rfl

theorem trie_entries_exact (info : TrieCodec.Info) (hinfo : TrieCodec.ValidInfo info) (rs : List Cli.Rec)
    (hv : ∀ r ∈ rs, ValidRec r) (bytes : Der.Bytes)
    (hw : (TrieCodec.Builder.ofEntries info (rs.map toEntry)).write = some bytes) :
    ∃ tr, TrieCodec.openTrie bytes = some tr ∧
      ∃ ents, TrieCodec.entries tr = .ok ents ∧ ents.map ofEntry = Cli.entries .trie rs :=
  let ⟨tr, ents, ho, _, _, he, heq⟩ := trie_file_is_model info hinfo rs hv bytes hw
  ⟨tr, ho, ents, he, heq⟩

/-- … so the lines `chewing-cli dump` prints for that file are the model's, in the model's order -/
theorem trie_dump_exact (info : TrieCodec.Info) (hinfo : TrieCodec.ValidInfo info) (rs : List Cli.Rec)
    (hv : ∀ r ∈ rs, ValidRec r) (bytes : Der.Bytes)
    (hw : (TrieCodec.Builder.ofEntries info (rs.map toEntry)).write = some bytes) (csv : Bool) :
    ∃ tr ents, TrieCodec.openTrie bytes = some tr ∧ TrieCodec.entries tr = .ok ents ∧
      Cli.dump csv (ents.map ofEntry) = Cli.dump csv (Cli.entries .trie rs) := by
  obtain ⟨tr, ho, ents, he, heq⟩ := trie_entries_exact info hinfo rs hv bytes hw
  exact ⟨tr, ents, ho, he, by rw [heq]⟩

end Chewing.CliTrieLink
