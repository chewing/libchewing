import Chewing.Proofs.C01Jump
/-!
C01, part 9: one public operation of the editor (`Editor.apply`): returns and re-establishes `EditorInv`.
-/
namespace Chewing.C01
open Chewing.C06

variable {D L : Type} {env : Env D L} {G : D → Prop} {w : Prop}

theorem dispatch_ok (hE : EnvOK env G) {e : Editor D L} (hi : EditorInv env G w e) (ev : KeyEvent) :
    OkAnd (fun x => ShInv env G w x.1 ∧ StInv env w x.1 x.2) (dispatch env e ev) := by
  have h0 := preamble_inv hi.sh
  unfold dispatch
  split
  · obtain ⟨⟨sh', t⟩, hq, hsh, hst⟩ := enteringNext_ok hE h0 ev
    rw [hq]
    exact .ok (applyTrans_ok hsh (fun _ _ => trivial) hst)
  · obtain ⟨⟨sh', t⟩, hq, hsh, hst⟩ := enteringSyllableNext_ok hE h0 ev
    rw [hq]
    exact .ok (applyTrans_ok hsh (fun _ _ => trivial) hst)
  · next s hs =>
    obtain ⟨x, hq, h1, h2, h3⟩ := selectingNext_ok hE h0 (selInv_preamble hi hs) ev
    rw [hq]
    exact .ok (applyTrans_ok h1 h2 h3)
  · next m _ =>
    obtain ⟨⟨sh', m', t⟩, hq, hsh, hst⟩ := highlightingNext_ok hE m h0 ev
    rw [hq]
    exact .ok (applyTrans_ok hsh (fun _ _ => trivial) hst)

theorem processKey_ok (hE : EnvOK env G) {e : Editor D L} (hi : EditorInv env G w e) (ev : KeyEvent) :
    OkAnd (fun x => EditorInv env G w x.1) (e.processKey env ev) := by
  rw [processKey_eq]
  obtain ⟨⟨sh, st⟩, hq, h1, h2⟩ := dispatch_ok hE hi ev
  rw [hq]
  exact tail_ok hE h1 h2

theorem select_tail_ok (hE : EnvOK env G) {sh : Shared D L} {st : St} (h : ShInv env G w sh) (hs : StInv env w sh st) :
    OkAnd (fun x => EditorInv env G w x.1)
      (match (if (st == .entering || st == .enteringSyllable) && sh.last == .absorb then Shared.tryAutoCommit env sh else .ok sh) with
        | .ok sh => (.ok ({ shared := sh, state := st }, sh.last != .bell) : Outcome (Editor D L × Bool))
        | .panic p => .panic p
        | .outOfFuel => .outOfFuel) := by
  obtain ⟨sh2, hq, h2, hs2⟩ := autoCommit_ok hE h hs
  rw [hq]
  exact .ok ⟨h2, hs2⟩

theorem select_api_ok (hE : EnvOK env G) {e : Editor D L} (hi : EditorInv env G w e) (n : Nat) : OkAnd (fun x => EditorInv env G w x.1) (e.select env n) := by
  unfold Editor.select
  split
  · next s hst =>
    have hs := hi.selInv hst
    obtain ⟨⟨s', sh', t⟩, hq, h1, h2, h3⟩ := select_ok hE hi.sh hs n
    rw [hq]
    exact select_tail_ok hE (applyTrans_ok h1 h2 h3).1 (applyTrans_ok h1 h2 h3).2
  · exact .ok hi

/-- `Editor::revalidate_selecting` (F32 repair, the last step of the option / layout / dictionary calls):
    under the invariant `total_page()` answers, and clamping the page / closing an empty list keeps the invariant -/
theorem revalidate_ok (hE : EnvOK env G) {e : Editor D L} (hi : EditorInv env G w e) :
    OkAnd (EditorInv env G w) (e.revalidate env) := by
  unfold Editor.revalidate
  split
  · next s hst =>
    have hs := hi.selInv hst
    obtain ⟨tp, hq, _⟩ := totalPage_ok hE hi.sh hs
    rw [hq]
    dsimp only
    split
    · exact .ok ⟨cancel_inv hi.sh, trivial⟩
    · split
      · exact .ok ⟨hi.sh, hs.page _⟩
      · exact .ok hi
  · exact .ok hi

/-- **one operation**: it returns (no panic, no exhausted fuel) and the invariant holds again -/
theorem apply_ok (hE : EnvOK env G) {e : Editor D L} (hi : EditorInv env G w e) (op : Op L) (hv : OpValid op)
    (hk : w → ¬ Known env e op) : OkAnd (EditorInv env G w) (e.apply env op) := by
  cases op with
  | key ev => exact (processKey_ok hE hi ev).map
  | select n => exact (select_api_ok hE hi n).map
  | startSelecting => exact (startSelecting_api_ok hE hi).map
  | cancelSelecting => exact .ok (cancelSelecting_api_ok hi)
  | commit => exact (commit_api_ok hE hi).map
  | clear => exact .ok (clear_api_ok hi)
  | ack => exact .ok ⟨hi.sh.congr rfl, hi.st.same rfl rfl⟩
  | clearSyl =>
    exact .ok (leaveIfEmpty_inv ⟨hi.sh.congr rfl, hi.st.same rfl rfl⟩)
  | setOptions o =>
    have hk : w → _ := fun hw => Classical.not_not.mp (hk hw)
    refine revalidate_ok hE (leaveIfEmpty_inv ?_)
    have hsh : ∀ sh1 : Shared D L, sh1.dict = e.shared.dict → sh1.com = e.shared.com → sh1.engine = e.shared.engine →
        sh1.symSel = e.shared.symSel → ShInv env G w { sh1 with options := o } := by
      intro sh1 hd hcm he hsy
      refine ⟨hd ▸ hi.sh.good, hcm ▸ hi.sh.ced, ?_, ?_, hv, hsy ▸ hi.sh.symOK⟩
      · intro hw c hcc
        have hcc' : Sym.syl c ∈ e.shared.com.inner.symbols := by
          have : sh1.com.inner.symbols = e.shared.com.inner.symbols := by rw [hcm]
          exact this ▸ hcc
        show env.hasPhrase sh1.dict [c] (engStrategy sh1.engine) = true ∧ env.hasPhrase sh1.dict [c] o.lookupStrategy = true
        rw [hd, he]
        exact ⟨(hi.sh.word hw c hcc').1, (hk hw).1 c hcc'⟩
      · intro hw
        show o.lookupStrategy = .fuzzyPartialPrefix → engStrategy sh1.engine = .fuzzyPartialPrefix
        rw [he]; exact (hk hw).2
    by_cases hlm : (e.shared.options.languageMode != o.languageMode) = true
    · exact ⟨by rw [if_pos hlm]; exact hsh _ rfl rfl rfl rfl, by rw [if_pos hlm]; exact hi.st.same rfl rfl⟩
    · exact ⟨by rw [if_neg hlm]; exact hsh _ rfl rfl rfl rfl, by rw [if_neg hlm]; exact hi.st.same rfl rfl⟩
  | setLayout l =>
    exact revalidate_ok hE (leaveIfEmpty_inv ⟨hi.sh.congr rfl, hi.st.same rfl rfl⟩)
  | setEngine k =>
    have hk : w → _ := fun hw => Classical.not_not.mp (hk hw)
    refine .ok ⟨⟨hi.sh.good, hi.sh.ced, ?_, (fun hw => (hk hw).2), hi.sh.perPage, hi.sh.symOK⟩, hi.st.same rfl rfl⟩
    intro hw c hcc
    exact ⟨(hk hw).1 c hcc, (hi.sh.word hw c hcc).2⟩
  | learn k p =>
    obtain ⟨⟨sh, b⟩, hq, h1, hkp⟩ := learnPhrase_ok hE hi.sh k p
    simp only [Editor.apply]
    rw [hq]
    exact revalidate_ok hE ⟨h1, hi.st.congr (by rw [hkp.com]) (by rw [hkp.com]) hkp.mono⟩
  | unlearn k p =>
    have hk : w → _ := fun hw => Classical.not_not.mp (hk hw)
    refine revalidate_ok hE ⟨⟨hE.remove_good _ _ _ hi.sh.good, hi.sh.ced, ?_, hi.sh.coupled, hi.sh.perPage, hi.sh.symOK⟩, ?_⟩
    · intro hw c hcc
      exact ⟨(hk hw).1 c hcc, (hk hw).2.1 c hcc⟩
    · exact stInv_unlearn hi (fun hw => (hk hw).2.2) rfl rfl
  | jump which => exact (jump_api_ok hi which).map

end Chewing.C01
