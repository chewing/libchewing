import Chewing.Model.Syllable
import Chewing.Proofs.BitField
/-!
Structural lemmas for C13: the arithmetic form of every bit operation of the codec on
encoded tuples (masks, field setters, accessors, spelling, removers).
-/
namespace Chewing
open Gen

/-- tuple bounds; `nt = 5` composable, `nt = 6` also admits the tone value `ˉ` produces -/
def Tup (nt i m r t : Nat) : Prop := i < 22 ∧ m < 4 ∧ r < 14 ∧ t < nt

theorem tup5_to6 {i m r t : Nat} (h : Tup 5 i m r t) : Tup 6 i m r t := by
  unfold Tup at *; omega

theorem encode_lt {i m r t : Nat} (h : Tup 6 i m r t) : encode i m r t < 65536 := by
  unfold encode; obtain ⟨h1, h2, h3, h4⟩ := h; split <;> omega

theorem encode_pos {i m r t : Nat} : 0 < encode i m r t := by
  unfold encode; split <;> omega

theorem encode_nz {i m r t : Nat} (h : i ≠ 0 ∨ m ≠ 0 ∨ r ≠ 0 ∨ t ≠ 0) :
    encode i m r t = i * 512 + m * 128 + r * 8 + t := by
  unfold encode; split <;> omega

/-- the digits of a code: it is a numeral in bases 64, 4, 16, 8 whose leading digit is out of range for the empty tuple -/
theorem encode_digits {i m r t : Nat} (h : Tup 6 i m r t) :
    encode i m r t / 512 = (if i = 0 ∧ m = 0 ∧ r = 0 ∧ t = 0 then 64 else i) ∧ encode i m r t / 128 % 4 = m ∧
    encode i m r t / 8 % 16 = r ∧ encode i m r t % 8 = t := by
  obtain ⟨-, h2, h3, h4⟩ := h
  have e : encode i m r t = (((if i = 0 ∧ m = 0 ∧ r = 0 ∧ t = 0 then 64 else i) * 4 + m) * 16 + r) * 8 + t := by
    unfold encode; split <;> omega
  rw [e]
  generalize (if i = 0 ∧ m = 0 ∧ r = 0 ∧ t = 0 then 64 else i) = l
  have d3 := div_mod_digit ((l * 4 + m) * 16 + r) (Nat.lt_trans h4 (by decide : 6 < 8))
  have d2 := div_mod_digit (l * 4 + m) (Nat.lt_trans h3 (by decide : 14 < 16))
  have d1 := div_mod_digit l h2
  rw [show 512 = 8 * 16 * 4 from rfl, show 128 = 8 * 16 from rfl, ← Nat.div_div_eq_div_mul, ← Nat.div_div_eq_div_mul,
    d3.1, d2.1]
  exact ⟨d1.1, d1.2, d2.2, d3.2⟩

theorem encode_fields {i m r t : Nat} (h : Tup 6 i m r t) :
    encode i m r t / 512 % 64 = i ∧ encode i m r t / 128 % 4 = m ∧
    encode i m r t / 8 % 16 = r ∧ encode i m r t % 8 = t := by
  obtain ⟨di, d⟩ := encode_digits h
  refine ⟨?_, d⟩
  rw [di]
  split
  · next hz => exact hz.1.symm
  · exact Nat.mod_eq_of_lt (Nat.lt_trans h.1 (by decide))

theorem encode_lt_marker {i m r t : Nat} (h : Tup 6 i m r t) (hz : ¬ (i = 0 ∧ m = 0 ∧ r = 0 ∧ t = 0)) :
    encode i m r t < 32768 := by
  obtain ⟨h1, h2, h3, h4⟩ := h
  rw [encode, if_neg hz]; omega

theorem unpack (c : Nat) : ((c / 512 * 4 + c / 128 % 4) * 16 + c / 8 % 16) * 8 + c % 8 = c := by
  have d1 : 4 * (c / 512) + c / 128 % 4 = c / 128 := by
    have := Nat.div_add_mod (c / 128) 4; rwa [Nat.div_div_eq_div_mul] at this
  have d2 : 16 * (c / 128) + c / 8 % 16 = c / 8 := by
    have := Nat.div_add_mod (c / 8) 16; rwa [Nat.div_div_eq_div_mul] at this
  rw [Nat.mul_comm _ 4, d1, Nat.mul_comm _ 16, d2, Nat.mul_comm _ 8, Nat.div_add_mod]

theorem encode_unpack {c : Nat} (h0 : c ≠ 0) (hc : c < 32768) :
    encode (c / 512 % 64) (c / 128 % 4) (c / 8 % 16) (c % 8) = c := by
  have u := unpack c
  rw [Nat.mod_eq_of_lt (Nat.div_lt_of_lt_mul hc : c / 512 < 64)]
  generalize c / 512 = I, c / 128 % 4 = M, c / 8 % 16 = R, c % 8 = T at u ⊢
  unfold encode; split <;> omega

/-- the pieces of more than one field that the masks of `syllable.rs` keep -/
theorem encode_parts {i m r t : Nat} (h : Tup 6 i m r t) :
    encode i m r t % 128 = r * 8 + t ∧ encode i m r t % 512 = m * 128 + r * 8 + t ∧
    encode i m r t / 128 % 256 = i * 4 + m ∧ encode i m r t / 8 % 4096 = i * 64 + m * 16 + r := by
  unfold encode; obtain ⟨h1, h2, h3, h4⟩ := h; split <;> omega

theorem encode_inj {i m r t i' m' r' t' : Nat} (h : Tup 6 i m r t) (h' : Tup 6 i' m' r' t')
    (e : encode i m r t = encode i' m' r' t') : i = i' ∧ m = m' ∧ r = r' ∧ t = t' := by
  obtain ⟨f0, f1, f2, f3⟩ := encode_fields h
  obtain ⟨g0, g1, g2, g3⟩ := encode_fields h'
  rw [e] at f0 f1 f2 f3
  exact ⟨f0.symm.trans g0, f1.symm.trans g1, f2.symm.trans g2, f3.symm.trans g3⟩

/-! The masks of `syllable.rs` (`Gen/SyllableBits.lean`), each an instance of `and_field` / `and_lo_field`:
    layout `e iiiiii mm rrrr ttt` (empty marker, initial, medial, rime, tone). -/

theorem and_32768 (c : Nat) : c &&& 32768 = c / 32768 % 2 * 32768 := and_field c 1 15
theorem and_32256 (c : Nat) : c &&& 32256 = c / 512 % 64 * 512 := and_field c 6 9
theorem and_384 (c : Nat) : c &&& 384 = c / 128 % 4 * 128 := and_field c 2 7
theorem and_120 (c : Nat) : c &&& 120 = c / 8 % 16 * 8 := and_field c 4 3
theorem and_7 (c : Nat) : c &&& 7 = c % 8 := Nat.and_two_pow_sub_one_eq_mod c 3
theorem and_511 (c : Nat) : c &&& 511 = c % 512 := Nat.and_two_pow_sub_one_eq_mod c 9
theorem and_32383 (c : Nat) : c &&& 32383 = c / 512 % 64 * 512 + c % 128 := and_lo_field c 6 (by decide : 7 ≤ 9)
theorem and_32647 (c : Nat) : c &&& 32647 = c / 128 % 256 * 128 + c % 8 := and_lo_field c 8 (by decide : 3 ≤ 7)
theorem and_32760 (c : Nat) : c &&& 32760 = c / 8 % 4096 * 8 := and_field c 12 3
theorem and_65151 (c : Nat) : c &&& 65151 = c / 512 % 128 * 512 + c % 128 := and_lo_field c 7 (by decide : 7 ≤ 9)
theorem and_65415 (c : Nat) : c &&& 65415 = c / 128 % 512 * 128 + c % 8 := and_lo_field c 9 (by decide : 3 ≤ 7)
theorem and_65528 (c : Nat) : c &&& 65528 = c / 8 % 8192 * 8 := and_field c 13 3

/-! `update` and the builder: clear one field, or in the new index -/

theorem set_initial (c : Nat) {v : Nat} (hv : v < 64) : c &&& 511 ||| v <<< 9 = v * 512 + c % 512 :=
  (set_field c 0 9 (w := 6) hv).trans (by omega)
theorem set_medial (c : Nat) {v : Nat} (hv : v < 4) :
    c &&& 32383 ||| v <<< 7 = c / 512 % 64 * 512 + v * 128 + c % 128 := set_field c 6 7 (w := 2) hv
theorem set_rime (c : Nat) {v : Nat} (hv : v < 16) :
    c &&& 32647 ||| v <<< 3 = c / 128 % 256 * 128 + v * 8 + c % 8 := set_field c 8 3 (w := 4) hv
theorem set_tone (c : Nat) {v : Nat} (hv : v < 8) : c &&& 32760 ||| v <<< 0 = c / 8 % 4096 * 8 + v :=
  (set_field c 12 0 (w := 3) hv).trans (by omega)

theorem and_clear {i m r t : Nat} (h : Tup 6 i m r t) :
    encode i m r t &&& 511 = m * 128 + r * 8 + t ∧
    encode i m r t &&& 32383 = i * 512 + r * 8 + t ∧
    encode i m r t &&& 32647 = i * 512 + m * 128 + t ∧
    encode i m r t &&& 32760 = i * 512 + m * 128 + r * 8 := by
  obtain ⟨p3, -, -, p0⟩ := encode_fields h
  obtain ⟨p1, p2, p4, p5⟩ := encode_parts h
  rw [and_511, and_32383, and_32647, and_32760, p0, p1, p2, p3, p4, p5]
  omega

theorem and_check {i m r t : Nat} (h : Tup 6 i m r t) :
    encode i m r t &&& 32256 = i * 512 ∧ encode i m r t &&& 384 = m * 128 ∧
    encode i m r t &&& 120 = r * 8 ∧ encode i m r t &&& 7 = t := by
  obtain ⟨f0, f1, f2, f3⟩ := encode_fields h
  rw [and_32256, and_384, and_120, and_7, f0, f1, f2, f3]
  exact ⟨rfl, rfl, rfl, rfl⟩

/-- the accessor idiom `(x &&& mask) >>> shift` reads a digit -/
theorem field_eq (x w s : Nat) : field ((2 ^ w - 1) <<< s) s x = x / 2 ^ s % 2 ^ w := by
  unfold field
  rw [and_field, Nat.shiftRight_eq_div_pow, Nat.mul_div_cancel _ (Nat.two_pow_pos s)]

theorem field_arith (c : Nat) :
    field 32256 9 c = c / 512 % 64 ∧ field 384 7 c = c / 128 % 4 ∧ field 120 3 c = c / 8 % 16 ∧ field 7 0 c = c % 8 :=
  ⟨field_eq c 6 9, field_eq c 2 7, field_eq c 4 3, (field_eq c 3 0).trans (by rw [Nat.pow_zero, Nat.div_one])⟩

theorem field_encode {i m r t : Nat} (h : Tup 6 i m r t) :
    field initialMask initialShift (encode i m r t) = i ∧ field medialMask medialShift (encode i m r t) = m ∧
    field rimeMask rimeShift (encode i m r t) = r ∧ field toneMask toneShift (encode i m r t) = t := by
  obtain ⟨a0, a1, a2, a3⟩ := field_arith (encode i m r t)
  obtain ⟨f0, f1, f2, f3⟩ := encode_fields h
  exact ⟨a0.trans f0, a1.trans f1, a2.trans f2, a3.trans f3⟩

theorem comp_encode {i m r t : Nat} (h : Tup 6 i m r t) (k : Nat) :
    comp k (encode i m r t) = tupleComp k i m r t := by
  obtain ⟨f0, f1, f2, f3⟩ := field_encode h
  unfold comp tupleComp
  split <;> simp only [initial, medial, rime, tone, accessor, fromMap, f0, f1, f2, f3, beq_iff_eq]

theorem filterMap_id4 {α : Type} (a b c d : Option α) :
    [a, b, c, d].filterMap id = a.toList ++ b.toList ++ c.toList ++ d.toList := by
  cases a <;> cases b <;> cases c <;> cases d <;> rfl

theorem ite_toList {α : Type} (p : Prop) [Decidable p] (x : Option α) :
    (if p then none else x).toList = if p then [] else x.toList := by
  split <;> rfl

theorem spell_encode {i m r t : Nat} (h : Tup 6 i m r t) :
    spell (encode i m r t) = (tupleSyms i m r t).map charOf := by
  have c := comp_encode h
  have c0 := c 0; have c1 := c 1; have c2 := c 2; have c3 := c 3
  simp only [comp, tupleComp] at c0 c1 c2 c3
  simp only [spell, tupleSyms, c0, c1, c2, c3, filterMap_id4, ite_toList]

/-- the tuple with component `k` set to zero (what removing component `k` yields, `remove_encode`) -/
def zeroAt (k i m r t : Nat) : Nat × Nat × Nat × Nat :=
  match k with
  | 0 => (0, m, r, t)
  | 1 => (i, 0, r, t)
  | 2 => (i, m, 0, t)
  | _ => (i, m, r, 0)

def enc4 (x : Nat × Nat × Nat × Nat) : Nat := encode x.1 x.2.1 x.2.2.1 x.2.2.2

abbrev on4 {α : Sort _} (f : Nat → Nat → Nat → Nat → α) (x : Nat × Nat × Nat × Nat) : α := f x.1 x.2.1 x.2.2.1 x.2.2.2

/-- the value `removeWith` hands out, given the masked value in arithmetic form -/
theorem encode_of_val {i m r t v : Nat} (hv : v = i * 512 + m * 128 + r * 8 + t) :
    (if (v == 0) = true then 32768 else v) = encode i m r t := by
  subst hv
  unfold encode
  simp only [beq_iff_eq]
  split <;> split <;> omega

/-- below the marker bit the masks of the removers keep what the masks of `update` keep -/
theorem and_remove {c : Nat} (hc : c < 32768) :
    c &&& 65151 = c &&& 32383 ∧ c &&& 65415 = c &&& 32647 ∧ c &&& 65528 = c &&& 32760 := by
  have e (s n : Nat) (hs : c < s * n) (w : Nat) (hw : n ≤ w) : c / s % w = c / s :=
    Nat.mod_eq_of_lt (Nat.lt_of_lt_of_le (Nat.div_lt_of_lt_mul hs) hw)
  refine ⟨?_, ?_, ?_⟩
  · rw [and_65151, and_32383, e 512 64 hc 128 (by decide), e 512 64 hc 64 (by decide)]
  · rw [and_65415, and_32647, e 128 256 hc 512 (by decide), e 128 256 hc 256 (by decide)]
  · rw [and_65528, and_32760, e 8 4096 hc 8192 (by decide), e 8 4096 hc 4096 (by decide)]

theorem remove_encode {i m r t : Nat} (h : Tup 6 i m r t) (k : Nat) :
    removeKind k (encode i m r t) = enc4 (zeroAt k i m r t) := by
  by_cases hz : i = 0 ∧ m = 0 ∧ r = 0 ∧ t = 0
  · obtain ⟨rfl, rfl, rfl, rfl⟩ := hz
    match k with
    | 0 | 1 | 2 => decide
    | _ + 3 => rfl
  · obtain ⟨c0, c1, c2, c3⟩ := and_clear h
    obtain ⟨r1, r2, r3⟩ := and_remove (encode_lt_marker h hz)
    unfold removeKind zeroAt enc4
    split <;>
      simp only [removeInitial, removeMedial, removeRime, removeTone, removeWith, removeInitialMask, removeMedialMask,
        removeRimeMask, removeToneMask, emptyPattern, r1, r2, r3, c0, c1, c2, c3] <;>
      exact encode_of_val (by omega)

theorem zeroAt_tup {nt i m r t : Nat} (h : Tup nt i m r t) (hnt : 0 < nt) (k : Nat) :
    on4 (Tup nt) (zeroAt k i m r t) := by
  obtain ⟨h0, h1, h2, h3⟩ := h
  unfold zeroAt on4 Tup
  split <;> (dsimp only; omega)

/-- the symbol of kind `k` with index `x ≠ 0` in its kind (the tables are read at `x - 1`, as `tupleComp` reads them):
    discriminant, kind and index agree with the index tables -/
theorem syms_tbl :
    (∀ x < 22, x ≠ 0 → initialMap[x - 1]? = some (x - 1) ∧ kindOf (x - 1) = 0 ∧ indexOf (x - 1) = x) ∧
    (∀ x < 4, x ≠ 0 → medialMap[x - 1]? = some (20 + x) ∧ kindOf (20 + x) = 1 ∧ indexOf (20 + x) = x) ∧
    (∀ x < 14, x ≠ 0 → rimeMap[x - 1]? = some (23 + x) ∧ kindOf (23 + x) = 2 ∧ indexOf (23 + x) = x) ∧
    (∀ x < 5, x ≠ 0 → toneMap[x - 1]? = some (36 + x) ∧ kindOf (36 + x) = 3 ∧ indexOf (36 + x) = x) :=
  ⟨by decide +kernel, by decide +kernel, by decide +kernel, by decide +kernel⟩

end Chewing
