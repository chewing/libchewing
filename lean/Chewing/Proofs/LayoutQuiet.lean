import Chewing.Model.Layout
import Chewing.Proofs.Outcome
/-!
The premise of C06's `bell_keeps_phonetic` (`LayoutQuietAt`: the phonetic layout does not change state on a key it
rejects), proved of the seven one-syllable layout MODELS (`Model/Layout.lean`: Standard, ET, IBM, Gin-Yieh, Hsu,
ET26, DaChen CP26; C14 ties them to the Rust layouts):

* a key answered with anything but absorb / commit / fuzzy (key error, no word, …) returns the state it was given —
  `press` and the trait's default `fuzzy_key_press` alike;
* from the EMPTY buffer a key that is not absorbed returns the empty buffer (no layout commits from nothing).

Pinyin keeps a key sequence besides the syllable and has its own model; it is not covered here.
-/
namespace Chewing

/-- the answers after which `EnteringSyllable` bells -/
def Behavior.isRejected : Behavior → Bool
  | .absorb => false
  | .commit => false
  | .fuzzy _ => false
  | _ => true

/-- a press function that leaves its state alone when it rejects the key -/
def PressQuiet (press : Nat → KeyEv → PressResult) : Prop :=
  ∀ c k b c', press c k = some (b, c') →
    (b.isRejected = true → c' = c) ∧ (isEmptySyl c = true → b ≠ .absorb → c' = c)

/-- every successful result of `r` carries the behaviour `b0` -/
def BehIs (b0 : Behavior) (r : PressResult) : Prop := ∀ b c', r = some (b, c') → b = b0

theorem behIs_map {α : Type} {b0 : Behavior} {o : Option α} {f : α → Nat} :
    BehIs b0 (o.map fun x => (b0, f x)) := by
  intro b c' h
  cases o with
  | none => cases h
  | some x => cases h; rfl

theorem behIs_bind {b0 : Behavior} {o : Option Nat} {f : Nat → PressResult} (hf : ∀ x, BehIs b0 (f x)) :
    BehIs b0 (o.bind f) := by
  intro b c' h
  cases o with
  | none => cases h
  | some x => exact hf x b c' h

theorem behIs_ite {b0 : Behavior} {p : Prop} [Decidable p] {a b : PressResult} (ha : BehIs b0 a) (hb : BehIs b0 b) :
    BehIs b0 (if p then a else b) :=
  ite_intro (fun _ => ha) fun _ => hb

/-- the answer `r` to a key pressed in state `c` is quiet: `PressQuiet press` says this of every `press c k` -/
def QuietAt (c : Nat) (r : PressResult) : Prop :=
  ∀ b c', r = some (b, c') → (b.isRejected = true → c' = c) ∧ (isEmptySyl c = true → b ≠ .absorb → c' = c)

/-- the state handed back, whatever the answer -/
theorem QuietAt.same {c : Nat} {b0 : Behavior} : QuietAt c (some (b0, c)) :=
  fun _ _ h => by cases h; exact ⟨fun _ => rfl, fun _ _ => rfl⟩

/-- an answer that can only be *absorb* -/
theorem QuietAt.absorb {c : Nat} {r : PressResult} (hr : BehIs .absorb r) : QuietAt c r :=
  fun b c' h => by cases hr b c' h; exact ⟨nofun, fun _ x => absurd rfl x⟩

/-- an answer that can only be *commit*, from a non-empty buffer -/
theorem QuietAt.commit {c : Nat} {r : PressResult} (hr : BehIs .commit r) (hne : (!isEmptySyl c) = true) :
    QuietAt c r :=
  fun b c' h => by cases hr b c' h; exact ⟨nofun, fun he => by rw [he] at hne; cases hne⟩

theorem tablePress_quiet (tbl : List (Nat × Nat)) : PressQuiet (tablePress tbl) := by
  refine fun c k => (?_ : QuietAt c _)
  unfold tablePress
  split
  · exact .same
  · refine ite_intro (fun _ => ite_intro (fun hne => ite_intro (fun _ => .commit behIs_map hne) fun _ => .same) fun _ =>
      ite_intro (fun _ => .same) fun _ => .absorb behIs_map) fun hk => ite_intro (fun ht => ?_) fun _ => .absorb behIs_map
    -- the first-tone key is a tone key
    exact absurd (by decide) (eq_of_beq ht ▸ hk)

theorem hsuPress_quiet : PressQuiet hsuPress := by
  refine fun c k => (?_ : QuietAt c _)
  unfold hsuPress
  refine ite_intro (fun hc => .commit (behIs_bind fun _ => behIs_bind fun _ => behIs_map)
    (Bool.and_eq_true_iff.mp hc).2) fun _ => ?_
  split
  · exact .same
  · exact .absorb (behIs_bind fun _ => behIs_bind fun _ => behIs_bind fun _ => behIs_map)

theorem et26Press_quiet : PressQuiet et26Press := by
  refine fun c k => (?_ : QuietAt c _)
  unfold et26Press
  refine ite_intro (fun hc => .commit (behIs_bind fun _ => behIs_map) (Bool.and_eq_true_iff.mp hc).2) fun _ => ?_
  split
  · exact .same
  · exact .absorb (behIs_bind fun _ => behIs_map)

/-- a property of the value of each arm of an `if` between optional values -/
theorem forall_some_ite {α : Type} {Q : α → Prop} {p : Prop} [Decidable p] {a b : Option α}
    (ha : ∀ x, a = some x → Q x) (hb : ∀ x, b = some x → Q x) : ∀ x, (if p then a else b) = some x → Q x := by
  split <;> assumption

theorem forall_some_some {α : Type} {Q : α → Prop} {y : α} (h : Q y) : ∀ x, some y = some x → Q x :=
  fun _ e => by cases e; exact h

theorem forall_some_absorb {α : Type} {o : Option α} {f : α → Nat} :
    ∀ res, some (o.map fun x => (Behavior.absorb, f x)) = some res → BehIs .absorb res :=
  forall_some_some behIs_map

/-- an arm of the `K21` cycle that returns at all returns *absorb* -/
theorem dc26K21_absorb (c : Nat) : ∀ res, dc26K21 c = some res → BehIs .absorb res := by
  unfold dc26K21
  exact forall_some_ite (forall_some_some (behIs_map (o := some _))) <| forall_some_ite forall_some_absorb <|
    forall_some_ite forall_some_absorb <| forall_some_ite forall_some_absorb nofun

theorem dc26K44_absorb (c : Nat) : ∀ res, dc26K44 c = some res → BehIs .absorb res := by
  unfold dc26K44
  exact forall_some_ite forall_some_absorb <| forall_some_ite forall_some_absorb <|
    forall_some_ite forall_some_absorb <| forall_some_ite forall_some_absorb <|
    forall_some_ite forall_some_absorb nofun

theorem dc26Press_quiet : PressQuiet dc26Press := by
  refine fun c k => (?_ : QuietAt c _)
  unfold dc26Press
  refine ite_intro (fun hc => .commit behIs_map (Bool.and_eq_true_iff.mp hc).2) fun _ => ?_
  split
  · exact .same
  · refine ite_intro (fun _ => ?_) fun _ => .absorb behIs_map
    split
    · next res hres => exact .absorb (forall_some_ite (dc26K21_absorb c) (dc26K44_absorb c) res hres)
    · exact .absorb behIs_map

/-- a layout whose `press` is quiet; holds of each of the seven layout models -/
def QuietLayout (L : Layout) : Prop := PressQuiet L.press

theorem standardL_quiet : QuietLayout standardL := tablePress_quiet _
theorem etL_quiet : QuietLayout etL := tablePress_quiet _
theorem ibmL_quiet : QuietLayout ibmL := tablePress_quiet _
theorem ginyiehL_quiet : QuietLayout ginyiehL := tablePress_quiet _
theorem hsuL_quiet : QuietLayout hsuL := hsuPress_quiet
theorem et26L_quiet : QuietLayout et26L := et26Press_quiet
theorem dc26L_quiet : QuietLayout dc26L := dc26Press_quiet

theorem layoutByName_quiet {n : String} {L : Layout} (h : layoutByName n = some L) : QuietLayout L := by
  unfold layoutByName at h
  split at h
  · cases h; exact standardL_quiet
  · cases h; exact etL_quiet
  · cases h; exact ibmL_quiet
  · cases h; exact ginyiehL_quiet
  · cases h; exact hsuL_quiet
  · cases h; exact et26L_quiet
  · cases h; exact dc26L_quiet
  · cases h

/-- the trait's default `fuzzy_key_press` is quiet on a rejected key too -/
theorem fuzzyPress_quiet {L : Layout} (hL : QuietLayout L) (c : Nat) (k : KeyEv) (b : Behavior) (c' : Nat)
    (h : L.fuzzyPress c k = some (b, c')) (hr : b.isRejected = true) : c' = c := by
  unfold Layout.fuzzyPress at h
  split at h
  · exact (hL c k b c' h).1 hr
  · split at h
    · cases h
    · split at h
      · cases behIs_map b c' h; cases hr
      · exact (hL c k b c' h).1 hr

end Chewing
