import Chewing.Model.TrieCodec
import Chewing.Proofs.TrieSort
/-!
The documented order of a leaf: single characters keep insertion order, multi-character phrases
are sorted by descending frequency (ties: descending UTF-8 order).
-/
namespace Chewing.TrieCodec
open Chewing.Der

/-- `lexLt` is core's order of `List Nat` -/
theorem lexLt_iff : ∀ {a b : List Nat}, lexLt a b = true ↔ a < b
  | _, [] => by simp [lexLt]
  | [], _ :: _ => by simp [lexLt]
  | x :: xs, y :: ys => by
    rw [lexLt, List.cons_lt_cons_iff, ← lexLt_iff (a := xs)]
    rcases Nat.lt_trichotomy x y with h | rfl | h
    · simp [h]
    · simp
    · simp [Nat.lt_asymm h, Nat.ne_of_gt h, h]

theorem lexLt_false_iff {a b : List Nat} : lexLt a b = false ↔ b ≤ a := by
  rw [← Bool.not_eq_true, lexLt_iff, List.not_lt]

theorem lexLt_asymm (a b : List Nat) (h : lexLt a b = true) : lexLt b a = false :=
  lexLt_false_iff.mpr (List.le_of_lt (lexLt_iff.mp h))

theorem lexLt_negtrans (a b c : List Nat) (hab : lexLt a b = false) (hbc : lexLt b c = false) : lexLt a c = false :=
  lexLt_false_iff.mpr (List.le_trans (lexLt_false_iff.mp hbc) (lexLt_false_iff.mp hab))
/-! Among multi-character phrases the comparator is lexicographic: first a key in `Nat` (the frequency), then a
comparison `p` of the rest (the texts).  "`x` is not before `y`" then reads `ky < kx ∨ kx = ky ∧ p`, and transitivity
and totality of that are those of the rest. -/

theorem lex_trans {ka kb kc : Nat} {p q r : Prop} (hab : kb < ka ∨ ka = kb ∧ p) (hbc : kc < kb ∨ kb = kc ∧ q)
    (h : p → q → r) : kc < ka ∨ ka = kc ∧ r := by
  rcases hab with h1 | ⟨rfl, hp⟩ <;> rcases hbc with h2 | ⟨rfl, hq⟩
  · exact Or.inl (Nat.lt_trans h2 h1)
  · exact Or.inl h1
  · exact Or.inl h2
  · exact Or.inr ⟨rfl, h hp hq⟩

theorem lex_total {ka kb : Nat} {p q : Prop} (hab : ¬(kb < ka ∨ ka = kb ∧ p)) (h : ¬p → q) : ka < kb ∨ kb = ka ∧ q := by
  rcases Nat.lt_trichotomy ka kb with h1 | rfl | h1
  · exact Or.inl h1
  · exact Or.inr ⟨rfl, h fun hp => hab (Or.inr ⟨rfl, hp⟩)⟩
  · exact absurd (Or.inl h1) hab

/-- nothing sorts before a single character -/
theorem phraseLt_single {a b : Phrase} (hb : b.text.length = 1) : phraseLt a b = false := by
  unfold phraseLt
  by_cases ha : a.text.length = 1
  · rw [if_pos ⟨ha, hb⟩]
  · rw [if_neg fun h => ha h.1, if_neg ha, if_pos hb]

theorem phraseLt_single_multi {a b : Phrase} (ha : a.text.length = 1) (hb : b.text.length ≠ 1) : phraseLt a b = true := by
  unfold phraseLt
  rw [if_neg (by intro h; exact hb h.2), if_pos ha]

/-- among multi-character phrases `a` is not before `b` iff it has the lower frequency, or the same and not the
    greater text -/
theorem phraseLt_multi_false {a b : Phrase} (ha : a.text.length ≠ 1) (hb : b.text.length ≠ 1) :
    phraseLt a b = false ↔ a.freq < b.freq ∨ b.freq = a.freq ∧ lexLt (utf8Enc b.text) (utf8Enc a.text) = false := by
  unfold phraseLt
  rw [if_neg (by intro h; exact ha h.1), if_neg ha, if_neg hb]
  split
  · next e => simp [e]
  · next e => simp; omega

def isSingle (p : Phrase) : Bool := p.text.length == 1

/-- the comparator is a total preorder: "not after" is transitive … -/
theorem phraseLt_negtrans (a b c : Phrase) (hba : phraseLt b a = false) (hcb : phraseLt c b = false) :
    phraseLt c a = false := by
  by_cases ha : a.text.length = 1
  · exact phraseLt_single ha
  by_cases hb : b.text.length = 1
  · rw [phraseLt_single_multi hb ha] at hba; cases hba
  by_cases hc : c.text.length = 1
  · rw [phraseLt_single_multi hc hb] at hcb; cases hcb
  exact (phraseLt_multi_false hc ha).mpr (lex_trans ((phraseLt_multi_false hb ha).mp hba)
    ((phraseLt_multi_false hc hb).mp hcb) (lexLt_negtrans _ _ _))

/-- … and it is asymmetric -/
theorem phraseLt_asymm (a b : Phrase) (hab : phraseLt a b = true) : phraseLt b a = false := by
  by_cases ha : a.text.length = 1
  · exact phraseLt_single ha
  by_cases hb : b.text.length = 1
  · rw [phraseLt_single hb] at hab; cases hab
  exact (phraseLt_multi_false hb ha).mpr (lex_total (mt (phraseLt_multi_false ha hb).mpr (ne_false_of_eq_true hab))
    fun hp => lexLt_asymm _ _ (eq_true_of_ne_false hp))

theorem tp_phraseLt : StableSort.TPOn phraseLt (fun _ => True) :=
  ⟨fun a b _ _ => phraseLt_asymm a b, fun a b c _ _ _ => phraseLt_negtrans a b c⟩

/-- every leaf is sorted by the comparator -/
theorem sortLeaf_sorted (ps : List Phrase) : (sortLeaf ps).Pairwise (fun a b => phraseLt b a = false) :=
  sortBy_sorted tp_phraseLt ps fun _ _ => trivial

/-- single characters keep their insertion order (also among longer phrases) -/
theorem sortLeaf_singles (ps : List Phrase) : (sortLeaf ps).filter isSingle = ps.filter isSingle :=
  sortBy_filter_stable _ _ _ (fun a _ b _ ha hb =>
    phraseLt_single (by simpa [isSingle] using hb))

/-- multi-character phrases are in descending frequency (also among single characters) -/
theorem sortLeaf_multis (ps : List Phrase) :
    ((sortLeaf ps).filter (fun p => !isSingle p)).Pairwise (fun a b => b.freq ≤ a.freq) := by
  have h := (sortLeaf_sorted ps).filter (fun p => !isSingle p)
  refine List.Pairwise.imp_of_mem ?_ h
  intro a b ha hb hlt
  have ha' : a.text.length ≠ 1 := by simpa [isSingle] using (List.mem_filter.mp ha).2
  have hb' : b.text.length ≠ 1 := by simpa [isSingle] using (List.mem_filter.mp hb).2
  exact ((phraseLt_multi_false hb' ha').mp hlt).elim Nat.le_of_lt fun h => Nat.le_of_eq h.1.symm

/-- single characters stand before all longer phrases -/
theorem sortLeaf_singles_first (ps : List Phrase) :
    (sortLeaf ps).Pairwise (fun a b => isSingle b = true → isSingle a = true) := by
  refine List.Pairwise.imp ?_ (sortLeaf_sorted ps)
  intro a b hlt hb
  by_cases ha : a.text.length = 1
  · simpa [isSingle] using ha
  · rw [phraseLt_single_multi (by simpa [isSingle] using hb) ha] at hlt; cases hlt

end Chewing.TrieCodec
