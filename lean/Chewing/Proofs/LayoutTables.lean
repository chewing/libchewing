import Chewing.Model.Layout
import Chewing.Model.LayoutPinyin
/-!
Finite facts about the generated layout tables (kernel-checked, so they are facts about the current
source): the symbol constants of the hand-transcribed rules carry the names they claim, every symbol a
layout can pass to `update` is one of the 42 symbols, and the first-tone mark only occurs where the
code handles it.
-/
namespace Chewing
open Gen

/-- the `Sym.*` constants are the discriminants of the variants they are named after -/
theorem sym_names :
    [Sym.G, Sym.J, Sym.Q, Sym.X, Sym.ZH, Sym.CH, Sym.SH, Sym.I, Sym.U, Sym.IU, Sym.A, Sym.OU, Sym.TONE1,
      Sym.B, Sym.P, Sym.M, Sym.F, Sym.R, Sym.Z, Sym.C, Sym.S, Sym.O, Sym.AN, Sym.EN, Sym.ENG].map (bopoNames[·]?) =
    ["G", "J", "Q", "X", "ZH", "CH", "SH", "I", "U", "IU", "A", "OU", "TONE1",
      "B", "P", "M", "F", "R", "Z", "C", "S", "O", "AN", "EN", "ENG"].map some := by
  decide

/-- the `KeyIndex` values the DaChen26 model names (`K21`, `K44`) and the key / index enums are aligned on
    Qwerty: position `i` of the Qwerty matrix is `KeyCode` `i` and `KeyIndex` `i` -/
theorem key_names : keyIndexNames[21]? = some "K21" ∧ keyIndexNames[44]? = some "K44" ∧
    keyIndexNames.length = 63 ∧ keyCodeNames.length = 63 ∧ matrixSize = 63 := by
  decide

/-- every row of the four tables names one of the 42 symbols (the tables of the other layouts, below, stay under
    41: they do not hold the first-tone mark) -/
theorem tables_syms : ∀ tbl ∈ [standardTable, etTable, ibmTable, ginyiehTable], ∀ row ∈ tbl, row.2 < 42 := by
  decide +kernel

theorem keys26_syms : ∀ tbl ∈ [hsuKeys, et26Keys, dc26Keys], ∀ row ∈ tbl, row.2.2.1 < 41 ∧ row.2.2.2 < 41 := by
  decide +kernel

theorem rewrites_syms : ∀ tbl ∈ [hsuEndRewrites, et26EndRewrites], ∀ row ∈ tbl, row.2.2 < 41 := by
  decide +kernel

theorem tonekeys_syms : ∀ tbl ∈ [hsuToneKeys, et26ToneKeys, dc26ToneKeys, pinyinToneKeys], ∀ row ∈ tbl,
    row.2 < 41 ∧ kindOf row.2 = 3 := by
  decide +kernel

/-- the initial-swapping rules write initials (symbols below 21) -/
theorem swap_initials : ∀ tbl ∈ [jqxToZhChSh, zhChShToJqx, jxToZhSh, gToQ], ∀ row ∈ tbl, row.2 < 21 := by
  decide +kernel

end Chewing
