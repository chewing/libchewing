import Chewing.Proofs.C01Selecting
/-!
C01, part 7: candidate lists of phrase selectors, symbol tables and special-symbol selectors: `candidates`,
`total_page`, paging keys and `Selecting::select` (digits, `Editor::select`).  A chosen phrase is a valid
selection (non-empty, inside the buffer, one character per syllable, over syllables only), so the
composition invariant survives the choice.
-/
namespace Chewing.C01
open Chewing.C04

variable {D L : Type} {env : Env D L} {G : D → Prop} {w : Prop}

/-- the list is not a symbol *table* (`SymbolSelector`, whose tables come from `symbols.dat`) -/
def selNoTable (s : Selecting) : Prop := ∀ y, s.sel ≠ .symbol y

theorem allSyl_slice {c : Composition} {b e : Nat} (h : AllSyl c b e) :
    ((c.symbols.drop b).take (e - b)).any (fun s => !s.isSyl) = false := by
  rw [List.any_eq_false]
  intro x hx
  obtain ⟨j, h1, h2, h3⟩ := slice_mem (c := c) (a := b) (b := e) hx
  obtain ⟨k, hk⟩ := h j h1 h2
  rw [hk] at h3; cases h3
  intro hh; cases hh

theorem phraseCandidates_ok (hE : EnvOK env G) {sh : Shared D L} (h : ShInv env G w sh) {p : PhraseSel}
    (hp : PhraseOK env w sh p) :
    OkAnd (fun cs => ∀ t ∈ cs, t.length = p.end_ - p.begin_) (PhraseSel.candidates env p sh.dict sh.syl) := by
  unfold PhraseSel.candidates
  rw [sliceSyms_ok (Nat.le_of_lt hp.lt) hp.le]
  dsimp only
  have hbase : ∀ t ∈ (env.lookupAll sh.dict (sylPrefix ((p.com.symbols.drop p.begin_).take (p.end_ - p.begin_))) p.strategy).map (·.text),
      t.length = p.end_ - p.begin_ := by
    intro t ht
    obtain ⟨ph, hph, rfl⟩ := List.mem_map.mp ht
    rw [hE.wf _ h.good _ _ ph hph, sylPrefix_length_of_all (allSyl_slice hp.syl)]
    simp only [List.length_take, List.length_drop]
    have := hp.le; have := hp.lt
    omega
  split
  · next h1 =>
    simp only [beq_iff_eq] at h1
    obtain ⟨k, hk⟩ := hp.syl p.begin_ (Nat.le_refl _) hp.lt
    have hlt : p.begin_ < p.com.symbols.length := Nat.lt_of_lt_of_le hp.lt hp.le
    rw [symbol?_lt hlt, hk]
    refine .ok ?_
    intro t ht
    rcases List.mem_append.mp ht with ht | ht
    · exact hbase t ht
    · obtain ⟨a, _, hta⟩ := List.mem_flatMap.mp ht
      obtain ⟨ph, hph, rfl⟩ := List.mem_map.mp hta
      rw [hE.wf _ h.good _ _ ph hph, h1]
      rfl
  · exact .ok hbase

/-! ## symbol tables -/

theorem symSelect_ok {y : SymSel} (hy : SymWF y) (n : Nat) :
    OkAnd (fun r => SymWF r.2 ∧ ∀ sym, r.1 = some sym → sym.isSyl = false) (y.select n) := by
  unfold SymSel.select
  split
  · next hc =>
    split
    · exact .ok ⟨hy, fun sym hh => (by cases hh)⟩
    · next name hcat =>
      have hmem : (name, none) ∈ y.category := List.mem_of_getElem? hcat
      have hne := hy.leaf name hmem
      cases name with
      | nil => exact absurd rfl hne
      | cons ch rest =>
        refine .ok ⟨⟨fun c hh => (by cases hh), hy.leaf, hy.idx⟩, fun sym hh => ?_⟩
        simp only [Option.some.injEq] at hh
        rw [← hh]; rfl
    · next name i hcat =>
      have hmem : (name, some i) ∈ y.category := List.mem_of_getElem? hcat
      refine .ok ⟨⟨fun c hh => ?_, hy.leaf, hy.idx⟩, fun sym hh => (by cases hh)⟩
      simp only [Option.some.injEq] at hh
      rw [← hh]; exact hy.idx name i hmem
  · next c hc =>
    have hlt := hy.cur c hc
    rw [List.getElem?_eq_getElem hlt]
    refine .ok ⟨⟨fun c' hh => (by cases hh), hy.leaf, hy.idx⟩, fun sym hh => ?_⟩
    cases hx : (y.table[c])[n]? with
    | none => rw [hx] at hh; cases hh
    | some v => rw [hx] at hh; simp only [Option.map_some, Option.some.injEq] at hh; rw [← hh]; rfl

theorem candidates_ok (hE : EnvOK env G) {sh : Shared D L} (h : ShInv env G w sh) {s : Selecting}
    (hs : SelInv env w sh s) : OkAnd (fun _ => True) (Selecting.candidates env s sh) := by
  unfold Selecting.candidates
  have h1 := hs.sel
  split
  · next p hp => rw [hp] at h1; exact (phraseCandidates_ok hE h h1).mono (fun _ _ => trivial)
  · next y hy => rw [hy] at h1; obtain ⟨l, hl⟩ := symMenu_ok h1; rw [hl]; exact .ok trivial
  · next sym hy =>
    rw [hy] at h1
    cases sym with
    | syl k => cases h1
    | chr ch => obtain ⟨l, hl⟩ := specialMenu_chr ch; rw [hl]; exact .ok trivial

theorem totalPage_ok (hE : EnvOK env G) {sh : Shared D L} (h : ShInv env G w sh) {s : Selecting}
    (hs : SelInv env w sh s) : OkAnd (fun _ => True) (Selecting.totalPage env s sh) := by
  obtain ⟨cs, hq, _⟩ := candidates_ok hE h hs
  unfold Selecting.totalPage
  rw [hq]
  dsimp only
  rw [if_neg (by have := h.perPage; simp only [beq_iff_eq]; omega)]
  exact .ok trivial

/-- changing the page number keeps the list invariant -/
theorem SelInv.page {sh : Shared D L} {s : Selecting} (hs : SelInv env w sh s) (n : Nat) :
    SelInv env w sh { s with pageNo := n } := ⟨hs.sel, hs.repl⟩

theorem selPrevPage_ok (hE : EnvOK env G) {sh : Shared D L} (h : ShInv env G w sh) {s : Selecting}
    (hs : SelInv env w sh s) : SelResOK env G w (selPrevPage env s sh) := by
  unfold selPrevPage
  split
  · exact .ok (selPost_spin h (hs.page _))
  · obtain ⟨tp, hq, _⟩ := totalPage_ok hE h hs
    rw [hq]
    exact .ok (selPost_spin h (hs.page _))

theorem selNextPage_ok (hE : EnvOK env G) {sh : Shared D L} (h : ShInv env G w sh) {s : Selecting}
    (hs : SelInv env w sh s) : SelResOK env G w (selNextPage env s sh) := by
  obtain ⟨tp, hq, _⟩ := totalPage_ok hE h hs
  unfold selNextPage
  rw [hq]
  dsimp only
  split
  · exact .ok (selPost_spin h (hs.page _))
  · exact .ok (selPost_spin h (hs.page _))

/-! ## choosing a candidate -/

/-- result of `Selecting::select` -/
def SelectOK (env : Env D L) (G : D → Prop) (w : Prop) (r : Outcome (Selecting × Shared D L × Trans)) : Prop :=
  OkAnd (fun x => ShInv env G w x.2.1 ∧ (∀ b, x.2.2 = .spin b → SelInv env w x.2.1 x.1) ∧
    ∀ st, x.2.2 = .toState st → StInv env w x.2.1 st) r

theorem select_ok (hE : EnvOK env G) {sh : Shared D L} (h : ShInv env G w sh) {s : Selecting}
    (hs : SelInv env w sh s) (n : Nat) : SelectOK env G w (Selecting.select env s sh n) := by
  have hpop : ∀ c : CompEditor, CedPostC sh.com c → ShInv env G w { sh with com := c.popCursor } := by
    intro c hc
    have h1 := h.setComC hc
    exact (h1.setComSame (ced_popCursor h1.ced) (by rw [popCursor_inner])).congr rfl
  have hins : ∀ x : Nat, OkAnd (fun c => ShInv env G w { sh with com := c.popCursor }) (sh.com.insert (.chr x)) :=
    fun x => (insertChr_ok h.ced x).mono (fun c hc => hpop c hc)
  have hrep : ∀ x : Nat, s.action = .replace → (∀ p, s.sel ≠ .phrase p) →
      OkAnd (fun c => ShInv env G w { sh with com := c.popCursor }) (sh.com.replace (.chr x)) := by
    intro x hact hnp
    obtain ⟨ch', hch'⟩ : ∃ ch', sh.com.inner.symbols[sh.com.cursor]? = some (Sym.chr ch') := by
      rcases hs.repl hact with ⟨p, hp⟩ | hh
      · exact absurd hp (hnp p)
      · exact hh
    have hlt : sh.com.cursor < sh.com.inner.symbols.length := by
      rcases Nat.lt_or_ge sh.com.cursor sh.com.inner.symbols.length with hh | hh
      · exact hh
      · rw [List.getElem?_eq_none hh] at hch'; cases hch'
    have hv : CedValid sh.com (.replace (.chr x)) := by
      refine .inr ?_
      intro sel hsel hcov
      obtain ⟨k, hk⟩ := h.ced.inner.syl sel hsel sh.com.cursor hcov.1 hcov.2
      rw [hk] at hch'; cases hch'
    exact (ced_replace h.ced (.chr x) hlt hv).mono (fun c hpc => hpop c (hpc.toC (fun s hs => by cases hs; rfl)))
  have h1 := hs.sel
  unfold Selecting.select
  dsimp only
  -- the bounds check of the C07 fixes: the list is computed (never a panic under the invariant); an index
  -- at or beyond its length is answered with a bell and changes nothing
  obtain ⟨listed, hlisted, _⟩ := candidates_ok hE h hs
  rw [hlisted]
  dsimp only
  split
  · exact .ok (selPost_spin h hs)
  split
  · next p hp =>
    rw [hp] at h1
    obtain ⟨cands, hq, hlen⟩ := phraseCandidates_ok hE h h1
    rw [hq]
    dsimp only
    split
    · next phrase hph =>
      have hmem : phrase ∈ cands := List.mem_of_getElem? hph
      have hl := hlen phrase hmem
      have hne : (p.interval phrase).text ≠ [] := by
        intro he
        have : phrase.length = 0 := by simp only [PhraseSel.interval] at he; rw [he]; rfl
        have := h1.lt; omega
      have hv : CedValid sh.com (.select (p.interval phrase)) := by
        refine ⟨⟨h1.lt, ?_⟩, hl, ?_⟩
        · show p.end_ ≤ sh.com.inner.symbols.length; rw [← h1.com]; exact h1.le
        · show AllSyl sh.com.inner p.begin_ p.end_; rw [← h1.com]; exact h1.syl
      obtain ⟨c, hqc, hpc⟩ := ced_select h.ced (p.interval phrase) hne hv
      rw [hqc]
      dsimp only
      have hc1 := hpop c (hpc.toC (fun s hs => by cases hs))
      refine .ok ⟨?_, fun b hb => (by cases hb), fun st hst => (by cases hst; trivial)⟩
      split
      · exact (hc1.setComSame (ced_moveRight hc1.ced) rfl).congr rfl
      · exact hc1
    · exact .ok (selPost_spin h hs)
  · next y hy =>
    rw [hy] at h1
    obtain ⟨⟨osym, y'⟩, hqy, hy', hchr⟩ := symSelect_ok h1 (Selecting.offset s sh n)
    rw [hqy]
    cases osym with
    | none =>
      -- a category: its sub-table opens; one without symbols closes the list (FX1 repair)
      dsimp only
      obtain ⟨l', hl'⟩ := symMenu_ok hy'
      rw [hl']
      cases l' with
      | nil => exact .ok (selPost_entering (cancel_inv h))
      | cons a l' =>
        exact .ok ⟨h, fun _ _ => ⟨hy', fun ha => (hs.repl ha).imp (fun ⟨p, hp⟩ => by rw [hy] at hp; cases hp) id⟩,
          fun st hst => (by cases hst)⟩
    | some sym =>
      dsimp only
      cases sym with
      | syl k => cases hchr _ rfl
      | chr x =>
        cases hact : s.action with
        | insert =>
          dsimp only
          obtain ⟨c, hqc, hc⟩ := hins x
          rw [hqc]
          simp only [Outcome.map]
          exact .ok (selPost_entering hc)
        | replace =>
          dsimp only
          obtain ⟨c, hqc, hc⟩ := hrep x hact (fun p hp => by rw [hy] at hp; cases hp)
          rw [hqc]
          simp only [Outcome.map]
          exact .ok (selPost_entering hc)
  · next sym hy =>
    rw [hy] at h1
    cases sym with
    | syl k => cases h1
    | chr ch =>
      obtain ⟨l, hl⟩ : ∃ l, specialSelect (.chr ch) (Selecting.offset s sh n) = .ok l := by
        unfold specialSelect specialFindCategory
        dsimp only
        split
        · exact ⟨_, rfl⟩
        · exact ⟨_, rfl⟩
        · next hh => cases hh
        · next hh => cases hh
      rw [hl]
      cases l with
      | none => exact .ok ⟨h, fun _ _ => ⟨by rw [hy]; rfl, hs.repl⟩, fun st hst => (by cases hst)⟩
      | some out =>
        dsimp only
        have hout : ∃ x, out = .chr x := by
          unfold specialSelect specialFindCategory at hl
          dsimp only at hl
          split at hl
          · injection hl with hl
            cases hx : ((_ : List Nat).drop 1)[Selecting.offset s sh n]? with
            | none => rw [hx] at hl; cases hl
            | some v => rw [hx] at hl; cases hl; exact ⟨v, rfl⟩
          · cases hl
          · cases hl
          · cases hl
        obtain ⟨x, rfl⟩ := hout
        cases hact : s.action with
        | insert =>
          dsimp only
          obtain ⟨c, hqc, hc⟩ := hins x
          rw [hqc]
          exact .ok (selPost_entering hc)
        | replace =>
          dsimp only
          obtain ⟨c, hqc, hc⟩ := hrep x hact (fun p hp => by rw [hy] at hp; cases hp)
          rw [hqc]
          exact .ok (selPost_entering hc)

end Chewing.C01
