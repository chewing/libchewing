import Chewing.Proofs.CliParse
/-!
Quoted syllable fields — the CSV style of the repository's own unit test
`"鑰匙",668,"ㄧㄠˋ ㄔˊ # not official"`: one pair of quotes around everything after the frequency.

`parse_line` never looks at a syllable field before `trim_matches('"')`, and drops fields that are empty after
it; so a quote put in front of the first field and one put after the last field of *any* text change nothing
(`parseSyls_tokens_quoted`).  `renderLineQ` / `parse_renderLineQ` extend the free-style line of `CliParse`
by this option.
-/
namespace Chewing.Cli
open Gen

/-- the fields as the syllable loop sees them -/
def normToks (ts : List Text) : List Text := (ts.map trimQ).filter (fun t => !t.isEmpty)

def parseSylsN : List Text → Except LineErr (List Nat)
  | [] => .ok []
  | s :: ts =>
    if s.head? == some cliComment then .ok []
    else match Chewing.parse s with
      | .error .invalid => .error .bopomofo
      | .error _ => .error .syllable
      | .ok v =>
        match parseSylsN ts with
        | .ok vs => .ok (v :: vs)
        | .error e => .error e

theorem parseSyls_norm : ∀ ts : List Text, parseSyls ts = parseSylsN (normToks ts)
  | [] => rfl
  | t :: ts => by
    have ih := parseSyls_norm ts
    unfold parseSyls
    by_cases he : (trimQ t).isEmpty = true
    · have : normToks (t :: ts) = normToks ts := by simp [normToks, he]
      simp only [he, if_true, this]
      exact ih
    · have : normToks (t :: ts) = trimQ t :: normToks ts := by simp [normToks, he]
      rw [this, parseSylsN, ← ih]
      simp only [he]
      rfl

theorem normToks_tokens (sep : Nat → Bool) (s : Text) :
    normToks (tokens sep s) = ((fields sep s).map trimQ).filter (fun t => !t.isEmpty) := by
  unfold normToks tokens
  induction fields sep s with
  | nil => rfl
  | cons f fs ih =>
    cases f with
    | nil => simpa [trimQ] using ih
    | cons c cs => simp only [List.filter_cons, List.map_cons, List.isEmpty_cons, Bool.not_false, if_true]; rw [ih]

theorem parseSyls_tokens_quoted {sep : Nat → Bool} (hq : sep cliQuote = false) (s : Text) :
    parseSyls (tokens sep (cliQuote :: (s ++ [cliQuote]))) = parseSyls (tokens sep s) := by
  rw [parseSyls_norm, parseSyls_norm, normToks_tokens, normToks_tokens]
  obtain ⟨fs, f, h1, h2⟩ := fields_append_nonsep hq s
  obtain ⟨f', fs', h3, h4⟩ := fields_cons_nonsep hq (s ++ [cliQuote])
  rw [h4]
  have e1 : (((cliQuote :: f') :: fs').map trimQ) = (f' :: fs').map trimQ := by
    simp [trimQ_cons_quote]
  rw [e1, ← h3, h2, h1]
  simp [trimQ_append_quote]

/-- `renderLine` with the option `qs`: one pair of quotes around the syllables and the comment -/
def renderLineQ (qp qf qs : Bool) (g1 g2 gs : Text) (cm : Option (Text × Text)) (r : Rec) : Text :=
  quoteIf qp r.phrase ++ g1 ++ (quoteIf qf (decimal r.freq) ++ g2 ++ quoteIf qs (renderTail gs cm r))

theorem renderLineQ_false (qp qf : Bool) (g1 g2 gs : Text) (cm : Option (Text × Text)) (r : Rec) :
    renderLineQ qp qf false g1 g2 gs cm r = renderLine qp qf g1 g2 gs cm r := rfl

theorem parse_renderLineQ (d : Nat) (keep : Bool) (qp qf qs : Bool) (g1 g2 gs : Text) (cm : Option (Text × Text))
    (r : Rec) (h : WellFormedRecord r) (hd : sylSep d = true)
    (hg1 : g1 ≠ [] ∧ ∀ c ∈ g1, c = d) (hg2 : g2 ≠ [] ∧ ∀ c ∈ g2, c = d)
    (hgs : gs ≠ [] ∧ AllSep sylSep gs) (hcm : ∀ gc c, cm = some (gc, c) → gc ≠ [] ∧ AllSep sylSep gc) :
    parseLine d keep (renderLineQ qp qf qs g1 g2 gs cm r) = .ok (zeroFreq keep r) := by
  refine parseLine_head d keep qp qf g1 g2 _ r h hd hg1 hg2 ?_
  cases qs with
  | false => exact parseSyls_renderTail gs cm r (sylOK_of_wellFormed h) hgs hcm
  | true =>
    show parseSyls (tokens sylSep (cliQuote :: (renderTail gs cm r ++ [cliQuote]))) = _
    rw [parseSyls_tokens_quoted quote_not_sep]
    exact parseSyls_renderTail gs cm r (sylOK_of_wellFormed h) hgs hcm

end Chewing.Cli
