import Chewing.Proofs.EditorEffect
/-!
The editor touches its pre-edit buffer ONLY through `CompositionEditor` methods (C05, editor level).

`Reach c c'` : `c'` is obtained from `c` by a finite sequence of `CompositionEditor` method calls
(`CedOp`, `CompEditor.apply`) that all returned.  For every arm of every state's `next` and for
`try_auto_commit`, the composition editor after the call is `Reach`-able from the one before — for every
environment.  `Props/C05.lean` (section "editor level") puts these together for `process_keyevent` and
every other public entry point of `Editor`; every invariant of `CompositionEditor` that needs no
precondition on the method arguments (`C05.cursor_le_len`: `cursor ≤ len`,
`symbols.len() == gaps.len()`) therefore lifts to every history of the editor.

Also here: which arm of `Entering::next` a key takes (`DefaultArm`, `enteringNext_default`, …) and what
`commitOrInsert` does (`commitOrInsert_spec`).
-/
namespace Chewing

/-- `c'` results from `c` by `CompositionEditor` method calls -/
inductive Reach : CompEditor → CompEditor → Prop
  | refl (c : CompEditor) : Reach c c
  | step {c c1 c2 : CompEditor} (op : CedOp) (h : c.apply op = .ok c1) (r : Reach c1 c2) : Reach c c2

namespace Reach

theorem trans {a b c : CompEditor} (h1 : Reach a b) (h2 : Reach b c) : Reach a c := by
  induction h1 with
  | refl _ => exact h2
  | step op h _ ih => exact .step op h (ih h2)

theorem one {c c' : CompEditor} (op : CedOp) (h : c.apply op = .ok c') : Reach c c' := .step op h (.refl _)

theorem exists_run {c c' : CompEditor} (h : Reach c c') : ∃ ops, c.run ops = .ok c' := by
  induction h with
  | refl c => exact ⟨[], rfl⟩
  | step op h _ ih =>
    obtain ⟨ops, ho⟩ := ih
    exact ⟨op :: ops, by simp only [CompEditor.run, h, ho]⟩

theorem pushCursor (c : CompEditor) : Reach c c.pushCursor := one .pushCursor rfl
theorem popCursor (c : CompEditor) : Reach c c.popCursor := one .popCursor rfl
theorem clampCursor (c : CompEditor) : Reach c c.clampCursor := one .clampCursor rfl
theorem moveCursor (c : CompEditor) (n : Nat) : Reach c (c.moveCursor n) := one (.moveCursor n) rfl
theorem clear (c : CompEditor) : Reach c c.clear := one .clear rfl
theorem moveRight (c : CompEditor) : Reach c c.moveRight := one .moveRight rfl
theorem insert {c c' : CompEditor} {x : Sym} (h : c.insert x = .ok c') : Reach c c' := one (.insert x) h
theorem replace {c c' : CompEditor} {x : Sym} (h : c.replace x = .ok c') : Reach c c' := one (.replace x) h
theorem select {c c' : CompEditor} {iv : Interval} (h : c.select iv = .ok c') : Reach c c' := one (.select iv) h
theorem removeFront {c c' : CompEditor} {n : Nat} (h : c.removeFront n = .ok c') : Reach c c' :=
  one (.removeFront n) h

theorem of_eq {c c' : CompEditor} (h : c' = c) : Reach c c' := h ▸ .refl c

theorem pushClamp (c : CompEditor) : Reach c c.pushCursor.clampCursor := (pushCursor c).trans (clampCursor _)

end Reach

variable {D L : Type} (env : Env D L)

theorem insertChars_cons_ok {c c' : CompEditor} {x : Nat} {xs : List Nat} :
    insertChars c (x :: xs) = .ok c' ↔ ∃ c1, c.insert (.chr x) = .ok c1 ∧ insertChars c1 xs = .ok c' := by
  rw [insertChars]
  cases c.insert (.chr x) <;> simp

/-- `insertChars` is a sequence of `insert`s -/
theorem reach_insertChars (cs : List Nat) : ∀ (c c' : CompEditor), insertChars c cs = .ok c' → Reach c c' := by
  induction cs with
  | nil => intro c c' h; cases h; exact .refl _
  | cons x xs ih =>
    intro c c' h
    obtain ⟨c1, h1, h⟩ := insertChars_cons_ok.mp h
    exact (Reach.insert h1).trans (ih c1 c' h)

/-! ### step results -/

/-- every successful result of a state's `next` arm has a composition editor reachable from `c0` -/
def RStep (c0 : CompEditor) (r : StepRes D L) : Prop := ∀ sh' t, r = .ok (sh', t) → Reach c0 sh'.com

theorem rstep_enteringNext (sh : Shared D L) (ev : KeyEvent) : RStep sh.com (enteringNext env sh ev) := fun sh' t e => by
  have hc {sh0 sh' : Shared D L} {k} (h : CharEff sh0 ev sh' k) : Reach sh0.com sh'.com := by
    cases h with
    | insert _ _ h => exact .insert h
    | _ => exact .refl _
  cases enteringNext_eff env sh ev sh' t e with
  | char h => exact hc h
  | rejected _ _ _ h => exact (hc h :)
  | edit op _ _ h => exact .one op h
  | expand _ _ _ h => exact reach_insertChars _ _ _ h
  | opened => exact .pushClamp _
  | commit _ _ h => exact (Reach.clear _).trans (.of_eq (commit_com env sh _ h))
  | _ => exact .refl _

theorem rstep_syllableAnswer (sh : Shared D L) (beh : LayoutBeh) : RStep sh.com (syllableAnswer env sh beh) :=
  syllableAnswer_all env (fun _ _ => .refl _) (fun _ _ => .refl _) (fun _ _ _ _ h => .insert h) (fun _ _ _ => .refl _)
    (fun _ _ _ _ h => newPhraseSimple_all fun _ => (Reach.insert h).trans (.pushCursor _)) (fun _ _ _ _ h => .insert h)
    (fun _ _ => .refl _) fun _ _ _ => .refl _

theorem rstep_enteringSyllableNext (sh : Shared D L) (ev : KeyEvent) :
    RStep sh.com (enteringSyllableNext env sh ev) :=
  enteringSyllableNext_all env (fun _ => .refl _) (fun _ => .refl _) (fun _ => .refl _) (.clear _) (.refl _)
    fun a _ => rstep_syllableAnswer env { sh with syl := a.2 } a.1

/-! ### Selecting -/

/-- `Selecting::select`: `select` (+ `pop_cursor`, `move_cursor_right`), or `insert`/`replace` + `pop_cursor` -/
theorem select_reach (s : Selecting) (sh : Shared D L) (n : Nat) :
    ResAll (fun x => Reach sh.com x.2.1.com) (Selecting.select env s sh n) :=
  select_all env (fun _ _ _ => .refl _)
    (fun _ _ _ com _ _ _ h => by
      have hr := (Reach.select h).trans (.popCursor _)
      show Reach sh.com (if _ then _ else _)
      split
      · exact hr.trans (.moveRight _)
      · exact hr)
    (fun _ sym com _ h => by
      refine .trans ?_ (.popCursor com)
      split at h
      · exact .insert h
      · exact .replace h)
    (fun _ _ _ _ _ _ _ => .refl _) (fun _ _ _ _ _ => .popCursor _) fun _ _ _ => .refl _

theorem rsel_selectingNext (s : Selecting) (sh : Shared D L) (ev : KeyEvent) :
    ResAll (fun x => Reach sh.com x.shared.com) (selectingNext env s sh ev) :=
  selectingNext_all env (.refl _) (.popCursor _) (fun _ _ => .popCursor _)
    (selDownSpace_all env (fun _ _ _ => .refl _) (fun _ _ _ _ _ _ => .refl _) fun _ _ => .refl _)
    (fun _ => selMove_all (sh := sh) env (fun _ => .refl _) fun c _ hc _ =>
      have hr : Reach sh.com c := by
        rcases hc with rfl | rfl
        · exact .moveCursor _ _
        · exact (Reach.moveCursor _ _).trans (.clampCursor _)
      closeIfEmpty_all env (fun _ => hr.trans (.popCursor _)) fun _ _ _ => hr)
    (selPrevPage_all env (fun _ => .refl _) fun _ _ _ => .refl _)
    (selNextPage_all env (fun _ _ _ => .refl _) fun _ _ _ => .refl _)
    (selDigit_all env (select_reach env s sh _))
    ((Reach.popCursor _).trans (.popCursor _)) (.refl _)

/-! ### Highlighting -/

theorem highlighting_reach (m : Nat) (sh : Shared D L) (ev : KeyEvent) :
    ResAll (fun x => Reach sh.com x.1.com) (highlightingNext env m sh ev) :=
  highlightingNext_all env (fun _ => .refl _) (fun _ => .refl _)
    (fun _ _ e => (Reach.moveCursor _ m).trans (.of_eq (learnInRangeNotify_com env _ _ _ _ e))) (.refl _)

/-! ### auto-commit -/

theorem tryAutoCommit_reach (sh : Shared D L) :
    ResAll (fun x => Reach sh.com x.com) (Shared.tryAutoCommit env sh) := fun _ e => by
  obtain ⟨-, rfl⟩ | ⟨_, _, _, h, rfl, -⟩ := tryAutoCommit_cases env sh _ e
  · exact .refl _
  · exact .removeFront h

/-! ### which arm of `Entering::next` a key takes -/

/-- the key codes that `Entering::next` matches by name (every arm except the two catch-alls) -/
def isNamedKey (c : Nat) : Bool :=
  c == KC.backspace || c == KC.tab || c == KC.del || c == KC.home || c == KC.left || c == KC.right ||
  c == KC.up || c == KC.down || c == KC.end_ || c == KC.pageUp || c == KC.pageDown || c == KC.enter || c == KC.esc

/-- the event falls through every named / guarded arm of `Entering::next` (arm order of the Rust
    `match`): it reaches `_ if ev.modifiers.numlock` or the final `_` arm -/
structure DefaultArm (sh : Shared D L) (ev : KeyEvent) : Prop where
  notNamed : isNamedKey ev.code = false
  notCaps : ¬ (ev.code = KC.unknown ∧ ev.mods.capslock = true)
  notCtrlDigit : ¬ (isDigitCode ev.code = true ∧ ev.mods.ctrl = true)
  notShiftSpace : ¬ (ev.code = KC.space ∧ ev.mods.shift = true ∧ sh.options.enableFullwidthToggleKey = true)
  notSelSpace : ¬ (ev.code = KC.space ∧ sh.options.spaceIsSelectKey = true ∧ sh.options.languageMode = .chinese)

theorem enteringNext_default {sh : Shared D L} {ev : KeyEvent} (h : DefaultArm sh ev) :
    enteringNext env sh ev =
      if ev.mods.numlock then commitOrInsert sh ev.unicode else enteringDefault env sh ev := by
  obtain ⟨h1, h2, h3, h4, h5⟩ := h
  simp only [isNamedKey, Bool.or_eq_false_iff] at h1
  obtain ⟨⟨⟨⟨⟨⟨⟨⟨⟨⟨⟨⟨a1, a2⟩, a3⟩, a4⟩, a5⟩, a6⟩, a7⟩, a8⟩, a9⟩, a10⟩, a11⟩, a12⟩, a13⟩ := h1
  unfold enteringNext
  simp [a1, a2, a3, a4, a5, a6, a7, a8, a9, a10, a11, a12, a13, isIdleKey]
  rw [if_neg h2, if_neg h3, if_neg (fun hh => h4 ⟨hh.1.1, hh.1.2, hh.2⟩), if_neg (fun hh => h5 ⟨hh.1.1, hh.1.2, hh.2⟩)]

/-! With the key code known (and what the guards before the arm ask about the buffer and the modifiers) the
chain of guards of `Entering::next` evaluates. -/

theorem enteringNext_backspace {sh : Shared D L} {ev : KeyEvent} (h : ev.code = KC.backspace) :
    enteringNext env sh ev = enteringBackspace sh := by
  unfold enteringNext
  exact if_pos (beq_iff_eq.2 h)

theorem enteringNext_del {sh : Shared D L} {ev : KeyEvent} (h : ev.code = KC.del) :
    enteringNext env sh ev = enteringDel sh := by
  unfold enteringNext
  rw [h]
  rfl

/-- the cursor keys with a non-empty pre-edit (with an empty one they are passed through: C06) -/
theorem enteringNext_moves {sh : Shared D L} {ev : KeyEvent} (hne : sh.com.isEmpty = false) :
    (ev.code = KC.home → enteringNext env sh ev = .ok ({ sh with com := sh.com.moveToBeginning }, .spin .absorb)) ∧
    (ev.code = KC.left → ev.mods.shift = false →
      enteringNext env sh ev = .ok ({ sh with com := sh.com.moveLeft }, .spin .absorb)) ∧
    (ev.code = KC.right → ev.mods.shift = false →
      enteringNext env sh ev = .ok ({ sh with com := sh.com.moveRight }, .spin .absorb)) ∧
    (ev.code = KC.end_ ∨ ev.code = KC.pageUp ∨ ev.code = KC.pageDown →
      enteringNext env sh ev = .ok ({ sh with com := sh.com.moveToEnd }, .spin .absorb)) := by
  unfold enteringNext
  rw [hne]
  refine ⟨fun h => ?_, fun h hs => ?_, fun h hs => ?_, fun h => ?_⟩
  · rw [h]; rfl
  · rw [h, hs]; rfl
  · rw [h, hs]; rfl
  · rcases h with h | h | h <;> rw [h] <;> rfl

/-- the CapsLock event and the Shift-Space event in `Entering` -/
theorem enteringNext_capslock {sh : Shared D L} {ev : KeyEvent} (h : ev.code = KC.unknown) (hc : ev.mods.capslock = true) :
    enteringNext env sh ev = .ok (Shared.switchLanguageMode sh, .spin .absorb) := by
  unfold enteringNext
  rw [h, hc]
  rfl

theorem enteringNext_shiftSpace {sh : Shared D L} {ev : KeyEvent} (h : ev.code = KC.space) (hs : ev.mods.shift = true)
    (ht : sh.options.enableFullwidthToggleKey = true) :
    enteringNext env sh ev = .ok (Shared.switchCharacterForm sh, .spin .absorb) := by
  unfold enteringNext
  rw [h, hs, ht]
  rfl

/-! ### what the inserting arms do -/

theorem withCom_ok {sh : Shared D L} {r : Outcome CompEditor} {k : Shared D L → StepRes D L}
    {x : Shared D L × Trans} (h : withCom sh r k = .ok x) : ∃ c, r = .ok c ∧ k { sh with com := c } = .ok x := by
  unfold withCom at h
  split at h
  · next c => exact ⟨c, rfl, h⟩
  · cases h
  · cases h

theorem commitOrInsert_spec {sh sh' : Shared D L} {ch : Nat} {t : Trans} (h : commitOrInsert sh ch = .ok (sh', t)) :
    (sh.com.isEmpty = true ∧ sh' = { sh with commitBuf := [ch] } ∧ t = .spin .commit) ∨
    (sh.com.isEmpty = false ∧ t = .spin .absorb ∧ sh.com.insert (.chr ch) = .ok sh'.com ∧
      sh' = { sh with com := sh'.com }) := by
  unfold commitOrInsert at h
  split at h
  · next he => cases h; exact .inl ⟨he, rfl, rfl⟩
  · next he =>
    obtain ⟨c, hc, hk⟩ := withCom_ok h
    cases hk
    exact .inr ⟨Bool.eq_false_iff.2 he, rfl, hc, rfl⟩

end Chewing
