import Chewing.Proofs.WalkEntries
/-!
Witnesses of the former findings F16, F17 and of C13's F47 as it shows in a dictionary file (repaired: `validate_index` rejects
these tables, `Props/C12.lean: witnesses_rejected`): what the traversals do on an index table that has NOT passed the validation.
-/
namespace Chewing.TrieWalk

/-- F16: the root's only child is a node whose child range is itself
    (`harness/src/bin/corrupt.rs`: `witness-F16-self-loop`) -/
def loopTbl : Tbl Unit :=
  { recs := [⟨1, 1, 0⟩, ⟨1, 1, 10268⟩], dataLen := 0, leaf := fun _ _ => [] }

/-- a descending walk at record 0 or 1 steps to record 1, still descending -/
theorem loop_tick (st : ESt Unit) (hph : st.phase = .descend) (hn : st.node = 0 ∨ st.node = 1) :
    ∃ st', tick loopTbl st = .ok st' ∧ st'.phase = .descend ∧ st'.node = 1 := by
  obtain ⟨_, _, _, _, _, _, _⟩ := st
  dsimp only at hph hn
  subst hph
  rcases hn with rfl | rfl <;> exact ⟨_, rfl, rfl, rfl⟩

theorem loop_desc : ∀ (fuel : Nat) (st : ESt Unit), st.phase = .descend → st.node = 0 ∨ st.node = 1 →
    run loopTbl fuel st = .outOfFuel
  | 0, st, hph, _ => by
    rw [run, hph]
    rfl
  | fuel + 1, st, hph, hn => by
    obtain ⟨st', ht, hph', hn'⟩ := loop_tick st hph hn
    have hb : (Phase.descend == Phase.finished) = false := rfl
    rw [run, hph, hb, ht]
    exact loop_desc fuel st' hph' (Or.inr hn')

/-- `entries()` on the self-loop table does not finish with ANY amount of fuel -/
theorem loop_never_finishes (fuel : Nat) : entriesFuel loopTbl fuel = .outOfFuel := by
  have hrun : run loopTbl fuel initSt = .outOfFuel := by
    cases fuel with
    | zero => rfl
    | succ fuel =>
      have hb : ((initSt : ESt Unit).phase == Phase.finished) = false := rfl
      have ht : tick loopTbl initSt = .ok { initSt with phase := .descend } := rfl
      rw [run, hb, ht]
      exact loop_desc fuel _ rfl (Or.inl rfl)
  have hinit : entriesInit loopTbl = some initSt := rfl
  rw [entriesFuel, hinit]
  dsimp only
  rw [hrun]

theorem loop_not_forward : ¬ Forward loopTbl := by
  intro h
  have := h 1 (by decide) (Or.inr (by decide)) (by unfold InRange; decide)
  exact absurd this (by decide)

/-- F17, descend path: a zero syllable as *second* child (`witness-F17-second-child`) -/
def zeroSecondTbl : Tbl Unit :=
  { recs := [⟨1, 1, 0⟩, ⟨2, 2, 10268⟩, ⟨0, 1, 0⟩, ⟨4, 1, 0⟩, ⟨0, 1, 0⟩], dataLen := 1, leaf := fun _ _ => [()] }

theorem zeroSecond_panics : entriesFuel zeroSecondTbl 100 = .panic "trie:invalid-syllable-unwrap" := by rfl

/-- F17, ascend path: a zero syllable as a later sibling (`witness-F17-later-sibling`) -/
def zeroSiblingTbl : Tbl Unit :=
  { recs := [⟨1, 2, 0⟩, ⟨3, 1, 10268⟩, ⟨3, 1, 0⟩, ⟨0, 1, 0⟩], dataLen := 1, leaf := fun _ _ => [()] }

theorem zeroSibling_panics : entriesFuel zeroSiblingTbl 100 = .panic "trie:debug-assert-zero-syllable" := by rfl

theorem zeroSecond_not_noZeroChild : ¬ NoZeroChild zeroSecondTbl := by
  intro h
  exact h 1 (by decide) (Or.inr (by decide)) (by unfold InRange; decide) 3 (by decide) (by decide) rfl

/-- C13's F47 met in a dictionary file: a structurally perfect index (it passes the scan of `validate_index`) whose
    one node carries the syllable field `0x6a07` — not a syllable (`initial` field 53, tone field 7).  Before the repair
    `Syllable::try_from` accepted it; with the repaired `try_from` alone, `entries()` would reach
    `Syllable::try_from(0x6a07).unwrap()` (`witness-F47-invalid-syllable` of the harness) -/
def invalidSylTbl : Tbl Unit :=
  { recs := [⟨1, 1, 0⟩, ⟨2, 1, 27143⟩, ⟨0, 1, 0⟩], dataLen := 1, leaf := fun _ _ => [()] }

theorem invalidSyl_panics : entriesFuel invalidSylTbl 100 = .panic "trie:invalid-syllable-unwrap" := by rfl

/-- the same with the empty-marker bit set on a non-empty pattern (`0x8208`) -/
def markerSylTbl : Tbl Unit :=
  { recs := [⟨1, 1, 0⟩, ⟨2, 1, 33288⟩, ⟨0, 1, 0⟩], dataLen := 1, leaf := fun _ _ => [()] }

theorem markerSyl_panics : entriesFuel markerSylTbl 100 = .panic "trie:invalid-syllable-unwrap" := by rfl

/-- both tables are flawless but for the syllable value: the structural scan passes, `NoZeroChild` holds -/
theorem invalidSyl_scan_ok :
    TrieValidate.scan invalidSylTbl.rec3 1 invalidSylTbl.rec3 0 1 = true ∧
    TrieValidate.scan markerSylTbl.rec3 1 markerSylTbl.rec3 0 1 = true := by decide

theorem invalidSyl_noZeroChild : NoZeroChild invalidSylTbl := by
  intro i hi _ _ j h1 h2
  have hn : invalidSylTbl.n = 3 := rfl
  have h0 : invalidSylTbl.get 0 = ⟨1, 1, 0⟩ := rfl
  have h1' : invalidSylTbl.get 1 = ⟨2, 1, 27143⟩ := rfl
  have h2' : invalidSylTbl.get 2 = ⟨0, 1, 0⟩ := rfl
  have : i = 0 ∨ i = 1 ∨ i = 2 := by omega
  rcases this with rfl | rfl | rfl
  · rw [h0] at h1 h2; dsimp only at h1 h2; omega
  · rw [h1'] at h1 h2; dsimp only at h1 h2; omega
  · rw [h2'] at h1 h2; dsimp only at h1 h2; omega

theorem invalidSyl_forward : Forward invalidSylTbl := by
  intro i hi hn _
  have hn3 : invalidSylTbl.n = 3 := rfl
  have : i = 0 ∨ i = 1 ∨ i = 2 := by omega
  rcases this with rfl | rfl | rfl
  · decide
  · decide
  · rcases hn with h | h
    · cases h
    · exact absurd rfl h

theorem invalidSyl_not_validSyls : ¬ ValidSyls invalidSylTbl := by
  intro h
  have := h 0 (by decide) (Or.inl rfl) (by unfold InRange; decide) 1 (by decide) (by decide) (by decide)
  revert this
  decide

/-- a well-formed table (the index of the valid three-entry file of the probe): the hypotheses of
    the partial theorems are satisfiable and the walk yields its three leaves -/
def goodTbl : Tbl Nat :=
  { recs := [⟨1, 2, 0⟩, ⟨3, 1, 6664⟩, ⟨4, 2, 8712⟩, ⟨0, 10, 0⟩, ⟨10, 10, 0⟩, ⟨6, 1, 6664⟩, ⟨20, 13, 0⟩],
    dataLen := 33, leaf := fun db _ => [db] }

theorem good_entries : entriesFuel goodTbl 100 = .ok [([6664], [0]), ([8712, 6664], [20]), ([8712], [10])] := by rfl

end Chewing.TrieWalk
