import Chewing.Proofs.Outcome
/-! `Returns x`: the modelled call returned normally — no panic, loop fuel not exhausted. -/
namespace Chewing

def Returns {α : Type} (x : Outcome α) : Prop := ∃ a, x = .ok a

theorem Returns.ok {α : Type} (a : α) : Returns (Outcome.ok a) := ⟨a, rfl⟩
theorem Returns.pure {α : Type} (a : α) : Returns (pure a : Outcome α) := ⟨a, rfl⟩

theorem Returns.bind {α β : Type} {x : Outcome α} {f : α → Outcome β}
    (hx : Returns x) (hf : ∀ a, x = .ok a → Returns (f a)) : Returns (x >>= f) := by
  obtain ⟨a, ha⟩ := hx
  subst ha
  exact hf a rfl

theorem Returns.map {α β : Type} {x : Outcome α} (h : Returns x) (f : α → β) : Returns (x.map f) := by
  obtain ⟨a, rfl⟩ := h
  exact .ok _

theorem Returns.ite {α : Type} {c : Prop} [Decidable c] {a b : Outcome α}
    (ha : c → Returns a) (hb : ¬ c → Returns b) : Returns (if c then a else b) := ite_intro ha hb

theorem Returns.ne_panic {α : Type} {x : Outcome α} (h : Returns x) (s : String) : x ≠ .panic s := by
  obtain ⟨a, rfl⟩ := h
  intro h'
  cases h'

theorem Returns.ne_outOfFuel {α : Type} {x : Outcome α} (h : Returns x) : x ≠ .outOfFuel := by
  obtain ⟨a, rfl⟩ := h
  intro h'
  cases h'

end Chewing
