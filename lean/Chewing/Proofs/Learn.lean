import Chewing.Proofs.Estimate
import Chewing.Proofs.LearnMap
/-!
`learn_phrase` / `auto_learn` (C08): what one learning does to the user map, that `auto_learn` is
`learn_phrase` applied to the learn units from left to right, which intervals are units, liveness of every
unit afterwards, and the end-to-end bounded-liveness statement over repeated learning.
-/
namespace Chewing.Learn
open Gen.Learn Gen.Est

/-- all layer entries under `key`: system layers, then the user layer -/
def allEntries (sys : List Entry) (u : UserMap) (key : List Nat) : List (Text × Nat) :=
  sysLookup sys key ++ u.lookup key

/-- frequency of phrase `t` under `key` as the merged lookup reports it -/
def mergedFreq (sys : List Entry) (u : UserMap) (key : List Nat) (t : Text) : Nat :=
  bestOf (allEntries sys u key) t

/-- highest merged frequency among the other phrases under `key` -/
def othersMax (sys : List Entry) (u : UserMap) (key : List Nat) (t : Text) : Nat :=
  othersOf (allEntries sys u key) t

theorem stepFreq_pos (f mx : Nat) : 1 ≤ stepFreq f mx := by
  have := risingDelta_pos shortDiv f f mx (plus := shortPlus) (inc := shortInc) (by decide) (by decide)
  have : 1 ≤ maxUserFreq := by decide
  unfold stepFreq; omega

theorem lookupAll_bestOf (ctx : LearnCtx) (u : UserMap) (key : List Nat) (t : Text) :
    bestOf (lookupAll ctx u key) t = mergedFreq ctx.sys u key t :=
  layeredLookup_bestOf _ _ t

theorem lookupAll_phraseFreq (ctx : LearnCtx) (u : UserMap) (key : List Nat) (t : Text) :
    phraseFreq (lookupAll ctx u key) t = mergedFreq ctx.sys u key t := by
  rw [← lookupAll_bestOf]; exact phraseFreq_eq_bestOf _ _ (layeredLookup_uniq _ _)

theorem lookupAll_isEmpty (ctx : LearnCtx) (u : UserMap) (key : List Nat) :
    (lookupAll ctx u key).isEmpty = (allEntries ctx.sys u key).isEmpty := by
  unfold lookupAll allEntries
  have := layeredLookup_eq_nil (sysLookup ctx.sys key) (u.lookup key)
  cases h1 : layeredLookup (sysLookup ctx.sys key) (u.lookup key) <;>
    cases h2 : sysLookup ctx.sys key ++ u.lookup key <;> simp_all

theorem lookupAll_maxFreq (ctx : LearnCtx) (u : UserMap) (key : List Nat) (t : Text)
    (h : (allEntries ctx.sys u key).isEmpty = false) :
    maxFreq (lookupAll ctx u key) = max (mergedFreq ctx.sys u key t) (othersMax ctx.sys u key t) := by
  unfold maxFreq
  rw [lookupAll_isEmpty, h, if_neg Bool.false_ne_true]
  unfold lookupAll mergedFreq othersMax allEntries
  rw [layeredLookup_maxOf, maxOf_split _ t]

/-- what `learn_phrase` stores for a phrase: `(firstFreq, 0)` under syllables no layer knows, otherwise
    `learnStep` of its merged frequency, stamped with the current time -/
def learnedVal (ctx : LearnCtx) (u : UserMap) (key : List Nat) (x : Text) : Nat × Nat :=
  if (allEntries ctx.sys u key).isEmpty then (firstFreq, 0)
  else (learnStep (othersMax ctx.sys u key x) (mergedFreq ctx.sys u key x), ctx.lifetime)

/-- `learn_phrase` in closed form.  It never panics, whatever the stored frequencies: on the editor path
    `orig_freq` is the phrase's own frequency, which is at most the maximum over its homophones, and the addition
    saturates (repair of F40).  A phrase that is empty or not as long as its syllables is not stored. -/
theorem learnPhrase_eq (ctx : LearnCtx) (u : UserMap) (key : List Nat) (x : Text) :
    learnPhrase ctx u key x =
      .ok (if key.length = x.length ∧ x ≠ [] then u.insert (key, x) (learnedVal ctx u key x) else u) := by
  unfold learnPhrase learnedVal
  by_cases hlen : key.length = x.length
  · rw [if_neg (not_not_intro hlen)]
    simp only [lookupAll_isEmpty, lookupAll_phraseFreq]
    cases he : (allEntries ctx.sys u key).isEmpty
    · rw [if_neg Bool.false_ne_true, lookupAll_maxFreq ctx u key x he, estimate_editor _ _ _ (Nat.le_max_left _ _)]
      cases x <;> simp [hlen, learnStep]
    · cases x <;> simp [hlen]
  · rw [if_pos hlen, if_neg (fun h => hlen h.1)]

theorem learnedVal_pos (ctx : LearnCtx) (u : UserMap) (key : List Nat) (x : Text) :
    1 ≤ (learnedVal ctx u key x).1 := by
  unfold learnedVal
  split
  · exact Nat.le_refl 1
  · exact stepFreq_pos _ _

theorem learnedVal_le_max (ctx : LearnCtx) (u : UserMap) (key : List Nat) (x : Text) :
    (learnedVal ctx u key x).1 ≤ maxUserFreq := by
  unfold learnedVal
  split
  · decide
  · exact stepFreq_le_max _ _

/-- one learning of an already known key: the phrase gets `learnStep` of its merged frequency, stamped with the
    current time -/
theorem learnPhrase_update (ctx : LearnCtx) (u : UserMap) (key : List Nat) (x : Text)
    (hlen : key.length = x.length) (hx : x ≠ [])
    (hne : (allEntries ctx.sys u key).isEmpty = false) :
    learnPhrase ctx u key x =
      .ok (u.insert (key, x) (learnStep (othersMax ctx.sys u key x) (mergedFreq ctx.sys u key x), ctx.lifetime)) := by
  rw [learnPhrase_eq, if_pos ⟨hlen, hx⟩, learnedVal, hne, if_neg Bool.false_ne_true]

/-! ### What a learning leaves alone -/

theorem allEntries_insert_same (sys : List Entry) (u : UserMap) (key : List Nat) (x : Text) (v : Nat × Nat) :
    allEntries sys (u.insert (key, x) v) key
      = sysLookup sys key ++ (x, v.1) :: (u.lookup key).filter (fun e => decide (e.1 ≠ x)) := by
  unfold allEntries; rw [UserMap.lookup_insert_same]

theorem othersMax_insert_same (sys : List Entry) (u : UserMap) (key : List Nat) (x : Text) (v : Nat × Nat) :
    othersMax sys (u.insert (key, x) v) key x = othersMax sys u key x := by
  unfold othersMax
  rw [allEntries_insert_same]
  unfold allEntries
  rw [othersOf_append, othersOf_append, othersOf_cons_self]

theorem mergedFreq_insert_other (sys : List Entry) (u : UserMap) (key : List Nat) (x t : Text) (v : Nat × Nat)
    (h : t ≠ x) : mergedFreq sys (u.insert (key, x) v) key t = mergedFreq sys u key t := by
  unfold mergedFreq
  rw [allEntries_insert_same]
  unfold allEntries
  have hx : ¬ x = t := fun h3 => h h3.symm
  rw [bestOf_append, bestOf_append, bestOf_cons, if_neg hx, bestOf_filter_ne _ _ _ h]

theorem mergedFreq_insert_self (sys : List Entry) (u : UserMap) (key : List Nat) (x : Text) (v : Nat × Nat)
    (h : bestOf (sysLookup sys key) x ≤ v.1) : mergedFreq sys (u.insert (key, x) v) key x = v.1 := by
  unfold mergedFreq
  rw [allEntries_insert_same, bestOf_append, bestOf_cons, if_pos rfl, bestOf_filter_ne_self, Nat.max_zero,
    Nat.max_eq_right h]

theorem sys_le_mergedFreq (sys : List Entry) (u : UserMap) (key : List Nat) (x : Text) :
    bestOf (sysLookup sys key) x ≤ mergedFreq sys u key x := by
  unfold mergedFreq allEntries; rw [bestOf_append]; omega

theorem allEntries_insert_isEmpty (sys : List Entry) (u : UserMap) (key : List Nat) (x : Text) (v : Nat × Nat) :
    (allEntries sys (u.insert (key, x) v) key).isEmpty = false := by
  rw [allEntries_insert_same]
  cases sysLookup sys key <;> rfl

/-! ### Repeating "choose X, commit" -/

/-- `learn_phrase(key, x)` once per element of `lts`, the estimator's clock at each commit (irrelevant on the
    editor path, hence arbitrary) -/
def learnRepeat (sys : List Entry) (key : List Nat) (x : Text) : List Nat → UserMap → Outcome UserMap
  | [], u => .ok u
  | lt :: rest, u => (learnPhrase { sys := sys, lifetime := lt } u key x).bind (learnRepeat sys key x rest)

/-- one learning of X under a key some layer knows: X's merged frequency moves by `learnStep`, the other
    phrases keep theirs -/
theorem learnPhrase_spec (ctx : LearnCtx) (u : UserMap) (key : List Nat) (x : Text)
    (hlen : key.length = x.length) (hx : x ≠ []) (hne : (allEntries ctx.sys u key).isEmpty = false)
    (hf : mergedFreq ctx.sys u key x ≤ maxUserFreq) :
    ∃ u', learnPhrase ctx u key x = .ok u' ∧ (allEntries ctx.sys u' key).isEmpty = false ∧
      mergedFreq ctx.sys u' key x = learnStep (othersMax ctx.sys u key x) (mergedFreq ctx.sys u key x) ∧
      othersMax ctx.sys u' key x = othersMax ctx.sys u key x ∧
      ∀ t, t ≠ x → mergedFreq ctx.sys u' key t = mergedFreq ctx.sys u key t :=
  ⟨_, learnPhrase_update ctx u key x hlen hx hne, allEntries_insert_isEmpty ..,
    mergedFreq_insert_self _ _ _ _ _ (Nat.le_trans (sys_le_mergedFreq ..) (learnStep_ge _ _ hf)),
    othersMax_insert_same .., fun t ht => mergedFreq_insert_other _ _ _ _ t _ ht⟩

/-- `k` learnings of X: no panic, X's merged frequency follows `learnIter`, the other phrases keep theirs -/
theorem learnRepeat_spec (sys : List Entry) (key : List Nat) (x : Text)
    (hlen : key.length = x.length) (hx : x ≠ []) (lts : List Nat) :
    ∀ (u : UserMap), (allEntries sys u key).isEmpty = false →
      mergedFreq sys u key x ≤ maxUserFreq → othersMax sys u key x ≤ maxUserFreq →
      ∃ u', learnRepeat sys key x lts u = .ok u' ∧
        mergedFreq sys u' key x = learnIter (othersMax sys u key x) lts.length (mergedFreq sys u key x) ∧
        othersMax sys u' key x = othersMax sys u key x ∧
        (∀ t, t ≠ x → mergedFreq sys u' key t = mergedFreq sys u key t) := by
  induction lts with
  | nil => intro u _ _ _; exact ⟨u, rfl, rfl, rfl, fun _ _ => rfl⟩
  | cons lt rest ih =>
    intro u hne hf hy
    obtain ⟨u1, s1, s0, s2, s3, s4⟩ := learnPhrase_spec { sys := sys, lifetime := lt } u key x hlen hx hne hf
    obtain ⟨u', e1, e2, e3, e4⟩ := ih u1 s0 (by rw [s2]; exact stepFreq_le_max _ _) (by rw [s3]; exact hy)
    refine ⟨u', by rw [learnRepeat, s1]; exact e1, ?_, e3.trans s3, fun t ht => (e4 t ht).trans (s4 t ht)⟩
    rw [e2, s2, s3, List.length_cons, learnIter_succ']

/-! ### Liveness of what was learned -/

def Live (u : UserMap) (k : UKey) : Prop := ∃ v, u.get? k = some v ∧ 1 ≤ v.1

/-- whatever `learn_phrase` returns: the learned pair is live (if it is a well-formed phrase), everything that
    was live stays live, and no frequency of another entry changes -/
theorem learnPhrase_live (ctx : LearnCtx) (u u' : UserMap) (key : List Nat) (x : Text)
    (h : learnPhrase ctx u key x = .ok u') :
    (key.length = x.length → x ≠ [] → Live u' (key, x)) ∧ (∀ k, Live u k → Live u' k) ∧
      (∀ k, k ≠ (key, x) → u'.get? k = u.get? k) := by
  rw [learnPhrase_eq] at h
  cases h
  by_cases hw : key.length = x.length ∧ x ≠ []
  · rw [if_pos hw]
    have hl : Live (u.insert (key, x) (learnedVal ctx u key x)) (key, x) :=
      ⟨_, UserMap.get?_insert_self .., learnedVal_pos ..⟩
    refine ⟨fun _ _ => hl, fun k hk => ?_, fun k hk => UserMap.get?_insert_ne _ _ _ _ hk⟩
    by_cases hk2 : k = (key, x)
    · exact hk2 ▸ hl
    · rw [Live, UserMap.get?_insert_ne _ _ _ _ hk2]; exact hk
  · rw [if_neg hw]
    exact ⟨fun a b => absurd ⟨a, b⟩ hw, fun _ hk => hk, fun _ _ => rfl⟩

theorem learnAll_live (ctx : LearnCtx) (us : List (List Nat × Text)) :
    ∀ (u u' : UserMap), learnAll ctx us u = .ok u' →
      (∀ k, Live u k → Live u' k) ∧
      (∀ p ∈ us, p.1.length = p.2.length → p.2 ≠ [] → Live u' p) := by
  induction us with
  | nil =>
    intro u u' h
    injection h with h; subst h
    exact ⟨fun _ hk => hk, fun p hp => by cases hp⟩
  | cons p rest ih =>
    intro u u' h
    obtain ⟨k, t⟩ := p
    rw [learnAll, learnPhrase_eq] at h
    obtain ⟨a1, a2, _⟩ := learnPhrase_live ctx u _ k t (learnPhrase_eq ..)
    obtain ⟨b1, b2⟩ := ih _ u' h
    refine ⟨fun q hq => b1 q (a2 q hq), fun q hq hl ht => ?_⟩
    rcases List.mem_cons.mp hq with rfl | hq
    · exact b1 _ (a1 hl ht)
    · exact b2 q hq hl ht

/-! ### `auto_learn` is `learn_phrase` over the learn units -/

theorem learnAll_append (ctx : LearnCtx) (a b : List (List Nat × Text)) (u : UserMap) :
    learnAll ctx (a ++ b) u = (learnAll ctx a u).bind (learnAll ctx b) := by
  induction a generalizing u with
  | nil => rfl
  | cons p r ih =>
    obtain ⟨k, t⟩ := p
    simp only [List.cons_append, learnAll, learnPhrase_eq]
    exact ih _

/-- every dictionary-phrase interval lies inside the symbol buffer (true of every conversion output, C03) -/
def IvsInRange (symbols : List Sym) (ivs : List Interval) : Prop :=
  ∀ iv ∈ ivs, iv.isPhrase = true → iv.start ≤ iv.stop ∧ iv.stop ≤ symbols.length

theorem sliceSyms_eq (symbols : List Sym) (iv : Interval) (h : iv.start ≤ iv.stop ∧ iv.stop ≤ symbols.length) :
    sliceSyms symbols iv.start iv.stop = some (segOf symbols iv) := by
  unfold sliceSyms segOf; rw [if_pos h]

theorem joinable_iff (iv : Interval) :
    joinable iv = true ↔ iv.isPhrase = true ∧ iv.stop - iv.start = 1 ∧ isBreakWord iv.text = false := by
  simp [joinable, and_assoc]

/-- the `if !pending.is_empty() { learn_phrase(..); .. }` block is `learnAll` of the pending unit, if there is one;
    the pending symbols are cleared with it -/
theorem flushPending_bind {α : Type} (ctx : LearnCtx) (u : UserMap) (p : Text) (ps : List Sym)
    (k : UserMap × List Sym → Outcome α) :
    (flushPending ctx u p ps).bind k =
      (learnAll ctx (if p.isEmpty then [] else [(keyOf ps, p)]) u).bind fun u' =>
        k (u', if p.isEmpty then ps else []) := by
  unfold flushPending
  cases p.isEmpty
  · simp only [Bool.false_eq_true, if_false, learnAll, learnPhrase_eq, Outcome.map, Outcome.bind]
  · rfl

/-- the loop of `auto_learn` is `learn_phrase` over the units `unitsGo` lists: `unitsGo` mirrors the bookkeeping of
    the two accumulators branch for branch, and the units of a non-joinable interval are learned in order
    (`learnAll_append`) -/
theorem autoLearnGo_eq (ctx : LearnCtx) (symbols : List Sym) (ivs : List Interval) (h : IvsInRange symbols ivs) :
    ∀ (p : Text) (ps : List Sym) (u : UserMap),
      autoLearnGo ctx symbols ivs p ps u = learnAll ctx (unitsGo symbols ivs p ps) u := by
  induction ivs with
  | nil =>
    intro p ps u
    unfold autoLearnGo unitsGo flushPending
    cases p.isEmpty
    · simp only [Bool.false_eq_true, if_false, learnAll, learnPhrase_eq, Outcome.map, Outcome.bind]
    · rfl
  | cons iv rest ih =>
    intro p ps u
    have ih := ih (fun i hi => h i (List.mem_cons_of_mem _ hi))
    unfold autoLearnGo unitsGo
    by_cases hph : iv.isPhrase = true
    · have hr := h iv (List.mem_cons_self ..) hph
      rw [if_pos hph, if_neg (by omega : ¬ iv.stop < iv.start), sliceSyms_eq symbols iv hr]
      simp only
      by_cases hj : iv.stop - iv.start = 1 ∧ isBreakWord iv.text = false
      · rw [if_pos hj, if_pos ((joinable_iff iv).mpr ⟨hph, hj⟩)]
        exact ih _ _ _
      · rw [if_neg hj, if_neg fun h => hj ((joinable_iff iv).mp h).2, flushPending_bind, List.append_assoc, learnAll_append]
        congr 1; funext u'
        simp only [hph, if_true, ih, List.cons_append, List.nil_append, learnAll]
    · rw [if_neg hph, if_neg fun h => hph ((joinable_iff iv).mp h).1, flushPending_bind, List.append_assoc, learnAll_append]
      congr 1; funext u'
      simp only [hph, Bool.false_eq_true, if_false, ih, List.nil_append]

theorem autoLearn_eq (ctx : LearnCtx) (symbols : List Sym) (ivs : List Interval) (u : UserMap)
    (h : IvsInRange symbols ivs) :
    autoLearn ctx symbols ivs u = learnAll ctx (learnUnits symbols ivs) u :=
  autoLearnGo_eq ctx symbols ivs h [] [] u

/-! ### Which intervals are learn units -/

/-- a dictionary phrase that is not a joinable single character — every multi-character phrase and every
    single-character break word — is a learn unit by itself, under exactly its syllables -/
theorem nonjoinable_phrase_unit (symbols : List Sym) (ivs : List Interval) (iv : Interval)
    (hm : iv ∈ ivs) (hph : iv.isPhrase = true) (hj : joinable iv = false) :
    ∀ (p : Text) (ps : List Sym), (keyOf (segOf symbols iv), iv.text) ∈ unitsGo symbols ivs p ps := by
  induction ivs with
  | nil => cases hm
  | cons a rest ih =>
    intro p ps
    unfold unitsGo
    rcases List.mem_cons.mp hm with e | hm
    · subst e
      rw [if_neg (by simp [hj])]
      simp [hph]
    · by_cases ha : joinable a = true
      · rw [if_pos ha]; exact ih hm _ _
      · rw [if_neg ha]
        exact List.mem_append_right _ (ih hm _ _)

/-- joinable intervals carry a character -/
def JoinableNonEmpty (ivs : List Interval) : Prop := ∀ iv ∈ ivs, joinable iv = true → iv.text ≠ []

theorem unitsGo_run (symbols : List Sym) (run post : List Interval) (hrun : ∀ iv ∈ run, joinable iv = true) :
    ∀ (p : Text) (ps : List Sym),
      unitsGo symbols (run ++ post) p ps
        = unitsGo symbols post (p ++ run.flatMap (·.text)) (ps ++ run.flatMap (segOf symbols)) := by
  induction run with
  | nil => intro p ps; simp
  | cons a r ih =>
    intro p ps
    have ha := hrun a (List.mem_cons_self ..)
    simp only [List.cons_append, unitsGo, ha, if_true, List.flatMap_cons]
    rw [ih (fun iv hiv => hrun iv (List.mem_cons_of_mem _ hiv))]
    simp [List.append_assoc]

theorem unitsGo_flush (symbols : List Sym) (post : List Interval) (p : Text) (ps : List Sym) (hp : p ≠ [])
    (hpost : ∀ a ∈ post.head?, joinable a = false) : (keyOf ps, p) ∈ unitsGo symbols post p ps := by
  have hpe : p.isEmpty = false := by cases p with | nil => exact absurd rfl hp | cons _ _ => rfl
  cases post with
  | nil => simp [unitsGo, hpe]
  | cons a rest =>
    have ha : joinable a = false := hpost a (by simp)
    unfold unitsGo
    rw [if_neg (by simp [ha])]
    simp [hpe]

/-- a non-joinable interval flushes what is pending: the units of what follows it are those counted from the
    start.  `p = [] → ps = []`: the accumulators are in step, no pending text means no pending symbols -/
theorem unitsGo_cut (symbols : List Sym) {a : Interval} (ha : joinable a = false) (l : List Interval) {p : Text}
    {ps : List Sym} (hinv : p = [] → ps = []) {x : List Nat × Text} (hx : x ∈ learnUnits symbols l) :
    x ∈ unitsGo symbols (a :: l) p ps := by
  have hps : (if p.isEmpty = true then ps else []) = [] := by
    cases p with
    | nil => exact hinv rfl
    | cons _ _ => rfl
  unfold unitsGo
  rw [if_neg (by simp [ha]), hps]
  exact List.mem_append_right _ hx

/-- a prefix `pre` that ends in a non-joinable interval leaves nothing pending, so the units of `rest` are units
    of `pre ++ rest` -/
theorem learnUnits_prefix (symbols : List Sym) (pre rest : List Interval) (hne : JoinableNonEmpty pre)
    (hlast : ∀ a ∈ pre.getLast?, joinable a = false) {x : List Nat × Text} (hx : x ∈ learnUnits symbols rest) :
    x ∈ learnUnits symbols (pre ++ rest) := by
  -- along a non-empty prefix, from every state with the accumulators in step
  have go : ∀ (r : List Interval) (a : Interval), JoinableNonEmpty (a :: r) →
      (∀ b ∈ (a :: r).getLast?, joinable b = false) → ∀ (p : Text) (ps : List Sym), (p = [] → ps = []) →
      x ∈ unitsGo symbols (a :: r ++ rest) p ps := by
    intro r
    induction r with
    | nil => intro a _ hlast p ps hinv; exact unitsGo_cut symbols (hlast a rfl) rest hinv hx
    | cons b r ih =>
      intro a hne hlast p ps hinv
      have ih := ih b (fun iv hiv => hne iv (List.mem_cons_of_mem _ hiv)) (by rwa [List.getLast?_cons_cons] at hlast)
      by_cases ha : joinable a = true
      · rw [List.cons_append, unitsGo, if_pos ha]
        exact ih _ _ fun h => absurd (List.append_eq_nil_iff.mp h).2 (hne a (List.mem_cons_self ..) ha)
      · exact unitsGo_cut symbols (by simpa using ha) _ hinv (ih [] [] fun _ => rfl)
  cases pre with
  | nil => exact hx
  | cons a r => exact go r a hne hlast [] [] fun _ => rfl

end Chewing.Learn
