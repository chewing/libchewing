import Chewing.Model.LayoutKeys
import Chewing.Proofs.Enum
import Chewing.Proofs.KeyboardWF
/-!
Facts read off the generated keyboard tables by the kernel (`key_code_names`, `ascii_roundtrip_tbl`, `chars_by_code`),
and what follows from them with `KeyboardWF` for every generic keyboard (`genericMap_unicode`) and for Dvorak-on-Qwerty.
-/
namespace Chewing
open Gen

theorem key_code_names : keyCodeNames[keyCodeBackspace]? = some "Backspace" ∧
    keyCodeNames[keyCodeSpace]? = some "Space" ∧ (genericKeyboards.map (·.1))[0]? = some "qwerty" := by
  decide

/-- ASCII round trip on Qwerty: the key event of a printable ASCII character carries that character, and is not that of
    the `Unknown` key -/
theorem ascii_roundtrip_tbl : (allLt 95 fun j =>
    match mapAsciiT qwertyKb (32 + j) with
    | some e => e.unicode == 32 + j && e.code != 0
    | none => false) = true := by
  decide +kernel

/-- a key code is named after the character its key has on Qwerty, and every keyboard gives the key that character:
    both character matrices are Qwerty's characters of the key codes -/
theorem chars_by_code : (genericKeyboards.all fun kb =>
    kb.2.2.1 == kb.2.1.map (qwertyKb.2.1.getD · 0) && kb.2.2.2 == kb.2.1.map (qwertyKb.2.2.getD · 0)) = true := by
  decide +kernel

/-- so on every generic keyboard the event of a key carries the character the key has on Qwerty -/
theorem genericMap_unicode {kb : String × KbTables} (hkb : kb ∈ genericKeyboards) {code mods : Nat} {e : KeyEv}
    (he : genericMap kb.2 code mods = some e) :
    e.unicode = (if modCaps mods || modShift mods then qwertyKb.2.2 else qwertyKb.2.1).getD code 0 := by
  have hwf := List.all_eq_true.mp tables_wf.1 kb hkb
  have hch := List.all_eq_true.mp chars_by_code kb hkb
  simp only [Bool.and_eq_true, beq_iff_eq] at hch
  obtain ⟨i, hi, rfl, rfl⟩ := KbWF.genericMap_inv hwf he
  have hl : i < kb.2.1.length := (KbWF.spec hwf).1 ▸ hi
  split
  · rw [hch.2, getD_map _ hl]
  · rw [hch.1, getD_map _ hl]

/-- Dvorak-on-Qwerty too produces every key index and every key code from some physical key, so a key list for a
    layout can be typed on it as on the seven generic keyboards (`C14.keyboards_surjective`): position `x` is reached by
    the key Qwerty has there, code `x` by the key Qwerty has where Dvorak has `x` -/
theorem dvorak_on_qwerty_surjective_tbl :
    (allLt 63 fun x =>
      ((List.range 63).any fun code => match mapWithMod "dvorak_on_qwerty" code 0 with
        | some e => e.index == x
        | none => false) &&
      ((List.range 63).any fun code => match mapWithMod "dvorak_on_qwerty" code 0 with
        | some e => e.code == x
        | none => false)) = true := by
  obtain ⟨q, d, hq, hd, hm⟩ := mapWithMod_dvorakOnQwerty
  refine List.all_eq_true.mpr fun x hx => ?_
  have hx := List.mem_range.mp hx
  obtain ⟨i, hi, hc⟩ := KbWF.exists_pos hd hx
  simp only [Bool.and_eq_true, List.any_eq_true, List.mem_range, hm]
  exact ⟨⟨_, KbWF.code_lt hq hx, by rw [KbWF.dvorakOnQwertyMap_get hq hd hx]; exact beq_self_eq_true _⟩,
    ⟨_, KbWF.code_lt hq hi, by rw [KbWF.dvorakOnQwertyMap_get hq hd hi]; exact beq_iff_eq.mpr hc⟩⟩

end Chewing
