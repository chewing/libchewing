import Chewing.Props.C05
import Chewing.Model.Editor
import Chewing.Proofs.ConvBasic
/-!
C01, part 1: the result predicate `OkAnd`, the invariant of the `CompositionEditor` (`CedInv`: composition
and cursor), no-panic + invariant-preservation lemmas for the `CompositionEditor` methods the editor calls,
and the bridge from the invariant to the precondition of the conversion engines (`compValid_of_cinv`).
-/

/-! Which symbols `insert` / `replace` leave: used here by `ced_insert` / `ced_replace`, and by the C14 link
(`Proofs/EditorLinkSyl.lean`), whose namespace they keep. -/
namespace Chewing.LinkSyl
open Chewing.C04

/-- a list with a segment taken out and `m` put in its place -/
theorem mem_splice {α : Type} {l m : List α} {i j : Nat} {y : α} (h : y ∈ l.take i ++ m ++ l.drop j) :
    y ∈ m ∨ y ∈ l := by
  rcases List.mem_append.mp h with h | h
  · rcases List.mem_append.mp h with h | h
    · exact .inr (List.mem_of_mem_take h)
    · exact .inl h
  · exact .inr (List.mem_of_mem_drop h)

/-- `insert`: the new symbols are the old ones and the inserted one -/
theorem insert_mem {c c' : CompEditor} {x : Sym} (h : c.insert x = .ok c') :
    ∀ y, y ∈ c'.inner.symbols → y = x ∨ y ∈ c.inner.symbols := by
  obtain ⟨k, hk, rfl⟩ := withInner_ok h
  intro y (hy : y ∈ k.symbols)
  rw [(insert_symbols hk).2] at hy
  exact (mem_splice hy).imp_left List.mem_singleton.mp

/-- `replace`: the new symbols are among the old ones and the written one -/
theorem replace_mem {c c' : CompEditor} {x : Sym} (h : c.replace x = .ok c') :
    ∀ y, y ∈ c'.inner.symbols → y = x ∨ y ∈ c.inner.symbols := by
  obtain ⟨k, hk, rfl⟩ := withInner_ok h
  intro y (hy : y ∈ k.symbols)
  rw [(replace_symbols hk).2] at hy
  exact (mem_splice hy).imp_left List.mem_singleton.mp

end Chewing.LinkSyl

namespace Chewing.C01
open Chewing.C04 Chewing.C05

/-- the lookup strategy a conversion engine works with (`FuzzyChewingEngine` = prefix matching) -/
def engStrategy : EngineKind → Strategy
  | .fuzzy => .fuzzyPartialPrefix
  | _ => .standard

/-! ## Results: "returns a value, and the value satisfies `P`" -/

/-- the call returns (no panic, fuel not exhausted) and its value satisfies `P` -/
def OkAnd {α : Type} (P : α → Prop) (r : Outcome α) : Prop := ∃ a, r = .ok a ∧ P a

theorem OkAnd.mono {α : Type} {P Q : α → Prop} {r : Outcome α} (h : OkAnd P r) (hpq : ∀ a, P a → Q a) :
    OkAnd Q r := by
  obtain ⟨a, h1, h2⟩ := h; exact ⟨a, h1, hpq a h2⟩

theorem OkAnd.ok {α : Type} {P : α → Prop} {a : α} (h : P a) : OkAnd P (.ok a) := ⟨a, rfl, h⟩

theorem OkAnd.map {α β : Type} {Q : β → Prop} {f : α → β} {r : Outcome α} (h : OkAnd (fun a => Q (f a)) r) :
    OkAnd Q (r.map f) := by
  obtain ⟨a, rfl, ha⟩ := h; exact ⟨f a, rfl, ha⟩

theorem OkAnd.ite {α : Type} {P : α → Prop} {c : Prop} [Decidable c] {a b : Outcome α} (h1 : c → OkAnd P a)
    (h2 : ¬ c → OkAnd P b) : OkAnd P (if c then a else b) := ite_intro h1 h2

/-- the value of a call that is known to return -/
theorem OkAnd.get {α : Type} {P : α → Prop} {r : Outcome α} {a : α} (h : OkAnd P r) (e : r = .ok a) : P a := by
  obtain ⟨_, h1, h2⟩ := h; cases ok_unique e h1; exact h2

theorem OkAnd.not_panic {α : Type} {P : α → Prop} {r : Outcome α} (h : OkAnd P r) :
    (∀ s, r ≠ .panic s) ∧ r ≠ .outOfFuel := by
  obtain ⟨a, rfl, _⟩ := h
  exact ⟨fun s h => (by cases h), fun h => (by cases h)⟩

/-! ## The composition invariant (C04) and the cursor invariant (C05), bundled -/

/-- `CompInv` + one character per selected symbol + selections over syllables only -/
structure CInv (c : Composition) : Prop where
  comp : CompInv c
  text : TextInv c
  syl : SylInv c

/-- invariant of the `CompositionEditor` -/
structure CedInv (e : CompEditor) : Prop where
  inner : CInv e.inner
  cur : e.cursor ≤ e.inner.symbols.length

theorem CedInv.cursorInv {e : CompEditor} (h : CedInv e) : CursorInv e := ⟨h.inner.comp.len_eq, h.cur⟩

theorem cinv_new : CInv {} := ⟨inv_new, fun _ h => (by cases h), fun _ h => (by cases h)⟩

theorem cedInv_new : CedInv {} := ⟨cinv_new, Nat.le_refl _⟩

/-- one `Composition` call keeps the bundle, given the three (unchecked) preconditions -/
theorem cinv_apply {c c' : Composition} {op : CompOp} (hi : CInv c) (h : c.apply op = .ok c')
    (hv : ValidOp c op) (ht : ∀ t, op = .pushSelection t → t.text.length = t.stop - t.start)
    (hs : ValidOpSyl c op) : CInv c' :=
  ⟨inv_preserved c op c' hi.comp hv h,
   textInv_preserved c op c' hi.text ht (fun s hs => Nat.le_of_lt (hi.comp.sel_nonempty s hs)) h,
   sylInv_preserved c op c' hi.comp hi.syl hs h⟩

/-- what a `CompositionEditor` method must be called with (beyond its `assert!`s) -/
def CedValid (e : CompEditor) : CedOp → Prop
  | .select iv => ValidSelection e.inner iv ∧ iv.text.length = iv.stop - iv.start ∧ AllSyl e.inner iv.start iv.stop
  | .replace x => (∃ k, x = Sym.syl k) ∨ ∀ s ∈ e.inner.selections, ¬ (s.start ≤ e.cursor ∧ e.cursor < s.stop)
  | _ => True

/-- every `CompositionEditor` method that returns keeps the invariant -/
theorem ced_apply_inv {e e' : CompEditor} {op : CedOp} (hi : CedInv e) (hv : CedValid e op)
    (h : e.apply op = .ok e') : CedInv e' := by
  refine ⟨?_, (cursor_le_len_step e op e' hi.cursorInv h).2⟩
  have hr := ced_inner e op e' h
  have hin := hi.inner
  cases op with
  | pushCursor => rw [← Composition.folds.nil_ok.mp hr]; exact hin
  | popCursor => rw [← Composition.folds.nil_ok.mp hr]; exact hin
  | clampCursor => rw [← Composition.folds.nil_ok.mp hr]; exact hin
  | moveCursor n => rw [← Composition.folds.nil_ok.mp hr]; exact hin
  | moveToEnd => rw [← Composition.folds.nil_ok.mp hr]; exact hin
  | moveToBeginning => rw [← Composition.folds.nil_ok.mp hr]; exact hin
  | moveLeft => rw [← Composition.folds.nil_ok.mp hr]; exact hin
  | moveRight => rw [← Composition.folds.nil_ok.mp hr]; exact hin
  | clear =>
    exact cinv_apply hin (Composition.folds.one.mp hr) trivial (fun t h => by cases h) trivial
  | removeFront n =>
    exact cinv_apply hin (Composition.folds.one.mp hr) trivial (fun t h => by cases h) trivial
  | removeAfterCursor =>
    exact cinv_apply hin (Composition.folds.one.mp hr) trivial (fun t h => by cases h) trivial
  | removeBeforeCursor =>
    simp only [compOps] at hr
    split at hr
    · rw [← Composition.folds.nil_ok.mp hr]; exact hin
    · exact cinv_apply hin (Composition.folds.one.mp hr) trivial (fun t h => by cases h) trivial
  | insert x =>
    exact cinv_apply hin (Composition.folds.one.mp hr) trivial (fun t h => by cases h) trivial
  | insertGlue =>
    simp only [compOps] at hr
    split at hr
    · rw [← Composition.folds.nil_ok.mp hr]; exact hin
    · exact cinv_apply hin (Composition.folds.one.mp hr) trivial (fun t h => by cases h) trivial
  | insertBreak =>
    simp only [compOps] at hr
    split at hr
    · rw [← Composition.folds.nil_ok.mp hr]; exact hin
    · exact cinv_apply hin (Composition.folds.one.mp hr) trivial (fun t h => by cases h) trivial
  | replace x =>
    exact cinv_apply hin (Composition.folds.one.mp hr) trivial (fun t h => by cases h) hv
  | select iv =>
    exact cinv_apply hin (Composition.folds.one.mp hr) hv.1 (fun t h => by cases h; exact hv.2.1) hv.2.2

/-! ### the methods the editor calls: total under the invariant, invariant kept, symbols accounted for -/

/-- post-condition shape: the new editor satisfies the invariant and every symbol of its buffer was
    there before or is `x` -/
def CedPost (e : CompEditor) (x : Option Sym) (e' : CompEditor) : Prop :=
  CedInv e' ∧ ∀ s ∈ e'.inner.symbols, s ∈ e.inner.symbols ∨ x = some s

/-- `CedPost` for several inserted characters: every symbol was there before or is not a syllable -/
def CedPostC (e e' : CompEditor) : Prop :=
  CedInv e' ∧ ∀ s ∈ e'.inner.symbols, s ∈ e.inner.symbols ∨ s.isSyl = false

theorem CedPost.toC {e e' : CompEditor} {x : Option Sym} (h : CedPost e x e') (hx : ∀ s, x = some s → s.isSyl = false) :
    CedPostC e e' :=
  ⟨h.1, fun s hs => (h.2 s hs).imp id (hx s)⟩

theorem ced_insert {e : CompEditor} (hi : CedInv e) (x : Sym) : OkAnd (CedPost e (some x)) (e.insert x) :=
  have ⟨e', h⟩ := insert_total e x hi.cursorInv
  ⟨e', h, ced_apply_inv (op := .insert x) hi trivial h,
    fun s hs => (LinkSyl.insert_mem h s hs).symm.imp id (congrArg some ·.symm)⟩

theorem ced_removeBefore {e : CompEditor} (hi : CedInv e) : OkAnd (CedPost e none) e.removeBeforeCursor := by
  obtain ⟨e', h⟩ := backspace_total e hi.inner.comp hi.cursorInv
  refine ⟨e', h, ced_apply_inv (op := .removeBeforeCursor) hi trivial h, ?_⟩
  have hf := backspace_frame e e' h
  simp only [CompEditor.symbols] at hf
  intro s hs
  rcases Nat.eq_zero_or_pos e.cursor with h0 | h0
  · rw [hf.1 h0] at hs; exact .inl hs
  · rw [(hf.2 h0).1] at hs
    simp only [List.mem_append] at hs
    rcases hs with hs | hs
    · exact .inl (List.mem_of_mem_take hs)
    · exact .inl (List.mem_of_mem_drop hs)

theorem ced_removeAfter {e : CompEditor} (hi : CedInv e) (hlt : e.cursor < e.inner.symbols.length) :
    OkAnd (CedPost e none) e.removeAfterCursor := by
  obtain ⟨e', h⟩ := (delete_ok_iff e hi.inner.comp).mpr hlt
  refine ⟨e', h, ced_apply_inv (op := .removeAfterCursor) hi trivial h, ?_⟩
  have hf := (delete_frame e e' h).2.1
  simp only [CompEditor.symbols] at hf
  intro s hs
  rw [hf] at hs
  simp only [List.mem_append] at hs
  rcases hs with hs | hs
  · exact .inl (List.mem_of_mem_take hs)
  · exact .inl (List.mem_of_mem_drop hs)

theorem ced_insertGap {e : CompEditor} (hi : CedInv e) (g : Gap) (hg : g ≠ .begin) (hgb : g = .glue ∨ g = .brk) :
    OkAnd (CedPost e none) (e.insertGap g) := by
  obtain ⟨e', h⟩ := insert_gap_total e g hg hi.cursorInv
  rcases hgb with rfl | rfl
  · have ha : e.apply .insertGlue = .ok e' := h
    refine ⟨e', h, ced_apply_inv (op := .insertGlue) hi trivial ha, ?_⟩
    have hf := (gap_select_frame e .insertGlue e' (.inl rfl) ha).1
    simp only [CompEditor.symbols] at hf
    intro s hs; rw [hf] at hs; exact .inl hs
  · have ha : e.apply .insertBreak = .ok e' := h
    refine ⟨e', h, ced_apply_inv (op := .insertBreak) hi trivial ha, ?_⟩
    have hf := (gap_select_frame e .insertBreak e' (.inr (.inl rfl)) ha).1
    simp only [CompEditor.symbols] at hf
    intro s hs; rw [hf] at hs; exact .inl hs

theorem ced_removeFront {e : CompEditor} (hi : CedInv e) (n : Nat) (hn : n ≤ e.inner.symbols.length) :
    OkAnd (CedPost e none) (e.removeFront n) := by
  obtain ⟨e', h⟩ := (remove_front_ok_iff e n hi.inner.comp).mpr hn
  refine ⟨e', h, ced_apply_inv (op := .removeFront n) hi trivial h, ?_⟩
  have hf := (remove_front_frame e n e' h).2.1
  simp only [CompEditor.symbols] at hf
  intro s hs; rw [hf] at hs; exact .inl (List.mem_of_mem_drop hs)

theorem ced_replace {e : CompEditor} (hi : CedInv e) (x : Sym) (hlt : e.cursor < e.inner.symbols.length)
    (hv : CedValid e (.replace x)) : OkAnd (CedPost e (some x)) (e.replace x) :=
  have ⟨e', h⟩ := (replace_ok_iff e x hi.inner.comp.len_eq).mpr hlt
  ⟨e', h, ced_apply_inv (op := .replace x) hi hv h,
    fun s hs => (LinkSyl.replace_mem h s hs).symm.imp id (congrArg some ·.symm)⟩

theorem ced_select {e : CompEditor} (hi : CedInv e) (iv : Interval) (hne : iv.text ≠ [])
    (hv : CedValid e (.select iv)) : OkAnd (CedPost e none) (e.select iv) := by
  have hok : ∃ e', e.select iv = .ok e' := by
    simp only [CompEditor.select, if_neg hne]
    rw [pushSelection_ok.mpr ⟨hi.inner.comp.len_eq, hv.1.2, rfl⟩]
    exact ⟨_, rfl⟩
  obtain ⟨e', h⟩ := hok
  have ha : e.apply (.select iv) = .ok e' := h
  refine ⟨e', h, ced_apply_inv hi hv ha, ?_⟩
  have hf := (gap_select_frame e (.select iv) e' (.inr (.inr ⟨iv, rfl⟩)) ha).1
  simp only [CompEditor.symbols] at hf
  intro s hs; rw [hf] at hs; exact .inl hs

/-- the methods that only move the cursor or touch the cursor stack -/
theorem ced_pure {e : CompEditor} (hi : CedInv e) (op : CedOp) (e' : CompEditor)
    (hop : e.apply op = .ok e') (hv : CedValid e op) (hs : e'.inner.symbols = e.inner.symbols) : CedPost e none e' :=
  ⟨ced_apply_inv hi hv hop, fun s h => .inl (by rw [← hs]; exact h)⟩

theorem ced_pushCursor {e : CompEditor} (hi : CedInv e) : CedInv e.pushCursor :=
  ced_apply_inv (op := .pushCursor) hi trivial rfl
theorem ced_popCursor {e : CompEditor} (hi : CedInv e) : CedInv e.popCursor :=
  ced_apply_inv (op := .popCursor) hi trivial rfl
theorem ced_clampCursor {e : CompEditor} (hi : CedInv e) : CedInv e.clampCursor :=
  ced_apply_inv (op := .clampCursor) hi trivial rfl
theorem ced_moveCursor {e : CompEditor} (hi : CedInv e) (n : Nat) : CedInv (e.moveCursor n) :=
  ced_apply_inv (op := .moveCursor n) hi trivial rfl
theorem ced_moveToEnd {e : CompEditor} (hi : CedInv e) : CedInv e.moveToEnd :=
  ced_apply_inv (op := .moveToEnd) hi trivial rfl
theorem ced_moveToBeginning {e : CompEditor} (hi : CedInv e) : CedInv e.moveToBeginning :=
  ced_apply_inv (op := .moveToBeginning) hi trivial rfl
theorem ced_moveLeft {e : CompEditor} (hi : CedInv e) : CedInv e.moveLeft :=
  ced_apply_inv (op := .moveLeft) hi trivial rfl
theorem ced_moveRight {e : CompEditor} (hi : CedInv e) : CedInv e.moveRight :=
  ced_apply_inv (op := .moveRight) hi trivial rfl
theorem ced_clear {e : CompEditor} (hi : CedInv e) : CedInv e.clear :=
  ced_apply_inv (op := .clear) hi trivial rfl

theorem pushCursor_inner (e : CompEditor) : e.pushCursor.inner = e.inner := rfl

/-! ## Bridge to the precondition of the conversion engines (C03) -/

theorem slice_mem {c : Composition} {a b : Nat} {sym : Sym} (h : sym ∈ Conv.slice c a b) :
    ∃ j, a ≤ j ∧ j < b ∧ c.symbols[j]? = some sym :=
  Conv.mem_slice_iff.mp h

/-- the editor's invariant implies what the engines need (`CompValid`, C03's hypothesis) -/
theorem compValid_of_cinv {c : Composition} (h : CInv c) : Conv.CompValid c := by
  refine ⟨h.comp.len_eq, ?_, sel_pairwise_not_intersect h.comp⟩
  intro x hx
  refine ⟨h.comp.sel_nonempty x hx, h.comp.sel_in x hx, h.text x hx, ?_, ?_⟩
  · intro sym hs
    obtain ⟨j, h1, h2, h3⟩ := slice_mem hs
    obtain ⟨k, hk⟩ := h.syl x hx j h1 h2
    rw [hk] at h3; cases h3; rfl
  · unfold Conv.hasBreakInside
    rw [List.any_eq_false]
    intro i hi
    simp only [List.mem_range'_1] at hi
    have := h.comp.sel_no_break x hx i (by omega) (by omega)
    simp only [decide_eq_true_eq]
    unfold Conv.gapAt
    split
    · exact this
    · intro hh; cases hh

end Chewing.C01
