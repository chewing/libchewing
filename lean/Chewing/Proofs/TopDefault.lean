import Chewing.Model.Learn
import Chewing.Proofs.StableSort
/-!
Default conversion of a range that has a phrase of its own (C08 `top_is_default`): `find_best_phrase` picks the
strictly most frequent phrase, and once the single interval over the whole range is the first k-path,
`trim_paths` discards every other path (the single interval *contains* each of them), so no competing
segmentation is ever scored against it.
-/
namespace Chewing.Learn

/-! ### "keep the first element of maximal frequency"

`find_best_phrase`'s selection loop is this fold, here (`bestPhraseGo`) and in C03's engine model (`Conv.pickBest`
without selections). -/

/-- one step of the loop: a later element replaces the running best only if it is strictly larger under `f` -/
def keepMax {α : Type} (f : α → Nat) (best : Option α) (p : α) : Option α :=
  match best with
  | none => some p
  | some b => if f p > f b then some p else some b

theorem keepMax_cases {α : Type} (f : α → Nat) (best : Option α) (p : α) :
    keepMax f best p = some p ∨ keepMax f best p = best := by
  unfold keepMax
  split
  · exact .inl rfl
  · split
    · exact .inl rfl
    · exact .inr rfl

theorem keepMax_ge {α : Type} (f : α → Nat) (best : Option α) (p q : α) (h : q = p ∨ best = some q) :
    ∃ p', keepMax f best p = some p' ∧ f q ≤ f p' := by
  unfold keepMax
  split
  · rcases h with rfl | h
    · exact ⟨q, rfl, Nat.le_refl _⟩
    · cases h
  · next b =>
    split
    · rcases h with rfl | h
      · exact ⟨q, rfl, Nat.le_refl _⟩
      · cases h; exact ⟨p, rfl, by omega⟩
    · rcases h with rfl | h
      · exact ⟨b, rfl, by omega⟩
      · cases h; exact ⟨q, rfl, Nat.le_refl _⟩

theorem foldl_keepMax {α : Type} (f : α → Nat) (ps : List α) (best : Option α) :
    (ps.foldl (keepMax f) best = best ∨ ∃ p ∈ ps, ps.foldl (keepMax f) best = some p) ∧
      ∀ q, (q ∈ ps ∨ best = some q) → ∃ p, ps.foldl (keepMax f) best = some p ∧ f q ≤ f p := by
  induction ps generalizing best with
  | nil => exact ⟨.inl rfl, fun q hq => hq.elim nofun (fun h => ⟨q, h, Nat.le_refl _⟩)⟩
  | cons p ps ih =>
    obtain ⟨h1, h2⟩ := ih (keepMax f best p)
    have via : ∀ q, (q = p ∨ best = some q) → ∃ r, (p :: ps).foldl (keepMax f) best = some r ∧ f q ≤ f r := by
      intro q hq
      obtain ⟨p', e, le⟩ := keepMax_ge f best p q hq
      obtain ⟨r, er, le2⟩ := h2 p' (.inr e)
      exact ⟨r, er, Nat.le_trans le le2⟩
    refine ⟨?_, fun q hq => ?_⟩
    · rcases h1 with h | ⟨p', hp', h⟩
      · rcases keepMax_cases f best p with e | e
        · exact .inr ⟨p, List.mem_cons_self .., h.trans e⟩
        · exact .inl (h.trans e)
      · exact .inr ⟨p', List.mem_cons_of_mem _ hp', h⟩
    · rcases hq with hq | hq
      · rcases List.mem_cons.mp hq with rfl | hq
        · exact via q (.inl rfl)
        · exact h2 q (.inl hq)
      · exact via q (.inr hq)

theorem bestPhraseGo_eq (es : List (Text × Nat)) (best : Option (Text × Nat)) :
    bestPhraseGo es best = es.foldl (keepMax (·.2)) best := by
  induction es generalizing best with
  | nil => rfl
  | cons p rest ih =>
    cases best with
    | none => exact ih _
    | some b =>
      simp only [bestPhraseGo, List.foldl_cons, keepMax]
      split <;> exact ih _

/-- `find_best_phrase` (no selections): a phrase strictly more frequent than every other one is chosen -/
theorem bestPhrase_top (x : Text × Nat) (es : List (Text × Nat)) (hx : x ∈ es)
    (hall : ∀ q ∈ es, q = x ∨ q.2 < x.2) : bestPhrase es = some x := by
  obtain ⟨h1, h2⟩ := foldl_keepMax (·.2) es none
  obtain ⟨p, e, le⟩ := h2 x (.inl hx)
  rw [bestPhrase, bestPhraseGo_eq, e]
  rcases h1 with h | ⟨p', hp', h⟩
  · exact nomatch e.symm.trans h
  · cases e.symm.trans h
    rcases hall p hp' with rfl | hlt
    · rfl
    · exact absurd le (Nat.not_le.mpr hlt)

/-! ### `trim_paths` when the first path is the single interval over the whole range -/

theorem advanceBig_direct (I o : PInterval) (h1 : I.start < o.stop) (h2 : I.start ≤ o.start) (h3 : o.stop ≤ I.stop) :
    advanceBig [I] o = some [I] := by
  simp [advanceBig, PInterval.contains, h1, h2, h3]

theorem pathContains_direct (I : PInterval) (p : Path)
    (h : ∀ o ∈ p, I.start < o.stop ∧ I.start ≤ o.start ∧ o.stop ≤ I.stop) : pathContains [I] p = true := by
  induction p with
  | nil => rfl
  | cons o os ih =>
    have ho := h o (List.mem_cons_self ..)
    simp only [pathContains, advanceBig_direct I o ho.1 ho.2.1 ho.2.2]
    exact ih (fun q hq => h q (List.mem_cons_of_mem _ hq))

theorem trimStep_direct (I : PInterval) (c : Path) (h : pathContains [I] c = true) : trimStep [[I]] c = [[I]] := by
  simp [trimStep, trimGo, h]

theorem trimPaths_direct (I : PInterval) (rest : List Path) (h : ∀ c ∈ rest, pathContains [I] c = true) :
    trimPaths ([I] :: rest) = [[I]] := by
  unfold trimPaths
  have h0 : trimStep [] [I] = [[I]] := by simp [trimStep, trimGo]
  rw [List.foldl_cons, h0]
  induction rest with
  | nil => rfl
  | cons c cs ih =>
    rw [List.foldl_cons, trimStep_direct I c (h c (List.mem_cons_self ..))]
    exact ih (fun q hq => h q (List.mem_cons_of_mem _ hq))

/-- the whole-range interval first ⇒ it is the (only) conversion, whatever the other k-paths score -/
theorem firstConversion_direct (I : PInterval) (rest : List Path)
    (h : ∀ c ∈ rest, ∀ o ∈ c, I.start < o.stop ∧ I.start ≤ o.start ∧ o.stop ≤ I.stop) :
    firstConversion ([I] :: rest) = some [I.toInterval] := by
  unfold firstConversion
  rw [trimPaths_direct I rest (fun c hc => pathContains_direct I c (h c hc))]
  rfl

/-! ### `shortest_path` takes the direct edge -/

theorem scanEdges_direct (len : Nat) (d : PInterval) (hd : d.stop = len) (pre post : List PInterval)
    (hpre : ∀ e ∈ pre, e.stop ≠ len) :
    ∀ (parent : Parents) (queue : List Nat), parent.get? len = none →
      ∃ p' q', scanEdges (fun _ _ => false) len (pre ++ d :: post) parent queue = (p', q', true) ∧ p'.get? len = some d := by
  induction pre with
  | nil =>
    intro parent queue hp
    simp only [List.nil_append, scanEdges, Bool.false_eq_true, if_false, hd, hp, Option.isNone_none, if_true]
    exact ⟨_, _, rfl, by simp [Parents.get?]⟩
  | cons e es ih =>
    intro parent queue hp
    have he : e.stop ≠ len := hpre e (List.mem_cons_self ..)
    simp only [List.cons_append, scanEdges, Bool.false_eq_true, if_false, he]
    apply ih (fun x hx => hpre x (List.mem_cons_of_mem _ hx))
    split
    · simp only [Parents.get?, List.find?]
      have : decide (e.stop = len) = false := by simp [he]
      rw [this]
      exact hp
    · exact hp

/-- with no removed edges, if node 0 has an edge `d` to the sink and it is the only one ending there, the
    breadth-first shortest path from 0 is `[d]` -/
theorem shortestPath_direct (graph : List (List PInterval)) (len : Nat) (d : PInterval) (es : List PInterval)
    (hg : graph[0]? = some es) (hmem : d ∈ es) (hs : d.start = 0) (hd : d.stop = len) (hlen : 0 < len)
    (huniq : ∀ e ∈ es, e.stop = len → e = d) :
    shortestPath graph (fun _ _ => false) 0 len = some [d] := by
  obtain ⟨pre, post, hsplit, hnot⟩ := List.eq_append_cons_of_mem hmem
  have hpre : ∀ e ∈ pre, e.stop ≠ len := by
    intro e he h
    have : e = d := huniq e (by rw [hsplit]; exact List.mem_append_left _ he) h
    exact hnot (this ▸ he)
  obtain ⟨p', q', hscan, hp'⟩ := scanEdges_direct len d hd pre post hpre [] [] rfl
  unfold shortestPath
  have hb : bfs graph (fun _ _ => false) len (len + 2) [0] [] = p' := by
    simp only [bfs, hg, Option.getD_some, hsplit, hscan, if_true]
  rw [hb]
  have hne : ¬ len = 0 := by omega
  simp only [walkBack, hne, if_false, hp', hs, if_true]

/-! ### Without trimming: the score proviso (DESIGN §8 C08) -/

theorem sortDesc_eq_isort (ps : List Path) :
    sortDesc ps = isort (fun a b => !decide (pathScore a ≤ pathScore b)) ps :=
  isort_unique (ins := insertDesc) (fun _ => rfl) (fun _ _ _ => rfl) rfl (fun _ _ => rfl) ps

theorem sortDesc_head_max (ps : List Path) (hne : ps ≠ []) :
    ∃ h, (sortDesc ps).head? = some h ∧ h ∈ ps ∧ ∀ q ∈ ps, pathScore q ≤ pathScore h := by
  have hp : (sortDesc ps).Perm ps := sortDesc_eq_isort ps ▸ isort_perm _ ps
  have hs : (sortDesc ps).Pairwise (fun a b => pathScore b ≤ pathScore a) :=
    sortDesc_eq_isort ps ▸ StableSort.isort_le_pairwise (r := fun a b : Path => pathScore b ≤ pathScore a) (fun _ _ => Int.le_total _ _)
      (fun _ _ _ h1 h2 => Int.le_trans h2 h1) ps
  cases e : sortDesc ps with
  | nil => exact absurd (e ▸ hp).symm.eq_nil hne
  | cons h t =>
    rw [e] at hp hs
    refine ⟨h, rfl, hp.mem_iff.mp (.head _), fun q hq => ?_⟩
    rcases List.mem_cons.mp (hp.mem_iff.mpr hq) with rfl | hq
    · exact Int.le_refl _
    · exact (List.pairwise_cons.mp hs).1 q hq

end Chewing.Learn
