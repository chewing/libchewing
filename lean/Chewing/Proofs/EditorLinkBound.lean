import Chewing.Props.C05
/-!
# The buffer stays bounded — in every state

C05 / C18 prove the bound `len ≤ auto_commit_threshold` after the keys that end in `Entering`.  This file
proves a bound for EVERY state of all four kinds and every public operation, and says exactly which
histories it covers (before the FX3/FX4 repair it was FALSE for the others — unbounded growth under prefix lookup
and through `cancel_selecting`, see `Props/C05Bound.lean`; since the repair the auto-commit runs in both editing
states, neither lookup strategy nor layout is restricted, and `EditorLinkBound3.lean` proves the slightly
weaker invariant `Within1` for ALL histories):

* `GStep`, `SStep`, `SelOK`, `highlighting_growth`: what a key adds to the buffer in each of the four states, and
  that growth is followed by the auto-commit — `Entering` by cases on `EnteringEff`, the others through the case
  principles of `EditorSteps`;
* `Within B K e`: thresholds `≤ B`, every easy-symbol expansion `≤ K` characters,
  and `len ≤ B` — `≤ B + 1` while a candidate list is open (the simple engine
  opens its one-word list BEFORE the auto-commit runs);
* `apply_capped`: every operation keeps such an invariant, for any bound per state satisfying `CapOK` — all keys in
  all four states, `select`, `start_selecting`, `commit`, `clear`, …; the calls that may close a list WITHOUT an
  auto-commit (`ClosesList`: `cancel_selecting`, and the `revalidate_selecting` at the end of the option / layout /
  learn / unlearn calls) are covered when the buffer is within the bound of `Entering`.  `within_apply` is the
  instance for `Within`: those calls are covered when the open list is not the over-full one (`Quiet`);
* `mid_len`: the states INSIDE a step, where the auto-commit converts (`Mid`), hold at most
  `B + max 2 K` symbols.

The only fact about the conversion that is used is `ACBound` at the state the auto-commit runs in ("the
auto-commit leaves at most `threshold` symbols"); C05 derives it from a tiling conversion, `EditorLinkBound2`
from C01's invariant.
-/
namespace Chewing.Bound
open Chewing.C06 Chewing.C05

variable {D L : Type} (env : Env D L)

/-! ## lengths after the composition-editor calls

A call that changes the symbols is one `Composition` call, whose result C04's `_ok` equations spell out. -/

theorem insert_len {c c' : CompEditor} {x : Sym} (h : c.insert x = .ok c') : c'.len = c.len + 1 := by
  obtain ⟨c1, hc, rfl⟩ := C04.withInner_ok h
  obtain ⟨_, _, rfl⟩ := C04.insert_ok.mp hc
  exact C04.length_insertAt ..

theorem insertChars_len {c c' : CompEditor} {cs : List Nat} (h : insertChars c cs = .ok c') :
    c'.len = c.len + cs.length := by
  obtain ⟨h1, _, _⟩ := insertChars_frame cs c c' h
  show c'.symbols.length = c.symbols.length + cs.length
  rw [h1, List.length_append, List.length_append, List.length_map,
    ← congrArg List.length (List.take_append_drop c.cursor c.symbols), List.length_append]
  exact Nat.add_right_comm ..

theorem removeBefore_len {c c' : CompEditor} (h : c.removeBeforeCursor = .ok c') : c'.len ≤ c.len := by
  unfold CompEditor.removeBeforeCursor at h
  split at h
  · cases h; exact Nat.le_refl _
  · obtain ⟨c1, hc, rfl⟩ := C04.withInner_ok h
    obtain ⟨_, _, _, rfl⟩ := C04.remove_ok.mp hc
    exact List.length_eraseIdx_le ..

theorem removeAfter_len {c c' : CompEditor} (h : c.removeAfterCursor = .ok c') : c'.len ≤ c.len := by
  obtain ⟨c1, hc, rfl⟩ := C04.withInner_ok h
  obtain ⟨_, _, _, rfl⟩ := C04.remove_ok.mp hc
  exact List.length_eraseIdx_le ..

theorem replace_len {c c' : CompEditor} {x : Sym} (h : c.replace x = .ok c') : c'.len = c.len := by
  obtain ⟨c1, hc, rfl⟩ := C04.withInner_ok h
  obtain ⟨_, _, rfl⟩ := C04.replace_ok.mp hc
  exact List.length_set ..

theorem insertGlue_len {c c' : CompEditor} (h : c.insertGlue = .ok c') : c'.len = c.len :=
  congrArg List.length (gap_select_frame c .insertGlue c' (.inl rfl) h).1

theorem insertBreak_len {c c' : CompEditor} (h : c.insertBreak = .ok c') : c'.len = c.len :=
  congrArg List.length (gap_select_frame c .insertBreak c' (.inr (.inl rfl)) h).1

theorem select_len {c c' : CompEditor} {iv : Interval} (h : c.select iv = .ok c') : c'.len = c.len :=
  congrArg List.length (gap_select_frame c (.select iv) c' (.inr (.inr ⟨iv, rfl⟩)) h).1

theorem popCursor_len (c : CompEditor) : c.popCursor.len = c.len := by
  unfold CompEditor.popCursor
  split <;> rfl

theorem clampCursor_len (c : CompEditor) : c.clampCursor.len = c.len := by
  unfold CompEditor.clampCursor
  split <;> rfl

theorem clear_len (c : CompEditor) : c.clear.len = 0 :=
  congrArg List.length (clear_frame c).1

theorem removeFront_len {c c' : CompEditor} {n : Nat} (h : c.removeFront n = .ok c') : c'.len ≤ c.len := by
  obtain ⟨c1, hc, rfl⟩ := C04.withInner_ok h
  obtain ⟨_, _, _, rfl⟩ := C04.removeFront_ok.mp hc
  exact Nat.le_trans (Nat.le_of_eq List.length_drop) (Nat.sub_le ..)

/-! ## what no key and no auto-commit changes -/

/-- the easy-symbol table, the auto-commit threshold and the lookup strategy are the same -/
def Keep (sh0 sh' : Shared D L) : Prop :=
  sh'.abbr = sh0.abbr ∧ sh'.options.autoCommitThreshold = sh0.options.autoCommitThreshold ∧
  sh'.options.lookupStrategy = sh0.options.lookupStrategy ∧
  sh'.options.conversionEngine = sh0.options.conversionEngine

theorem Keep.refl (sh : Shared D L) : Keep sh sh := ⟨rfl, rfl, rfl, rfl⟩

theorem Keep.trans {a b c : Shared D L} (h1 : Keep a b) (h2 : Keep b c) : Keep a c :=
  ⟨h2.1.trans h1.1, h2.2.1.trans h1.2.1, h2.2.2.1.trans h1.2.2.1, h2.2.2.2.trans h1.2.2.2⟩

theorem Keep.of_eq {a b : Shared D L} (h1 : b.abbr = a.abbr) (h2 : b.options = a.options) : Keep a b :=
  ⟨h1, by rw [h2], by rw [h2], by rw [h2]⟩

theorem keep_learnFrame {a b : Shared D L} (h : C02.LearnFrame a b) : Keep a b ∧ b.com = a.com := by
  obtain ⟨h1, _, _, h4, _, _, _, _, _, h10, _⟩ := h.fields
  exact ⟨Keep.of_eq h10 h4, h1⟩

theorem learnInRangeNotify_keep (sh : Shared D L) (a b : Nat) :
    ResAll (fun x => Keep sh x.1 ∧ x.1.com = sh.com) (Shared.learnInRangeNotify env sh a b) := fun x e =>
  ⟨Keep.of_eq (learnInRangeNotify_keeps env (·.abbr) (fun _ _ _ _ => rfl) sh a b x e)
    (learnInRangeNotify_keeps env (·.options) (fun _ _ _ _ => rfl) sh a b x e), learnInRangeNotify_com env sh a b x e⟩

theorem commit_keep (sh : Shared D L) :
    ResAll (fun x => Keep sh x ∧ x.com = sh.com.clear) (Shared.commit env sh) := fun _ e => by
  obtain ⟨_, _, _, hf, rfl⟩ := C02.commit_spec env e
  exact ⟨(keep_learnFrame hf).1, rfl⟩

theorem tryAutoCommit_keep (sh : Shared D L) :
    ResAll (fun x => Keep sh x ∧ x.com.len ≤ sh.com.len) (Shared.tryAutoCommit env sh) := fun _ e => by
  obtain ⟨-, rfl⟩ | ⟨_, _, _, h, rfl, -⟩ := tryAutoCommit_cases env sh _ e
  · exact ⟨.refl _, Nat.le_refl _⟩
  · exact ⟨⟨rfl, rfl, rfl, rfl⟩, removeFront_len h⟩

/-! ## the arms of `Entering` -/

/-- an arm of `Entering` called at `sh0`: nothing configured changes, at most `K` symbols are added, and
    growth is answered *absorb* (the auto-commit follows) -/
def GStep (K : Nat) (sh0 : Shared D L) (r : StepRes D L) : Prop :=
  ∀ sh' t, r = .ok (sh', t) →
    Keep sh0 sh' ∧ sh'.com.len ≤ sh0.com.len + K ∧ (t = .spin .absorb ∨ sh'.com.len ≤ sh0.com.len)

theorem GStep.mono {K K' : Nat} {sh0 : Shared D L} {r : StepRes D L} (h : GStep K sh0 r) (hk : K ≤ K') :
    GStep K' sh0 r :=
  fun sh' t e => have ⟨h1, h2, h3⟩ := h sh' t e; ⟨h1, Nat.le_trans h2 (Nat.add_le_add_left hk _), h3⟩

section
variable {K : Nat} {sh0 sh' : Shared D L} {t : Trans}

/-- a result of an arm of `Entering` that holds no more symbols than before, whatever the answer -/
theorem grow_none (hk : Keep sh0 sh') (hl : sh'.com.len ≤ sh0.com.len) :
    Keep sh0 sh' ∧ sh'.com.len ≤ sh0.com.len + K ∧ (t = .spin .absorb ∨ sh'.com.len ≤ sh0.com.len) :=
  ⟨hk, Nat.le_trans hl (Nat.le_add_right _ _), .inr hl⟩

/-- … that differs from `sh0` in fields the bound does not read -/
theorem grow_same (ha : sh'.abbr = sh0.abbr) (ho : sh'.options = sh0.options) (hc : sh'.com = sh0.com) :
    Keep sh0 sh' ∧ sh'.com.len ≤ sh0.com.len + K ∧ (t = .spin .absorb ∨ sh'.com.len ≤ sh0.com.len) :=
  grow_none (.of_eq ha ho) (hc ▸ Nat.le_refl _)

/-- … with a new buffer at most `K` longer, answered *absorb* -/
theorem grow_absorb {c : CompEditor} (hl : c.len ≤ sh0.com.len + K) :
    Keep sh0 { sh0 with com := c } ∧ c.len ≤ sh0.com.len + K ∧
      (Trans.spin .absorb = .spin .absorb ∨ c.len ≤ sh0.com.len) :=
  ⟨.of_eq rfl rfl, hl, .inl rfl⟩

end

theorem insert_le {K : Nat} (hK : 1 ≤ K) {c c' : CompEditor} {x : Sym} (h : c.insert x = .ok c') :
    c'.len ≤ c.len + K := by
  rw [insert_len h]; exact Nat.add_le_add_left hK _

/-- the calls `Entering` makes on a key it absorbs add no symbol -/
theorem keyEdit_len {c c' : CompEditor} {op : CedOp} (hk : op.keyEdit = true) (h : c.apply op = .ok c') :
    c'.len ≤ c.len := by
  cases op with
  | removeBeforeCursor => exact removeBefore_len h
  | removeAfterCursor => exact removeAfter_len h
  | insertGlue => exact Nat.le_of_eq (insertGlue_len h)
  | insertBreak => exact Nat.le_of_eq (insertBreak_len h)
  | clear => cases h; rw [clear_len]; exact Nat.zero_le _
  | moveToBeginning | moveLeft | moveRight | moveToEnd => cases h; exact Nat.le_refl _
  | _ => cases hk

/-- every easy-symbol expansion has at most `K` characters -/
def AbbrLe (K : Nat) (abbr : List (Nat × Text)) : Prop := ∀ p ∈ abbr, p.2.length ≤ K

/-- **`Entering::next`**: at most `K` symbols more (one, or an easy-symbol expansion: the characters inserted are an
    entry of `sh.abbr`), and any growth is answered *absorb* -/
theorem gstep_enteringNext {K : Nat} (hK : 1 ≤ K) (sh : Shared D L) (ha : AbbrLe K sh.abbr) (ev : KeyEvent) :
    GStep K sh (enteringNext env sh ev) := fun sh' t e => by
  have hc {sh0 sh' : Shared D L} {k} (h : CharEff sh0 ev sh' k) : GStep K sh0 (.ok (sh', .spin k)) := fun _ _ e => by
    cases e
    cases h with
    | insert _ _ h => exact grow_absorb (insert_le hK h)
    | _ => exact grow_same rfl rfl rfl
  cases enteringNext_eff env sh ev sh' t e with
  | char h => exact hc h _ _ rfl
  | rejected _ _ _ h => exact (hc h _ _ rfl :)
  | edit _ _ hk h => exact grow_none (.of_eq rfl rfl) (keyEdit_len hk h)
  | expand _ _ hf h =>
    obtain ⟨p, hp, rfl⟩ := Option.map_eq_some_iff.mp hf
    exact grow_absorb (by rw [insertChars_len h]; exact Nat.add_le_add_left (ha p (List.mem_of_find?_eq_some hp)) _)
  | lang | form => exact grow_none ⟨rfl, rfl, rfl, rfl⟩ (Nat.le_refl _)
  | opened => exact grow_none (.of_eq rfl rfl) (Nat.le_of_eq (clampCursor_len _))
  | commit _ _ h =>
    have ⟨hk, hc⟩ := commit_keep env sh _ h
    exact grow_none hk (by rw [hc, clear_len]; exact Nat.zero_le _)
  | _ => exact grow_same rfl rfl rfl

/-! ## `EnteringSyllable` -/

/-- the layout never answers `Fuzzy` to `key_press` (true of the real layouts: only `fuzzy_key_press`, which
    is used under `LookupStrategy::FuzzyPartialPrefix`, does).  Not a hypothesis of anything below: since the FX3 repair the auto-commit follows the `Fuzzy` arm too -/
def NoFuzzy : Prop := ∀ l ev s, (env.keyPress l ev).1 ≠ .fuzzy s

/-- an arm of `EnteringSyllable`: at most one symbol more, and then the key is answered *absorb* (the `Fuzzy` arm,
    which stays in `EnteringSyllable`) or ends in `Entering` (in both cases the auto-commit follows — since the FX3
    repair it runs in both editing states) or in the simple engine's one-word list -/
def SStep (sh0 : Shared D L) (r : StepRes D L) : Prop :=
  ∀ sh' t, r = .ok (sh', t) →
    Keep sh0 sh' ∧ sh'.com.len ≤ sh0.com.len + 1 ∧
    (t = .spin .absorb ∨ t = .toState .entering ∨ (∃ s, t = .toState (.selecting s)) ∨ sh'.com.len ≤ sh0.com.len)

theorem sstep_syllableAnswer (sh : Shared D L) (beh : LayoutBeh) : SStep sh (syllableAnswer env sh beh) :=
  syllableAnswer_all env (fun _ _ => ⟨.refl _, Nat.le_add_right _ _, .inr (.inl rfl)⟩)
    (fun _ _ => ⟨.refl _, Nat.le_add_right _ _, .inl rfl⟩)
    (fun _ _ _ _ e => ⟨.of_eq rfl rfl, insert_le (Nat.le_refl _) e, .inl rfl⟩)
    (fun _ _ _ => ⟨.refl _, Nat.le_add_right _ _, .inl rfl⟩)
    (fun c _ _ _ e => newPhraseSimple_all fun s =>
      ⟨.of_eq rfl rfl, (insert_le (Nat.le_refl _) e : c.len ≤ _), .inr (.inr (.inl ⟨s, rfl⟩))⟩)
    (fun _ _ _ _ e => ⟨.of_eq rfl rfl, insert_le (Nat.le_refl _) e, .inr (.inl rfl)⟩)
    (fun _ _ => ⟨.of_eq rfl rfl, Nat.le_add_right _ _, .inr (.inl rfl)⟩)
    fun _ _ _ => ⟨.refl _, Nat.le_add_right _ _, .inr (.inr (.inr (Nat.le_refl _)))⟩

/-- **`EnteringSyllable::next`**, either lookup strategy -/
theorem sstep_enteringSyllableNext (sh : Shared D L) (ev : KeyEvent) : SStep sh (enteringSyllableNext env sh ev) :=
  enteringSyllableNext_all env (fun _ => ⟨.of_eq rfl rfl, Nat.le_add_right _ _, .inl rfl⟩)
    (fun _ => ⟨.of_eq rfl rfl, Nat.le_add_right _ _, .inr (.inl rfl)⟩)
    (fun _ => ⟨⟨rfl, rfl, rfl, rfl⟩, Nat.le_add_right _ _, .inr (.inl rfl)⟩)
    ⟨.of_eq rfl rfl, by rw [clear_len]; exact Nat.zero_le _, .inr (.inl rfl)⟩
    ⟨.of_eq rfl rfl, Nat.le_add_right _ _, .inr (.inl rfl)⟩
    fun a _ => sstep_syllableAnswer env { sh with syl := a.2 } a.1

/-! ## `Selecting` -/

/-- a result of `Selecting`: at most one symbol more (a chosen symbol is INSERTED by the symbol table opened with
    `` ` ``), and then the list closes into `Entering` (the auto-commit follows); a list that stays open is answered
    with a `spin` -/
def SelOK (sh0 sh' : Shared D L) (t : Trans) : Prop :=
  Keep sh0 sh' ∧ sh'.com.len ≤ sh0.com.len + 1 ∧
    (t = .toState .entering ∨ (sh'.com.len ≤ sh0.com.len ∧ ∃ b, t = .spin b))

theorem SelOK.stay {sh0 sh' : Shared D L} {b : KB} (hk : Keep sh0 sh') (hl : sh'.com.len ≤ sh0.com.len) :
    SelOK sh0 sh' (.spin b) :=
  ⟨hk, Nat.le_trans hl (Nat.le_add_right _ _), .inr ⟨hl, b, rfl⟩⟩

/-- the list stays as it is, or is paged or re-targeted: the shared state is untouched -/
theorem SelOK.same {sh : Shared D L} {b : KB} : SelOK sh sh (.spin b) := .stay (.refl _) (Nat.le_refl _)

theorem SelOK.close {sh0 sh' : Shared D L} (hk : Keep sh0 sh') (hl : sh'.com.len ≤ sh0.com.len + 1) :
    SelOK sh0 sh' (.toState .entering) :=
  ⟨hk, hl, .inl rfl⟩

/-- the list closed by `cancel_selecting`: the saved cursor is popped -/
theorem SelOK.cancel {sh0 sh : Shared D L} (hk : Keep sh0 sh) (hl : sh.com.len ≤ sh0.com.len) :
    SelOK sh0 (Shared.cancelSelecting sh) (.toState .entering) :=
  .close hk (Nat.le_trans (Nat.le_of_eq (popCursor_len _)) (Nat.le_trans hl (Nat.le_add_right _ _)))

theorem select_growth (s : Selecting) (sh : Shared D L) (n : Nat) :
    ResAll (fun x => SelOK sh x.2.1 x.2.2) (Selecting.select env s sh n) :=
  select_all env (fun _ _ _ => .same)
    (fun _ _ _ com _ _ _ e => .close (.of_eq rfl rfl) <| by
      have h := select_len e
      show CompEditor.len (if _ then com.popCursor.moveRight else com.popCursor) ≤ _
      split
      · show com.popCursor.len ≤ _; rw [popCursor_len, h]; exact Nat.le_add_right _ _
      · rw [popCursor_len, h]; exact Nat.le_add_right _ _)
    (fun _ _ com _ e => .close (.of_eq rfl rfl) <| by
      show com.popCursor.len ≤ _
      rw [popCursor_len]
      split at e
      · exact Nat.le_of_eq (insert_len e)
      · rw [replace_len e]; exact Nat.le_add_right _ _)
    (fun _ _ _ _ _ _ _ => .same) (fun _ _ _ _ _ => .cancel (.refl _) (Nat.le_refl _)) fun _ _ _ => .same

theorem selectingNext_growth (s : Selecting) (sh : Shared D L) (ev : KeyEvent) :
    ResAll (fun x => SelOK sh x.shared x.trans) (selectingNext env s sh ev) :=
  selectingNext_all env .same (.cancel (.refl _) (Nat.le_refl _))
    (fun _ _ => .cancel ⟨rfl, rfl, rfl, rfl⟩ (Nat.le_refl _))
    (selDownSpace_all env (fun _ _ _ => .same) (fun _ _ _ _ _ _ => .same) fun _ _ => .same)
    (fun _ => selMove_all env (fun _ => .same) fun c _ hc _ =>
      have hl : c.len ≤ sh.com.len := by
        rcases hc with rfl | rfl
        · exact Nat.le_refl _
        · exact Nat.le_of_eq (clampCursor_len _)
      closeIfEmpty_all env (fun _ => .cancel (.of_eq rfl rfl) hl) fun _ _ _ => .stay (.of_eq rfl rfl) hl)
    (selPrevPage_all env (fun _ => .same) fun _ _ _ => .same) (selNextPage_all env (fun _ _ _ => .same) fun _ _ _ => .same)
    (selDigit_all env (select_growth env s sh _))
    (.close (.of_eq rfl rfl) <| by
      show sh.com.popCursor.popCursor.len ≤ _
      rw [popCursor_len, popCursor_len]; exact Nat.le_add_right _ _)
    .same

/-! ## `Highlighting` -/

theorem highlighting_growth (m : Nat) (sh : Shared D L) (ev : KeyEvent) :
    ResAll (fun x => Keep sh x.1 ∧ x.1.com.len = sh.com.len ∧ (x.2.2 = .toState .entering ∨ ∃ b, x.2.2 = .spin b))
      (highlightingNext env m sh ev) :=
  highlightingNext_all env (fun _ => ⟨⟨rfl, rfl, rfl, rfl⟩, rfl, .inl rfl⟩) (fun _ => ⟨.refl _, rfl, .inr ⟨_, rfl⟩⟩)
    (fun _ _ e =>
      have ⟨hk, hc⟩ := learnInRangeNotify_keep env _ _ _ _ e
      ⟨hk, by rw [hc]; rfl, .inl rfl⟩)
    ⟨.refl _, rfl, .inl rfl⟩

/-! ## the invariant -/

/-- what is configured: thresholds within `B`, easy-symbol expansions within `K` (either lookup strategy) -/
structure Cfg (B K : Nat) (sh : Shared D L) : Prop where
  thr : sh.options.autoCommitThreshold ≤ B
  abbr : AbbrLe K sh.abbr

theorem Cfg.keep {B K : Nat} {a b : Shared D L} (h : Cfg B K a) (hk : Keep a b) : Cfg B K b :=
  ⟨by rw [hk.2.1]; exact h.thr, by rw [hk.1]; exact h.abbr⟩

/-- the bound of a state: `B`, one more while a candidate list is open -/
def lenCap (B : Nat) : St → Nat
  | .selecting _ => B + 1
  | _ => B

/-- **the invariant**: configuration within `B` / `K`, and the buffer within the bound of the state -/
structure Within (B K : Nat) (e : Editor D L) : Prop where
  cfg : Cfg B K e.shared
  len : e.shared.com.len ≤ lenCap B e.state

/-- the auto-commit at `sh` leaves at most `threshold` symbols (C05 `tryAutoCommit_bound_at`: true when the
    conversion answer tiles the buffer) -/
def ACBound (sh : Shared D L) : Prop :=
  ∀ sh2, Shared.tryAutoCommit env sh = .ok sh2 → sh2.com.len ≤ sh.options.autoCommitThreshold

theorem ACBound.of_tilingAt {env : Env D L} {sh : Shared D L} (ht : TilingAt env sh) : ACBound env sh := by
  intro sh2 h2
  obtain ⟨h1, h3, _⟩ := tryAutoCommit_bound_at env ht h2
  rw [← h3]; exact h1

/-- the shared state INSIDE an operation at which the auto-commit (hence the conversion) may run: after the
    state machine's part of a key, after the `Selecting::select` of the `select` call -/
def Mid (e : Editor D L) : Op L → Shared D L → Prop
  | .key ev, sh => ∃ st, dispatch env e ev = .ok (sh, st)
  | .select n, sh => ∃ s s' sh0 t, e.state = .selecting s ∧ Selecting.select env s e.shared n = .ok (s', sh0, t) ∧
      sh = (applyTrans sh0 (.selecting s') t).1
  | _, _ => False

/-- no candidate list is open over a buffer beyond `B` (the simple engine's one-word list over a full buffer is
    the one case where it is) -/
def Quiet (B : Nat) (e : Editor D L) : Prop := ∀ s, e.state = .selecting s → e.shared.com.len ≤ B

/-- new options keep the threshold within `B` -/
def ThrOp (B : Nat) : Op L → Prop
  | .setOptions o => o.autoCommitThreshold ≤ B
  | _ => True

/-- the calls that can close a candidate list without an auto-commit: `cancel_selecting`, and the
    `revalidate_selecting` at the end of the option / layout / learn / unlearn calls -/
def ClosesList (op : Op L) : Prop := op.revalidates ∨ op = .cancelSelecting

/-! ## a bound per state

`Within` allows `B + 1` symbols under an open list only; `Within1` (`EditorLinkBound3`) also in `Entering` and
`Highlighting`.  Both are kept by every operation for the same reasons, which are proved once, for any bound per
state `cap` of which `CapOK` holds. -/

/-- what the proofs use of a bound per state: between `B` and `B + 1`; `B + 1` under an open list and `B` while a
    syllable is entered (from there the simple engine opens its one-word list over one symbol more); a highlight
    allows what `Entering` allows -/
structure CapOK (B : Nat) (cap : St → Nat) : Prop where
  ge : ∀ st, B ≤ cap st
  le : ∀ st, cap st ≤ B + 1
  sel : ∀ s, cap (.selecting s) = B + 1
  syl : cap .enteringSyllable = B
  hl : ∀ m, cap (.highlighting m) = cap .entering

theorem lenCap_ok (B : Nat) : CapOK B (lenCap B) where
  ge st := by cases st <;> simp [lenCap]
  le st := by cases st <;> simp [lenCap]
  sel _ := rfl
  syl := rfl
  hl _ := rfl

/-- `Within` for the bound per state `cap` -/
structure Capped (cap : St → Nat) (B K : Nat) (e : Editor D L) : Prop where
  cfg : Cfg B K e.shared
  len : e.shared.com.len ≤ cap e.state

/-- where the state machine's part of a key, or `Selecting::select`, leaves off: the auto-commit is about to run (the
    condition is the one of `process_keyevent` and `Editor::select`), or the buffer is within the bound of the new
    state -/
def Settled (cap : St → Nat) (x : Shared D L × St) : Prop :=
  ((x.2 == .entering || x.2 == .enteringSyllable) && x.1.last == .absorb) = true ∨ x.1.com.len ≤ cap x.2

theorem applyTrans_keep (sh : Shared D L) (st : St) (t : Trans) : Keep sh (applyTrans sh st t).1 := by
  cases t <;> exact ⟨rfl, rfl, rfl, rfl⟩

section cap
variable {B K : Nat} {cap : St → Nat} (hcap : CapOK B cap)
include hcap

/-- a transition that does not lengthen the buffer, out of a state that allows no more than `Entering` (`hst`: every
    state but `Selecting`): the auto-commit follows (every transition into an editing state is recorded as *absorb*),
    or the new state allows what the old one allowed -/
theorem CapOK.settled {sh0 sh' : Shared D L} {st0 : St} (t : Trans) (h0 : sh0.com.len ≤ cap st0)
    (hl : sh'.com.len ≤ sh0.com.len) (hst : cap st0 ≤ cap .entering) :
    Settled cap (applyTrans sh' st0 t) := by
  have h1 : sh'.com.len ≤ cap st0 := Nat.le_trans hl h0
  cases t with
  | spin b => exact .inr h1
  | toState st =>
    cases st with
    | entering => exact .inl rfl
    | enteringSyllable => exact .inl rfl
    | selecting s => exact .inr (Nat.le_trans h1 (hcap.sel s ▸ hcap.le st0))
    | highlighting m => exact .inr (Nat.le_trans h1 (Nat.le_trans hst (Nat.le_of_eq (hcap.hl m).symm)))

/-- a result of `Selecting` (of a key, or of `Selecting::select`), whatever the selector is now -/
theorem SelOK.settled {sh0 sh' : Shared D L} {s s' : Selecting} {t : Trans} (h0 : sh0.com.len ≤ cap (.selecting s))
    (h : SelOK sh0 sh' t) : Settled cap (applyTrans sh' (.selecting s') t) := by
  rcases h.2.2 with rfl | ⟨hl, b, rfl⟩
  · exact .inl rfl
  · rw [hcap.sel] at h0
    exact .inr (Nat.le_trans hl (hcap.sel s' ▸ h0))

/-- **the state machine's part of a key, all four states**: the configuration is kept, at most one symbol is
    added — by `Entering` at most `max 1 K` — and the result is `Settled` -/
theorem dispatch_growth {e : Editor D L} (hw : Capped cap B K e) (ev : KeyEvent) :
    ResAll (fun x => Keep e.shared x.1 ∧ Settled cap x ∧
      (x.1.com.len ≤ e.shared.com.len + 1 ∨ e.state = .entering ∧ x.1.com.len ≤ e.shared.com.len + max 1 K))
      (dispatch env e ev) := by
  have hlen := hw.len
  refine dispatch_all env (fun hs sh' t hr => ?_) (fun hs sh' t hr => ?_) (fun s hs r hr => ?_) (fun m hs x hr => ?_) <;>
    rw [hs] at hlen
  · have ⟨h1, h2, h3⟩ := gstep_enteringNext env (Nat.le_max_left 1 K) (preamble e.shared)
      (fun p hp => Nat.le_trans (hw.cfg.abbr p hp) (Nat.le_max_right _ _)) ev sh' t hr
    refine ⟨h1.trans (applyTrans_keep ..), ?_, .inr ⟨hs, by rw [applyTrans_com]; exact h2⟩⟩
    rcases h3 with rfl | h3
    · exact .inl rfl
    · exact hcap.settled t hlen h3 (Nat.le_refl _)
  · have ⟨h1, h2, h3⟩ := sstep_enteringSyllableNext env (preamble e.shared) ev sh' t hr
    refine ⟨h1.trans (applyTrans_keep ..), ?_, .inl (by rw [applyTrans_com]; exact h2)⟩
    rcases h3 with rfl | rfl | ⟨s, rfl⟩ | h3
    · exact .inl rfl
    · exact .inl rfl
    · -- the simple engine's one-word list, opened over the syllable just inserted
      exact .inr (Nat.le_trans h2 (hcap.sel s ▸ Nat.add_le_add_right (hcap.syl ▸ hlen) 1))
    · exact hcap.settled t hlen h3 (hcap.syl ▸ hcap.ge _)
  · have hg := selectingNext_growth env s (preamble e.shared) ev r hr
    exact ⟨hg.1.trans (applyTrans_keep ..), SelOK.settled hcap hlen hg, .inl (by rw [applyTrans_com]; exact hg.2.1)⟩
  · have ⟨h1, h2, h3⟩ := highlighting_growth env m (preamble e.shared) ev _ hr
    rw [hcap.hl, ← hcap.hl x.2.1] at hlen
    exact ⟨h1.trans (applyTrans_keep ..), hcap.settled x.2.2 hlen (Nat.le_of_eq h2) (Nat.le_of_eq (hcap.hl _)),
      .inl (by rw [applyTrans_com, h2]; exact Nat.le_add_right _ _)⟩

/-- the auto-commit / flush tail of a key or a `select` call -/
theorem tail_capped {sh : Shared D L} {st : St} (hc : Cfg B K sh) (hs : Settled cap (sh, st)) (hac : ACBound env sh) :
    ResAll (fun sh2 => Cfg B K sh2 ∧ sh2.com.len ≤ cap st)
      (if (st == .entering || st == .enteringSyllable) && sh.last == .absorb then Shared.tryAutoCommit env sh
        else .ok sh) :=
  .ite (fun _ sh2 h => ⟨hc.keep (tryAutoCommit_keep env sh _ h).1,
      Nat.le_trans (hac sh2 h) (Nat.le_trans hc.thr (hcap.ge st))⟩)
    fun hcond => .ok ⟨hc, hs.resolve_left hcond⟩

theorem key_capped {e e' : Editor D L} (hw : Capped cap B K e) {ev : KeyEvent} {b : KB}
    (hac : ∀ sh, Mid env e (.key ev) sh → ACBound env sh) (h : e.processKey env ev = .ok (e', b)) :
    Capped cap B K e' := by
  obtain ⟨sh, st, hd, h2⟩ := processKey_split env h
  obtain ⟨hk, hs, _⟩ := dispatch_growth env hcap hw ev _ hd
  obtain ⟨hst, _, sh2, h3, h4⟩ := tail_spec env h2
  obtain ⟨c1, c2⟩ := tail_capped env hcap (hw.cfg.keep hk) hs (hac sh ⟨st, hd⟩) _ h3
  have e1 : Keep sh2 e'.shared ∧ e'.shared.com = sh2.com := by
    rw [h4]; split <;> exact ⟨⟨rfl, rfl, rfl, rfl⟩, rfl⟩
  exact ⟨c1.keep e1.1, by rw [e1.2, hst]; exact c2⟩

/-! ### the other public operations -/

theorem select_capped {e e' : Editor D L} (hw : Capped cap B K e) {n : Nat} {b : Bool}
    (hac : ∀ sh, Mid env e (.select n) sh → ACBound env sh) (h : e.select env n = .ok (e', b)) :
    Capped cap B K e' :=
  editorSelect_all (Q := fun x => Capped cap B K x.1) env (fun _ => hw)
    (fun s s' sh0 t _ hs hq hr =>
      have hg : SelOK e.shared sh0 t := select_growth env s e.shared n _ hq
      have ⟨c1, c2⟩ := tail_capped env hcap (hw.cfg.keep (hg.1.trans (applyTrans_keep ..)))
        (SelOK.settled hcap (hs ▸ hw.len) hg) (hac _ ⟨s, s', sh0, t, hs, hq, rfl⟩) _ hr
      ⟨c1, c2⟩) _ h

/-- the calls other than a key and `select(n)`: none lengthens the buffer, and the new state allows what the old one
    allowed — except `Entering` after a list was closed without an auto-commit (`hq`) -/
theorem apiEff_capped {e : Editor D L} (hw : Capped cap B K e) {op : Op L} (ht : ThrOp B op)
    (hq : ClosesList op → Quiet (cap .entering) e) {sh : Shared D L} {st : St} (h : ApiEff env e op sh st) :
    Capped cap B K ⟨sh, st⟩ := by
  induction h with
  | same => exact hw
  | opened _ _ s =>
    -- the cursor is saved and clamped; an open list allows what every state allows
    exact ⟨hw.cfg.keep ⟨rfl, rfl, rfl, rfl⟩,
      Nat.le_trans (Nat.le_of_eq (clampCursor_len _)) (Nat.le_trans hw.len (hcap.sel s ▸ hcap.le _))⟩
  | cancelled s hs =>
    exact ⟨hw.cfg.keep ⟨rfl, rfl, rfl, rfl⟩, Nat.le_trans (Nat.le_of_eq (popCursor_len _)) (hq (.inr rfl) s hs)⟩
  | committed _ _ _ hc =>
    have ⟨hk, hcom⟩ := commit_keep env e.shared _ hc
    exact ⟨hw.cfg.keep hk, by rw [hcom, clear_len]; exact Nat.zero_le _⟩
  | cleared =>
    exact ⟨hw.cfg.keep ⟨rfl, rfl, rfl, rfl⟩, by show e.shared.com.clear.len ≤ _; rw [clear_len]; exact Nat.zero_le _⟩
  | options => exact ⟨⟨ht, hw.cfg.abbr⟩, hw.len⟩
  | dict _ _ hf =>
    have ⟨hk, hc⟩ := keep_learnFrame hf
    exact ⟨hw.cfg.keep hk, hc ▸ hw.len⟩
  | left _ ih => exact ⟨(ih ht hq).cfg, Nat.le_trans (hcap.syl ▸ (ih ht hq).len) (hcap.ge _)⟩
  | relisted s s' _ _ ih => exact ⟨(ih ht hq).cfg, hcap.sel s' ▸ hcap.sel s ▸ (ih ht hq).len⟩
  | closed _ s ho _ hs hc ih =>
    exact ⟨(ih ht hq).cfg.keep ⟨rfl, rfl, rfl, rfl⟩,
      Nat.le_trans (Nat.le_of_eq ((popCursor_len _).trans (congrArg _ hc))) (hq (.inl ho) s hs)⟩
  | _ => exact ⟨hw.cfg.keep ⟨rfl, rfl, rfl, rfl⟩, hw.len⟩

/-- **every public operation keeps the bound per state**: new options within `B`; a call that can close a list
    without an auto-commit finds the buffer within the bound of `Entering`; and the auto-commit's own bound at the
    state(s) it runs in -/
theorem apply_capped {e e' : Editor D L} (hw : Capped cap B K e) (op : Op L) (ht : ThrOp B op)
    (hq : ClosesList op → Quiet (cap .entering) e) (hac : ∀ sh, Mid env e op sh → ACBound env sh)
    (h : e.apply env op = .ok e') : Capped cap B K e' :=
  apply_cases h (fun _ _ ho hr => key_capped env hcap hw (ho ▸ hac) hr)
    (fun _ _ ho hr => select_capped env hcap hw (ho ▸ hac) hr) (apiEff_capped env hcap hw ht hq)

end cap

/-! ## `Within` -/

theorem within_of_state {B K : Nat} {sh : Shared D L} {st : St} (hc : Cfg B K sh) (hl : sh.com.len ≤ B) :
    Within B K { shared := sh, state := st } :=
  ⟨hc, Nat.le_trans hl ((lenCap_ok B).ge st)⟩

/-- the side conditions of the operations: new options stay within `B`; the calls that can close a candidate list
    without an auto-commit (`ClosesList`) are not made over the over-full one-word list -/
def SafeOp (B : Nat) (e : Editor D L) : Op L → Prop
  | .setOptions o => o.autoCommitThreshold ≤ B ∧ Quiet B e
  | .cancelSelecting => Quiet B e
  | .setLayout _ => Quiet B e
  | .learn _ _ => Quiet B e
  | .unlearn _ _ => Quiet B e
  | _ => True

theorem SafeOp.thr {B : Nat} {e : Editor D L} {op : Op L} (h : SafeOp B e op) : ThrOp B op := by
  cases op with
  | setOptions o => exact h.1
  | _ => trivial

theorem SafeOp.quiet {B : Nat} {e : Editor D L} {op : Op L} (h : SafeOp B e op) (hc : ClosesList op) : Quiet B e := by
  cases op with
  | setOptions o => exact h.2
  | cancelSelecting | setLayout _ | learn _ _ | unlearn _ _ => exact h
  | _ => exact (hc.elim id nofun).elim

/-- **every public operation keeps the invariant** — under the side conditions `SafeOp`, with the auto-commit's
    own bound at the state(s) it runs in -/
theorem within_apply {B K : Nat} {e e' : Editor D L} (hw : Within B K e) (op : Op L)
    (hs : SafeOp B e op) (hac : ∀ sh, Mid env e op sh → ACBound env sh) (h : e.apply env op = .ok e') :
    Within B K e' :=
  have ⟨c, l⟩ := apply_capped env (lenCap_ok B) ⟨hw.cfg, hw.len⟩ op hs.thr hs.quiet hac h
  ⟨c, l⟩

/-- **the states inside a step**: where the auto-commit converts, the buffer holds at most `B + max 2 K` symbols
    (and the configuration is the pre-state's) -/
theorem mid_len {B K : Nat} {e : Editor D L} (hw : Within B K e) {op : Op L} {sh : Shared D L}
    (hm : Mid env e op sh) : Cfg B K sh ∧ sh.com.len ≤ B + max 2 K := by
  have hlen := hw.len
  cases op with
  | key ev =>
    obtain ⟨st, hd⟩ := hm
    have ⟨hk, _, hl⟩ := dispatch_growth env (lenCap_ok B) ⟨hw.cfg, hw.len⟩ ev _ hd
    refine ⟨hw.cfg.keep hk, ?_⟩
    rcases hl with hl | ⟨hs, hl⟩
    · exact Nat.le_trans hl (Nat.le_trans (Nat.add_le_add_right (Nat.le_trans hlen ((lenCap_ok B).le _)) 1)
        (Nat.add_le_add_left (Nat.le_max_left 2 K) B))
    · -- only `Entering`, whose bound is `B`, adds more than one symbol
      rw [hs] at hlen
      exact Nat.le_trans hl (Nat.add_le_add hlen
        (Nat.max_le.mpr ⟨Nat.le_trans (Nat.le_succ 1) (Nat.le_max_left 2 K), Nat.le_max_right 2 K⟩))
  | select n =>
    obtain ⟨s, s', sh0, t, hs, hq, rfl⟩ := hm
    have hg : SelOK e.shared sh0 t := select_growth env s e.shared n _ hq
    have h2 := hg.2.1
    rw [hs] at hlen
    refine ⟨hw.cfg.keep (hg.1.trans (applyTrans_keep ..)), ?_⟩
    rw [applyTrans_com]
    exact Nat.le_trans h2 (Nat.le_trans (Nat.add_le_add_right hlen 1) (Nat.add_le_add_left (Nat.le_max_left 2 K) B))
  | startSelecting | cancelSelecting | commit | clear | ack | clearSyl | setOptions _ | setLayout _ | setEngine _
  | learn _ _ | unlearn _ _ | jump _ => exact hm.elim

/-! ## histories -/

/-- the side conditions along a history -/
def SafeAlong (B : Nat) : Editor D L → List (Op L) → Prop
  | _, [] => True
  | e, op :: ops => SafeOp B e op ∧ ∀ e', e.apply env op = .ok e' → SafeAlong B e' ops

/-- the auto-commit's own bound at every state inside the history where it runs -/
def ACAlong : Editor D L → List (Op L) → Prop
  | _, [] => True
  | e, op :: ops => (∀ sh, Mid env e op sh → ACBound env sh) ∧ ∀ e', e.apply env op = .ok e' → ACAlong e' ops

/-- a history of keys needs no side condition -/
theorem safeAlong_keys (B : Nat) (keys : List KeyEvent) : ∀ e : Editor D L, SafeAlong env B e (keys.map .key) := by
  induction keys with
  | nil => intro e; trivial
  | cons k ks ih => intro e; exact ⟨trivial, fun e' _ => ih e'⟩

end Chewing.Bound
