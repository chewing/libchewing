import Chewing.Proofs.EditorPure
/-!
The process around the C contexts (C17 "contexts are independent", creation included).

`chewing_new2(syspath, userpath, logger, data)` reads the system data directory named by ITS
`syspath` (`word.dat` + `tsi.dat` + `dictionary.d/*`, else the built-in dictionary; `swkb.dat`;
`symbols.dat`), the user dictionary at ITS `userpath` (and the estimator clock from it), and fixes
everything else (layout, engine, options) to constants of the code.  `CreateArgs` = what these
files hold at creation; `Ctx.create` = the context made of them.

`Proc` = the live contexts of a process by id plus the named shared process state: the logger slot
(`LogSlot`, finding F33) — the `OWNED` registry is pointer bookkeeping (`Model/Owned.lean`, C15) and
has no component here because no call result reads it.  `Proc.step` is the claim under test: a
creation reads nothing but its own arguments, a call reads and writes nothing but its own context.
That the CODE has no further process-wide item is the translator's job
(`tools/extractors/process_state.py` → `Gen/ProcessState.lean`: every `static` / `thread_local!` /
lazily initialised item of `capi/src` and `src`, classified, fails closed on a new stateful one), and the
paired executions of `capi_pure.rs` section D run exactly the experiment of `creation_args_local`
on the real C API (contexts with different data directories in one process vs. each alone in a fresh
process).
-/
namespace Chewing

/-- what `chewing_new2` finds under the paths it is given -/
structure CreateArgs (D : Type) where
  /-- `Layered(system dictionaries of syspath (or the built-in one), user dictionary at userpath)` -/
  dict : D
  /-- `swkb.dat` of syspath (empty when absent) -/
  abbr : List (Nat × Text)
  /-- `symbols.dat` of syspath (empty when absent) -/
  symSel : SymSel
  /-- `LaxUserFreqEstimate::max_from(user dictionary)` -/
  time : Nat
  /-- a logger callback is passed -/
  withLogger : Bool

/-- what the code of `chewing_new2` fixes for every context: `Qwerty` / `KeyboardLayoutCompat::Default`,
    `ChewingEngine`, default `EditorOptions` -/
structure NewDefaults (L : Type) where
  syl : L
  engine : EngineKind
  options : Options

variable {D L : Type}

/-- `chewing_new2`: the context is a function of the defaults of the code and of ITS arguments -/
def Ctx.create (dflt : NewDefaults L) (a : CreateArgs D) : Ctx D L :=
  Ctx.fresh { syl := dflt.syl, engine := dflt.engine, dict := a.dict, abbr := a.abbr, symSel := a.symSel,
              options := dflt.options, time := a.time }

/-- the process: live contexts by id, and the shared logger slot -/
structure Proc (D L : Type) where
  ctxs : Nat → Option (Ctx D L)
  logger : LogSlot

def Proc.empty : Proc D L := { ctxs := fun _ => none, logger := none }

/-- a C call of the application, tagged with the context it is made on -/
inductive PCall (D L : Type) where
  | new2 (id : Nat) (a : CreateArgs D)
  | call (id : Nat) (c : CCall L)
  | delete (id : Nat)

def PCall.id : PCall D L → Nat
  | .new2 i _ => i
  | .call i _ => i
  | .delete i => i

/-- what the application sees of one call -/
inductive PEv where
  /-- `chewing_new2` returned a context -/
  | created
  | ev (e : CEv)
  | deleted
deriving DecidableEq

def Proc.set (p : Proc D L) (id : Nat) (c : Option (Ctx D L)) : Proc D L :=
  { p with ctxs := fun j => if j = id then c else p.ctxs j }

variable (env : Env D L) (dflt : NewDefaults L)

/-- one call on one context: an operation or a query (`Ctx.trace` of a single call) -/
def Ctx.call (c : Ctx D L) : CCall L → Outcome (Ctx D L × CEv)
  | .op o => (c.cop env o).map fun r => (r.1, .ret r.2)
  | .q q => .ok ((c.cquery env q).1, .ans (c.cquery env q).2)

/-- one call of the application.  A call on an id that is not live (use after delete, double create of
    a live id) is outside the model: it is ignored without an event. -/
def Proc.step (p : Proc D L) : PCall D L → Outcome (Proc D L × Option (Nat × PEv))
  | .new2 id a =>
    match p.ctxs id with
    | some _ => .ok (p, none)
    | none =>
      .ok ({ (p.set id (some (Ctx.create dflt a))) with logger := (p.logger.step (.new2 id a.withLogger)).1 },
           some (id, .created))
  | .call id c =>
    match p.ctxs id with
    | none => .ok (p, none)
    | some x =>
      match x.call env c with
      | .ok (x', e) => .ok (p.set id (some x'), some (id, .ev e))
      | .panic s => .panic s
      | .outOfFuel => .outOfFuel
  | .delete id =>
    match p.ctxs id with
    | none => .ok (p, none)
    | some _ => .ok ({ (p.set id none) with logger := (p.logger.step (.delete id)).1 }, some (id, .deleted))

/-- append the event of a step, if it has one -/
def pushEv {α : Type} : Option α → List α → List α
  | some x, l => x :: l
  | none, l => l

def Proc.run (p : Proc D L) : List (PCall D L) → Outcome (Proc D L × List (Nat × PEv))
  | [] => .ok (p, [])
  | c :: cs =>
    match p.step env dflt c with
    | .ok (p', e) => (Proc.run p' cs).map fun r => (r.1, pushEv e r.2)
    | .panic s => .panic s
    | .outOfFuel => .outOfFuel

theorem Proc.run_collects :
    Collects (fun (p : Proc D L) c => (p.step env dflt c).map fun r => (r.1, r.2.toList)) (Proc.run env dflt) :=
  ⟨fun _ => rfl, fun p c _ => by
    rw [Proc.run]
    rcases p.step env dflt c with ⟨_, _ | _⟩ | _ | _ <;> rfl⟩

/-- the calls made on context `id` -/
def PCall.only (id : Nat) (h : List (PCall D L)) : List (PCall D L) := h.filter (fun c => c.id == id)

/-- the events of context `id` -/
def PEv.only (id : Nat) (es : List (Nat × PEv)) : List (Nat × PEv) := es.filter (fun e => e.1 == id)

/-- a step that returns either ignores the call, or replaces the context under the call's id — no other — and reports
    one event under that id -/
theorem Proc.step_shape {p p' : Proc D L} {c : PCall D L} {e : Option (Nat × PEv)} (h : p.step env dflt c = .ok (p', e)) :
    (p' = p ∧ e = none) ∨
    ∃ x ev, (∀ j, p'.ctxs j = if j = c.id then x else p.ctxs j) ∧ e = some (c.id, ev) := by
  cases c with
  | new2 j a =>
    simp only [Proc.step] at h
    split at h <;> cases h
    · exact .inl ⟨rfl, rfl⟩
    · exact .inr ⟨some (Ctx.create dflt a), .created, fun _ => rfl, rfl⟩
  | call j c =>
    simp only [Proc.step] at h
    split at h
    · cases h; exact .inl ⟨rfl, rfl⟩
    · split at h <;> cases h
      next x' ev _ => exact .inr ⟨some x', .ev ev, fun _ => rfl, rfl⟩
  | delete j =>
    simp only [Proc.step] at h
    split at h <;> cases h
    · exact .inl ⟨rfl, rfl⟩
    · exact .inr ⟨none, .deleted, fun _ => rfl, rfl⟩

/-- a call on another context leaves context `id` as it is and shows nothing of it -/
theorem Proc.step_other (p p' : Proc D L) (c : PCall D L) (e : Option (Nat × PEv)) (id : Nat) (hne : c.id ≠ id)
    (h : p.step env dflt c = .ok (p', e)) : p'.ctxs id = p.ctxs id ∧ ∀ x, e = some x → x.1 ≠ id := by
  rcases Proc.step_shape env dflt h with ⟨rfl, rfl⟩ | ⟨x, ev, hc, rfl⟩
  · exact ⟨rfl, fun _ hx => nomatch hx⟩
  · exact ⟨by rw [hc, if_neg fun he => hne he.symm], fun _ hx => by cases hx; exact hne⟩

/-- what a step does to the context under the call's id, and the event it reports, depend on that context only -/
theorem Proc.step_congr (p q : Proc D L) (c : PCall D L) (h : p.ctxs c.id = q.ctxs c.id) :
    (p.step env dflt c).map (fun r => (r.1.ctxs c.id, r.2)) = (q.step env dflt c).map fun r => (r.1.ctxs c.id, r.2) := by
  cases c with
  | call j c =>
    simp only [Proc.step, PCall.id] at h ⊢
    rw [h]
    cases hq : q.ctxs j with
    | none => simp [Outcome.map, h, hq]
    | some x => cases hx : x.call env c <;> simp [Outcome.map, Proc.set, hx]
  | _ =>
    simp only [Proc.step, PCall.id] at h ⊢
    rw [h]
    cases hq : q.ctxs _ <;> simp [Outcome.map, Proc.set, h, hq]

/-- a call on context `id` reads nothing but context `id`: two processes that agree on `id` make the same
    step on it (same event, tagged `id`; same new context), whatever else they hold — other contexts, logger slot -/
theorem Proc.step_own (p q p' : Proc D L) (c : PCall D L) (e : Option (Nat × PEv)) (id : Nat) (hid : c.id = id)
    (hpq : p.ctxs id = q.ctxs id) (h : p.step env dflt c = .ok (p', e)) :
    (∃ q', q.step env dflt c = .ok (q', e) ∧ p'.ctxs id = q'.ctxs id) ∧ ∀ x, e = some x → x.1 = id := by
  refine ⟨?_, fun x hx => ?_⟩
  · subst hid
    have hc := Proc.step_congr env dflt p q c hpq
    rw [h] at hc
    obtain ⟨⟨q', _⟩, hq, he⟩ := Outcome.of_map_ok hc.symm
    injection he with h1 h2
    subst h2
    exact ⟨q', hq, h1.symm⟩
  · rcases Proc.step_shape env dflt h with ⟨_, rfl⟩ | ⟨_, _, _, rfl⟩ <;> cases hx
    exact hid

/-- **a context's behaviour is a function of ITS creation arguments and ITS call history only**:
    whatever else happens in the process `p` — other contexts created before or after it with other
    arguments, their calls interleaved anywhere, their deletion — a history that runs to completion shows, for
    context `id`, exactly the events of the calls on `id` run by themselves in a process `q` that agrees with
    `p` on `id` only (e.g. the empty process: "alone in a fresh process") -/
theorem Proc.run_local (id : Nat) (h : List (PCall D L)) :
    ∀ (p q p' : Proc D L) (es : List (Nat × PEv)), p.ctxs id = q.ctxs id → p.run env dflt h = .ok (p', es) →
      ∃ q', q.run env dflt (PCall.only id h) = .ok (q', PEv.only id es) ∧ p'.ctxs id = q'.ctxs id := by
  refine (Proc.run_collects env dflt).sim (Proc.run_collects env dflt) (fun p q => p.ctxs id = q.ctxs id)
    (F := PCall.only id) (G := PEv.only id) rfl rfl h (fun c _ p q p1 es hpq hs => ?_)
  obtain ⟨⟨_, e⟩, hs', heq⟩ := Outcome.of_map_ok hs
  cases heq
  by_cases hc : c.id = id
  · -- a call on `id`: the same step in `q`, and its event is tagged `id`
    obtain ⟨⟨q1, hq1, h1⟩, htag⟩ := Proc.step_own env dflt p q _ c e id hc hpq hs'
    refine .inl ⟨c, q1, e.toList, by rw [hq1]; rfl, h1, fun _ => by simp [PCall.only, hc], fun _ => ?_⟩
    cases e with
    | none => rfl
    | some x => simp [PEv.only, htag x rfl]
  · -- a call on another context: invisible for `id`
    obtain ⟨h1, hne⟩ := Proc.step_other env dflt p _ c e id hc hs'
    refine .inr ⟨h1.trans hpq, fun _ => by simp [PCall.only, hc], fun _ => ?_⟩
    cases e with
    | none => rfl
    | some x => simp [PEv.only, hne x rfl]

end Chewing
