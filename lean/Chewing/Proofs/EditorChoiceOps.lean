import Chewing.Proofs.EditorChoiceKeys
import Chewing.Proofs.EditorChoiceSel
import Chewing.Proofs.EditorLink
import Chewing.Proofs.EditorApi
/-!
# C04 at the editor level, part 4: every public operation = one edit of a listed kind + at most one auto-commit

`keyKinds e ev` / `opKinds e op` list, from the PRE-state and the key / operation alone, the kinds of edit the
step can make (`Proofs/EditorChoiceKeys.lean`, `Proofs/EditorChoiceSel.lean`: arm by arm).  `apply_shape`:
every operation that returns went through an edited state `mid` with `Did (opKinds e op) e.shared.com mid.com`,
whose composition satisfies C04's invariant (`CompInv`), and ended with nothing more or with the
`remove_front n` of an auto-commit (`AutoCommit`).
-/
namespace Chewing.C04
open Chewing.C01 Chewing.C06

variable {D L : Type} {env : Env D L} {G : D → Prop} {w : Prop}

/-- **which kinds of edit the key `ev` can make in the state `e`** (pre-state and key only) -/
def keyKinds (e : Editor D L) (ev : KeyEvent) : List Kind :=
  match e.state with
  | .entering => enteringKinds (preamble e.shared) ev
  | .enteringSyllable => syllableKinds (preamble e.shared) ev
  | .selecting s => selectingKinds s ev
  | .highlighting _ => [.none]

/-- **which kinds of edit the public operation `op` can make in the state `e`** -/
def opKinds (e : Editor D L) : Op L → List Kind
  | .key ev => keyKinds e ev
  | .select _ =>
    match e.state with
    | .selecting s => selectKinds s
    | _ => [.none]
  | .commit => [.none, .clear]
  | .clear => [.clear]
  | _ => [.none]

/-- the state-machine part of a key makes one edit of a kind in `keyKinds` -/
theorem dispatch_did {e : Editor D L} {ev : KeyEvent} {sh : Shared D L} {st : St}
    (h : dispatch env e ev = .ok (sh, st)) : Did (keyKinds e ev) e.shared.com sh.com := by
  obtain ⟨esh, est⟩ := e
  unfold dispatch at h
  unfold keyKinds
  cases est <;> obtain ⟨x, hr, hx⟩ := Outcome.of_map_ok h <;>
    obtain rfl : (applyTrans _ _ _).1 = sh := congrArg Prod.fst hx <;> rw [applyTrans_com]
  · exact estep_enteringNext env _ ev _ _ hr
  · exact estep_enteringSyllableNext env _ ev _ _ hr
  · exact esel_selectingNext env _ (preamble esh) ev _ hr
  · exact highlighting_did env _ (preamble esh) ev _ hr

/-- **the auto-commit that ends a step**: the leading intervals of the conversion of the edited state `mid`
    were committed (`commitBuf`) and their `n` symbols removed from the front of the buffer -/
structure AutoCommit (env : Env D L) (mid : Shared D L) (e' : Editor D L) (n : Nat) : Prop where
  /-- it runs only when the buffer is over the limit -/
  over : mid.options.autoCommitThreshold < mid.com.len
  cut : mid.com.inner.removeFront n = .ok e'.shared.com.inner
  take : ∃ ivs, Shared.conversion env mid = .ok ivs ∧
    Shared.autoCommitTake mid.com.len mid.options.autoCommitThreshold ivs [] 0 = .ok (e'.shared.commitBuf, n)

/-- how a step ends: nothing more happens to the composition, or one auto-commit -/
def Tail (env : Env D L) (mid : Shared D L) (e' : Editor D L) : Prop :=
  e'.shared.com.inner = mid.com.inner ∨ ∃ n, AutoCommit env mid e' n

theorem tail_of_tryAutoCommit {c : Prop} [Decidable c] {mid sh2 : Shared D L} {e' : Editor D L}
    (h1 : (if c then Shared.tryAutoCommit env mid else .ok mid) = .ok sh2)
    (hcom : e'.shared.com = sh2.com) (hbuf : e'.shared.commitBuf = sh2.commitBuf) : Tail env mid e' := by
  split at h1
  · obtain ⟨-, rfl⟩ | ⟨n, com, buf, hcut, rfl, hover, ivs, hconv, htake⟩ := Chewing.tryAutoCommit_cases env mid _ h1
    · exact .inl (by rw [hcom])
    · exact .inr ⟨n, hover, hcom ▸ withInner_inner (fun _ => rfl) hcut, ivs, hconv, hbuf ▸ htake⟩
  · cases h1; exact .inl (by rw [hcom])

/-! ## the public entry points that are not keys -/

/-- C01's invariant after an operation that returned -/
theorem apply_inv (hE : EnvOK env G) {e e' : Editor D L} (hi : EditorInv env G w e) {op : Op L} (hv : OpValid op)
    (hk : w → ¬ Known env e op) (h : e.apply env op = .ok e') : EditorInv env G w e' :=
  OkAnd.get (apply_ok hE hi op hv hk) h

/-- the calls other than a key and `select(n)`: the buffer is cleared (`commit`, `clear`) or its composition is as before -/
theorem apiEff_did {e : Editor D L} {op : Op L} {sh' : Shared D L} {st' : St} (h : ApiEff env e op sh' st') :
    Did (opKinds e op) e.shared.com sh'.com := by
  induction h with
  | same ho => obtain rfl | rfl | ⟨w, rfl⟩ := ho <;> exact did_none rfl
  | opened => exact did_none (C01.clampCursor_inner _)
  | cancelled => exact did_none (C01.popCursor_inner _)
  | committed _ _ _ hq => exact commit_com env e.shared _ hq ▸ did_clear _ (.tail _ (.head _))
  | cleared => exact did_clear _ (.head _)
  | dict _ ho hf => obtain ⟨k, p, rfl | rfl⟩ := ho <;> exact did_none (congrArg (·.inner) hf.fields.1)
  | left _ ih | relisted _ _ _ _ ih => exact ih
  | closed _ _ _ _ _ _ ih => exact ih.inner (C01.popCursor_inner _)
  | _ => exact did_none rfl

/-- **every public operation = one edit of a kind in `opKinds`, then at most one auto-commit**; the edited state
    satisfies the composition invariant -/
theorem apply_shape (hE : EnvOK env G) {e e' : Editor D L} (hi : EditorInv env G w e) (op : Op L) (hv : OpValid op)
    (hk : w → ¬ Known env e op) (h : e.apply env op = .ok e') :
    ∃ mid : Shared D L, Did (opKinds e op) e.shared.com mid.com ∧ CompInv mid.com.inner ∧ Tail env mid e' := by
  -- the calls without a commit path (`ApiEff`): the result is the edited state
  refine apply_cases h (fun ev _ ho hr => ?_) (fun n _ ho hr => ?_) fun ha =>
    ⟨e'.shared, apiEff_did ha, (apply_inv hE hi hv hk h).sh.ced.inner.comp, .inl rfl⟩
  · subst ho
    obtain ⟨mid, st, hd, ht⟩ := C05.processKey_split env hr
    obtain ⟨sh2, h1, hcom, _, hbuf, _, _⟩ := C05.tail_com env ht
    exact ⟨mid, dispatch_did hd, (Link.dispatch_shInv hE hi ev hd).ced.inner.comp, tail_of_tryAutoCommit h1 hcom hbuf⟩
  · subst ho
    obtain ⟨m, hm, -, hx⟩ := C02.select_path env e n _ hr
    refine ⟨m, ?_, (Link.editPart_shInv hE hi (.select n) hv hk hm).ced.inner.comp, ?_⟩
    · simp only [C02.editPart, opKinds] at hm ⊢
      split at hm
      · next s hs =>
        obtain ⟨x, hq, rfl⟩ := Outcome.of_map_ok hm
        rw [hs, applyTrans_com]
        exact select_did env s e.shared n _ hq
      · cases hm
        split
        · exact did_none_select rfl
        · exact did_none rfl
    · rcases hx with ⟨rfl, -⟩ | ⟨-, -, -, hac, -⟩
      · exact .inl rfl
      · exact tail_of_tryAutoCommit (c := True) ((if_pos trivial).trans hac) rfl rfl

end Chewing.C04
