import Chewing.Proofs.LayoutEffect
/-!
Soundness of a single-syllable layout (`SoundLayout`): from a composable state (`Comp`, `LayoutEffect`) every `press`
returns a composable state and never `Fuzzy`; lifted to the trait's `fuzzy_key_press`, to single operations and to
runs (`run_ok`).  The four table-driven layouts are sound because their tables hold symbols (`tables_syms`);
`sound_hsu`, `sound_et26`, `sound_dc26` are projections of the press specifications in `LayoutUnreach26`.
-/
namespace Chewing
open Gen

theorem update_pres {c b : Nat} (hb : b < 41) (hc : Comp c) : ∃ c', update c b = some c' ∧ Comp c' :=
  have ⟨c', h, hc', _⟩ := update_eff hc hb
  ⟨c', h, hc'⟩

theorem condSym_lt {c cond a b : Nat} (ha : a < 41) (hb : b < 41) : condSym c cond a b < 41 :=
  (condSym_cases c cond a b).elim (fun e => e.symm ▸ ha) fun e => e.symm ▸ hb

/-- result of a press: some behaviour other than `Fuzzy`, and a composable state -/
def PressOk (r : PressResult) : Prop := ∃ b c', r = some (b, c') ∧ Comp c' ∧ (∀ s, b ≠ .fuzzy s)

theorem pressOk_map {o : Option Nat} {b : Behavior} (h : ∃ c', o = some c' ∧ Comp c') (hb : ∀ s, b ≠ .fuzzy s) :
    PressOk (o.map fun c' => (b, c')) := by
  obtain ⟨c', rfl, hc'⟩ := h
  exact ⟨b, c', rfl, hc', hb⟩

theorem pressOk_some {b : Behavior} {c : Nat} (hc : Comp c) (hb : ∀ s, b ≠ .fuzzy s) : PressOk (some (b, c)) :=
  ⟨b, c, rfl, hc, hb⟩

theorem tablePress_ok {tbl : List (Nat × Nat)} (ht : ∀ row ∈ tbl, row.2 < 42)
    {c : Nat} (hc : Comp c) (k : KeyEv) : PressOk (tablePress tbl c k) := by
  unfold tablePress
  split
  · exact pressOk_some hc nofun
  · rename_i b hl
    have hb : b < 42 := by
      unfold tableLookup at hl
      cases hf : tbl.find? (·.1 == k.index) with
      | none => simp [hf] at hl
      | some row =>
        simp [hf] at hl
        have := ht _ (List.mem_of_find?_eq_some hf)
        omega
    have lt41 (h : (b == Sym.TONE1) = false) : b < 41 := by
      have : b ≠ 41 := by simpa [Sym.TONE1] using h
      omega
    split
    · split
      · split
        · next h1 => exact pressOk_map (update_pres (lt41 (by simpa using h1)) hc) nofun
        · exact pressOk_some hc nofun
      · split
        · exact pressOk_some hc nofun
        · next h1 => exact pressOk_map (update_pres (lt41 (by simpa using h1)) hc) nofun
    · split
      · exact pressOk_some (comp_removeTone hc) nofun
      · next h1 => exact pressOk_map (update_pres (lt41 (by simpa using h1)) (comp_removeTone hc)) nofun

def SoundLayout (L : Layout) : Prop := ∀ c k, Comp c → PressOk (L.press c k)

/-- outcome of any operation: no panic, a composable state, and a `Fuzzy(s)` carries a composable,
    non-empty `s` -/
def StepOk (r : PressResult) : Prop :=
  ∃ b c', r = some (b, c') ∧ Comp c' ∧ (∀ s, b = .fuzzy s → Comp s ∧ s ≠ emptyPattern)

theorem PressOk.stepOk {r : PressResult} (h : PressOk r) : StepOk r := by
  obtain ⟨b, c', rfl, hc', hb⟩ := h
  exact ⟨b, c', rfl, hc', fun s hs => absurd hs (hb s)⟩

theorem fuzzyPress_ok {L : Layout} (hL : SoundLayout L) {c : Nat} (hc : Comp c) (k : KeyEv) :
    StepOk (L.fuzzyPress c k) := by
  unfold Layout.fuzzyPress
  split
  · exact (hL c k hc).stepOk
  · obtain ⟨b, n, hn, hcn, _⟩ := hL clearSyl k comp_clear
    rw [hn]
    simp only
    split
    · rename_i hcond
      refine ⟨.fuzzy c, n, rfl, hcn, ?_⟩
      intro s hs
      cases hs
      refine ⟨hc, comp_has_ne ?_⟩
      simp only [Bool.or_eq_true, Bool.and_eq_true] at hcond
      rcases hcond with (⟨h, _⟩ | ⟨h, _⟩) | ⟨h, _⟩
      · exact Or.inl h
      · exact Or.inr (Or.inl h)
      · exact Or.inr (Or.inr h)
    · exact (hL c k hc).stepOk

theorem step_ok {L : Layout} (hL : SoundLayout L) {c : Nat} (hc : Comp c) (op : LOp) : StepOk (L.step c op) := by
  cases op with
  | key k => exact (hL c k hc).stepOk
  | fuzzyKey k => exact fuzzyPress_ok hL hc k
  | removeLast => exact ⟨.absorb, _, rfl, comp_removeLast hc, by intro s h; cases h⟩
  | clear => exact ⟨.absorb, _, rfl, comp_clear, by intro s h; cases h⟩

theorem run_ok {L : Layout} (hL : SoundLayout L) : ∀ (ops : List LOp) (c : Nat), Comp c →
    ∃ tr, L.run c ops = some tr ∧ ∀ x ∈ tr, Comp x.2 ∧ ∀ s, x.1 = .fuzzy s → Comp s ∧ s ≠ emptyPattern := by
  intro ops
  induction ops with
  | nil => intro c _; exact ⟨[], rfl, by simp⟩
  | cons op ops ih =>
    intro c hc
    obtain ⟨b, c', hs, hc', hf⟩ := step_ok hL hc op
    obtain ⟨tr, htr, hall⟩ := ih c' hc'
    refine ⟨(b, c') :: tr, by simp [Layout.run, hs, htr], ?_⟩
    intro x hx
    rcases List.mem_cons.mp hx with rfl | hx
    · exact ⟨hc', hf⟩
    · exact hall x hx

theorem sound_standard : SoundLayout standardL := fun _ k hc =>
  tablePress_ok (tables_syms standardTable (by simp)) hc k
theorem sound_et : SoundLayout etL := fun _ k hc =>
  tablePress_ok (tables_syms etTable (by simp)) hc k
theorem sound_ibm : SoundLayout ibmL := fun _ k hc =>
  tablePress_ok (tables_syms ibmTable (by simp)) hc k
theorem sound_ginyieh : SoundLayout ginyiehL := fun _ k hc =>
  tablePress_ok (tables_syms ginyiehTable (by simp)) hc k

end Chewing
