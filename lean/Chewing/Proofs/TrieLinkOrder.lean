import Chewing.Proofs.TrieLink
/-!
# TrieLinkOrder — the order of `Trie::entries()` across keys, for C09's abstract file

`Proofs/TrieLink.lean` (`Denotes`) ties C09's abstract file `Trie.build es` to the bytes: same lookups, and
`entries()` "a permutation, key by key in the same order".  With C11's `entries_order` the permutation is
determined: C09's enumeration lists the leaves in file order (`buildKeys es`, sorted lexicographically with a
prefix first); the real iterator lists the same leaves with every maximal chain "each key a prefix of the
next" of that sorted list reversed (depth first, `results.pop()` = deepest first).
-/
namespace Chewing.TrieLink
open Chewing.TrieCodec

/-- the order of the file's key list (`Ord` of syllable slices, strict) implies the order of the visiting
    order's sort -/
theorem keyLe_of_keyLt (a b : List Nat) (h : Trie.keyLt a b = true) : Cli.keyLe a b = true :=
  Cli.keyLe_iff.mpr (List.le_of_lt (keyLt_iff.mp h))

theorem buildKeys_keyLe (es : List Entry) : (buildKeys es).Pairwise (fun a b => Cli.keyLe a b = true) :=
  (buildKeys_sorted es).imp (keyLe_of_keyLt _ _)

/-- the visiting order of the file's own (sorted) key list: no sorting left, only the chains reversed -/
theorem trieOrder_buildKeys (es : List Entry) :
    Cli.trieOrder (buildKeys es) = (Cli.runs (buildKeys es)).flatMap List.reverse := by
  unfold Cli.trieOrder
  rw [Cli.insSort_of_pairwise (buildKeys_keyLe es)]

/-- **the enumeration of the byte-level file, exactly**: C09's `Trie.entries (Trie.build es)` lists the leaves
    in the order of `buildKeys es`; the real `entries()` lists the same leaves in the order
    `(runs (buildKeys es)).flatMap reverse` -/
theorem build_entries_exact (info : TrieCodec.Info) (es : List Entry) (hv : C11.ValidInput info es) (bytes : Der.Bytes)
    (hw : (TrieCodec.Builder.ofEntries info es).write = some bytes) :
    ∃ tr, openTrie bytes = some tr ∧
      TrieCodec.entries tr = .ok (((Cli.runs (buildKeys es)).flatMap List.reverse).flatMap fun k =>
        (sortLeaf ((refFind es k).getD [])).map fun p => (k, p)) ∧
      Trie.entries (Trie.build es) = (buildKeys es).flatMap fun k =>
        (sortLeaf ((refFind es k).getD [])).map fun p => (k, p) := by
  obtain ⟨tr, ho, he⟩ := C11.entries_order info es hv bytes hw (buildKeys es) (buildKeys_nodup es)
    (fun k => by rw [mem_buildKeys, C11.inserted_some_iff])
  refine ⟨tr, ho, ?_, ?_⟩
  · rw [he, trieOrder_buildKeys]
    rfl
  · rw [entries_build, buildGroups, List.flatMap_map]
    rfl

end Chewing.TrieLink
