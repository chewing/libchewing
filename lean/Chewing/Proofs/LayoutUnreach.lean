import Chewing.Model.LayoutUnreach
/-!
From a set of states the editor cannot drive a layout out of (`UnreachHyp`) to "no key list enters a listed reading"
(the refutations of completeness, known finding F21): the set holds along every path of `Layout.enter`; from such a
state no key commits a listed reading; no `alt_syllables` list contains one.
-/
namespace Chewing
open Gen

/-- what a layout has to provide for the refutation: a set `I` of states that holds the fresh one, that Backspace and
    absorbed keys do not lead out of, and from which no key commits a listed reading -/
structure UnreachHyp (L : Layout) (gaps : List Nat) (I : Nat → Prop) : Prop where
  init : I clearSyl
  back : ∀ c, I c → I (removeLast c)
  press : ∀ c k b c', I c → L.press c k = some (b, c') → (b = .absorb → I c') ∧ (b = .commit → c' ∉ gaps)
  alt : ∀ c g, g ∈ gaps → g ∉ L.alt c

section
variable {L : Layout} {gaps : List Nat} {I : Nat → Prop}

/-- along the editor's way of driving the layout, no listed reading is ever committed -/
theorem enter_not_gap (H : UnreachHyp L gaps I) : ∀ (ks : List KeyEv) (c r : Nat), I c →
    L.enter c ks = some r → r ∉ gaps := by
  intro ks
  induction ks with
  | nil => intro c r _ h; simp [Layout.enter] at h
  | cons k ks ih =>
    intro c r htl h
    cases ks with
    | nil =>
      unfold Layout.enter at h
      split at h
      · rename_i c' hp
        cases h
        exact (H.press _ _ _ _ htl hp).2 rfl
      · cases h
    | cons k2 ks' =>
      unfold Layout.enter at h
      split at h
      · exact ih _ _ (H.back _ htl) h
      · split at h
        · rename_i c' hp
          exact ih _ _ ((H.press _ _ _ _ htl hp).1 rfl) h
        · cases h

/-- no key list enters a listed reading, directly or through `alt_syllables` -/
theorem never_enters (H : UnreachHyp L gaps I) {r : Nat} (hr : r ∈ gaps) (keys : List Nat) :
    entersB L keys r = false := by
  cases hb : entersB L keys r with
  | false => rfl
  | true =>
    exfalso
    unfold entersB at hb
    split at hb
    · rename_i c hc
      have hng := enter_not_gap H _ _ _ H.init hc
      simp only [Bool.or_eq_true, beq_iff_eq, Bool.and_eq_true, List.contains_eq_mem, decide_eq_true_eq] at hb
      rcases hb with rfl | ⟨_, ha⟩
      · exact hng hr
      · exact H.alt c r hr ha
    · cases hb
end

theorem altLookup_free {tbl : List (List Nat × List (List Nat))} {gaps : List Nat} (h : altFree tbl gaps = true)
    (c g : Nat) (hg : g ∈ gaps) : g ∉ altLookup tbl c := by
  unfold altLookup
  split
  · rename_i row hf
    have hrow := List.all_eq_true.mp h row (List.mem_of_find?_eq_some hf)
    intro hmem
    obtain ⟨a, ha, hs⟩ := List.mem_filterMap.mp hmem
    have := List.all_eq_true.mp hrow a ha
    rw [hs] at this
    simp only [Bool.not_eq_true', List.contains_eq_mem, decide_eq_false_iff_not] at this
    exact this hg
  · simp

theorem alt_free_tbl : altFree hsuAltTable hsuGaps = true ∧ altFree et26AltTable et26Gaps = true := by
  decide +kernel

end Chewing
