import Chewing.Model.Uhash
/-!
The UTF-8 acceptor of `Model/Uhash.lean` on ASCII input: what the round trip of the text store
(`Proofs/UhashText.lean`) and the header check of C19 need about `validUtf8`.
-/
namespace Chewing.Uhash

theorem foldl_utf8Step_ascii : ∀ (l : List Nat), (∀ b ∈ l, b < 128) → l.foldl utf8Step (some 0) = some 0
  | [], _ => rfl
  | b :: l, h => by
    have hb : b < 128 := h b List.mem_cons_self
    have : utf8Step (some 0) b = some 0 := by simp [utf8Step, hb]
    rw [List.foldl_cons, this]
    exact foldl_utf8Step_ascii l (fun x hx => h x (List.mem_cons_of_mem _ hx))

theorem validUtf8_append_ascii (p tail : List Nat) (hp : validUtf8 p = true) (ht : ∀ b ∈ tail, b < 128) :
    validUtf8 (p ++ tail) = true := by
  unfold validUtf8 at *
  have hp' : p.foldl utf8Step (some 0) = some 0 := by simpa using hp
  rw [List.foldl_append, hp', foldl_utf8Step_ascii tail ht]
  rfl

theorem validUtf8_of_ascii (l : List Nat) (h : ∀ b ∈ l, b < 128) : validUtf8 l = true :=
  validUtf8_append_ascii [] l rfl h

end Chewing.Uhash
