import Chewing.Model.TrieCodec
import Chewing.Proofs.TrieEntriesTree
import Chewing.Proofs.SyllableValid
/-!
The reader's `entries()` on a laid-out index refines the DFS on the tree (`tLoop`), hence yields
every (key, leaf) exactly once (`entries_laid_out`, `Proofs/TrieEntriesRuns.lean`).  The `unwrap` of `make_dict_entry` (`Syllable::try_from` on every syllable of the
stack; since the repair of C13's F47 it fails on every value that is not a `Syllable`, not only on 0) cannot fire:
the invariant is `∀ s ∈ syls, validCode s = true` — the stack holds syllables of forest nodes (`Item.WF.syl_valid`).
-/
namespace Chewing.TrieCodec
open Chewing.Der

/-- what the reader holds for a group: the key and the leaf as written (sorted) -/
def sortG (g : Group) : Found := (g.1, sortLeaf g.2)

/-- a stacked sibling view -/
def NRep (recs : List Rec) (data : Bytes) (w : Rec) (k : Item) : Prop :=
  Rep recs data w k ∧ k.WF ∧ k.syl ≠ 0 ∧ w.2.2 = k.syl

abbrev StackRep (recs : List Rec) (data : Bytes) : List (List Rec) → List (List Item) → Prop :=
  Forall₂ (Forall₂ (NRep recs data))

theorem KidRep.nrep {recs : List Rec} {data : Bytes} {w : Rec} {k : Item} (h : KidRep recs data w k)
    (hs : k.syl ≠ 0) : NRep recs data w k :=
  ⟨h.rep hs, h.wf, hs, h.syl_eq⟩

theorem forall₂_kidrep_nrep {recs : List Rec} {data : Bytes} {ws : List Rec} {ks : List Item}
    (h : Forall₂ (KidRep recs data) ws ks) (hs : ∀ k ∈ ks, k.syl ≠ 0) : Forall₂ (NRep recs data) ws ks :=
  forall₂_imp_mem h (fun _ k hwk hk => hwk.nrep (hs k hk))

/-- the reader's descent follows the tree's -/
theorem descend_rep {recs : List Rec} {data : Bytes} (f : Nat) :
    ∀ (v : Rec) (node : Item) (vstack : List (List Rec)) (istack : List (List Item)) (syls : List Nat)
      (tres : List Group),
      Rep recs data v node → StackRep recs data vstack istack → (∀ s ∈ syls, validCode s = true) →
      ∀ istack' syls' tres', tDescend f node istack syls tres = some (istack', syls', tres') →
        ∃ vstack', descend (recs.flatMap recBytes) data f v vstack syls (tres.map sortG) =
            .ok (some (vstack', syls', tres'.map sortG)) ∧
          StackRep recs data vstack' istack' ∧ (∀ s ∈ syls', validCode s = true) := by
  induction f with
  | zero => intro v node vstack istack syls tres _ _ _ istack' syls' tres' h; simp [tDescend] at h
  | succ f ih =>
    intro v node vstack istack syls tres hrep hst hsy istack' syls' tres' h
    cases node with
    | leaf ps => obtain ⟨_, _, _, _, hk⟩ := hrep; exact absurd rfl hk
    | node s l sub =>
      obtain ⟨hoob, _, hkids⟩ := rep_children hrep
      obtain ⟨_, _, _, hpre, _⟩ := hrep
      have hsub : sub.WF := hpre.2.2
      simp only [descend, hoob, Bool.false_eq_true, if_false]
      simp only [tDescend, Item.kids] at h
      cases hkl : kidsOf l sub with
      | nil => rw [hkl] at h; cases h
      | cons k1 ks =>
        rw [hkl] at h hkids
        cases hcv : childViews (recs.flatMap recBytes) v with
        | nil => rw [hcv] at hkids; cases hkids
        | cons w1 ws =>
          rw [hcv] at hkids
          cases hkids with
          | cons hw1 hws =>
            simp only
            cases k1 with
            | leaf ps =>
              -- the node has a leaf: `l = some ps`, the other queue entries are the sorted children
              obtain ⟨hz, hoobd, hdec⟩ := kidrep_leaf hw1
              have hks := kids_tail_syl_ne_zero hsub hkl
              have hbeq : (w1.2.2 == 0) = true := by simp [hz]
              simp only [hbeq, if_true, hoobd, Bool.false_eq_true, if_false, any_invalid_false hsy, hdec]
              have hres : (syls.reverse, sortLeaf ps) :: tres.map sortG = ((syls.reverse, ps) :: tres).map sortG := rfl
              rw [hres]
              cases ks with
              | nil =>
                cases hws
                simp only at h ⊢
                cases h
                exact ⟨vstack, rfl, hst, hsy⟩
              | cons k2 ks' =>
                cases hws with
                | cons hw2 hws' =>
                  rename_i w2 ws'
                  simp only at h ⊢
                  have hk2 := hks k2 (by simp)
                  have hw2s : w2.2.2 = k2.syl := hw2.syl_eq
                  rw [hw2s]
                  refine ih w2 k2 (ws' :: vstack) (ks' :: istack) (k2.syl :: syls) _ (hw2.rep hk2)
                    (.cons (forall₂_kidrep_nrep hws' (fun k hk => hks k (by simp [hk]))) hst) ?_ istack' syls' tres' h
                  exact List.forall_mem_cons.mpr ⟨hw2.wf.syl_valid hk2, hsy⟩
            | node s1 l1 sub1 =>
              have hw1s : w1.2.2 = s1 := hw1.syl_eq
              have hs1 : s1 ≠ 0 := by
                have := hw1.wf
                have := this.1
                omega
              have hks := kids_tail_syl_ne_zero hsub hkl
              have hbeq : (w1.2.2 == 0) = false := by simp [hw1s, hs1]
              simp only [hbeq, Bool.false_eq_true, if_false]
              simp only at h
              rw [hw1s]
              refine ih w1 (.node s1 l1 sub1) (ws :: vstack) (ks :: istack) (s1 :: syls) tres
                (hw1.rep (by simpa [Item.syl] using hs1))
                (.cons (forall₂_kidrep_nrep hws hks) hst) ?_ istack' syls' tres' h
              exact List.forall_mem_cons.mpr ⟨hw1.wf.2.2.1, hsy⟩

theorem ascend_rep {recs : List Rec} {data : Bytes} :
    ∀ (vstack : List (List Rec)) (istack : List (List Item)) (syls : List Nat),
      StackRep recs data vstack istack → (∀ s ∈ syls, validCode s = true) →
      match tAscend istack syls with
      | none => ascend vstack syls = none
      | some (n, istack', syls') =>
        ∃ v vstack', ascend vstack syls = some (v, vstack', syls') ∧ Rep recs data v n ∧
          StackRep recs data vstack' istack' ∧ (∀ s ∈ syls', validCode s = true) := by
  intro vstack istack syls h
  induction h generalizing syls with
  | nil => intro _; rfl
  | @cons F G vstack istack hFG _ ih =>
    intro hsy
    cases hFG with
    | nil =>
      simp only [tAscend, ascend]
      exact ih syls.tail (fun s hs => hsy s (List.mem_of_mem_tail hs))
    | @cons w k ws ks hwk hws =>
      simp only [tAscend, ascend]
      refine ⟨w, ws :: vstack, ?_, hwk.1, .cons hws (by assumption), ?_⟩
      · rw [hwk.2.2.2]
      · exact List.forall_mem_cons.mpr ⟨hwk.2.1.syl_valid hwk.2.2.1, fun s hs => hsy s (List.mem_of_mem_tail hs)⟩

theorem entriesLoop_rep {recs : List Rec} {data : Bytes} (f : Nat) :
    ∀ (v : Rec) (node : Item) (vstack : List (List Rec)) (istack : List (List Item)) (syls : List Nat),
      Rep recs data v node → StackRep recs data vstack istack → (∀ s ∈ syls, validCode s = true) →
      ∀ out, tLoop ((recs.flatMap recBytes).length + 1) f node istack syls = some out →
        entriesLoop (recs.flatMap recBytes) data f v vstack syls = .ok (out.map sortG) := by
  induction f with
  | zero => intro v node vstack istack syls _ _ _ out h; simp [tLoop] at h
  | succ f ih =>
    intro v node vstack istack syls hrep hst hsy out h
    simp only [tLoop] at h
    cases hd : tDescend ((recs.flatMap recBytes).length + 1) node istack syls [] with
    | none => rw [hd] at h; cases h
    | some r =>
      obtain ⟨istack', syls', tres'⟩ := r
      rw [hd] at h
      simp only at h
      obtain ⟨vstack', hdesc, hst', hsy'⟩ := descend_rep _ v node vstack istack syls [] hrep hst hsy istack' syls' tres' hd
      simp only [List.map_nil] at hdesc
      simp only [entriesLoop, hdesc]
      have hasc := ascend_rep vstack' istack' syls' hst' hsy'
      cases hta : tAscend istack' syls' with
      | none =>
        rw [hta] at h hasc
        simp only at h hasc
        cases h
        rw [hasc]
      | some r2 =>
        obtain ⟨n, istack'', syls''⟩ := r2
        rw [hta] at h hasc
        simp only at h hasc
        obtain ⟨v2, vstack'', ha, hrep2, hst2, hsy2⟩ := hasc
        rw [ha]
        simp only
        cases hl : tLoop ((recs.flatMap recBytes).length + 1) f n istack'' syls'' with
        | none => rw [hl] at h; cases h
        | some more =>
          rw [hl] at h
          cases h
          rw [ih v2 n vstack'' istack'' syls'' hrep2 hst2 hsy2 more hl]
          simp

end Chewing.TrieCodec
