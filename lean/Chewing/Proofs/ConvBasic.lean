import Chewing.Model.ConversionSpec
/-!
Basic lemmas for the conversion proofs: slices, gaps, interval chains.
-/
namespace Chewing.Conv

/-! ### slices -/

theorem mem_slice_iff {c : Composition} {s e : Nat} {sym : Sym} :
    sym ∈ slice c s e ↔ ∃ i, s ≤ i ∧ i < e ∧ c.symbols[i]? = some sym := by
  unfold slice
  rw [List.mem_iff_getElem?]
  constructor
  · rintro ⟨j, hj⟩
    rw [List.getElem?_take] at hj
    split at hj
    · rw [List.getElem?_drop] at hj
      exact ⟨s + j, by omega, by omega, hj⟩
    · cases hj
  · rintro ⟨i, h1, h2, h3⟩
    refine ⟨i - s, ?_⟩
    rw [List.getElem?_take, if_pos (by omega), List.getElem?_drop]
    rw [show s + (i - s) = i by omega]
    exact h3

theorem slice_length {c : Composition} {s e : Nat} (h : e ≤ c.symbols.length) :
    (slice c s e).length = e - s := by
  unfold slice
  rw [List.length_take, List.length_drop]
  omega

theorem slice_getElem? {c : Composition} {s e j : Nat} :
    (slice c s e)[j]? = if j < e - s then c.symbols[s + j]? else none := by
  unfold slice
  rw [List.getElem?_take]
  split
  · rw [List.getElem?_drop]
  · rfl

theorem sylPrefix_length_of_all {l : List Sym} (h : ∀ sym ∈ l, sym.isSyl = true) :
    (sylPrefix l).length = l.length := by
  induction l with
  | nil => rfl
  | cons x r ih =>
    cases x with
    | syl k =>
      simp only [sylPrefix, List.length_cons]
      rw [ih (fun sym hs => h sym (List.mem_cons_of_mem _ hs))]
    | chr cp =>
      have := h (.chr cp) (List.mem_cons_self ..)
      simp [Sym.isSyl] at this

/-! ### breaks -/

theorem hasBreakInside_eq_false_iff {c : Composition} {s e : Nat} :
    hasBreakInside c s e = false ↔ ∀ i, s < i → i < e → gapAt c i ≠ some Gap.brk := by
  unfold hasBreakInside
  rw [List.any_eq_false]
  constructor
  · intro h i h1 h2
    have := h i (List.mem_range'_1.mpr ⟨by omega, by omega⟩)
    simpa using this
  · intro h i hi
    have := List.mem_range'_1.mp hi
    simpa using h i (by omega) (by omega)

/-! ### interval predicates -/

theorem intersectRange_eq_true {x : Interval} {s e : Nat} :
    x.intersectRange s e = true ↔ max x.start s < min x.stop e := by
  simp [Interval.intersectRange]

theorem isContainedBy_eq_true {x : Interval} {s e : Nat} :
    x.isContainedBy s e = true ↔ s ≤ x.start ∧ x.stop ≤ e := by
  simp [Interval.isContainedBy]

theorem intersect_comm (a b : Interval) : a.intersect b = b.intersect a := by
  simp only [Interval.intersect, Interval.intersectRange, Nat.max_comm a.start, Nat.min_comm a.stop]

theorem intersect_eq_false {a b : Interval} : a.intersect b = false ↔ ¬ (max a.start b.start < min a.stop b.stop) := by
  simp [Interval.intersect, Interval.intersectRange]

theorem slice_one {c : Composition} {i : Nat} {sym : Sym} (h : c.symbols[i]? = some sym) : slice c i (i + 1) = [sym] := by
  obtain ⟨hi, rfl⟩ := List.getElem?_eq_some_iff.mp h
  unfold slice
  rw [List.drop_eq_getElem_cons hi, show i + 1 - i = 1 by omega]
  rfl

/-! ### interval chains -/

theorem IvChain.le {a b : Nat} {l : List Interval} (h : IvChain a b l) : a ≤ b := by
  induction l generalizing a with
  | nil => exact Nat.le_of_eq h
  | cons x r ih =>
    obtain ⟨h1, h2, h3⟩ := h
    have := ih h3
    omega

theorem IvChain.append {a m b : Nat} {l₁ l₂ : List Interval} (h₁ : IvChain a m l₁) (h₂ : IvChain m b l₂) :
    IvChain a b (l₁ ++ l₂) := by
  induction l₁ generalizing a with
  | nil => cases h₁; exact h₂
  | cons x r ih =>
    obtain ⟨h1, h2, h3⟩ := h₁
    exact ⟨h1, h2, ih h3⟩

theorem IvChain.split_last {a b : Nat} {l : List Interval} {x : Interval} (h : IvChain a b (l ++ [x])) :
    IvChain a x.start l ∧ x.start < x.stop ∧ x.stop = b := by
  induction l generalizing a with
  | nil =>
    obtain ⟨h1, h2, h3⟩ := h
    exact ⟨h1.symm, h2, h3⟩
  | cons y r ih =>
    obtain ⟨h1, h2, h3⟩ := h
    obtain ⟨i1, i2, i3⟩ := ih h3
    exact ⟨⟨h1, h2, i1⟩, i2, i3⟩

/-- every position of `[a, b)` lies in exactly one interval of a chain; existence: -/
theorem IvChain.covers {a b : Nat} {l : List Interval} (h : IvChain a b l) {i : Nat} (h1 : a ≤ i) (h2 : i < b) :
    ∃ iv ∈ l, iv.start ≤ i ∧ i < iv.stop := by
  induction l generalizing a with
  | nil => cases h; omega
  | cons x r ih =>
    obtain ⟨e1, e2, e3⟩ := h
    by_cases hi : i < x.stop
    · exact ⟨x, List.mem_cons_self .., by omega, hi⟩
    · obtain ⟨iv, hm, hiv⟩ := ih e3 (by omega)
      exact ⟨iv, List.mem_cons_of_mem _ hm, hiv⟩

theorem IvChain.mem_bounds {a b : Nat} {l : List Interval} (h : IvChain a b l) {iv : Interval} (hm : iv ∈ l) :
    a ≤ iv.start ∧ iv.start < iv.stop ∧ iv.stop ≤ b := by
  induction l generalizing a with
  | nil => cases hm
  | cons x r ih =>
    obtain ⟨e1, e2, e3⟩ := h
    rcases List.mem_cons.mp hm with rfl | hm
    · exact ⟨by omega, e2, e3.le⟩
    · have := ih e3 hm
      omega

theorem IvChain.tiling {n : Nat} {p : List Interval} (h : IvChain 0 n p) : Tiling p n := by
  refine ⟨fun iv hm => (h.mem_bounds hm).2.1, ?_, ?_, ?_⟩
  · intro i hi
    suffices ∀ (a b : Nat) (l : List Interval), IvChain a b l → ∀ i (h : i + 1 < l.length), l[i].stop = l[i + 1].start by
      exact this 0 n p h i hi
    intro a b l
    induction l generalizing a with
    | nil => intro _ i h; simp at h
    | cons x r ih =>
      intro hc i hi
      obtain ⟨e1, e2, e3⟩ := hc
      cases i with
      | zero =>
        cases r with
        | nil => simp at hi
        | cons y r' => exact e3.1.symm
      | succ j =>
        simp only [List.getElem_cons_succ]
        exact ih _ e3 j (by simpa using hi)
  · cases p with
    | nil => rfl
    | cons x r => exact h.1
  · suffices ∀ (a b : Nat) (l : List Interval), IvChain a b l → (l.getLast?.map (·.stop)).getD a = b by
      exact this 0 n p h
    intro a b l
    induction l generalizing a with
    | nil => intro hc; exact hc
    | cons x r ih =>
      intro hc
      obtain ⟨e1, e2, e3⟩ := hc
      have := ih _ e3
      cases r with
      | nil => simpa using this
      | cons y r' =>
        rw [List.getLast?_cons_cons, ← this]
        have hne : (y :: r').getLast? = some ((y :: r').getLast (by simp)) := List.getLast?_eq_some_getLast _
        rw [hne]; rfl

end Chewing.Conv
