import Chewing.Model.TrieCodec
import Chewing.Gen.TrieFormat
import Chewing.Proofs.TrieValidWrite
/-!
`write_conforms` (stated for the property as `conforms`, Props/C11.lean): the written bytes are the DER encoding of a `Document` of `src/dictionary/trie.asn1`
whose index is the BFS layout of a tree (leaf first, then children strictly ascending by syllable,
consecutive child ranges, no unreferenced record) and whose `phraseSeq` is a sequence of valid
phrase records.
-/
namespace Chewing.TrieCodec
open Chewing.Der

/-- the ASN.1 module and the constants of trie.rs agree with the model (re-elaborated whenever
    `trie.asn1` / `trie.rs` change: `Gen/TrieFormat.lean` is regenerated by every check) -/
def FormatConstantsAgree : Prop :=
  Gen.asn1Magic = magic ∧ Gen.rsMagic = magic ∧ Gen.asn1Version = 0 ∧ Gen.rsFormatVersion = 0 ∧
  Gen.rsRecordSize = 8 ∧
  Gen.asn1DocumentFields =
    [("magic", "UTF8String"), ("version", "Version"), ("info", "Info"), ("index", "Index"),
     ("phraseSeq", "SEQUENCE OF Phrase")] ∧
  Gen.asn1InfoFields =
    [("name", "UTF8String"), ("copyright", "UTF8String"), ("license", "UTF8String"), ("version", "UTF8String"),
     ("software", "UTF8String")] ∧
  Gen.asn1PhraseFields = [("phrase", "UTF8String"), ("freq", "INTEGER"), ("lastUsed", "[0] IMPLICIT Uint64 OPTIONAL")] ∧
  Gen.asn1IndexType = "OCTET STRING" ∧
  Gen.asn1FreqMin = 0 ∧ Gen.asn1FreqMax = 2 ^ 32 - 1 ∧ Gen.asn1Uint64Min = 0 ∧ Gen.asn1Uint64Max = 2 ^ 64 - 1

theorem format_constants_agree : FormatConstantsAgree := by
  unfold FormatConstantsAgree
  decide

/-- a phrase within the value constraints of the ASN.1 module -/
def Asn1Phrase (p : Phrase) : Prop :=
  (∀ c ∈ p.text, IsScalar c) ∧ Gen.asn1FreqMin ≤ p.freq ∧ p.freq ≤ Gen.asn1FreqMax ∧
  ∀ t, p.lastUsed = some t → Gen.asn1Uint64Min ≤ t ∧ t ≤ Gen.asn1Uint64Max

theorem ValidPhrase.asn1 {p : Phrase} (h : ValidPhrase p) : Asn1Phrase p := by
  obtain ⟨_, _, _, _, _, _, _, _, _, h1, h2, h3, h4⟩ := format_constants_agree
  obtain ⟨ht, hf, hu⟩ := h
  refine ⟨ht, by omega, by omega, fun t ht' => ?_⟩
  have := hu t ht'
  omega

def Conforms (bytes : Bytes) : Prop :=
  ∃ (info : Info) (recs : List Rec) (phrases : List Phrase) (l : Option (List Phrase)) (sub : Forest),
    -- Document ::= SEQUENCE { "CHEW", v1(0), Info, Index (OCTET STRING of 8-byte records), SEQUENCE OF Phrase }
    bytes = encSeq (docBody info (recs.flatMap recBytes) (encPhrases phrases)) ∧
    bytes.length ≤ maxLen ∧ ValidInfo info ∧ (∀ p ∈ phrases, Asn1Phrase p) ∧
    (∀ r ∈ recs, r.1 < 4294967296 ∧ r.2.1 < 65536 ∧ r.2.2 < 65536) ∧
    -- the index is the BFS layout of a tree, root = record 0, as many records as nodes; the syllables of the tree
    -- are `Syllable` codes (`Forest.WF`: non-zero, 16 bits, accepted by `Syllable::try_from` — `validCode`)
    (Item.node 0 l sub).Pre ∧ recs.length = (Item.node 0 l sub).size ∧
    Laid recs (encPhrases phrases) 0 (.node 0 l sub) ∧
    -- "serialized in BFS order": the records pass the check `Trie::new` applies (`validate_index`: the BFS order
    -- and, since the repair of C13's F47, a valid syllable code in every node record other than the root)
    TrieValidate.validate recs (encPhrases phrases).length = true

theorem write_length (b : Builder) (bytes : Bytes) (hw : b.write = some bytes) : bytes.length ≤ maxLen := by
  unfold Builder.write at hw
  cases hb : b.buffers with
  | none => rw [hb] at hw; cases hw
  | some rd =>
    rw [hb] at hw
    simp only at hw
    split at hw
    · cases hw; assumption
    · cases hw

theorem write_conforms (b : Builder) (hb : b.WF) (hi : ValidInfo b.info) (bytes : Bytes) (hw : b.write = some bytes) :
    Conforms bytes := by
  obtain ⟨recs, data, hbuf, hbytes, _, hlaid, hcount, hvalid⟩ := write_laid b hb hi bytes hw
  obtain ⟨⟨r2, hr2, hr2r⟩, ⟨pl, hpl, hplv⟩⟩ := writeLoop_shape _ _ _ _ _ _ _ hbuf
    (by intro it hit; cases List.mem_singleton.mp hit; exact root_pre b hb)
  simp only [List.nil_append] at hr2 hpl
  subst hr2 hpl
  exact ⟨b.info, recs, pl, b.leaf, b.kids, hbytes, write_length b bytes hw, hi, fun p hp => (hplv p hp).asn1, hr2r,
    root_pre b hb, hcount, hlaid, hvalid⟩

end Chewing.TrieCodec
