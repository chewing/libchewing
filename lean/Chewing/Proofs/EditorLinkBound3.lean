import Chewing.Proofs.EditorLinkBound2
/-!
# The buffer bound with the threshold as the only side condition

Since the auto-commit runs in the tail of a key / of `select` in BOTH editing states (`Entering`,
`EnteringSyllable`), a slightly different invariant needs a weaker side condition than `SafeOp`:

* `Within1 B K e`: configuration within `B` / `K`, and `len ≤ B` while a syllable is being entered, `len ≤ B + 1` in
  the three other kinds of state (`cap1`, the second bound per state satisfying `CapOK`);
* `within1_apply`: every operation keeps `Within1`; the only side condition is that new options keep the threshold
  within `B` (`ThrOp`) — no `Quiet`: closing a candidate list goes to `Entering`, whose bound is `B + 1` too;
* `within1_apply_linked` / `within1_run_linked`: the auto-commit's own bound discharged from C01's invariant.
-/
namespace Chewing.Bound

section invariant

variable {D L : Type} (env : Env D L)

/-- B while a syllable is being entered, B + 1 in the three other kinds of state -/
def cap1 (B : Nat) : St → Nat
  | .enteringSyllable => B
  | _ => B + 1

theorem cap1_ok (B : Nat) : CapOK B (cap1 B) where
  ge st := by cases st <;> simp [cap1]
  le st := by cases st <;> simp [cap1]
  sel _ := rfl
  syl := rfl
  hl _ := rfl

structure Within1 (B K : Nat) (e : Editor D L) : Prop where
  cfg : Cfg B K e.shared
  len : e.shared.com.len ≤ cap1 B e.state

/-- **every public operation keeps the invariant** — the only side condition is the threshold of new options
    (`ThrOp`), with the auto-commit's own bound at the state(s) it runs in.  No `Quiet`: a list that is closed goes to
    `Entering`, whose bound is the one of `Selecting`. -/
theorem within1_apply {B K : Nat} {e e' : Editor D L} (hw : Within1 B K e) (op : Op L)
    (hs : ThrOp B op) (hac : ∀ sh, Mid env e op sh → ACBound env sh) (h : e.apply env op = .ok e') :
    Within1 B K e' :=
  have ⟨c, l⟩ := apply_capped env (cap1_ok B) ⟨hw.cfg, hw.len⟩ op hs
    (fun _ s hst => by have hl := hw.len; rw [hst] at hl; exact hl) hac h
  ⟨c, l⟩

/-- some `K` bounds every easy-symbol expansion of a table -/
theorem abbrLe_exists (abbr : List (Nat × Text)) : ∃ K, AbbrLe K abbr := by
  induction abbr with
  | nil => exact ⟨0, fun p hp => by cases hp⟩
  | cons a l ih =>
    obtain ⟨K, hK⟩ := ih
    refine ⟨max a.2.length K, fun p hp => ?_⟩
    rcases List.mem_cons.mp hp with rfl | hp
    · exact Nat.le_max_left _ _
    · exact Nat.le_trans (hK p hp) (Nat.le_max_right _ _)

end invariant

/-! ## linked to C01 -/

section linked
open Chewing.C01

variable {D L : Type} {env : Env D L} {G : D → Prop} {w : Prop}

/-- **one operation, no premise on the conversion**: it returns, C01's invariant and `Within1` hold afterwards -/
theorem within1_apply_linked {B K : Nat} (hE : EnvOK env G) {e : Editor D L}
    (hi : EditorInv env G w e) (hw : Within1 B K e) (op : Op L) (hv : OpValid op) (hk : w → ¬ Known env e op)
    (hs : ThrOp B op) : ∃ e', e.apply env op = .ok e' ∧ EditorInv env G w e' ∧ Within1 B K e' := by
  obtain ⟨e', h, hi'⟩ := apply_ok hE hi op hv hk
  exact ⟨e', h, hi', within1_apply env hw op hs (fun sh hm => acBound_of_shInv hE (mid_shInv hE hi hm)) h⟩

/-- **every history**: valid operations (C01's `OpValid`) whose new options keep the threshold within `B` — the run
    returns and both invariants hold at the end -/
theorem within1_run_linked {B K : Nat} (hE : EnvOK env G) (ops : List (Op L)) :
    ∀ e : Editor D L, SafeInv env G e → Within1 B K e → (∀ op ∈ ops, OpValid op) → (∀ op ∈ ops, ThrOp B op) →
      ∃ e', e.run env ops = .ok e' ∧ SafeInv env G e' ∧ Within1 B K e' := fun _ hi hw hv hs =>
  (Editor.folds env).ok (I := fun e => SafeInv env G e ∧ Within1 B K e) (V := fun op => OpValid op ∧ ThrOp B op)
    (fun v i => within1_apply_linked hE i.1 i.2 _ v.1 (fun hf => hf.elim) v.2) ops (fun op h => ⟨hv op h, hs op h⟩) ⟨hi, hw⟩

end linked

end Chewing.Bound
