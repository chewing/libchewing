import Chewing.Proofs.TrieBufHist
/-!
The snapshot-adoption path of a file-backed `TrieBuf` (sequential writer).

`Settled s`: nothing pending and no tombstone — every entry lives in the adopted snapshot.  (Until fix
c3d9fb2, F36, such a state was the only one in which a prefix lookup was guaranteed to be the map's; since
the fix every state is, and `Settled` only serves the durability links of C10 / C08.)
`Quiet` is the extra invariant that makes adoption predictable: a dictionary that is not dirty and has
no writer in flight has nothing pending (its content is the file's).  With it,
`reopen; flush; reopen` (drain a writer that may be in flight, snapshot, adopt) always ends in a
settled state, and so does `Drop` + `open`.
-/
namespace Chewing
open MapSpec

namespace TrieBuf

/-- nothing pending, no tombstones -/
def Settled (s : State) : Prop := s.btree = [] ∧ s.grave = []

instance (s : State) : Decidable (Settled s) := by unfold Settled; infer_instance

/-- not dirty and no writer in flight ⇒ nothing pending -/
def Quiet (s : State) : Prop := s.dirty = false → s.inflight = none → Settled s

theorem quiet_initMem : Quiet initMem := fun _ _ => ⟨rfl, rfl⟩
theorem quiet_initFile : Quiet initFile := fun _ _ => ⟨rfl, rfl⟩

theorem quiet_of_dirty {s : State} (h : s.dirty = true) : Quiet s := by
  intro hd; rw [h] at hd; exact absurd hd (by simp)

theorem quiet_checkpoint {s : State} (h : Quiet s) : Quiet (checkpoint s) := by
  rcases checkpoint_cases s with ⟨hi, hf, hd⟩ | e
  · rw [checkpoint_fire hi hf hd]
    intro _ hn; cases hn
  · rw [e]; exact h

theorem quiet_sync {s : State} (h : Quiet s) : Quiet (sync s) :=
  sync_cases Quiet s (fun _ _ hd hd' _ => by rw [show s.dirty = false from hd'] at hd; cases hd)
    (fun _ _ _ _ _ => ⟨rfl, rfl⟩) (fun hi _ hd _ => h hd hi) (fun _ _ => h)

/-- close and open again leaves a file-backed dictionary with its file and nothing else -/
theorem closeOpen_shape {s : State} (hf : s.fileBacked = true) :
    ∃ f, closeOpen s = { initFile with snap := f, file := f } := by
  simp [closeOpen, hf]

theorem quiet_closeOpen {s : State} (h : Quiet s) : Quiet (closeOpen s) := by
  cases hf : s.fileBacked with
  | true =>
    obtain ⟨f, e⟩ := closeOpen_shape hf
    rw [e]; exact fun _ _ => ⟨rfl, rfl⟩
  | false => rw [closeOpen_mem hf]; exact h

theorem quiet_apply {s : State} (h : Quiet s) (op : Op) : Quiet (apply s op) :=
  apply_cases Quiet s op h (fun _ _ => quiet_of_dirty rfl) (fun _ => quiet_of_dirty rfl) (quiet_checkpoint h)
    (quiet_sync h) (quiet_closeOpen h)

theorem quiet_run {s : State} (h : Quiet s) (ops : List Op) : Quiet (run s ops) :=
  List.foldlRecOn ops apply h fun _ hs op _ => quiet_apply hs op

/-- drain the writer, snapshot, adopt -/
def settleOps : List Op := [.reopen, .flush, .reopen]

/-- after `sync` with no writer in flight left, `checkpoint; sync` settles a file-backed dictionary -/
theorem settled_checkpoint_sync {s : State} (h : Quiet s) (hi : s.inflight = none) (hf : s.fileBacked = true) :
    Settled (sync (checkpoint s)) := by
  cases hd : s.dirty with
  | true =>
    rw [checkpoint_fire hi hf hd]
    exact ⟨by simp [sync], by simp [sync]⟩
  | false =>
    rw [checkpoint_skip (Or.inr (Or.inr hd))]
    have : sync s = { s with snap := s.file } := by simp [sync, hi, hf]
    rw [this]; exact h hd hi

/-- **adoption**: `reopen; flush; reopen` on a file-backed dictionary leaves nothing pending -/
theorem settled_settle {s : State} (h : Quiet s) (hf : s.fileBacked = true) : Settled (run s settleOps) := by
  show Settled (sync (checkpoint (sync s)))
  exact settled_checkpoint_sync (quiet_sync h) (sync_inflight s) (by rw [sync_fileBacked, hf])

/-- `Drop` + `open` leaves nothing pending -/
theorem settled_closeOpen {s : State} (hf : s.fileBacked = true) : Settled (closeOpen s) := by
  obtain ⟨f, e⟩ := closeOpen_shape hf
  rw [e]; exact ⟨rfl, rfl⟩

theorem fileBacked_apply (s : State) (op : Op) : (apply s op).fileBacked = s.fileBacked := by
  refine apply_cases (fun s' => s'.fileBacked = s.fileBacked) s op rfl (fun _ _ => rfl) (fun _ => rfl) ?_
    (sync_fileBacked s) ?_
  · rcases checkpoint_cases s with ⟨hi, hf, hd⟩ | e
    · rw [checkpoint_fire hi hf hd]
    · rw [e]
  · cases hf : s.fileBacked with
    | true => obtain ⟨f, e⟩ := closeOpen_shape hf; rw [e]; rfl
    | false => rw [closeOpen_mem hf, hf]

theorem fileBacked_run (s : State) (ops : List Op) : (run s ops).fileBacked = s.fileBacked :=
  List.foldlRecOn (motive := fun s' => s'.fileBacked = s.fileBacked) ops apply rfl fun s' hs op _ =>
    (fileBacked_apply s' op).trans hs

end TrieBuf

namespace MapSpec.Map

/-- `flush`, `reopen` and close-and-open do not change the map -/
def isIdle : Op → Bool
  | .flush => true
  | .reopen => true
  | .closeOpen => true
  | _ => false

theorem run_idle (m : Map) (ops : List Op) (h : ∀ op ∈ ops, isIdle op = true) : m.run ops = m :=
  List.foldlRecOn (motive := (· = m)) ops apply rfl fun _ e op ho => by
    have h1 := h op ho
    subst e
    cases op <;> first | rfl | simp [isIdle] at h1

theorem run_append (m : Map) (a b : List Op) : m.run (a ++ b) = (m.run a).run b := by
  unfold run; rw [List.foldl_append]

end MapSpec.Map

end Chewing
