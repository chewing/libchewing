import Chewing.Proofs.PersistCrash
/-!
# The editor's history in terms of what it learned and unlearned

`Editor` reaches the user dictionary only through `Layered`, whose five mutating methods forward to
the user dictionary unchanged (`src/dictionary/layered.rs`; the only guard, an empty phrase, cannot
pass `learn_phrase`'s length check together with a non-empty syllable list).  `edTrace` is the exact
list of dictionary calls an editor history issues; its map semantics is `edSpec`, which does not
mention `reopen` / `flush` / `dirty_level` at all.
-/
namespace Chewing.Persist

/-- the dictionary calls (and environment steps) an editor history issues, in order -/
def edTrace (cfg : Cfg) : EdWorld → List EdAct → List Act
  | _, [] => []
  | e, a :: as =>
    match edStep cfg e a with
    | some e' => (edExpand e.dirtyLevel a).1 ++ edTrace cfg e' as
    | none => []

theorem edRun_trace {cfg : Cfg} {eacts : List EdAct} {e e' : EdWorld} (h : edRun cfg e eacts = some e') :
    run cfg e.w (edTrace cfg e eacts) = some e'.w := by
  induction eacts generalizing e with
  | nil => cases h; rfl
  | cons a as ih =>
    obtain ⟨e1, hs, h⟩ := edFolds.cons_ok.mp h
    unfold edTrace
    rw [hs, folds.append (edStep_some hs).1]
    exact ih h

/-- what an editor action means for the set of phrases the user dictionary knows -/
def edApply (m : Content) : EdAct → Content
  | .learn k v true => setC m k (some v)
  | .learn k v false => if (m k).isSome then m else setC m k (some v)
  | .unlearn k => setC m k none
  | .key => m
  | .env a => applyChange m a

def edSpec (c0 : Content) (eacts : List EdAct) : Content := eacts.foldl edApply c0

theorem spec_expand (c : Content) (dl : Nat) (a : EdAct) : spec c (edExpand dl a).1 = edApply c a := by
  cases a with
  | learn k v known => cases known <;> rfl
  | unlearn k => rfl
  | key =>
    simp only [edExpand]
    split <;> rfl
  | env a => rfl

theorem spec_edTrace {cfg : Cfg} {eacts : List EdAct} {e e' : EdWorld} (h : edRun cfg e eacts = some e')
    (c : Content) : spec c (edTrace cfg e eacts) = edSpec c eacts := by
  induction eacts generalizing e c with
  | nil => rfl
  | cons a as ih =>
    obtain ⟨e1, hs, h⟩ := edFolds.cons_ok.mp h
    unfold edTrace
    rw [hs, spec_append, spec_expand, ih h]
    rfl

end Chewing.Persist
