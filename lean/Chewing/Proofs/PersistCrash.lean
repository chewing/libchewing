import Chewing.Proofs.Persist
/-!
# What the dictionary file holds is always the live contents after some prefix of the history

The file at the path is only ever replaced by a writer's snapshot, a snapshot is the live contents at
the moment of the `flush` that spawned the writer, and only one writer exists at a time.  Hence, after
any action list (any schedule, a process death anywhere), the file holds the live contents the
dictionary had after some *prefix* of that list — never a mixture, never something that was not live
at some moment.  Proved by induction over the action list with a history predicate `S` that is closed
under "the live contents of the state before the step".  Also `live_tracks`, and the definitions of a sequence of
process lifetimes over one directory with which `Props/C10.lean` states `sessions_spec` and `reopen_*`.
-/
namespace Chewing.Persist

/-- `c` was the live contents after some prefix of `acts` run from `w0` -/
def LiveOfPrefix (cfg : Cfg) (w0 : World) (acts : List Act) (c : Content) : Prop :=
  ∃ pre wp, pre <+: acts ∧ run cfg w0 pre = some wp ∧ wp.buf.live = c

/-- everything on disk or about to be put there satisfies `S` -/
structure Hist (S : Content → Prop) (w : World) : Prop where
  path : ∀ c, w.fs .path = some (.complete c) → S c
  snap : ∀ wr, w.writer = some wr → S wr.snap

theorem Hist.mono {S T : Content → Prop} {w : World} (h : Hist S w) (hst : ∀ c, S c → T c) : Hist T w :=
  ⟨fun c hc => hst c (h.path c hc), fun wr hw => hst _ (h.snap wr hw)⟩

theorem wstep_snap {wr wr' : Writer} {fs fs' : FS} (h : wstep wr fs = some (wr', fs')) : wr'.snap = wr.snap := by
  unfold wstep at h
  -- every hop builds `{ wr with pc := .., .. }`
  split at h <;> try split at h
  all_goals cases h <;> rfl

/-- one step keeps the history predicate, provided the live contents before the step satisfy it: the path
    changes only to a writer's snapshot, and a writer after the step is the one before it or was spawned with
    the live contents as its snapshot -/
theorem hist_step {cfg : Cfg} {S : Content → Prop} {w w' : World} {a : Act} (hi : Inv cfg w) (hh : Hist S w)
    (hl : S w.buf.live) (hs : step cfg w a = some w') : Hist S w' := by
  refine ⟨fun c hc => ?_, ?_⟩
  · rcases (step_facts hi hs).2.1 with hp | ⟨wr, hw, _, _, hp⟩
    · exact hh.path c (hp.symm.trans hc)
    · cases complete_inj (hp.symm.trans hc)
      exact hh.snap wr hw
  · have hsync : ∀ wr', (sync w).writer = some wr' → S wr'.snap := by
      intro wr' e
      rcases sync_writer w with h | h <;> rw [h] at e
      · exact hh.snap wr' e
      · cases e
    have hck : ∀ wr', (checkpoint w).writer = some wr' → S wr'.snap := by
      intro wr' e
      rcases checkpoint_writer w with h | ⟨y, hy, hsn⟩
      · exact hh.snap wr' (h.symm.trans e)
      · cases hy.symm.trans e
        rw [hsn]; exact hl
    intro wr' e
    cases (step_some hs).2 with
    | w hw hws => cases e; rw [wstep_snap hws]; exact hh.snap _ hw
    | flush => exact hck _ e
    | reopen => exact hsync _ e
    | dSync => exact hsync _ e
    | dFlush => exact hck _ e
    | dJoin0 => cases e
    | dJoin => cases e
    | _ => exact hh.snap _ e

/-- after any action list from a freshly opened dictionary: what the file holds — and what an
    in-flight writer is about to put there — was live after some prefix of the list -/
theorem hist_init {cfg : Cfg} {c0 : Content} {t0 : Option FileC} {acts : List Act} {w : World}
    (hr : run cfg (init c0 t0) acts = some w) : Hist (LiveOfPrefix cfg (init c0 t0) acts) w := by
  refine folds.reach (P := fun l w => Hist (LiveOfPrefix cfg (init c0 t0) l) w) ⟨fun c hc => ?_, ?_⟩ ?_ hr
  · exact ⟨[], _, List.prefix_refl _, rfl, (live_fresh c0 0).trans (complete_inj hc)⟩
  · intro _ h; cases h
  · intro l w a w' hl hh hs
    -- a file written earlier was live after a prefix of the shorter history; a writer spawned now snapshots `w`
    refine hist_step (inv_run (inv_init cfg c0 t0) hl) (hh.mono ?_) ⟨l, w, List.prefix_append _ _, hl, rfl⟩ hs
    rintro c ⟨pre, wp, hp, h⟩
    exact ⟨pre, wp, hp.trans (List.prefix_append _ _), h⟩

/-- with both repairs in place the live contents are, at every moment, the accepted changes applied as map
    updates to the initial file contents -/
theorem live_tracks {cfg : Cfg} (hrv : cfg.revive = true) (hj : cfg.joinFirst = true) {c0 : Content}
    {t0 : Option FileC} {acts : List Act} {w : World} (h : run cfg (init c0 t0) acts = some w) :
    w.buf.live = spec c0 acts := by
  rw [live_run hrv hj (inv_init cfg c0 t0) h, show (init c0 t0).buf.live = c0 from live_fresh c0 0]
  rfl

/-! ### process lifetimes over the same directory -/

/-- the session is over: `Drop` has returned or the process died -/
def Ended (w : World) : Bool := w.crashed || w.phase == .closed

/-- a sequence of process lifetimes over the same directory: each opens the dictionary file the
    previous one left (with whatever temp file it left), runs its action list to an end, and the
    next one starts from the files.  Result: the files after the last one. -/
def runSessions (cfg : Cfg) (c0 : Content) (t0 : Option FileC) : List (List Act) → Option (Content × Option FileC)
  | [] => some (c0, t0)
  | s :: ss =>
    match run cfg (init c0 t0) s with
    | some w =>
      if Ended w then
        match readPath w.fs with
        | some c => runSessions cfg c (w.fs .tmp) ss
        | none => none
      else none
    | none => none

/-- `pres` is, lifetime by lifetime, a prefix of `ss` -/
inductive PrefixEach : List (List Act) → List (List Act) → Prop
  | nil : PrefixEach [] []
  | cons {p s : List Act} {ps ss : List (List Act)} : p <+: s → PrefixEach ps ss → PrefixEach (p :: ps) (s :: ss)

theorem spec_append (c : Content) (l1 l2 : List Act) : spec c (l1 ++ l2) = spec (spec c l1) l2 := by
  simp [spec, List.foldl_append]

/-- every lifetime of the sequence ends with a normal close (none by a process death) -/
def AllClosed (cfg : Cfg) (c0 : Content) (t0 : Option FileC) : List (List Act) → Prop
  | [] => True
  | s :: ss =>
    match run cfg (init c0 t0) s with
    | some w => w.phase = .closed ∧
      match readPath w.fs with
      | some c => AllClosed cfg c (w.fs .tmp) ss
      | none => False
    | none => False

end Chewing.Persist
