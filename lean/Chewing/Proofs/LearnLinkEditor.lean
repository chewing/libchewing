import Chewing.Props.C07
import Chewing.Props.C03
import Chewing.Props.C09
import Chewing.Proofs.LearnLink
import Chewing.Proofs.LearnBound
/-!
# LearnLinkEditor — C08's "offered as a candidate" and "default conversion" on the editor / engine models

C08 (`Model/Learn.lean`) has its own small model of the merged lookup and of the default conversion.
This file ties its two partial clauses to the models the other properties prove things about:

* **candidate window** (`learned_is_candidate`: "the merged lookup lists the learned phrase; that the
  candidate window shows the merged lookup is C07").  Here: the list the EDITOR MODEL
  (`Model/Editor.lean`: `PhraseSel.candidates`, `Selecting.candidates`, `openPhrase`) shows on a range whose
  symbols are the learned syllables contains the learned phrase — C07's `phrase_list_complete` + C09's
  `layered_over_map`, under the explicit link hypothesis that the environment's `lookupAll` of the
  dictionary state is `Layered.lookupAll` over system layers + a user layer denoting C08's `UserMap`.
* **default conversion** (`top_is_default`: graph-construction hypotheses `hg`, `hedge`, `huniq`, `hrest`).
  Here they are discharged on C03's engine model (`Model/Conversion.lean`): for a buffer of bare syllables
  without selections and without a `Break` inside, `find_intervals` puts exactly one whole-range edge into
  the graph, carrying `find_best_phrase`'s pick (`whole_edge`, `edge_unique`), the breadth-first
  `shortest_path` returns that single edge (`shortestPath_direct`), `find_k_paths` keeps it first
  (`rawPaths_live`: the breadth-first path comes first), `trim_paths` discards every other k-path
  (`trimPaths_direct`), so `convertChewing` returns exactly one alternative, the single interval with the most
  frequent phrase.
-/
namespace Chewing.LearnLinkEd

/-! ## 1. The learned phrase is in the candidate list of the editor model -/

section candidate
variable {D L : Type} (env : Env D L)

/-- a correct answer `l` for `key` over the map `m` that C08's `UserMap` `u` denotes lists every entry of `u`
    under `key`, with the (frequency, time) `u` stores -/
theorem lookup_lists {u : Learn.UserMap} {m : MapSpec.Map} (hu : LearnLink.URep u m) {key : List Nat}
    {l : List Phrase} (hlk : MapSpec.IsLookup m key l) {x : Text} {v : Nat × Nat} (hv : u.get? (key, x) = some v) :
    ∃ p ∈ l, p.text = x ∧ u.get? (key, x) = some (MapSpec.valOf p) := by
  obtain ⟨p, hp, rfl⟩ := hlk.2.2 x v (by rw [← hu]; exact hv)
  exact ⟨p, hp, rfl, by rw [hu]; exact hlk.2.1 p hp⟩

/-- C09: `Layered` over any system layers and a user layer whose exact lookup of `key` is a correct answer
    for the map `m` that C08's `UserMap` `u` denotes lists every live phrase of `u` under `key` -/
theorem layered_lists_live {u : Learn.UserMap} {m : MapSpec.Map} (hu : LearnLink.URep u m)
    (sys : List Dict) (us : TrieBuf.State) (key : List Nat)
    (hlk : MapSpec.IsLookup m key (TrieBuf.lookupAll us key .standard))
    {x : Text} (hlive : Learn.Live u (key, x)) :
    ∃ p ∈ Layered.lookupAll (sys ++ [TrieBuf.toDict us]) key .standard, p.text = x ∧ 1 ≤ p.freq := by
  obtain ⟨v, hv, h1⟩ := hlive
  have hm : m (key, x) = some v := by rw [← hu]; exact hv
  obtain ⟨p, hp, e, hf⟩ := (C09.layered_over_map sys us m key hlk).2.2 x v hm
  exact ⟨p, hp, e, Nat.le_trans h1 hf⟩

/-- C07: a phrase list over the syllables `key` shows the text of every phrase the environment's dictionary
    returns for `key` under the selector's strategy -/
theorem listed_of_lookup {p : PhraseSel} {d : D} {l : L} {key : List Nat} {cs : List Text}
    (hr : C07.RangeIs p key) (hc : PhraseSel.candidates env p d l = .ok cs)
    {x : Text} (hx : ∃ ph ∈ env.lookupAll d key p.strategy, ph.text = x) : x ∈ cs := by
  obtain ⟨ph, hph, e⟩ := hx
  rw [← e]
  exact (C07.phrase_list_complete env hr hc).2.2 ph hph

/-! ### the list the editor opens on the bare syllables -/

theorem symbol?_syl {c : Composition} {key : List Nat} (hsym : c.symbols = key.map Sym.syl) {i : Nat}
    (hi : i < key.length) : c.symbol? i = some (.syl key[i]) := by
  rw [C01.symbol?_lt (by rw [hsym, List.length_map]; exact hi), hsym, List.getElem?_map, List.getElem?_eq_getElem hi]
  rfl

/-- `next_break_point` on a buffer of syllables only: the end of the buffer (it stops at no syllable, `C01.nbp_spec`) -/
theorem nextBreakPoint_syl {s : PhraseSel} {key : List Nat} (hsym : s.com.symbols = key.map Sym.syl) {c : Nat}
    (hc : c ≤ key.length) : s.nextBreakPoint c = key.length := by
  have hlen : s.com.symbols.length = key.length := by rw [hsym, List.length_map]
  obtain ⟨_, h2, _, _, h5⟩ := C01.nbp_spec s (c := c) (hlen ▸ hc)
  refine Nat.le_antisymm (hlen ▸ h2) (Nat.le_of_not_lt fun hlt => h5 key[s.nextBreakPoint c] ?_)
  rw [hsym, List.getElem?_map, List.getElem?_eq_getElem hlt]
  rfl

/-- the shrinking loop of `init` returns at once the range it is given if the dictionary has a phrase for it -/
theorem initLoop_has {s : PhraseSel} {d : D} (hlt : s.begin_ < s.end_) (hle : s.end_ ≤ s.com.len)
    (h : PhraseSel.rangeHasPhrase env s d s.begin_ s.end_ = .ok true) (fuel : Nat) :
    PhraseSel.initLoop env s d (fuel + 1) = .ok s := by
  unfold PhraseSel.initLoop
  rw [if_neg (Nat.lt_asymm hlt), if_neg (Nat.not_lt.mpr hle), if_neg (by simpa using Nat.ne_of_lt hlt), h]

/-- **"type the syllables alone, open the candidate list"** on the editor model: the buffer holds exactly the
    syllables `key` (non-empty), the cursor is at the beginning, choosing forward (the default).  If the
    dictionary returns anything for `key`, `open_phrase` opens a phrase list over the whole buffer, whose
    range is `key` and whose candidates are the dictionary's answer for `key` (C07) -/
theorem openPhrase_bare {sh : Shared D L} {key : List Nat} (hkey : key ≠ [])
    (hsym : sh.com.inner.symbols = key.map Sym.syl) (hcur : sh.com.cursor = 0)
    (hfw : sh.options.phraseChoiceRearward = false)
    (hne : env.lookupAll sh.dict key sh.options.lookupStrategy ≠ []) :
    ∃ sh' s p cs, openPhrase env sh = .ok (sh', .toState (.selecting s)) ∧ s.sel = .phrase p ∧
      sh'.dict = sh.dict ∧ p.strategy = sh.options.lookupStrategy ∧
      p.begin_ = 0 ∧ p.end_ = key.length ∧ C07.RangeIs p key ∧
      Selecting.candidates env s sh' = .ok cs ∧
      ∀ ph ∈ env.lookupAll sh.dict key sh.options.lookupStrategy, ph.text ∈ cs := by
  have hpos : 0 < key.length := List.length_pos_iff.mpr hkey
  have hlen : sh.com.inner.len = key.length := by rw [Composition.len, hsym, List.length_map]
  let p0 : PhraseSel := ⟨0, key.length, true, 0, sh.options.lookupStrategy, sh.com.inner⟩
  have hr : C07.RangeIs p0 key := by
    show sliceSyms sh.com.inner.symbols 0 key.length = _
    rw [C01.sliceSyms_ok (Nat.zero_le _) (Nat.le_of_eq hlen.symm), hsym, List.drop_zero, Nat.sub_zero,
      List.take_of_length_le (by rw [List.length_map]; exact Nat.le_refl _)]
  have hrp : PhraseSel.rangeHasPhrase env p0 sh.dict p0.begin_ p0.end_ = .ok true := by
    rw [rangeHasPhrase_eq env (show sliceSyms p0.com.symbols p0.begin_ p0.end_ = _ from hr), C07.sylPrefix_map,
      (env.hasPhrase_iff ..).mpr hne]
  -- `init` starts the loop on the range up to the next break point, the end of the buffer
  have hinit : PhraseSel.init env true sh.options.lookupStrategy sh.com.inner 0 sh.dict = .ok p0 := by
    have hz : ((0 : Nat) == sh.com.inner.len) = false := hlen ▸ beq_eq_false_iff_ne.mpr (Nat.ne_of_lt hpos)
    unfold PhraseSel.init
    simp only [if_true, hz, Bool.false_eq_true, false_and, if_false]
    rw [nextBreakPoint_syl hsym (Nat.zero_le _)]
    exact initLoop_has env hpos (Nat.le_of_eq hlen.symm) hrp _
  -- the cursor is not at the end of the buffer, so it is not clamped
  have hclamp : sh.com.pushCursor.clampCursor = sh.com.pushCursor :=
    if_neg (by show ¬ sh.com.cursor = sh.com.inner.len; rw [hcur, hlen]; exact Nat.ne_of_lt hpos)
  have hnew : newPhrase env sh = .ok ({ sh with com := sh.com.pushCursor },
      .toState (.selecting { pageNo := 0, action := .replace, sel := .phrase p0 })) := by
    unfold newPhrase
    simp only [hclamp, hfw, Bool.not_false]
    rw [show sh.com.pushCursor.cursor = 0 from hcur, show sh.com.pushCursor.inner = sh.com.inner from rfl, hinit]
  obtain ⟨cs, hcs⟩ : ∃ cs, PhraseSel.candidates env p0 sh.dict sh.syl = .ok cs := by
    unfold PhraseSel.candidates
    rw [show sliceSyms p0.com.symbols p0.begin_ p0.end_ = _ from hr,
      show p0.com.symbol? p0.begin_ = _ from symbol?_syl hsym hpos]
    dsimp only
    split <;> exact ⟨_, rfl⟩
  refine ⟨{ sh with com := sh.com.pushCursor }, { pageNo := 0, action := .replace, sel := .phrase p0 }, p0, cs,
    ?_, rfl, rfl, rfl, rfl, rfl, hr, hcs, (C07.phrase_list_complete env hr hcs).2.2⟩
  unfold openPhrase
  rw [hnew]
  dsimp only
  rw [show Selecting.candidates env ⟨0, .replace, .phrase p0⟩ { sh with com := sh.com.pushCursor } = .ok cs from hcs]
  cases cs with
  | nil => exact absurd rfl (candidates_nonempty env hrp hcs)
  | cons a r => rfl

end candidate

/-! ## 2. The default conversion of the bare syllables, on C03's engine model -/

section engine
open Conv

/-- `x` is the text of a phrase of `ps` whose frequency is strictly above that of every phrase with another text -/
def Dominant (ps : List Phrase) (x : Text) : Prop :=
  ∃ p ∈ ps, p.text = x ∧ ∀ q ∈ ps, q.text ≠ x → q.freq < p.freq

/-- the `'next_phrase` loop of `find_best_phrase` without selections is the `keepMax` fold -/
theorem pickBest_nil_eq (s e : Nat) (ps : List Phrase) (best : Option Phrase) :
    pickBest [] s e ps best = .ok (ps.foldl (Learn.keepMax (·.freq)) best) := by
  induction ps generalizing best with
  | nil => rfl
  | cons p ps ih =>
    have hok : phraseOk s e p [] = .ok true := rfl
    unfold pickBest
    rw [hok]
    cases best with
    | none => exact ih _
    | some b =>
      simp only [List.foldl_cons, Learn.keepMax, decide_eq_true_eq]
      split <;> exact ih _

/-- … so with a dominant phrase `x` the loop returns a phrase of the list with text `x` -/
theorem pickBest_dominant {ps : List Phrase} {x : Text} (h : Dominant ps x) (s e : Nat) :
    ∃ p ∈ ps, p.text = x ∧ pickBest [] s e ps none = .ok (some p) := by
  obtain ⟨px, hpx, hx, hdom⟩ := h
  obtain ⟨h1, h2⟩ := Learn.foldl_keepMax (·.freq) ps none
  obtain ⟨p, e, le⟩ := h2 px (.inl hpx)
  rcases h1 with h | ⟨p', hp', h⟩
  · exact nomatch e.symm.trans h
  · cases e.symm.trans h
    refine ⟨p, hp', Classical.byContradiction fun hne => ?_, by rw [pickBest_nil_eq, e]⟩
    exact absurd le (Nat.not_le.mpr (hdom p hp' hne))

/-- a buffer that holds exactly the syllables `key`: no selection, no `Break` gap strictly inside -/
structure Bare (c : Composition) (key : List Nat) : Prop where
  sym : c.symbols = key.map Sym.syl
  lens : c.symbols.length = c.gaps.length
  sel : c.selections = []
  nobrk : hasBreakInside c 0 key.length = false

theorem Bare.compValid {c : Composition} {key : List Nat} (h : Bare c key) : CompValid c where
  lens := h.lens
  sels := by intro x hx; rw [h.sel] at hx; cases hx
  disjoint := by rw [h.sel]; exact List.Pairwise.nil

theorem Bare.len {c : Composition} {key : List Nat} (h : Bare c key) : c.symbols.length = key.length := by
  rw [h.sym, List.length_map]

theorem conv_sylPrefix_map (key : List Nat) : Conv.sylPrefix (key.map Sym.syl) = key := by
  induction key with
  | nil => rfl
  | cons k ks ih => simp only [List.map, Conv.sylPrefix, ih]

/-- the composition the editor holds after the syllables `key` were typed alone (gaps `Begin`, `Normal`, …) -/
def bareComp (key : List Nat) : Composition :=
  { symbols := key.map Sym.syl, gaps := (List.range key.length).map (fun i => if i = 0 then Gap.begin else Gap.normal),
    selections := [] }

theorem bareComp_bare (key : List Nat) : Bare (bareComp key) key where
  sym := rfl
  lens := by simp [bareComp]
  sel := rfl
  nobrk := by
    rw [hasBreakInside_eq_false_iff]
    intro i h1 h2
    have hg : gapAt (bareComp key) i = some Gap.normal := by
      unfold gapAt bareComp
      simp only [List.length_map]
      rw [if_pos h2, List.getElem?_map, List.getElem?_range h2]
      simp only [Option.map_some]
      rw [if_neg (Nat.ne_of_gt h1)]
    rw [hg]; simp

/-- **`hedge`, first half**: `find_best_phrase` over the whole bare buffer returns the dominant phrase -/
theorem findBestPhrase_whole {d : Dict} {strat : Strategy} {c : Composition} {key : List Nat} {x : Text}
    (hb : Bare c key) (hkey : key ≠ []) (hd : Dominant (d.lookup key strat) x) :
    ∃ p ∈ d.lookup key strat, p.text = x ∧ findBestPhrase d strat c 0 key.length = .ok (some (.phrase p)) := by
  obtain ⟨p, hp, hx, hpick⟩ := pickBest_dominant hd 0 key.length
  refine ⟨p, hp, hx, ?_⟩
  have hs : slice c 0 key.length = key.map Sym.syl := by
    unfold slice
    rw [hb.sym, List.drop_zero, Nat.sub_zero, List.take_of_length_le (by simp)]
  have hne : (key.map Sym.syl).isEmpty = false := by
    cases key with
    | nil => exact absurd rfl hkey
    | cons _ _ => rfl
  have hconf : selConflict c 0 key.length = false := by unfold selConflict; rw [hb.sel]; rfl
  have hall : ((key.map Sym.syl).any fun sym => !sym.isSyl) = false := by
    rw [List.any_eq_false]
    intro a ha
    obtain ⟨k, _, rfl⟩ := List.mem_map.mp ha
    simp [Sym.isSyl]
  unfold findBestPhrase
  rw [hs, hne, hb.nobrk, hconf]
  simp only [Bool.false_eq_true, if_false]
  split
  · rename_i cp heq
    cases key with
    | nil => exact absurd rfl hkey
    | cons k ks => simp at heq
  · rw [hall]
    simp only [Bool.false_eq_true, if_false]
    rw [conv_sylPrefix_map, hb.sel, hpick]

/-- **`hedge`**: the graph `find_intervals` builds has the whole-range edge carrying `find_best_phrase`'s answer -/
theorem whole_edge {d : Dict} {strat : Strategy} {c : Composition} {es : List Edge} {ph : PPhrase}
    (hes : findIntervals d strat c = .ok es) (hpos : 0 < c.symbols.length)
    (hf : findBestPhrase d strat c 0 c.symbols.length = .ok (some ph)) :
    (⟨0, c.symbols.length, ph⟩ : Edge) ∈ es :=
  collectEdges_complete hes (mem_pairs.mpr ⟨hpos, Nat.zero_le _, Nat.le_refl _⟩) hf

/-- **`huniq`**: `find_intervals` makes at most one edge per (start, end) -/
theorem edge_unique {d : Dict} {strat : Strategy} {c : Composition} {es : List Edge}
    (hes : findIntervals d strat c = .ok es) {e e' : Edge} (he : e ∈ es) (he' : e' ∈ es)
    (h1 : e.start = e'.start) (h2 : e.stop = e'.stop) : e = e' := by
  have a := (collectEdges_mem hes he).2
  have b := (collectEdges_mem hes he').2
  rw [h1, h2, b] at a
  have := Outcome.ok.inj a
  cases e; cases e'
  simp only at h1 h2 this
  simp only [Option.some.injEq] at this
  subst h1 h2 this
  rfl

/-- **the first k-path is the whole-range edge** (`hg` + BFS): on a graph of valid edges in which the source
    has an edge `E` over the whole range — the only such edge — `shortest_path(graph, [], 0, len)` is `[E]`:
    the scan of the source's edges (`bfsEdges_spec`) breaks out at an edge to the sink, which can only be `E` -/
theorem shortestPath_direct {es : List Edge} {n : Nat} {E : Edge} (hv : EdgesValid n es) (hn : 0 < n)
    (hE : E ∈ es) (h0 : E.start = 0) (h1 : E.stop = n)
    (hu : ∀ e ∈ es, e.start = 0 → e.stop = n → e = E) :
    shortestPath es n [] 0 = .ok (some [E]) := by
  have hout : ∀ e ∈ outEdges es 0, e ∈ es ∧ e.start = 0 := by
    intro e he
    have := List.mem_filter.mp he
    exact ⟨this.1, by simpa using this.2⟩
  obtain ⟨par', q', brk, hb, post, nb⟩ := bfsEdges_spec (removed := []) (l := outEdges es 0)
    (par := List.replicate (n + 1) none) (q := []) (fun e he => hv e (hout e he).1) (by simp)
  cases brk with
  | false => exact absurd h1 (nb rfl E (List.mem_filter.mpr ⟨hE, by simp [h0]⟩) (fun _ _ h => nomatch h))
  | true =>
    obtain ⟨e, he⟩ := post.hit rfl
    have : e = E := by
      rcases post.fresh n e he with h | ⟨h1', h2, _⟩
      · rw [List.getElem?_replicate] at h; split at h <;> cases h
      · exact hu e (hout e h1').1 (hout e h1').2 h2
    subst this
    unfold shortestPath
    have hl : bfsLoop es n [] (n + 2) (List.replicate (n + 1) none) [0] = .ok par' := by
      show bfsLoop es n [] ((n + 1) + 1) (List.replicate (n + 1) none) [0] = .ok par'
      unfold bfsLoop
      rw [hb]
      rfl
    rw [hl]
    simp only
    unfold walkBack
    rw [if_neg (Nat.ne_of_gt hn)]
    simp only [he]
    unfold walkBack
    rw [if_pos h0]

/-- `PossiblePath::contains`: the single whole-range interval contains every path of non-empty intervals
    inside the range -/
theorem pathContains_whole {E : Edge} (h0 : E.start = 0) : ∀ cand : Path,
    (∀ o ∈ cand, 0 < o.stop ∧ o.stop ≤ E.stop) → pathContains [E] cand = true := by
  intro cand
  induction cand with
  | nil => intro _; rfl
  | cons o os ih =>
    intro h
    obtain ⟨a, b⟩ := h o (List.mem_cons_self ..)
    have hadv : advance o [E] = some [E] := by
      unfold advance
      rw [if_pos (h0 ▸ a), if_pos ⟨h0 ▸ Nat.zero_le _, b⟩]
    unfold pathContains
    rw [hadv]
    exact ih (fun o' ho' => h o' (List.mem_cons_of_mem _ ho'))

/-- **`hrest` is all `trim_paths` needs**: with the whole-range path first, every other k-path is discarded -/
theorem trimPaths_direct {E : Edge} (h0 : E.start = 0) (rest : List Path)
    (hrest : ∀ cnd ∈ rest, ∀ o ∈ cnd, 0 < o.stop ∧ o.stop ≤ E.stop) : trimPaths ([E] :: rest) = [[E]] := by
  have hstep : ∀ cnd, (∀ o ∈ cnd, 0 < o.stop ∧ o.stop ≤ E.stop) → trimStep [[E]] cnd = [[E]] := by
    intro cnd h
    unfold trimStep
    simp only [trimInner, pathContains_whole h0 cnd h, Bool.or_true, if_true, List.nil_append]
  have hfold : ∀ rest : List Path, (∀ cnd ∈ rest, ∀ o ∈ cnd, 0 < o.stop ∧ o.stop ≤ E.stop) →
      rest.foldl trimStep [[E]] = [[E]] := by
    intro rest
    induction rest with
    | nil => intro _; rfl
    | cons a r ih =>
      intro h
      rw [List.foldl_cons, hstep a (h a (List.mem_cons_self ..))]
      exact ih (fun cnd hc => h cnd (List.mem_cons_of_mem _ hc))
  unfold trimPaths
  rw [List.foldl_cons]
  have : trimStep [] [E] = [[E]] := rfl
  rw [this]
  exact hfold rest hrest

/-- **the default conversion of the bare syllables, on C03's engine model.**  For every pick oracle in range,
    every dictionary and strategy: if the buffer holds exactly the syllables `key` (`Bare`: no selection, no
    `Break` inside) and the dictionary's answer for `key` has a phrase `x` whose frequency is strictly above
    every phrase with another text, `ChewingEngine::convert` returns exactly ONE alternative: the single
    interval over the whole buffer showing `x`.  No hypothesis about the graph, the k-paths or the scores is
    left; neither `ScoreBound` (a single path is never scored) nor `WellFormed` is needed. -/
theorem convertChewing_dominant {pick : Nat → List Path → Nat} (hpick : PickInRange pick) {d : Dict} {strat : Strategy}
    {c : Composition} {key : List Nat} {x : Text} (hb : Bare c key) (hkey : key ≠ [])
    (hd : Dominant (d.lookup key strat) x) :
    convertChewing pick d strat c = .ok [[{ start := 0, stop := key.length, isPhrase := true, text := x }]] := by
  have hlen := hb.len
  have hpos : 0 < key.length := List.length_pos_iff.mpr hkey
  obtain ⟨p, _, hx, hf⟩ := findBestPhrase_whole (d := d) (strat := strat) hb hkey hd
  obtain ⟨es, sp, rest, hes, hsp', hraw, _, hchain⟩ := rawPaths_live (d := d) (strat := strat) hpick hb.compValid
  rw [hlen] at hchain hsp'
  have hv : EdgesValid key.length es := by rw [← hlen]; exact edgesValid_of_findIntervals hes
  let E : Edge := ⟨0, key.length, .phrase p⟩
  have hE : E ∈ es := by
    have := whole_edge hes (by rw [hlen]; exact hpos) (by rw [hlen]; exact hf)
    rw [hlen] at this; exact this
  cases Option.some.inj (Outcome.ok.inj (hsp'.symm.trans
    (shortestPath_direct hv hpos hE rfl rfl (fun e he a b => edge_unique hes he hE a b))))
  have htrim : trimPaths ([E] :: rest) = [[E]] := by
    apply trimPaths_direct rfl
    intro cnd hc o ho
    have := hv o ((hchain cnd (List.mem_cons_of_mem _ hc)).mem ho)
    exact ⟨Nat.zero_lt_of_lt this.1, this.2⟩
  unfold convertChewing
  rw [if_neg (hlen ▸ Nat.ne_of_gt hpos), hraw]
  simp only
  unfold finishPaths
  rw [htrim]
  simp [sortPaths, gluePath, glueStep, toInterval, E, PPhrase.text, hx]

end engine

/-! ## 3. From C08's frequencies (`mergedFreq`) to the dictionary the engine reads -/

section bridge

/-- order-free link between a dictionary answer `ps` and a list `es` of (text, frequency) pairs: the same
    set of pairs -/
structure SamePairs (ps : List Phrase) (es : List (Text × Nat)) : Prop where
  sound : ∀ q ∈ ps, (q.text, q.freq) ∈ es
  complete : ∀ e ∈ es, ∃ q ∈ ps, q.text = e.1 ∧ q.freq = e.2

/-- strict dominance of `x` among the pairs `es` is `Dominant` for every answer with the same pairs -/
theorem dominant_of_pairs {ps : List Phrase} {es : List (Text × Nat)} {x : Text} (hp : SamePairs ps es)
    (hdom : ∀ t, t ≠ x → Learn.bestOf es t < Learn.bestOf es x) : Dominant ps x := by
  obtain ⟨q, hq, e1, e2⟩ := hp.complete _ (Learn.bestOf_attained (Learn.pos_of_dominant hdom))
  refine ⟨q, hq, e1, ?_⟩
  intro q' hq' hne
  have h1 := Learn.le_bestOf_of_mem (hp.sound q' hq')
  have h2 := hdom q'.text hne
  simp only at e2
  omega

/-- **C09's max-merge keeps dominance**: if `x` dominates the raw answers of the layers (`Layered.candidates`:
    system layers in order, then the user layer), it dominates `Layered::lookup_all_phrases` -/
theorem dominant_layered {layers : List Dict} {key : List Nat} {st : Strategy} {x : Text}
    (h : Dominant (Layered.candidates layers key st) x) : Dominant (Layered.lookupAll layers key st) x := by
  obtain ⟨px, hpx, hx, hdom⟩ := h
  obtain ⟨_, h2, h3, _⟩ := C09.layered_union layers key st
  obtain ⟨dx, hdx, hpdx⟩ := C09.mem_candidates.mp hpx
  have hxin : x ∈ texts (Layered.lookupAll layers key st) :=
    (h2 x).mpr ⟨dx, hdx, mem_texts.mpr ⟨px, hpdx, hx⟩⟩
  obtain ⟨p, hp, ep⟩ := mem_texts.mp hxin
  have hge : px.freq ≤ p.freq := (h3 p hp).2 dx hdx px hpdx (by rw [hx, ep])
  refine ⟨p, hp, ep, ?_⟩
  intro q hq hne
  obtain ⟨dq, hdq, hqd⟩ := (h3 q hq).1
  have := hdom q (C09.mem_candidates.mpr ⟨dq, hdq, hqd⟩) hne
  omega

/-- C08's dominance hypothesis `hdom` (merged frequencies of `Model/Learn.lean`) is `Dominant` for every
    dictionary answer that has the same (text, frequency) pairs as C08's merged lookup -/
theorem dominant_of_mergedFreq {ctx : Learn.LearnCtx} {u : Learn.UserMap} {key : List Nat} {x : Text}
    (hdom : ∀ t, t ≠ x → Learn.mergedFreq ctx.sys u key t < Learn.mergedFreq ctx.sys u key x)
    {ps : List Phrase} (hp : SamePairs ps (Learn.lookupAll ctx u key)) : Dominant ps x := by
  exact dominant_of_pairs hp (fun t ht => by rw [Learn.lookupAll_bestOf, Learn.lookupAll_bestOf]; exact hdom t ht)

/-- … and for `Layered` over layers whose RAW answers (before the merge) have the same pairs as C08's raw
    entries `allEntries` (system entries, then the user map's) -/
theorem dominant_layered_of_mergedFreq {sys : List Entry} {u : Learn.UserMap} {key : List Nat} {x : Text}
    (hdom : ∀ t, t ≠ x → Learn.mergedFreq sys u key t < Learn.mergedFreq sys u key x)
    {layers : List Dict} {st : Strategy}
    (hp : SamePairs (Layered.candidates layers key st) (Learn.allEntries sys u key)) :
    Dominant (Layered.lookupAll layers key st) x :=
  dominant_layered (dominant_of_pairs hp hdom)

/-! ### the pairs hypothesis discharged for C09's concrete layers -/

theorem SamePairs.append {p1 p2 : List Phrase} {e1 e2 : List (Text × Nat)} (h1 : SamePairs p1 e1) (h2 : SamePairs p2 e2) :
    SamePairs (p1 ++ p2) (e1 ++ e2) where
  sound := by
    intro q hq
    rcases List.mem_append.mp hq with h | h
    · exact List.mem_append_left _ (h1.sound q h)
    · exact List.mem_append_right _ (h2.sound q h)
  complete := by
    intro e he
    rcases List.mem_append.mp he with h | h
    · obtain ⟨q, hq, a⟩ := h1.complete e h; exact ⟨q, List.mem_append_left _ hq, a⟩
    · obtain ⟨q, hq, a⟩ := h2.complete e h; exact ⟨q, List.mem_append_right _ hq, a⟩

/-- an answer whose (text, frequency) pairs, in order, are `es` -/
theorem SamePairs.of_map {ps : List Phrase} {es : List (Text × Nat)} (h : ps.map (fun q => (q.text, q.freq)) = es) :
    SamePairs ps es where
  sound q hq := h ▸ List.mem_map_of_mem hq
  complete e he := by
    obtain ⟨q, hq, rfl⟩ := List.mem_map.mp (h ▸ he)
    exact ⟨q, hq, rfl, rfl⟩

/-- system layers given by entry lists (`Dict.ofEntries`, exact-key lookup): their raw answers are, in order, C08's
    `sysLookup` of the concatenated entries -/
theorem samePairs_sys (sysL : List (List Entry)) (key : List Nat) (st : Strategy) :
    SamePairs ((sysL.map Dict.ofEntries).flatMap (fun d => d.lookup key st)) (Learn.sysLookup sysL.flatten key) := by
  apply SamePairs.of_map
  unfold Learn.sysLookup
  induction sysL with
  | nil => rfl
  | cons es r ih =>
    simp only [List.map_cons, List.flatMap_cons, List.flatten_cons, List.filter_append, List.map_append, ih,
      Dict.ofEntries, List.map_map]
    congr 2
    exact List.filter_congr fun e _ => Bool.eq_iff_iff.mpr (by rw [beq_iff_eq, decide_eq_true_iff])

/-- the association list has no shadowed entry (true of `[]`, kept by `insert`, hence by learning) -/
def NoShadow (u : Learn.UserMap) : Prop := ∀ e ∈ u, u.get? e.1 = some e.2

theorem noShadow_nil : NoShadow [] := fun _ h => by cases h

theorem noShadow_insert {u : Learn.UserMap} (h : NoShadow u) (k : Learn.UKey) (v : Nat × Nat) : NoShadow (u.insert k v) := by
  intro e he
  unfold Learn.UserMap.insert at he
  rcases List.mem_cons.mp he with rfl | he
  · exact Learn.UserMap.get?_insert_self u k v
  · obtain ⟨hm, hk⟩ := List.mem_filter.mp he
    have hne : e.1 ≠ k := by simpa using hk
    rw [Learn.UserMap.get?_insert_ne u k e.1 v hne]
    exact h e hm

theorem noShadow_learnPhrase {ctx : Learn.LearnCtx} {u u' : Learn.UserMap} {key : List Nat} {x : Text}
    (h : NoShadow u) (hl : Learn.learnPhrase ctx u key x = .ok u') : NoShadow u' := by
  rw [Learn.learnPhrase_eq] at hl
  cases hl
  split
  · exact noShadow_insert h _ _
  · exact h

theorem noShadow_learnRepeat {sys : List Entry} {key : List Nat} {x : Text} : ∀ (lts : List Nat) {u u' : Learn.UserMap},
    NoShadow u → Learn.learnRepeat sys key x lts u = .ok u' → NoShadow u' := by
  intro lts
  induction lts with
  | nil => intro u u' h hl; cases hl; exact h
  | cons lt rest ih =>
    intro u u' h hl
    rw [Learn.learnRepeat, Learn.learnPhrase_eq] at hl
    exact ih (noShadow_learnPhrase h (Learn.learnPhrase_eq ..)) hl

/-- a user layer (C09's `TrieBuf`) whose exact lookup of `key` answers as the map `m` that the shadow-free
    `UserMap` `u` denotes: its answer has the pairs of C08's `u.lookup key` -/
theorem samePairs_user {u : Learn.UserMap} {m : MapSpec.Map} (hu : LearnLink.URep u m) (hns : NoShadow u)
    {l : List Phrase} {key : List Nat} (hlk : MapSpec.IsLookup m key l) : SamePairs l (u.lookup key) where
  sound := by
    intro q hq
    exact Learn.mem_lookup_of_get? (x := q.text) ((hu _).trans (hlk.2.1 q hq))
  complete := by
    intro e he
    unfold Learn.UserMap.lookup at he
    obtain ⟨en, hen, rfl⟩ := List.mem_map.mp he
    obtain ⟨hmem, hk⟩ := List.mem_filter.mp hen
    have hk' : en.1 = (key, en.1.2) := by rw [← show en.1.1 = key by simpa using hk]
    have h1 := hns en hmem
    rw [hk'] at h1
    obtain ⟨p, hp, ep, h2⟩ := lookup_lists hu hlk h1
    exact ⟨p, hp, ep, congrArg Prod.fst (Option.some.inj (h2.symm.trans h1))⟩

/-- … so `Layered` over system layers given by entry lists and such a user layer has, before its merge, the
    pairs of C08's raw entries -/
theorem samePairs_layers (sysL : List (List Entry)) {u : Learn.UserMap} {m : MapSpec.Map} (hu : LearnLink.URep u m)
    (hns : NoShadow u) (us : TrieBuf.State) {key : List Nat}
    (hlk : MapSpec.IsLookup m key (TrieBuf.lookupAll us key .standard)) :
    SamePairs (Layered.candidates (sysL.map Dict.ofEntries ++ [TrieBuf.toDict us]) key .standard)
      (Learn.allEntries sysL.flatten u key) := by
  unfold Layered.candidates Learn.allEntries
  rw [List.flatMap_append]
  refine (samePairs_sys sysL key .standard).append ?_
  simp only [List.flatMap_cons, List.flatMap_nil, List.append_nil]
  exact samePairs_user hu hns hlk

end bridge

end Chewing.LearnLinkEd
