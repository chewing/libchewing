import Chewing.Proofs.WalkEntries
import Chewing.Proofs.WalkValid
/-!
Linear step bound for `Trie::entries()` on a table that passed `validate_index`.

`sz t i` is the size of the subtree below record `i` (children have larger indices, so the
recursion is indexed by fuel `n`).  Twice the subtree size is a weight function in the sense of
`Proofs/WalkEntries.lean` for every `Forward` table (`subtreeWeights`); for a validated table the
subtree of the root has at most `n` records (`sz_root_le`): the scan of `validate_index` visits the
records in breadth-first order and the records `i .. next` are at every moment the roots of disjoint
subtrees inside `i .. n` (`scan_frontier`).  Hence `entries()` needs at most `16·n + 2` loop iterations.
-/
namespace Chewing.TrieWalk
open Chewing.TrieValidate

variable {P : Type}

/-- the guard of the recursion: a node record whose children come after it -/
def Desc (t : Tbl P) (i : Nat) : Prop := i < t.n ∧ NodeIsh t i ∧ i < (t.get i).a

instance (t : Tbl P) (i : Nat) : Decidable (Desc t i) := by unfold Desc; exact inferInstance

def szF (t : Tbl P) : Nat → Nat → Nat
  | 0, _ => 1
  | f + 1, i =>
    if Desc t i then 1 + ((List.range' (t.get i).a (t.get i).b).map (szF t f)).sum else 1

/-- number of records in the subtree of record `i` -/
def sz (t : Tbl P) (i : Nat) : Nat := szF t t.n i

theorem szF_pos (t : Tbl P) (f i : Nat) : 1 ≤ szF t f i := by
  cases f with
  | zero => exact Nat.le_refl 1
  | succ f =>
    rw [szF]
    split
    · exact Nat.le_add_right ..
    · exact Nat.le_refl 1

theorem sumW_congr {w w' : Nat → Nat} {c e : Nat} (h : ∀ j, c ≤ j → w j = w' j) : sumW w c e = sumW w' c e :=
  congrArg List.sum (List.map_congr_left fun j hj => h j (List.mem_range'_1.mp hj).1)

theorem szF_succ (t : Tbl P) (f i : Nat) :
    szF t (f + 1) i = if Desc t i then 1 + sumW (szF t f) (t.get i).a ((t.get i).a + (t.get i).b) else 1 := by
  rw [sumW, Nat.add_sub_cancel_left, szF]

/-- fuel `f` is enough for record `i` when `n ≤ i + f`; then one unit less is enough for its children -/
theorem Desc.fuel {t : Tbl P} {i j f : Nat} (h : Desc t i) (hj : (t.get i).a ≤ j) (hf : t.n ≤ i + (f + 1)) :
    t.n ≤ j + f :=
  Nat.le_trans (Nat.add_right_comm i f 1 ▸ hf) (Nat.add_le_add_right (Nat.lt_of_lt_of_le h.2.2 hj) f)

theorem szF_stable (t : Tbl P) : ∀ (f i : Nat), t.n ≤ i + f → szF t (f + 1) i = szF t f i
  | 0, i, h => by
    rw [szF_succ, if_neg fun hd => Nat.not_le_of_lt hd.1 h]
    rfl
  | f + 1, i, h => by
    rw [szF_succ, szF_succ t f]
    exact ite_congr rfl (fun hd => by rw [sumW_congr fun j hj => szF_stable t f j (hd.fuel hj h)]) fun _ => rfl

theorem sz_desc {t : Tbl P} {i : Nat} (h : Desc t i) :
    sz t i = 1 + sumW (sz t) (t.get i).a ((t.get i).a + (t.get i).b) := by
  obtain ⟨m, hm⟩ := Nat.exists_eq_add_one_of_ne_zero (Nat.ne_zero_of_lt h.1)
  unfold sz
  rw [hm, szF_succ, if_pos h, sumW_congr fun j hj => szF_stable t m j (h.fuel hj (hm ▸ Nat.le_add_left ..))]

theorem sz_not_desc {t : Tbl P} {i : Nat} (h : ¬ Desc t i) : sz t i = 1 := by
  unfold sz
  cases hn : t.n with
  | zero => rfl
  | succ n => rw [szF, if_neg h]

theorem sumW_empty (w : Nat → Nat) {c e : Nat} (h : e ≤ c) : sumW w c e = 0 := by
  unfold sumW
  rw [Nat.sub_eq_zero_of_le h]
  rfl

theorem sumW_split (w : Nat → Nat) {c m e : Nat} (h1 : c ≤ m) (h2 : m ≤ e) :
    sumW w c e = sumW w c m + sumW w m e := by
  unfold sumW
  rw [← Nat.sub_add_sub_cancel h2 h1, Nat.add_comm (e - m), ← List.range'_append_1, Nat.add_sub_of_le h1,
    List.map_append, List.sum_append]

theorem sumW_double (w : Nat → Nat) (c e : Nat) : sumW (fun j => 2 * w j) c e = 2 * sumW w c e := by
  unfold sumW
  induction List.range' c (e - c) with
  | nil => rfl
  | cons x xs ih => simp only [List.map_cons, List.sum_cons, ih, Nat.mul_add]

/-- twice the subtree size: a weight function for every table whose children come after their parent -/
def subtreeWeights {t : Tbl P} (hfw : Forward t) : Weights t where
  w := fun i => 2 * sz t i
  two_le := fun i _ => by have := szF_pos t t.n i; unfold sz; omega
  children := fun i hi hn hr => by
    have hd : Desc t i := ⟨hi, hn, hfw i hi hn hr⟩
    rw [sumW_double, sz_desc hd]
    omega

theorem frontier_step {i x y z n : Nat} (h : i + 1 + (x + (y + z)) ≤ n) : i + (1 + z + x) ≤ n := by omega

/-- the frontier invariant of the scan: the records `i .. next` are roots of disjoint subtrees inside `i .. n` -/
theorem scan_frontier (t : Tbl P) :
    ∀ (k i next : Nat), i + k = t.n → scan t.rec3 t.dataLen (t.rec3.drop i) i next = true → next ≤ t.n →
      i + sumW (sz t) i next ≤ t.n
  | 0, i, next, hk, _, hnx => by
    rw [sumW_empty _ (c := i) (Nat.le_trans hnx (Nat.le_of_eq hk.symm))]
    exact Nat.le_of_eq hk
  | k + 1, i, next, hk, h, hnx => by
    have hi : i < t.n := hk ▸ Nat.lt_add_of_pos_right k.succ_pos
    by_cases hge : next ≤ i
    · rw [sumW_empty _ hge]
      exact Nat.le_of_lt hi
    have hlt : i < next := Nat.lt_of_not_le hge
    have hl : i < t.rec3.length := (rec3_length t).symm ▸ hi
    rw [List.drop_eq_getElem_cons hl, rec3_get t hi hl] at h
    have ih := fun next => scan_frontier t k (i + 1) next (Nat.add_right_comm i 1 k ▸ hk)
    rw [sumW_next _ hlt]
    by_cases hn : NodeIsh t i
    · obtain ⟨h1, h2, h3, _, h5⟩ := (scan_cons_node (by exact hn)).mp h
      dsimp only at h1 h2 h3 h5
      -- the subtrees of `i + 1 .. next`, then nothing up to the children of `i`, then those children
      have ih := ih _ h5 (rec3_length t ▸ h3)
      rw [sumW_split _ hlt (Nat.le_trans h1 (Nat.le_add_right ..)), sumW_split _ h1 (Nat.le_add_right ..)] at ih
      rw [sz_desc ⟨hi, hn, h2⟩]
      -- `exact`, not `omega`: the `sumW` terms of `ih` and of the goal agree only up to unification
      exact frontier_step ih
    · rw [sz_not_desc (fun hd => hn hd.2.1), ← Nat.add_assoc]
      exact ih next ((scan_cons_leaf (by exact hn)).mp h).2 hnx

/-- the subtree of the root of a validated table has at most `n` records -/
theorem sz_root_le {t : Tbl P} (hv : validate t = true) (hn : 1 ≤ t.n) : sz t 0 ≤ t.n := by
  have := scan_frontier t t.n 0 1 (Nat.zero_add _) (TrieValidate.validate_scan hv) hn
  rw [sumW_next _ (Nat.zero_lt_one), sumW_empty _ (Nat.le_refl _), Nat.zero_add] at this
  exact this

theorem entriesFuel_returns_linear {t : Tbl P} (hv : validate t = true) (fuel : Nat)
    (hfuel : 16 * t.n + 2 ≤ fuel) : Returns (entriesFuel t fuel) := by
  rcases Nat.lt_or_ge t.n 1 with h0 | h1
  · unfold entriesFuel entriesInit
    rw [if_pos h0]
    exact ⟨_, rfl⟩
  · refine entriesFuel_returns (subtreeWeights (valid_forward hv)) (valid_noZeroChild hv) (valid_validSyls hv) fuel ?_
    have := sz_root_le hv h1
    show 8 * (2 * sz t 0) + 2 ≤ fuel
    omega

end Chewing.TrieWalk
