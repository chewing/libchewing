import Chewing.Proofs.Outcome
/-!
# Runs that collect what their steps show

Every `run` of the editor, pair, process and C-call models folds a step function over a history and collects what the
steps show.  What is proved about histories seen through a projection — the calls on one of two contexts, the calls on one
context of a process, the modelled calls among modelled calls and getter calls — is one simulation, `Collects.sim`.
`keeps` and `returns` are the two inductions over such a run (as `Folds.keeps` / `Folds.returns` for the runs without
output, `Proofs/Runs.lean`), `append` runs a history in two parts. -/

namespace Chewing

section collect
variable {σ τ ι κ ε δ : Type}

/-- `run` folds `step` over the inputs and collects what each step shows (a list: a step may show nothing) -/
structure Collects (step : σ → ι → Outcome (σ × List ε)) (run : σ → List ι → Outcome (σ × List ε)) : Prop where
  nil : ∀ s, run s [] = .ok (s, [])
  cons : ∀ s i is, run s (i :: is) =
    match step s i with
    | .ok (s', e) => (run s' is).map fun r => (r.1, e ++ r.2)
    | .panic p => .panic p
    | .outOfFuel => .outOfFuel

variable {step₁ : σ → ι → Outcome (σ × List ε)} {run₁ : σ → List ι → Outcome (σ × List ε)}
  {step₂ : τ → κ → Outcome (τ × List δ)} {run₂ : τ → List κ → Outcome (τ × List δ)}

namespace Collects

theorem cons_ok (h : Collects step₁ run₁) {s s'' : σ} {i : ι} {is : List ι} {es : List ε}
    (hr : run₁ s (i :: is) = .ok (s'', es)) :
    ∃ s' e es', step₁ s i = .ok (s', e) ∧ run₁ s' is = .ok (s'', es') ∧ es = e ++ es' := by
  rw [h.cons] at hr
  split at hr
  · next s' e hs =>
    obtain ⟨⟨_, es'⟩, hrest, heq⟩ := Outcome.of_map_ok hr
    cases heq
    exact ⟨s', e, es', hs, hrest, rfl⟩
  all_goals cases hr

theorem cons_of_ok (h : Collects step₁ run₁) {s s' s'' : σ} {i : ι} {is : List ι} {e es : List ε}
    (hs : step₁ s i = .ok (s', e)) (hr : run₁ s' is = .ok (s'', es)) : run₁ s (i :: is) = .ok (s'', e ++ es) := by
  rw [h.cons, hs]; simp only [hr, Outcome.map]

theorem append (h : Collects step₁ run₁) {s' s'' : σ} {es' : List ε} {b : List ι} (hb : run₁ s' b = .ok (s'', es')) :
    ∀ {a : List ι} {s : σ} {es : List ε}, run₁ s a = .ok (s', es) → run₁ s (a ++ b) = .ok (s'', es ++ es')
  | [], s, es, ha => by rw [h.nil] at ha; cases ha; exact hb
  | i :: a, s, es, ha => by
    obtain ⟨s1, e, es1, hs, hr, rfl⟩ := h.cons_ok ha
    exact List.append_assoc .. ▸ h.cons_of_ok hs (append h hb hr)

theorem keeps (h : Collects step₁ run₁) {I : σ → Prop} (hstep : ∀ {s i s' e}, I s → step₁ s i = .ok (s', e) → I s') :
    ∀ (l : List ι) {s s' : σ} {es : List ε}, I s → run₁ s l = .ok (s', es) → I s'
  | [], _, _, _, hi, hr => by rw [h.nil] at hr; cases hr; exact hi
  | _ :: is, _, _, _, hi, hr =>
    let ⟨_, _, _, hs, hrest, _⟩ := h.cons_ok hr
    keeps h hstep is (hstep hi hs) hrest

/-- if every step from a state with `I` returns, shows `n` things and keeps `I`, so does every run -/
theorem returns (h : Collects step₁ run₁) {I : σ → Prop} {n : Nat}
    (hstep : ∀ {s} i, I s → ∃ s' e, step₁ s i = .ok (s', e) ∧ I s' ∧ e.length = n) :
    ∀ (l : List ι) {s : σ}, I s → ∃ s' es, run₁ s l = .ok (s', es) ∧ I s' ∧ es.length = n * l.length
  | [], s, hi => ⟨s, [], h.nil s, hi, rfl⟩
  | i :: is, _, hi =>
    let ⟨_, e, h1, hi1, hn⟩ := hstep i hi
    let ⟨s2, es, h2, hi2, hl⟩ := returns h hstep is hi1
    ⟨s2, e ++ es, h.cons_of_ok h1 h2, hi2, by
      rw [List.length_append, hn, hl, List.length_cons, Nat.mul_succ, Nat.add_comm]⟩

/-- **simulation through a projection.**  `run₁` is watched through a relation `R` on the states, a selection `F` of its
    inputs and a selection `G` of what it shows (each given by what it does with a first element: the form in which
    the projections of a history are defined).  If a step on a selected input is matched by a step of `run₂` from every
    related state, and a step on another input keeps the related state and shows nothing that `G` selects, then
    every run that returns is matched by `run₂` on the selected inputs. -/
theorem sim (h₁ : Collects step₁ run₁) (h₂ : Collects step₂ run₂) (R : σ → τ → Prop)
    {F : List ι → List κ} {G : List ε → List δ} (hF : F [] = []) (hG : G [] = []) (l : List ι)
    (hstep : ∀ i ∈ l, ∀ s t s' e, R s t → step₁ s i = .ok (s', e) →
      (∃ k t' d, step₂ t k = .ok (t', d) ∧ R s' t' ∧ (∀ is, F (i :: is) = k :: F is) ∧ ∀ es, G (e ++ es) = d ++ G es) ∨
      (R s' t ∧ (∀ is, F (i :: is) = F is) ∧ ∀ es, G (e ++ es) = G es)) :
    ∀ s t s' es, R s t → run₁ s l = .ok (s', es) → ∃ t', run₂ t (F l) = .ok (t', G es) ∧ R s' t' := by
  induction l with
  | nil =>
    intro s t s' es hR hr
    rw [h₁.nil] at hr
    cases hr
    exact ⟨t, by rw [hF, hG, h₂.nil], hR⟩
  | cons i is ih =>
    intro s t s'' es hR hr
    have ih := ih fun j hj => hstep j (List.mem_cons_of_mem _ hj)
    obtain ⟨s', e, es', hs, hrest, rfl⟩ := h₁.cons_ok hr
    rcases hstep i List.mem_cons_self s t s' e hR hs with ⟨k, t', d, ht, hR', hFi, hGe⟩ | ⟨hR', hFi, hGe⟩
    · obtain ⟨t'', hr₂, hR''⟩ := ih s' t' s'' es' hR' hrest
      exact ⟨t'', by rw [hFi, hGe]; exact h₂.cons_of_ok ht hr₂, hR''⟩
    · rw [hFi, hGe]
      exact ih s' t s'' es' hR' hrest

end Collects

end collect

end Chewing
