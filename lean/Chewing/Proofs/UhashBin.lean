import Chewing.Model.UhashEnc
/-!
Round trip of the legacy binary store: `loadUhash (encodeBin lifetime rs) = liveRecs rs` for every
list of valid stored records (C19: "every valid record of the legacy store is present").
-/
namespace Chewing.Uhash

theorem ok_bind {α β : Type} (a : α) (f : α → Outcome β) : (Outcome.ok a >>= f) = f a := rfl

theorem leVal_le16 (s : Nat) : leVal (le16 s) = s := by
  simp only [le16, leVal]; omega

theorem leVal_le32 {x : Nat} (h : x < 4294967296) : leVal (le32 x) = x := by
  simp only [le32, leVal]; omega

/-! ### reading at a cursor: what the accessors return at offset `o` when the buffer continues there with a known segment -/

theorem drop_next {buf s r : List Nat} {o : Nat} (h : buf.drop o = s ++ r) : buf.drop (o + s.length) = r := by
  rw [← List.drop_drop, h, List.drop_left]

theorem idx_of_drop {buf r : List Nat} {o x : Nat} (h : buf.drop o = x :: r) : idx buf o = .ok x := by
  have : buf[o]? = some x := by
    rw [← Nat.add_zero o, ← List.getElem?_drop, h]
    rfl
  unfold idx
  rw [this]

theorem slice_of_drop {buf mid r : List Nat} {a : Nat} (h : buf.drop a = mid ++ r) (hne : mid ≠ []) :
    slice buf a (a + mid.length) = .ok mid := by
  have hl := congrArg List.length h
  have := List.length_pos_iff.mpr hne
  rw [List.length_drop, List.length_append] at hl
  unfold slice
  rw [if_pos ⟨Nat.le_add_right _ _, by omega⟩, h, Nat.add_sub_cancel_left, List.take_left]

theorem i32At_of_drop {buf r : List Nat} {o x : Nat} (h : buf.drop o = le32 x ++ r) (hx : x < 4294967296) :
    i32At buf o = .ok (decide (x ≥ 2147483648), x) := by
  have hs : slice buf o (o + 4) = .ok (le32 x) := slice_of_drop h (List.cons_ne_nil _ _)
  have : ((le32 x).getD 3 0 ≥ 128) ↔ x ≥ 2147483648 := by
    simp only [le32, List.getD_cons_succ, List.getD_cons_zero]
    omega
  unfold i32At
  rw [hs]
  simp only [leVal_le32 hx, this]

theorem length_flatMap_le16 (syls : List Nat) : (syls.flatMap le16).length = 2 * syls.length := by
  induction syls with
  | nil => rfl
  | cons s ss ih => simp only [List.flatMap_cons, List.length_append, List.length_cons, ih, le16, List.length_nil]; omega

theorem readSyls_of_drop {buf r : List Nat} : ∀ (syls : List Nat) (o : Nat), buf.drop o = syls.flatMap le16 ++ r →
    (∀ s ∈ syls, validCode s = true ∧ s < 65536) → readSyls buf syls.length o = .ok (some syls)
  | [], _, _, _ => rfl
  | s :: ss, o, h, hs => by
    rw [List.flatMap_cons, List.append_assoc] at h
    have hv := hs s List.mem_cons_self
    have hsl : slice buf o (o + 2) = .ok (le16 s) := slice_of_drop h (List.cons_ne_nil _ _)
    rw [List.length_cons, readSyls, hsl]
    simp only [leVal_le16 s, hv.1, Bool.not_true, Bool.false_eq_true, if_false]
    rw [readSyls_of_drop ss (o + 2) (drop_next h) fun x hx => hs x (List.mem_cons_of_mem _ hx)]


/-- the repaired decoder on a record image: four 32-bit fields, key length, key, phrase length, phrase bytes
    `c :: rest`, padding -/
theorem recBin_image (f t m o : Nat) (syls pad : List Nat) (c : Nat) (rest : List Nat)
    (hf : f < 4294967296) (ht : t < 4294967296) (hm : m < 4294967296) (ho : o < 4294967296)
    (hs : ∀ s ∈ syls, validCode s = true ∧ s < 65536) (hl1 : 1 ≤ syls.length)
    (hfit : 17 + 2 * syls.length + 1 + (rest.length + 1) ≤ binFieldSize) :
    recBin (le32 f ++ (le32 t ++ (le32 m ++ (le32 o ++ (syls.length :: (syls.flatMap le16 ++
      ((rest.length + 1) :: (c :: rest ++ pad)))))))) =
      if f ≥ 2147483648 ∨ t ≥ 2147483648 ∨ m ≥ 2147483648 ∨ o ≥ 2147483648 then .ok .skip
      else if c = 0 then .ok .skip
      else if validUtf8 (c :: rest) then .ok (.item { syls := syls, phrase := c :: rest, freq := f, time := t })
      else .ok .skip := by
  generalize hB : le32 f ++ _ = B
  have d0 : B.drop 0 = le32 f ++ _ := hB.symm
  have d4 : B.drop 4 = _ := drop_next d0
  have d8 : B.drop 8 = _ := drop_next d4
  have d12 : B.drop 12 = _ := drop_next d8
  have d16 : B.drop 16 = _ := drop_next d12
  have d17 : B.drop 17 = _ := drop_next (s := [_]) d16
  have dn : B.drop (17 + 2 * syls.length) = _ := length_flatMap_le16 syls ▸ drop_next d17
  have dp : B.drop (17 + 2 * syls.length + 1) = (c :: rest) ++ pad := drop_next (s := [_]) dn
  have hsl : slice B (17 + 2 * syls.length + 1) (17 + 2 * syls.length + (rest.length + 1) + 1) = .ok (c :: rest) := by
    rw [Nat.add_right_comm _ (rest.length + 1) 1]
    exact slice_of_drop dp (List.cons_ne_nil _ _)
  have hF14 : ¬ (17 + 2 * syls.length + 1 ≥ binFieldSize) := by omega
  have hF15 : ¬ (17 + 2 * syls.length + (rest.length + 1) + 1 > binFieldSize) := by omega
  have hF39 : ¬ (syls.length = 0 ∨ rest.length + 1 = 0) := by omega
  simp only [recBin, i32At_of_drop d0 hf, i32At_of_drop d4 ht, i32At_of_drop d8 hm, i32At_of_drop d12 ho, ok_bind,
    idx_of_drop d16, hF14, if_false, idx_of_drop dn, hF39, idx_of_drop dp,
    readSyls_of_drop syls 17 d17 hs, hF15, hsl, Bool.or_eq_true, decide_eq_true_eq, beq_iff_eq, Bool.not_eq_true', or_assoc]
  cases validUtf8 (c :: rest) <;> rfl

theorem length_eq_four {l : List Nat} (h : l.length = 4) : ∃ a b c d, l = [a, b, c, d] := by
  match l, h with
  | [a, b, c, d], _ => exact ⟨a, b, c, d, rfl⟩

/-- the stored image of a record with fields `f t m o` and phrase `c :: r`, in the form `recBin_image` reads -/
theorem encRec_eq (g : GRec) {f t m o c : Nat} {r : List Nat} (hfl : g.fields = [f, t, m, o]) (hp : g.phrase = c :: r) :
    encRec g = le32 f ++ (le32 t ++ (le32 m ++ (le32 o ++ (g.syls.length :: (g.syls.flatMap le16 ++
      ((r.length + 1) :: ((if g.deleted then 0 else c) :: r ++
        List.replicate (binFieldSize - (17 + 2 * g.syls.length + 1 + (r.length + 1))) 0))))))) := by
  have hst : (if g.deleted then 0 :: g.phrase.tail else g.phrase) = (if g.deleted then 0 else c) :: r := by
    rw [hp]
    cases g.deleted <;> rfl
  have hbl : (List.flatMap le32 [f, t, m, o] ++ [g.syls.length] ++ List.flatMap le16 g.syls ++ [(c :: r).length] ++
      (if g.deleted then 0 else c) :: r).length = 17 + 2 * g.syls.length + 1 + (r.length + 1) := by
    simp only [List.length_append, List.flatMap_cons, List.flatMap_nil, le32, List.length_cons, List.length_nil,
      length_flatMap_le16]
  unfold encRec
  rw [hst, hfl, hp]
  dsimp only
  rw [hbl]
  simp only [List.flatMap_cons, List.flatMap_nil, List.append_nil, List.append_assoc, List.length_cons,
    List.cons_append, List.nil_append]

theorem encRec_length (g : GRec) (hv : g.Valid) : (encRec g).length = binFieldSize := by
  obtain ⟨_, _, _, hne, _, _, _, hfit, hf4, _⟩ := hv
  obtain ⟨f, t, m, o, hfl⟩ := length_eq_four hf4
  obtain ⟨c, r, hp⟩ := List.exists_cons_of_ne_nil hne
  rw [hp, List.length_cons] at hfit
  rw [encRec_eq g hfl hp]
  simp only [List.length_append, le32, List.length_cons, List.length_nil, length_flatMap_le16, List.length_replicate]
  omega

/-- the repaired reader decodes the stored image of a valid record to exactly that record if it is
    live, and skips it if it is marked removed or has a negative field -/
theorem recBin_encRec (g : GRec) (hv : g.Valid) :
    recBin (encRec g) = if g.live then .ok (.item g.toRec) else .ok .skip := by
  obtain ⟨hl1, _, hs, hne, hhead, _, hutf, hfit, hf4, hfields⟩ := hv
  obtain ⟨f, t, m, o, hfl⟩ := length_eq_four hf4
  obtain ⟨c, r, hp⟩ := List.exists_cons_of_ne_nil hne
  have hlt : ∀ x ∈ [f, t, m, o], x < 4294967296 := hfl ▸ hfields
  have hc : c ≠ 0 := fun h => hhead (by rw [hp, h]; rfl)
  rw [hp] at hfit hutf
  rw [List.length_cons] at hfit
  rw [encRec_eq g hfl hp, recBin_image f t m o g.syls _ _ r (hlt f (by simp)) (hlt t (by simp)) (hlt m (by simp))
    (hlt o (by simp)) hs hl1 hfit]
  have htoRec : g.toRec = { syls := g.syls, phrase := c :: r, freq := f, time := t } := by
    simp only [GRec.toRec, hfl, hp, List.getD_cons_zero, List.getD_cons_succ]
  have hlive : g.live = (!g.deleted && decide (¬ (f ≥ 2147483648 ∨ t ≥ 2147483648 ∨ m ≥ 2147483648 ∨ o ≥ 2147483648))) := by
    simp only [GRec.live, hfl, List.all_cons, List.all_nil, Bool.and_true, ← Bool.decide_and]
    exact congrArg _ (decide_eq_decide.mpr (by omega))
  rw [hlive, htoRec]
  cases g.deleted with
  | true => simp only [if_true, ite_self, Bool.not_true, Bool.false_and, Bool.false_eq_true, if_false]
  | false =>
    simp only [Bool.false_eq_true, if_false, if_neg hc, hutf, if_true, Bool.not_false, Bool.true_and,
      decide_eq_true_eq, ite_not]

theorem liveRecs_cons (g : GRec) (rs : List GRec) :
    liveRecs (g :: rs) = if g.live then g.toRec :: liveRecs rs else liveRecs rs := by
  unfold liveRecs
  cases h : g.live <;> simp [h]

theorem binLoop_enc : ∀ (rs : List GRec) (fuel : Nat), rs.length < fuel → (∀ g ∈ rs, g.Valid) →
    binLoop recBin fuel (rs.flatMap encRec) = .ok (.ok (liveRecs rs))
  | [], fuel + 1, _, _ => by
    unfold binLoop
    simp [binFieldSize, liveRecs]
  | g :: rs, fuel + 1, hfu, hv => by
    have hg := hv g List.mem_cons_self
    have hlen := encRec_length g hg
    have ih := binLoop_enc rs fuel (by simp only [List.length_cons] at hfu; omega)
      (fun x hx => hv x (List.mem_cons_of_mem _ hx))
    unfold binLoop
    have hnot : ¬ ((g :: rs).flatMap encRec).length < binFieldSize := by
      simp only [List.flatMap_cons, List.length_append, hlen]; omega
    rw [if_neg hnot]
    have htake : ((g :: rs).flatMap encRec).take binFieldSize = encRec g := by
      rw [List.flatMap_cons, ← hlen, List.take_left]
    have hdrop : ((g :: rs).flatMap encRec).drop binFieldSize = rs.flatMap encRec := by
      rw [List.flatMap_cons, ← hlen, List.drop_left]
    rw [htake, hdrop, recBin_encRec g hg, liveRecs_cons, ih]
    cases g.live <;> simp

theorem loadBin_encodeBin (lifetime : List Nat) (hl : lifetime.length = 4) (rs : List GRec) (hv : ∀ g ∈ rs, g.Valid) :
    loadBin (encodeBin lifetime rs) = .ok (.ok (liveRecs rs)) := by
  obtain ⟨a, b, c, d, rfl⟩ := length_eq_four hl
  unfold loadBin loadBinWith encodeBin
  have h1 : ¬ (binSig ++ [a, b, c, d] ++ rs.flatMap encRec).length < 4 := by simp [binSig]
  have h2 : ((binSig ++ [a, b, c, d] ++ rs.flatMap encRec).take 4 != binSig) = false := by simp [binSig]
  have h3 : ¬ ((binSig ++ [a, b, c, d] ++ rs.flatMap encRec).drop 4).length < cIntSize := by simp [binSig, cIntSize]
  have h4 : (binSig ++ [a, b, c, d] ++ rs.flatMap encRec).drop (4 + cIntSize) = rs.flatMap encRec := by
    simp [binSig, cIntSize]
  rw [if_neg h1, h2]
  simp only [Bool.false_eq_true, if_false]
  rw [if_neg h3, h4]
  refine binLoop_enc rs _ ?_ hv
  have : rs.length ≤ (rs.flatMap encRec).length := by
    clear h1 h2 h3 h4
    induction rs with
    | nil => simp
    | cons g rs ih =>
      have := encRec_length g (hv g List.mem_cons_self)
      have := ih (fun x hx => hv x (List.mem_cons_of_mem _ hx))
      simp only [List.flatMap_cons, List.length_append, List.length_cons, binFieldSize] at *
      omega
  simp only [List.length_append]
  omega

end Chewing.Uhash
