import Chewing.Model.TrieCodec
import Chewing.Proofs.TrieLookup
/-!
`lookup_first_n_phrases` / `lookup_first_phrase` on a written file: the threads' leaves are appended
one whole leaf at a time until more than `first` phrases are held (`cutoff`), then the vector is
truncated to `first` (`result.truncate(first)`).  The loop's result is a prefix of
`lookup_all_phrases` that is either all of it or longer than `first`, so after the truncation the
result is exactly the first `first` phrases of `lookup_all_phrases` (`lookupFirstN_eq_take`).
-/
namespace Chewing.TrieCodec
open Chewing.Der

/-- leaves appended one at a time until more than `first` phrases are held -/
def cutoff (first : Nat) : List Phrase → List (List Phrase) → List Phrase
  | acc, [] => acc
  | acc, g :: gs => if (acc ++ g).length > first then acc ++ g else cutoff first (acc ++ g) gs

/-- the cut-off result is a prefix of everything -/
theorem cutoff_prefix (first : Nat) : ∀ (gs : List (List Phrase)) (acc : List Phrase),
    ∃ rest, acc ++ gs.flatten = cutoff first acc gs ++ rest := by
  intro gs
  induction gs with
  | nil => intro acc; exact ⟨[], by simp [cutoff]⟩
  | cons g gs ih =>
    intro acc
    simp only [cutoff]
    split
    · exact ⟨gs.flatten, by simp⟩
    · obtain ⟨rest, h⟩ := ih (acc ++ g)
      exact ⟨rest, by rw [← h]; simp⟩

/-- … and is everything, or holds more than `first` phrases -/
theorem cutoff_all_or_more (first : Nat) : ∀ (gs : List (List Phrase)) (acc : List Phrase),
    cutoff first acc gs = acc ++ gs.flatten ∨ first < (cutoff first acc gs).length := by
  intro gs
  induction gs with
  | nil => intro acc; left; simp [cutoff]
  | cons g gs ih =>
    intro acc
    simp only [cutoff]
    split
    · right; assumption
    · rcases ih (acc ++ g) with h | h
      · left; rw [h]; simp
      · right; exact h

/-- nothing is cut off when `first` is at least the number of phrases (`first = usize::MAX`) -/
theorem cutoff_all {first : Nat} {gs : List (List Phrase)} {acc : List Phrase}
    (h : (acc ++ gs.flatten).length ≤ first) : cutoff first acc gs = acc ++ gs.flatten := by
  rcases cutoff_all_or_more first gs acc with h1 | h1
  · exact h1
  · obtain ⟨rest, h2⟩ := cutoff_prefix first gs acc
    have := congrArg List.length h2
    simp only [List.length_append] at this h
    omega

/-- the loop followed by `truncate(first)`: exactly the first `first` phrases of everything -/
theorem cutoff_take (first : Nat) (gs : List (List Phrase)) (acc : List Phrase) :
    (cutoff first acc gs).take first = (acc ++ gs.flatten).take first := by
  rcases cutoff_all_or_more first gs acc with h | h
  · rw [h]
  · obtain ⟨rest, h2⟩ := cutoff_prefix first gs acc
    rw [h2, List.take_append_of_le_length (Nat.le_of_lt h)]

theorem collectN_rep {recs : List Rec} {data : Bytes} {views : List Rec} {items : List Item} (first : Nat)
    (h : Forall₂ (Rep recs data) views items) :
    ∀ acc, acc.length ≤ first →
      collectN (recs.flatMap recBytes) data first views acc = cutoff first acc (items.map Item.leafPhrases) := by
  induction h with
  | nil => intro acc _; simp [collectN, cutoff]
  | @cons v it views items hab _ ih =>
    intro acc hacc
    obtain ⟨h1, h2, h3⟩ := rep_leaf hab
    simp only [collectN, h1, h2, Bool.false_eq_true, if_false, List.map_cons, cutoff]
    split at h3
    · rw [if_pos (by assumption), ih acc hacc, h3, List.append_nil, if_neg (by omega)]
    · rw [if_neg (by assumption), h3.1, if_neg Bool.false_ne_true, h3.2]
      split
      · rfl
      · exact ih _ (by omega)

/-- **`lookup_first_n_phrases` on a written file**: the leaves of the nodes the key reaches, appended
    until more than `first` phrases are held, then truncated to `first` -/
theorem lookupFirstN_eq_cutoff {recs : List Rec} {data : Bytes} {info : Info} {l : Option (List Phrase)} {sub : Forest}
    (hl : Laid recs data 0 (.node 0 l sub)) (hp : (Item.node 0 l sub).Pre)
    (st : Strategy) (key : List Nat) (hkey : ∀ s ∈ key, s ≠ 0) (first : Nat) :
    lookupFirstN { info := info, index := recs.flatMap recBytes, data := data } key first st =
      (cutoff first [] ((tWalk st key [.node 0 l sub]).map Item.leafPhrases)).take first := by
  obtain ⟨cb, hv, _, hoob, hrep⟩ := root_rep hl hp
  simp only [lookupFirstN, hoob, Bool.false_eq_true, if_false, hv]
  by_cases hkids : kidsOf l sub = []
  · -- an empty dictionary: the walk ends at the leafless root or nowhere
    cases (kidsOf_eq_nil hkids).1
    cases key with
    | nil => simp [tWalk, Item.leafPhrases, cbOf, ceOf, hkids, cutoff]
    | cons t rest => simp [tWalk, tStep, Item.kids, hkids, tWalk_nil, cbOf, ceOf, cutoff]
  · rw [if_neg (by have := List.length_pos_iff.mpr hkids; simp only [cbOf, ceOf]; omega)]
    have hw := walk_rep (st := st) key hkey (.cons (hrep hkids) .nil)
    cases hwalk : walk (recs.flatMap recBytes) st key [(cb, (kidsOf l sub).length, 0)] with
    | none =>
      rw [hwalk] at hw
      simp [show tWalk st key [Item.node 0 l sub] = [] from hw, cutoff]
    | some views' =>
      rw [hwalk] at hw
      simp only
      rw [collectN_rep first hw [] (Nat.zero_le _)]

/-- **first n = prefix of the full result**: on a written file `lookup_first_n_phrases(key, n, st)`
    is exactly the first `n` phrases of `lookup_all_phrases(key, st)`, for both strategies -/
theorem lookupFirstN_eq_take {recs : List Rec} {data : Bytes} {info : Info} {l : Option (List Phrase)} {sub : Forest}
    (hl : Laid recs data 0 (.node 0 l sub)) (hp : (Item.node 0 l sub).Pre)
    (st : Strategy) (key : List Nat) (hkey : ∀ s ∈ key, s ≠ 0) (first : Nat) :
    lookupFirstN { info := info, index := recs.flatMap recBytes, data := data } key first st =
      (lookupAll { info := info, index := recs.flatMap recBytes, data := data } key st).take first := by
  rw [lookupFirstN_eq_cutoff hl hp st key hkey first, lookupAll_eq_tLookup hl hp st key hkey,
    tLookup, List.flatMap_def, cutoff_take, List.nil_append]

end Chewing.TrieCodec
