import Chewing.Proofs.EditorCursor
import Chewing.Model.ConversionSpec
/-!
Helper lemmas for C05 `bounded_after_key`: the arithmetic of the auto-commit loop (`Shared.autoCommitTake`) by
induction over the interval list.  When the intervals are well formed and their lengths sum to the buffer length,
the loop never panics and removes `n ≤ len` symbols with `len - n ≤ threshold`.
-/
namespace Chewing

/-- the intervals are well formed (`start ≤ end`) and their lengths sum to `n` — what a tiling of
    `0..n` gives (C03); contiguity is not needed for the length bound -/
def TilesLen (ivs : List Interval) (n : Nat) : Prop :=
  (∀ iv ∈ ivs, iv.start ≤ iv.stop) ∧ (ivs.map Interval.len).sum = n

/-- **the auto-commit loop**: from `remove = r` with the remaining intervals summing to `len - r`, the
    loop returns (no panic) some `r' ≤ len` with `len - r' ≤ threshold` -/
theorem autoCommitTake_bound (len thr : Nat) : ∀ (ivs : List Interval) (buf : Text) (r : Nat),
    (∀ iv ∈ ivs, iv.start ≤ iv.stop) → r + (ivs.map Interval.len).sum = len →
    ∃ buf' r', Shared.autoCommitTake len thr ivs buf r = .ok (buf', r') ∧ r ≤ r' ∧ r' ≤ len ∧ len - r' ≤ thr := by
  intro ivs
  induction ivs with
  | nil =>
    intro buf r _ hsum
    cases (show r = len from hsum)
    exact ⟨buf, _, rfl, Nat.le_refl _, Nat.le_refl _, by rw [Nat.sub_self]; exact Nat.zero_le _⟩
  | cons iv rest ih =>
    intro buf r hwf hsum
    rw [List.map_cons, List.sum_cons, ← Nat.add_assoc] at hsum
    have hlen : r + iv.len ≤ len := hsum ▸ Nat.le_add_right _ _
    unfold Shared.autoCommitTake
    rw [if_neg (Nat.not_lt.2 (hwf iv (List.mem_cons_self ..)))]
    dsimp only
    rw [if_neg (Nat.not_lt.2 hlen)]
    by_cases hle : len - (r + iv.len) ≤ thr
    · exact ⟨_, _, if_pos hle, Nat.le_add_right _ _, hlen, hle⟩
    · obtain ⟨buf', r', h1, h2, h3⟩ :=
        ih (buf ++ iv.text) (r + iv.len) (fun x hx => hwf x (List.mem_cons_of_mem _ hx)) hsum
      exact ⟨buf', r', (if_neg hle).trans h1, Nat.le_trans (Nat.le_add_right _ _) h2, h3⟩

/-- a chain has well-formed intervals whose lengths sum to the covered range (C05's `TilesLen`) — whatever the
    texts are (also with the spelling of a word-less syllable) -/
theorem Link.tilesLen_of_chain {a n : Nat} {ivs : List Interval} (h : Conv.IvChain a n ivs) :
    (∀ iv ∈ ivs, iv.start ≤ iv.stop) ∧ a + (ivs.map Interval.len).sum = n := by
  induction ivs generalizing a with
  | nil => exact ⟨fun _ hm => (by cases hm), by simp only [List.map_nil, List.sum_nil, Nat.add_zero]; exact h⟩
  | cons iv rest ih =>
    obtain ⟨h1, h2, h3⟩ := h
    obtain ⟨i1, i2⟩ := ih h3
    refine ⟨?_, ?_⟩
    · intro x hx
      rcases List.mem_cons.mp hx with rfl | hx
      · omega
      · exact i1 x hx
    · simp only [List.map_cons, List.sum_cons, Interval.len]
      omega

end Chewing
