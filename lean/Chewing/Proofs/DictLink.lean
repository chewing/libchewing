import Chewing.Proofs.TrieBufSettle
import Chewing.Proofs.Persist
/-!
# DictLink — C09's concrete `TrieBuf` layers under C10's persistence protocol

C10's step model (`Model/Persist.lean`) is self-contained: dictionary contents are abstract maps
`Nat → Option Nat`, a change acts on three abstract layers, the snapshot writer is *assumed* to
write "the live contents" (`checkpoint: snap := w.buf.live`), a complete file *is* the map it holds.
C09's model (`Model/TrieBuf.lean`) has the concrete layers (`List Leaf` snapshot, sorted pending
list, tombstone list), the concrete `entries()` and `TrieBuilder` (`Trie.build`), but only the
sequential writer.

This file puts C09's concrete layers *under* C10's protocol:

* `CWorld` / `cstep`: the protocol of `Model/Persist.lean`, transition for transition, with every
  abstract content replaced by C09's concrete data and every abstract operation by the C09 model
  function for it — `TrieBuf.apply` for `add_phrase` / `update_phrase` / `remove_phrase`,
  `Trie.build (TrieBuf.entries st)` for what the snapshot thread writes, a file that holds the
  leaves written, `snap := t` for adoption / reload.  Nothing here is a new modelling decision:
  the control skeleton is C10's (validated by its schedule-exact correspondence), the data
  functions are C09's (validated by its correspondence).
* `Sim`: the abstraction relation (concrete layers ↦ abstract layers through an injective encoding
  of `(syllables, phrase)` and `(freq, time)` into `Nat`), and `sim_step`: **every concrete step is
  an abstract step** (forward simulation).  The proof obligations are exactly C10's assumptions:
  - "live = base overridden by pending minus tombstones": `live_rep` (`Buf.live` of the abstraction
    is the encoding of C09's `TrieBuf.abs`),
  - "add / update / remove act on the layers as `Buf.add` / `Buf.put` / `Buf.remove`": `bufRel_put`,
    `bufRel_remove`, `addOk_live` (from C09's `btGet_btInsert`, `btGet_btErase`,
    `contains_graveErase`, `contains_graveInsert`, `addOk_eq`),
  - "`entries()` collected into a `TrieBuilder` gives live": `build_rep`, which is
    `baseGet_build_of_entries` over `entries_agrees` (the `LInv`-level form of C09's snapshot lemma `build_abs`).  It holds in **every** state: since fix 22d24c7 (F10) `entries()` yields every
    live key once — a persisted entry that has a pending entry of the same key is skipped — so the
    pending value, the map's, is written whatever the order of `trie_iter.chain(btree_iter)` is.
    (Before the fix the key was listed twice, persisted value first, `TrieBuilder::insert` replaced in
    place, and the chain order was what made the written value right.)
* `sim_run`, and with C10's `durable_spec` the end-to-end statement in C09's terms
  (`Props/C10.lean`, section "linked").
-/
namespace Chewing.DictLink
open Chewing.Persist

/-! ## an injective encoding of keys and values into `Nat` -/

def pair (a b : Nat) : Nat := 2 ^ a * (2 * b + 1)

theorem pair_pos (a b : Nat) : 0 < pair a b := Nat.mul_pos (Nat.two_pow_pos a) (by omega)

theorem pair_succ (a b : Nat) : pair (a + 1) b = 2 * pair a b := by
  unfold pair
  rw [Nat.pow_succ, Nat.mul_comm (2 ^ a) 2, Nat.mul_assoc]

theorem pair_zero (b : Nat) : pair 0 b = 2 * b + 1 := by rw [pair, Nat.pow_zero, Nat.one_mul]

/-- `pair 0 b` is odd and `pair (a + 1) b` is twice `pair a b` -/
theorem pair_inj : ∀ {a b c d : Nat}, pair a b = pair c d → a = c ∧ b = d
  | 0, _, 0, _, h => by
    rw [pair_zero, pair_zero] at h
    exact ⟨rfl, Nat.eq_of_mul_eq_mul_left (by decide : 0 < 2) (Nat.succ.inj h)⟩
  | 0, _, _ + 1, _, h => by rw [pair_zero, pair_succ] at h; omega
  | _ + 1, _, 0, _, h => by rw [pair_zero, pair_succ] at h; omega
  | a + 1, b, c + 1, d, h => by
    rw [pair_succ, pair_succ] at h
    have := pair_inj (Nat.eq_of_mul_eq_mul_left (by decide : 0 < 2) h)
    exact ⟨congrArg (· + 1) this.1, this.2⟩

def encL : List Nat → Nat
  | [] => 0
  | x :: r => pair x (encL r)

theorem encL_inj {l1 l2 : List Nat} (h : encL l1 = encL l2) : l1 = l2 := by
  induction l1 generalizing l2 with
  | nil =>
    cases l2 with
    | nil => rfl
    | cons y r => have := pair_pos y (encL r); simp only [encL] at h; omega
  | cons x r ih =>
    cases l2 with
    | nil => have := pair_pos x (encL r); simp only [encL] at h; omega
    | cons y r2 =>
      simp only [encL] at h
      obtain ⟨h1, h2⟩ := pair_inj h
      rw [h1, ih h2]

/-- `(syllables, phrase)` as a key of `Model/Persist.lean` -/
def encK (pk : MapSpec.PKey) : Nat := pair (encL pk.1) (encL pk.2)
/-- `(freq, time)` as a value of `Model/Persist.lean` -/
def encV (v : MapSpec.Val) : Nat := pair v.1 v.2

theorem encK_inj {a b : MapSpec.PKey} (h : encK a = encK b) : a = b := by
  obtain ⟨h1, h2⟩ := pair_inj h
  exact Prod.ext (encL_inj h1) (encL_inj h2)

theorem encV_inj {a b : MapSpec.Val} (h : encV a = encV b) : a = b := by
  obtain ⟨h1, h2⟩ := pair_inj h
  exact Prod.ext h1 h2

theorem encK_ne {a b : MapSpec.PKey} (h : a ≠ b) : encK a ≠ encK b := fun e => h (encK_inj e)

/-! ## the abstraction relation on contents and layers -/

/-- the abstract content `c` holds, at the code of every concrete key, the code of what `m` holds -/
def Rep (m : MapSpec.Map) (c : Content) : Prop := ∀ pk, c (encK pk) = (m pk).map encV

def RepG (g : List MapSpec.PKey) (gb : Nat → Bool) : Prop := ∀ pk, gb (encK pk) = g.contains pk

/-- two maps with the same abstraction are the same map (`encV` is injective) -/
theorem rep_unique {m1 m2 : MapSpec.Map} {c : Content} (h1 : Rep m1 c) (h2 : Rep m2 c) (pk : MapSpec.PKey) :
    m1 pk = m2 pk :=
  Option.map_injective (fun _ _ => encV_inj) ((h1 pk).symm.trans (h2 pk))

theorem rep_congr {m1 m2 : MapSpec.Map} {c : Content} (h : Rep m1 c) (e : ∀ pk, m1 pk = m2 pk) : Rep m2 c :=
  fun pk => by rw [← e pk]; exact h pk

/-- updating one key on both sides keeps the representation (`encK` is injective) -/
theorem rep_set {m m' : MapSpec.Map} {c : Content} (h : Rep m c) (pk : MapSpec.PKey) (v : Option MapSpec.Val)
    (e : ∀ k, m' k = if k = pk then v else m k) : Rep m' (setC c (encK pk) (v.map encV)) := by
  intro k
  rw [e, setC]
  by_cases hk : k = pk
  · rw [if_pos hk, if_pos (congrArg encK hk)]
  · rw [if_neg hk, if_neg (encK_ne hk)]; exact h k

theorem repG_set {g g' : List MapSpec.PKey} {gb : Nat → Bool} (h : RepG g gb) (pk : MapSpec.PKey) (b : Bool)
    (e : ∀ k, g'.contains k = if k = pk then b else g.contains k) : RepG g' (setG gb (encK pk) b) := by
  intro k
  rw [e, setG]
  by_cases hk : k = pk
  · rw [if_pos hk, if_pos (congrArg encK hk)]
  · rw [if_neg hk, if_neg (encK_ne hk)]; exact h k

/-- C09's three concrete layers against C10's three abstract ones -/
structure BufRel (s : TrieBuf.State) (b : Buf) : Prop where
  trie : Rep (TrieBuf.baseGet s.snap) b.trie
  btree : Rep (TrieBuf.btGet s.btree) b.btree
  grave : RepG s.grave b.grave
  dirty : b.dirty = s.dirty

/-- **C10's assumption "live = base overridden by pending minus tombstones"**: `Buf.live` of the
    abstraction is the map C09's `TrieBuf` denotes (`TrieBuf.abs`, the subject of `C09.triebuf_refines`
    and of every `C09` answer theorem) -/
theorem live_rep {s : TrieBuf.State} {b : Buf} (h : BufRel s b) : Rep (TrieBuf.abs s) b.live := by
  intro pk
  unfold Buf.live TrieBuf.abs TrieBuf.absOver
  rw [h.grave pk, h.btree pk, h.trie pk]
  cases s.grave.contains pk
  · cases TrieBuf.btGet s.btree pk <;> simp
  · simp

theorem linv_put {s : TrieBuf.State} (h : LInv s) (k : MapSpec.PKey) (v : MapSpec.Val) :
    LInv (TrieBuf.put s k v) :=
  ⟨TrieBuf.keysOk_btInsert h.bt k v, h.snap⟩

theorem linv_remove {s : TrieBuf.State} (h : LInv s) (k : MapSpec.PKey) : LInv (TrieBuf.removeSt s k) :=
  ⟨TrieBuf.keysOk_btErase h.bt k, h.snap⟩

/-- **C10's assumption about `add_phrase` / `update_phrase`** (`Buf.put` with the tombstone repair):
    C09's `put` is the abstract `put` at the encoded key -/
theorem bufRel_put {s : TrieBuf.State} {b : Buf} (cfg : Cfg) (hrv : cfg.revive = true) (h : BufRel s b)
    (hk : TrieBuf.KeysOk s.btree) (k : MapSpec.PKey) (v : MapSpec.Val) :
    BufRel (TrieBuf.put s k v) (b.put cfg (encK k) (encV v)) := by
  refine ⟨h.trie, rep_set h.btree k (some v) (TrieBuf.btGet_btInsert hk k v), ?_, rfl⟩
  simp only [Buf.put, hrv, if_true]
  refine repG_set h.grave k false (fun k' => ?_)
  rw [show (TrieBuf.put s k v).grave = TrieBuf.graveErase s.grave k from rfl, TrieBuf.contains_graveErase]
  by_cases e : k' = k <;> simp [e]

/-- **C10's assumption about `remove_phrase`** -/
theorem bufRel_remove {s : TrieBuf.State} {b : Buf} (h : BufRel s b) (k : MapSpec.PKey) : BufRel (TrieBuf.removeSt s k) (b.remove (encK k)) := by
  refine ⟨h.trie, rep_set h.btree k none (TrieBuf.btGet_btErase _ k), repG_set h.grave k true (fun k' => ?_), rfl⟩
  rw [show (TrieBuf.removeSt s k).grave = TrieBuf.graveInsert s.grave k from rfl, TrieBuf.contains_graveInsert]
  by_cases e : k' = k <;> simp [e]

/-- **C10's assumption about the rejection of `add_phrase`** ("rejected when the phrase is live"):
    C09's `addOk` (the exact lookup does not yield the text) is "not live" — C09's `addOk_eq` -/
theorem addOk_live {s : TrieBuf.State} {b : Buf} (hl : LInv s) (h : BufRel s b) (k : List Nat) (t : Text) :
    TrieBuf.addOk s k t = !(b.live (encK (k, t))).isSome := by
  rw [TrieBuf.addOk_eq hl, live_rep h (k, t)]
  show (TrieBuf.abs s (k, t)).isNone = _
  cases TrieBuf.abs s (k, t) <;> rfl

/-- **C10's assumption "`entries()` collected into a `TrieBuilder` gives the live contents"**
    (`Persist.checkpoint`: `snap := w.buf.live`): the file built from C09's concrete `entries()`
    denotes the live map — `baseGet_build_of_entries` over `entries_agrees`, the `LInv`-level form of C09's snapshot
    lemma `build_abs`, in every state (a key that is both persisted and pending is enumerated once, with the pending
    value, since fix 22d24c7) -/
theorem build_rep {s : TrieBuf.State} {b : Buf} (hl : LInv s) (h : BufRel s b) :
    Trie.SnapOk (Trie.build (TrieBuf.entries s)) ∧
      Rep (TrieBuf.baseGet (Trie.build (TrieBuf.entries s))) b.live := by
  refine ⟨Trie.snapOk_build _, ?_⟩
  apply rep_congr (live_rep h)
  intro pk
  exact (TrieBuf.baseGet_build_of_entries (TrieBuf.entries_agrees hl) pk).symm

/-! ## C10's protocol over C09's concrete data

`Model/Persist.lean` transition for transition (its `Cfg` fixed to the repaired code: `revive`,
`joinFirst`); the only differences are the data: `TrieBuf.State` layers instead of `Buf`, leaves
instead of `Content`, `TrieBuf.apply` for the three change calls, `Trie.build (TrieBuf.entries st)`
for what the snapshot thread writes. -/

inductive CFile where
  | partial_
  | complete (t : List Leaf)

abbrev CFS := Name → Option CFile

def csetF (fs : CFS) (n : Name) (f : Option CFile) : CFS := fun m => if m = n then f else fs m

/-- `Trie::open(path)` -/
def creadPath (fs : CFS) : Option (List Leaf) :=
  match fs .path with
  | some (.complete t) => some t
  | _ => none

structure CWriter where
  pc : PC
  /-- the file the thread writes: `TrieBuilder` fed with `entries()` of the cloned `TrieBuf` -/
  out : List Leaf
  result : Option (List Leaf)

structure CWorld where
  /-- the layers `snap`, `btree`, `grave`, `dirty` of C09's state (`file` / `inflight` belong to
      C09's sequential writer and are not used: the file system and the writer are explicit here) -/
  st : TrieBuf.State
  writer : Option CWriter
  fs : CFS
  phase : Phase
  crashed : Bool

inductive CAct where
  | add (k : List Nat) (t : Text) (f : Nat) (tm : Option Nat)
  | update (k : List Nat) (t : Text) (f tm : Nat)
  | remove (k : List Nat) (t : Text)
  | flush | reopen | close | d | open_ | w | crash

/-- `sync` adopting the writer's result -/
def adopt (s : TrieBuf.State) (t : List Leaf) : TrieBuf.State := { s with snap := t, btree := [], grave := [] }
/-- `sync` re-reading the file -/
def reload (s : TrieBuf.State) (t : List Leaf) : TrieBuf.State := { s with snap := t }
/-- `TrieBuf::open` -/
def freshSt (t : List Leaf) : TrieBuf.State := { TrieBuf.initFile with snap := t, file := t }

def cinit (t0 : List Leaf) (tmp : Option CFile) : CWorld :=
  { st := freshSt t0, writer := none,
    fs := fun n => match n with | .path => some (.complete t0) | .tmp => tmp,
    phase := .run, crashed := false }

def csync (w : CWorld) : CWorld :=
  match w.writer with
  | some wr =>
    if wr.pc ≠ .finished then w
    else match wr.result with
      | some t =>
        if w.st.dirty then { w with writer := none }
        else { w with writer := none, st := adopt w.st t }
      | none => { w with writer := none }
  | none =>
    match creadPath w.fs with
    | some c => { w with st := reload w.st c }
    | none => w

def ccheckpoint (w : CWorld) : CWorld :=
  if w.writer.isSome then w
  else if !w.st.dirty then w
  else { w with writer := some { pc := .start, out := Trie.build (TrieBuf.entries w.st), result := none },
                st := { w.st with dirty := false } }

def cwstep (wr : CWriter) (fs : CFS) : Option (CWriter × CFS) :=
  match wr.pc with
  | .start => some ({ wr with pc := .collected }, fs)
  | .collected => some ({ wr with pc := .created }, csetF fs .tmp (some .partial_))
  | .created => some ({ wr with pc := .written }, csetF fs .tmp (some .partial_))
  | .written => some ({ wr with pc := .flushed }, csetF fs .tmp (some (.complete wr.out)))
  | .flushed => some ({ wr with pc := .synced }, fs)
  | .synced =>
    match fs .tmp with
    | some f => some ({ wr with pc := .renamed }, csetF (csetF fs .path (some f)) .tmp none)
    | none => some ({ wr with pc := .finished, result := none }, fs)
  | .renamed => some ({ wr with pc := .built }, fs)
  | .built => some ({ wr with pc := .reopened, result := creadPath fs }, fs)
  | .reopened => some ({ wr with pc := .finished }, fs)
  | .finished => none

def cwriterDone (w : CWorld) : Bool :=
  match w.writer with
  | none => true
  | some wr => wr.pc == .finished

def cstep (w : CWorld) (a : CAct) : Option CWorld :=
  if w.crashed then none else
  match a with
  | .crash => some { w with crashed := true }
  | .w =>
    match w.writer with
    | some wr =>
      match cwstep wr w.fs with
      | some (wr', fs') => some { w with writer := some wr', fs := fs' }
      | none => none
    | none => none
  | .add k t f tm => if w.phase = .run then some { w with st := TrieBuf.apply w.st (.add k t f tm) } else none
  | .update k t f tm => if w.phase = .run then some { w with st := TrieBuf.apply w.st (.update k t f tm) } else none
  | .remove k t => if w.phase = .run then some { w with st := TrieBuf.apply w.st (.remove k t) } else none
  | .flush => if w.phase = .run then some (ccheckpoint w) else none
  | .reopen => if w.phase = .run then some (csync w) else none
  | .close => if w.phase = .run then some { w with phase := .dJoin0 } else none
  | .d =>
    match w.phase with
    | .dJoin0 => if cwriterDone w then some { w with writer := none, phase := .dSync } else none
    | .dSync => some { csync w with phase := .dFlush }
    | .dFlush => some { ccheckpoint w with phase := .dJoin }
    | .dJoin => if cwriterDone w then some { w with writer := none, phase := .closed } else none
    | _ => none
  | .open_ =>
    if w.phase = .closed then
      match creadPath w.fs with
      | some c => some { w with st := freshSt c, phase := .run }
      | none => none
    else none

def crun (w : CWorld) : List CAct → Option CWorld
  | [] => some w
  | a :: as =>
    match cstep w a with
    | some w' => crun w' as
    | none => none

/-- the abstract action a concrete action is -/
def encAct : CAct → Act
  | .add k t f tm => .add (encK (k, t)) (encV (f, tm.getD 0))
  | .update k t f tm => .update (encK (k, t)) (encV (f, tm))
  | .remove k t => .remove (encK (k, t))
  | .flush => .flush
  | .reopen => .reopen
  | .close => .close
  | .d => .d
  | .open_ => .open_
  | .w => .w
  | .crash => .crash

/-- the `DictionaryMut` call a concrete action is (C09's `Op`) -/
def opOf : CAct → Option MapSpec.Op
  | .add k t f tm => some (.add k t f tm)
  | .update k t f tm => some (.update k t f tm)
  | .remove k t => some (.remove k t)
  | _ => none

/-- the repaired code: tombstone lifted by add/update (C09's F09 fix), `Drop` joins first (F12 fix) -/
def cfgR : Cfg := { revive := true, joinFirst := true }

/-! ## the simulation -/

def ORel {α β : Type} (r : α → β → Prop) : Option α → Option β → Prop
  | none, none => True
  | some a, some b => r a b
  | _, _ => False

/-- a concrete trie file against an abstract content: well-formed, and it denotes that content -/
def TRel (t : List Leaf) (c : Content) : Prop := Trie.SnapOk t ∧ Rep (TrieBuf.baseGet t) c

def FileRel : CFile → FileC → Prop
  | .partial_, .partial_ => True
  | .complete t, .complete c => TRel t c
  | _, _ => False

def FSRel (cfs : CFS) (fs : FS) : Prop := ∀ n, ORel FileRel (cfs n) (fs n)

structure WRel (cwr : CWriter) (wr : Writer) : Prop where
  pc : cwr.pc = wr.pc
  out : TRel cwr.out wr.snap
  result : ORel TRel cwr.result wr.result

structure Sim (cw : CWorld) (w : World) : Prop where
  linv : LInv cw.st
  buf : BufRel cw.st w.buf
  writer : ORel WRel cw.writer w.writer
  fs : FSRel cw.fs w.fs
  phase : cw.phase = w.phase
  crashed : cw.crashed = w.crashed

theorem ORel.of_none {α β : Type} {r : α → β → Prop} {ob : Option β} (h : ORel r none ob) : ob = none := by
  cases ob with
  | none => rfl
  | some b => exact h.elim

theorem ORel.of_some {α β : Type} {r : α → β → Prop} {a : α} {ob : Option β} (h : ORel r (some a) ob) :
    ∃ b, ob = some b ∧ r a b := by
  cases ob with
  | none => exact h.elim
  | some b => exact ⟨b, rfl, h⟩

theorem readPath_rel {cfs : CFS} {fs : FS} (h : FSRel cfs fs) : ORel TRel (creadPath cfs) (readPath fs) := by
  have hp := h .path
  unfold creadPath readPath
  cases h1 : cfs .path with
  | none => rw [h1] at hp; rw [hp.of_none]; trivial
  | some cf =>
    rw [h1] at hp
    obtain ⟨f, h2, hp⟩ := hp.of_some
    rw [h2]
    cases cf <;> cases f <;> first | exact hp | trivial

theorem setF_rel {cfs : CFS} {fs : FS} (h : FSRel cfs fs) (m : Name) {cf : Option CFile} {f : Option FileC}
    (hf : ORel FileRel cf f) : FSRel (csetF cfs m cf) (setF fs m f) := by
  intro n
  unfold csetF setF
  by_cases e : n = m
  · simp only [e, if_true]; exact hf
  · simp only [e, if_false]; exact h n

theorem rep_empty_bt : Rep (TrieBuf.btGet []) (fun _ => none) := fun _ => rfl
theorem repG_empty : RepG [] (fun _ => false) := fun _ => rfl

theorem sim_adopt {s : TrieBuf.State} {b : Buf} {t : List Leaf} {c : Content} (hb : BufRel s b) (ht : TRel t c) :
    LInv (adopt s t) ∧ BufRel (adopt s t) { b with trie := c, btree := fun _ => none, grave := fun _ => false } :=
  ⟨⟨List.Pairwise.nil, ht.1⟩, ⟨ht.2, rep_empty_bt, repG_empty, hb.dirty⟩⟩

theorem sim_reload {s : TrieBuf.State} {b : Buf} {t : List Leaf} {c : Content} (hl : LInv s) (hb : BufRel s b)
    (ht : TRel t c) : LInv (reload s t) ∧ BufRel (reload s t) { b with trie := c } :=
  ⟨⟨hl.bt, ht.1⟩, ⟨ht.2, hb.btree, hb.grave, hb.dirty⟩⟩

theorem sim_fresh {t : List Leaf} {c : Content} (ht : TRel t c) (g : Nat) :
    LInv (freshSt t) ∧ BufRel (freshSt t) (Buf.fresh c g) :=
  ⟨⟨List.Pairwise.nil, ht.1⟩,
   ⟨ht.2, rep_empty_bt, repG_empty, rfl⟩⟩

/-- the two worlds take the same branch of `sync` (related writers, results, `dirty`, files), and each branch
    keeps the relation -/
theorem sim_sync {cw : CWorld} {w : World} (h : Sim cw w) : Sim (csync cw) (sync w) := by
  have hw := h.writer
  unfold csync sync
  cases hcw : cw.writer with
  | none =>
    rw [hcw] at hw
    rw [hw.of_none]
    have hr := readPath_rel h.fs
    cases h1 : creadPath cw.fs with
    | none => rw [h1] at hr; rw [hr.of_none]; exact h
    | some t =>
      rw [h1] at hr
      obtain ⟨c, h2, hr⟩ := hr.of_some
      rw [h2]
      exact ⟨(sim_reload h.linv h.buf hr).1, (sim_reload h.linv h.buf hr).2, trivial, h.fs, h.phase, h.crashed⟩
  | some cx =>
    rw [hcw] at hw
    obtain ⟨x, hx, hw'⟩ := hw.of_some
    rw [hx]
    simp only [hw'.pc]
    split
    · exact h
    · have hres := hw'.result
      cases h1 : cx.result with
      | none => rw [h1] at hres; rw [hres.of_none]; exact ⟨h.linv, h.buf, trivial, h.fs, h.phase, h.crashed⟩
      | some t =>
        rw [h1] at hres
        obtain ⟨c, h2, hres⟩ := hres.of_some
        rw [h2]
        simp only [h.buf.dirty]
        split
        · exact ⟨h.linv, h.buf, trivial, h.fs, h.phase, h.crashed⟩
        · exact ⟨(sim_adopt h.buf hres).1, ⟨hres.2, rep_empty_bt, repG_empty, rfl⟩, trivial, h.fs, h.phase, h.crashed⟩

theorem sim_checkpoint {cw : CWorld} {w : World} (h : Sim cw w) : Sim (ccheckpoint cw) (checkpoint w) := by
  have hw := h.writer
  unfold ccheckpoint checkpoint
  cases hcw : cw.writer with
  | some cx =>
    rw [hcw] at hw
    obtain ⟨x, hx, _⟩ := hw.of_some
    rw [hx]
    exact h
  | none =>
    rw [hcw] at hw
    rw [hw.of_none]
    simp only [Option.isSome_none, Bool.false_eq_true, if_false, h.buf.dirty]
    split
    · exact h
    · -- the snapshot thread is spawned with the file built from `entries()`: `build_rep`
      exact ⟨⟨h.linv.bt, h.linv.snap⟩, ⟨h.buf.trie, h.buf.btree, h.buf.grave, rfl⟩,
        ⟨rfl, build_rep h.linv h.buf, trivial⟩, h.fs, h.phase, h.crashed⟩

theorem sim_wstep {cwr cwr' : CWriter} {wr : Writer} {cfs cfs' : CFS} {fs : FS} (hw : WRel cwr wr) (hf : FSRel cfs fs)
    (h : cwstep cwr cfs = some (cwr', cfs')) :
    ∃ wr' fs', wstep wr fs = some (wr', fs') ∧ WRel cwr' wr' ∧ FSRel cfs' fs' := by
  obtain ⟨cpc, cout, cres⟩ := cwr
  obtain ⟨pc, snap, res, gen, old⟩ := wr
  obtain ⟨hpc, hout, hres⟩ := hw
  simp only at hpc hout hres
  subst hpc
  unfold cwstep at h
  unfold wstep
  cases cpc <;> simp only at h ⊢
  case start => cases h; exact ⟨_, _, rfl, ⟨rfl, hout, hres⟩, hf⟩
  case collected => cases h; exact ⟨_, _, rfl, ⟨rfl, hout, hres⟩, setF_rel hf .tmp True.intro⟩
  case created => cases h; exact ⟨_, _, rfl, ⟨rfl, hout, hres⟩, setF_rel hf .tmp True.intro⟩
  case written => cases h; exact ⟨_, _, rfl, ⟨rfl, hout, hres⟩, setF_rel hf .tmp hout⟩
  case flushed => cases h; exact ⟨_, _, rfl, ⟨rfl, hout, hres⟩, hf⟩
  case synced =>
    have ht := hf .tmp
    cases h1 : cfs .tmp with
    | none =>
      rw [h1] at h ht
      cases h
      rw [ht.of_none]
      exact ⟨_, _, rfl, ⟨rfl, hout, True.intro⟩, hf⟩
    | some cf =>
      rw [h1] at h ht
      cases h
      obtain ⟨f, h2, ht⟩ := ht.of_some
      rw [h2]
      exact ⟨_, _, rfl, ⟨rfl, hout, hres⟩, setF_rel (setF_rel hf .path (show ORel FileRel (some cf) (some f) from ht)) .tmp True.intro⟩
  case renamed => cases h; exact ⟨_, _, rfl, ⟨rfl, hout, hres⟩, hf⟩
  case built => cases h; exact ⟨_, _, rfl, ⟨rfl, hout, readPath_rel hf⟩, hf⟩
  case reopened => cases h; exact ⟨_, _, rfl, ⟨rfl, hout, hres⟩, hf⟩
  case finished => cases h

/-- the three change calls: C09's `TrieBuf.apply` is the abstract change at the encoded key and value -/
theorem sim_change {s : TrieBuf.State} {b : Buf} (hl : LInv s) (hb : BufRel s b) {a : CAct} {op : MapSpec.Op}
    (ho : opOf a = some op) :
    ∃ b', (LInv (TrieBuf.apply s op) ∧ BufRel (TrieBuf.apply s op) b') ∧
      ∀ w : World, w.buf = b → w.phase = .run → Step cfgR w (encAct a) { w with buf := b' } := by
  cases a <;> cases ho
  case add k t f tm =>
    refine ⟨(b.add cfgR (encK (k, t)) (encV (f, tm.getD 0))).1, ?_, fun w e hp => e ▸ .add _ _ hp⟩
    -- rejected exactly on a live phrase, on both sides
    simp only [TrieBuf.apply, Buf.add, addOk_live hl hb]
    cases (b.live (encK (k, t))).isSome
    · exact ⟨linv_put hl (k, t) _, bufRel_put cfgR rfl hb hl.bt (k, t) _⟩
    · exact ⟨hl, hb⟩
  case update k t f tm =>
    exact ⟨_, ⟨linv_put hl (k, t) _, bufRel_put cfgR rfl hb hl.bt (k, t) _⟩, fun w e hp => e ▸ .update _ _ hp⟩
  case remove k t =>
    rw [TrieBuf.apply_remove]
    exact ⟨_, ⟨linv_remove hl (k, t), bufRel_remove hb (k, t)⟩, fun w e hp => e ▸ .remove _ hp⟩

theorem writerDone_rel {cw : CWorld} {w : World} (h : Sim cw w) : cwriterDone cw = writerDone w := by
  have hw := h.writer
  unfold cwriterDone writerDone
  cases hcw : cw.writer with
  | none => rw [hcw] at hw; rw [hw.of_none]
  | some cx =>
    rw [hcw] at hw
    obtain ⟨x, hx, hw'⟩ := hw.of_some
    rw [hx]
    simp only [hw'.pc]

/-- The enabled transitions of a concrete world that has not died, one constructor per branch of `cstep`
    (the three change calls are one branch: `TrieBuf.apply` of the call `opOf` names). -/
inductive CStep (w : CWorld) : CAct → CWorld → Prop
  | crash : CStep w .crash { w with crashed := true }
  | w {wr wr' : CWriter} {fs' : CFS} : w.writer = some wr → cwstep wr w.fs = some (wr', fs') →
      CStep w .w { w with writer := some wr', fs := fs' }
  | change {a : CAct} {op : MapSpec.Op} : w.phase = .run → opOf a = some op →
      CStep w a { w with st := TrieBuf.apply w.st op }
  | flush : w.phase = .run → CStep w .flush (ccheckpoint w)
  | reopen : w.phase = .run → CStep w .reopen (csync w)
  | close : w.phase = .run → CStep w .close { w with phase := .dJoin0 }
  | dJoin0 : w.phase = .dJoin0 → cwriterDone w = true → CStep w .d { w with writer := none, phase := .dSync }
  | dSync : w.phase = .dSync → CStep w .d { csync w with phase := .dFlush }
  | dFlush : w.phase = .dFlush → CStep w .d { ccheckpoint w with phase := .dJoin }
  | dJoin : w.phase = .dJoin → cwriterDone w = true → CStep w .d { w with writer := none, phase := .closed }
  | open_ {c : List Leaf} : w.phase = .closed → creadPath w.fs = some c →
      CStep w .open_ { w with st := freshSt c, phase := .run }

theorem cstep_some {w w' : CWorld} {a : CAct} (h : cstep w a = some w') : w.crashed = false ∧ CStep w a w' := by
  by_cases hc : w.crashed = true
  · simp [cstep, hc] at h
  · refine ⟨Bool.eq_false_iff.mpr hc, ?_⟩
    unfold cstep at h
    rw [if_neg hc] at h
    cases a <;> simp only at h
    case crash => cases h; exact .crash
    case w =>
      split at h
      · split at h
        · cases h; exact .w ‹_› ‹_›
        · cases h
      · cases h
    case add => split at h <;> cases h; exact .change ‹_› rfl
    case update => split at h <;> cases h; exact .change ‹_› rfl
    case remove => split at h <;> cases h; exact .change ‹_› rfl
    case flush => split at h <;> cases h; exact .flush ‹_›
    case reopen => split at h <;> cases h; exact .reopen ‹_›
    case close => split at h <;> cases h; exact .close ‹_›
    case d =>
      split at h
      · split at h <;> cases h; exact .dJoin0 ‹_› ‹_›
      · cases h; exact .dSync ‹_›
      · cases h; exact .dFlush ‹_›
      · split at h <;> cases h; exact .dJoin ‹_› ‹_›
      · cases h
    case open_ =>
      split at h
      · split at h
        · cases h; exact .open_ ‹_› ‹_›
        · cases h
      · cases h

theorem cfolds : Folds (· = some ·) cstep crun :=
  ⟨by simp [crun], fun w a _ => by rw [crun]; cases cstep w a <;> simp⟩

/-- **forward simulation**: every step of C10's protocol over C09's concrete layers is the
    corresponding step of C10's abstract model (for the repaired code), and the abstraction relation
    is kept -/
theorem sim_step {cw cw' : CWorld} {w : World} {a : CAct} (hs : Sim cw w)
    (h : cstep cw a = some cw') : ∃ w', step cfgR w (encAct a) = some w' ∧ Sim cw' w' := by
  obtain ⟨hc, h⟩ := cstep_some h
  have hc : w.crashed = false := hs.crashed ▸ hc
  have hph := hs.phase
  have hsync := sim_sync hs
  have hck := sim_checkpoint hs
  cases h with
  | crash => exact ⟨_, step_of_Step hc .crash, ⟨hs.linv, hs.buf, hs.writer, hs.fs, hs.phase, rfl⟩⟩
  | w hw hws =>
    have hwr := hs.writer
    rw [hw] at hwr
    obtain ⟨x, hx, hw'⟩ := hwr.of_some
    obtain ⟨x', fs', e, hwn, hfn⟩ := sim_wstep hw' hs.fs hws
    exact ⟨_, step_of_Step hc (.w hx e), ⟨hs.linv, hs.buf, hwn, hfn, hs.phase, hs.crashed⟩⟩
  | change hp ho =>
    obtain ⟨b', ⟨hl', hb'⟩, hst⟩ := sim_change hs.linv hs.buf ho
    exact ⟨_, step_of_Step hc (hst w rfl (hph ▸ hp)), ⟨hl', hb', hs.writer, hs.fs, hs.phase, hs.crashed⟩⟩
  | flush hp => exact ⟨_, step_of_Step hc (.flush (hph ▸ hp)), hck⟩
  | reopen hp => exact ⟨_, step_of_Step hc (.reopen (hph ▸ hp)), hsync⟩
  | close hp => exact ⟨_, step_of_Step hc (.close (hph ▸ hp)), ⟨hs.linv, hs.buf, hs.writer, hs.fs, rfl, hs.crashed⟩⟩
  | dJoin0 hp hd =>
    exact ⟨_, step_of_Step hc (.dJoin0 (hph ▸ hp) (writerDone_rel hs ▸ hd)),
      ⟨hs.linv, hs.buf, trivial, hs.fs, rfl, hs.crashed⟩⟩
  | dSync hp =>
    exact ⟨_, step_of_Step hc (.dSync (hph ▸ hp)), ⟨hsync.linv, hsync.buf, hsync.writer, hsync.fs, rfl, hsync.crashed⟩⟩
  | dFlush hp =>
    exact ⟨_, step_of_Step hc (.dFlush (hph ▸ hp)), ⟨hck.linv, hck.buf, hck.writer, hck.fs, rfl, hck.crashed⟩⟩
  | dJoin hp hd =>
    exact ⟨_, step_of_Step hc (.dJoin (hph ▸ hp) (writerDone_rel hs ▸ hd)),
      ⟨hs.linv, hs.buf, trivial, hs.fs, rfl, hs.crashed⟩⟩
  | open_ hp hrp =>
    have hr := readPath_rel hs.fs
    rw [hrp] at hr
    obtain ⟨c, h2, hr⟩ := hr.of_some
    exact ⟨_, step_of_Step hc (.open_ (hph ▸ hp) h2),
      ⟨(sim_fresh hr w.buf.gen).1, (sim_fresh hr w.buf.gen).2, hs.writer, hs.fs, rfl, hs.crashed⟩⟩

theorem sim_run {acts : List CAct} {cw cw' : CWorld} {w : World} (hs : Sim cw w)
    (h : crun cw acts = some cw') : ∃ w', run cfgR w (acts.map encAct) = some w' ∧ Sim cw' w' :=
  cfolds.reach (P := fun l cw => ∃ w', run cfgR w (l.map encAct) = some w' ∧ Sim cw w') ⟨w, rfl, hs⟩
    (fun _ ⟨_, e1, hs1⟩ h1 =>
      let ⟨w2, e2, hs2⟩ := sim_step hs1 h1
      ⟨w2, by rw [List.map_append, folds.append e1]; exact folds.one.mpr e2, hs2⟩) h

/-! ### the initial world, and the specification side -/

open Classical in
/-- an abstract content that represents a given concrete map (any one: the theorems quantify over
    the initial content of C10's model) -/
noncomputable def absC (m : MapSpec.Map) : Content :=
  fun n => if h : ∃ pk, encK pk = n then (m h.choose).map encV else none

theorem rep_absC (m : MapSpec.Map) : Rep m (absC m) := by
  intro pk
  unfold absC
  have h : ∃ pk', encK pk' = encK pk := ⟨pk, rfl⟩
  rw [dif_pos h, encK_inj h.choose_spec]

noncomputable def absF : CFile → FileC
  | .partial_ => .partial_
  | .complete t => .complete (absC (TrieBuf.baseGet t))

/-- a temp file left over by an earlier process is, if complete, a well-formed trie file -/
def TmpOk (tmp : Option CFile) : Prop := ∀ t, tmp = some (.complete t) → Trie.SnapOk t

theorem sim_init {t0 : List Leaf} (h0 : Trie.SnapOk t0) {tmp : Option CFile} (ht : TmpOk tmp) :
    Sim (cinit t0 tmp) (init (absC (TrieBuf.baseGet t0)) (tmp.map absF)) := by
  have hr : TRel t0 (absC (TrieBuf.baseGet t0)) := ⟨h0, rep_absC _⟩
  refine ⟨(sim_fresh hr 0).1, (sim_fresh hr 0).2, True.intro, ?_, rfl, rfl⟩
  intro n
  cases n with
  | path => exact hr
  | tmp =>
    show ORel FileRel tmp (tmp.map absF)
    cases tmp with
    | none => exact True.intro
    | some f =>
      cases f with
      | partial_ => exact True.intro
      | complete t => exact ⟨ht t rfl, rep_absC _⟩

/-- the changes a concrete history makes, as calls of C09's specification `MapSpec` -/
def opsOf (acts : List CAct) : List MapSpec.Op := acts.filterMap opOf

/-- C10's map semantics of a change (`applyChange`) is C09's (`MapSpec.Map.apply`) -/
theorem rep_applyChange {m : MapSpec.Map} {c : Content} (h : Rep m c) (a : CAct) :
    Rep (match opOf a with | some op => m.apply op | none => m) (applyChange c (encAct a)) := by
  cases a with
  | add k t f tm =>
    -- accepted exactly when the key is absent, on both sides
    cases hm : m (k, t) <;>
      simp only [opOf, encAct, applyChange, MapSpec.Map.apply, MapSpec.Map.addOk, h (k, t), hm, Option.isNone_none,
        Option.isNone_some, Option.map_none, Option.map_some, Option.isSome_none, Option.isSome_some, if_true,
        Bool.false_eq_true, if_false]
    · exact rep_set h (k, t) (some (f, tm.getD 0)) (fun _ => rfl)
    · exact h
  | update k t f tm => exact rep_set h (k, t) (some (f, tm)) (fun _ => rfl)
  | remove k t => exact rep_set h (k, t) none (fun _ => rfl)
  | _ => exact h

theorem rep_spec {m : MapSpec.Map} {c : Content} (h : Rep m c) (acts : List CAct) :
    Rep (m.run (opsOf acts)) (spec c (acts.map encAct)) := by
  induction acts generalizing m c with
  | nil => exact h
  | cons a as ih =>
    have h2 := ih (rep_applyChange h a)
    unfold opsOf spec at h2 ⊢
    simp only [List.map_cons, List.foldl_cons, List.filterMap_cons]
    cases ho : opOf a <;> rw [ho] at h2 <;> exact h2

/-- a state freshly opened on the file `t` denotes what the file holds -/
theorem abs_freshSt (t : List Leaf) : TrieBuf.abs (freshSt t) = TrieBuf.baseGet t := by
  funext k
  exact TrieBuf.absOver_empty t rfl rfl k

theorem inv_freshSt {t : List Leaf} (h : Trie.SnapOk t) : TrieBuf.Inv (freshSt t) :=
  TrieBuf.inv_of_empty h rfl rfl rfl rfl

theorem settled_freshSt (t : List Leaf) : TrieBuf.Settled (freshSt t) := ⟨rfl, rfl⟩

end Chewing.DictLink
