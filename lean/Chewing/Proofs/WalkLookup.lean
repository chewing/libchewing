import Chewing.Model.TrieWalk
import Chewing.Proofs.Returns
/-!
`lookup_first_n_phrases` over ANY index table (`Model/TrieWalk.lean`): it never panics, and its thread
set after `k` query syllables has at most `n^k` members (at most `n` on a table that passed
`validate_index`: `Proofs/WalkThreads.lean`).
-/
namespace Chewing.TrieWalk

variable {P : Type}

theorem oob_false {b e len : Nat} (h : oob b e len = false) : b < e ∧ e ≤ len := by
  simp only [oob, Bool.or_eq_false_iff, decide_eq_false_iff_not] at h
  omega

theorem sliceRecs_eq (t : Tbl P) {cb ce : Nat} (h : cb ≤ ce ∧ ce ≤ t.n) :
    sliceRecs t cb ce = .ok ((List.range' cb (ce - cb)).map fun i => (i, t.get i)) := by
  unfold sliceRecs
  rw [if_pos h]

theorem sliceData_eq (t : Tbl P) {db de : Nat} (h : db ≤ de ∧ de ≤ t.dataLen) :
    sliceData t db de = .ok (t.leaf db de) := by
  unfold sliceData
  rw [if_pos h]

theorem leafAt_eq (t : Tbl P) {cb : Nat} (h : cb < t.n) : leafAt t cb = .ok (some (t.get cb)) := by
  unfold leafAt
  rw [if_neg (by omega), if_neg (by omega)]

theorem expand_returns (t : Tbl P) (pred : Nat → Bool) : ∀ th : List Node, Returns (expand t pred th)
  | [] => ⟨_, rfl⟩
  | nd :: rest => by
    unfold expand
    split
    · exact ⟨_, rfl⟩
    · rename_i h
      have h' := oob_false (Bool.eq_false_iff.mpr h)
      rw [sliceRecs_eq t ⟨by omega, h'.2⟩]
      obtain ⟨r, hr⟩ := expand_returns t pred rest
      dsimp only
      rw [hr]
      cases r <;> exact ⟨_, rfl⟩

theorem walk_returns (t : Tbl P) (pred : Nat → Nat → Bool) :
    ∀ (q : List Nat) (th : List Node), Returns (walk t pred q th)
  | [], th => ⟨_, rfl⟩
  | syl :: q, th => by
    unfold walk
    obtain ⟨r, hr⟩ := expand_returns t (fun n => pred n syl) th
    rw [hr]
    cases r with
    | none => exact ⟨_, rfl⟩
    | some th' =>
      dsimp only
      split
      · exact ⟨_, rfl⟩
      · exact walk_returns t pred q th'

theorem collect_returns (t : Tbl P) (first : Nat) :
    ∀ (th : List Node) (acc : List P), Returns (collect t first th acc)
  | [], acc => ⟨_, rfl⟩
  | nd :: rest, acc => by
    unfold collect
    cases hb : oob nd.2.a (nd.2.a + nd.2.b) t.n with
    | true => exact ⟨_, rfl⟩
    | false =>
      have h' := oob_false hb
      simp only [Bool.false_eq_true, if_false, leafAt_eq t (Nat.lt_of_lt_of_le h'.1 h'.2)]
      cases (t.get nd.2.a).s != 0 with
      | true => exact collect_returns t first rest acc
      | false =>
        cases hd : oob (t.get nd.2.a).a ((t.get nd.2.a).a + (t.get nd.2.a).b) t.dataLen with
        | true => exact ⟨_, rfl⟩
        | false =>
          have hd' := oob_false hd
          simp only [Bool.false_eq_true, if_false, sliceData_eq t ⟨Nat.le_of_lt hd'.1, hd'.2⟩]
          split
          · exact ⟨_, rfl⟩
          · exact collect_returns t first rest _

theorem threads_returns (t : Tbl P) (pred : Nat → Nat → Bool) (q : List Nat) : Returns (threads t pred q) := by
  unfold threads
  split
  · exact ⟨_, rfl⟩
  · dsimp only
    split
    · exact ⟨_, rfl⟩
    · exact walk_returns t pred q _

theorem lookup_returns (t : Tbl P) (pred : Nat → Nat → Bool) (first : Nat) (q : List Nat) :
    Returns (lookup t pred first q) := by
  unfold lookup
  obtain ⟨r, hr⟩ := threads_returns t pred q
  rw [hr]
  cases r with
  | none => exact ⟨_, rfl⟩
  | some th =>
    dsimp only
    obtain ⟨c, hc⟩ := collect_returns t first th []
    rw [hc]
    cases c <;> exact ⟨_, rfl⟩

/-- after the repair of F11 (`result.truncate(first)`) a lookup returns at most `first` phrases, whatever the file -/
theorem lookup_length_le_first (t : Tbl P) (pred : Nat → Nat → Bool) (first : Nat) (q : List Nat) (r : List P)
    (h : lookup t pred first q = .ok r) : r.length ≤ first := by
  unfold lookup at h
  obtain ⟨th, hth⟩ := threads_returns t pred q
  rw [hth] at h
  cases th with
  | none => injection h with h; subst h; exact Nat.zero_le _
  | some th =>
    dsimp only at h
    obtain ⟨c, hc⟩ := collect_returns t first th []
    rw [hc] at h
    cases c with
    | none => injection h with h; subst h; exact Nat.zero_le _
    | some c =>
      injection h with h; subst h
      rw [List.length_take]; exact Nat.min_le_left _ _

/-- the children of a thread that the strategy keeps -/
def kept (t : Tbl P) (pred : Nat → Bool) (nd : Node) : List Node :=
  ((List.range' nd.2.a nd.2.b).map fun i => (i, t.get i)).filter fun c => pred c.2.s

theorem expand_cons_some {t : Tbl P} {pred : Nat → Bool} {nd : Node} {rest th' : List Node}
    (h : expand t pred (nd :: rest) = .ok (some th')) :
    nd.2.a + nd.2.b ≤ t.n ∧ ∃ more, expand t pred rest = .ok (some more) ∧ th' = kept t pred nd ++ more := by
  unfold expand at h
  split at h
  · cases h
  · rename_i hb
    have hb' := oob_false (Bool.eq_false_iff.mpr hb)
    rw [sliceRecs_eq t ⟨Nat.le_of_lt hb'.1, hb'.2⟩, Nat.add_sub_cancel_left] at h
    obtain ⟨r, hr⟩ := expand_returns t pred rest
    rw [hr] at h
    cases r with
    | none => cases h
    | some more =>
      cases h
      exact ⟨hb'.2, more, hr, rfl⟩

theorem walk_cons_some {t : Tbl P} {pred : Nat → Nat → Bool} {syl : Nat} {q : List Nat} {th th' : List Node}
    (h : walk t pred (syl :: q) th = .ok (some th')) :
    ∃ th1, expand t (fun n => pred n syl) th = .ok (some th1) ∧ walk t pred q th1 = .ok (some th') := by
  unfold walk at h
  obtain ⟨r, hr⟩ := expand_returns t (fun n => pred n syl) th
  rw [hr] at h
  cases r with
  | none => cases h
  | some th1 =>
    dsimp only at h
    split at h
    · cases h
    · exact ⟨th1, hr, h⟩

theorem threads_some {t : Tbl P} {pred : Nat → Nat → Bool} {q : List Nat} {th : List Node}
    (h : threads t pred q = .ok (some th)) : 0 < t.n ∧ walk t pred q [(0, t.get 0)] = .ok (some th) := by
  unfold threads at h
  split at h
  · cases h
  · rename_i hb
    dsimp only at h
    split at h
    · cases h
    · exact ⟨(oob_false (Bool.eq_false_iff.mpr hb)).2, h⟩

theorem kept_length_le (t : Tbl P) (pred : Nat → Bool) (nd : Node) : (kept t pred nd).length ≤ nd.2.b :=
  Nat.le_trans (List.length_filter_le _ _) (by rw [List.length_map, List.length_range']; exact Nat.le_refl _)

theorem expand_length (t : Tbl P) (pred : Nat → Bool) :
    ∀ (th th' : List Node), expand t pred th = .ok (some th') → th'.length ≤ th.length * t.n
  | [], th', h => by
    cases h
    exact Nat.zero_le _
  | nd :: rest, th', h => by
    obtain ⟨hn, more, hr, rfl⟩ := expand_cons_some h
    have := expand_length t pred rest more hr
    have := kept_length_le t pred nd
    rw [List.length_append, List.length_cons, Nat.add_mul, Nat.one_mul]
    omega

theorem walk_length (t : Tbl P) (pred : Nat → Nat → Bool) :
    ∀ (q : List Nat) (th th' : List Node), walk t pred q th = .ok (some th') →
      th'.length ≤ th.length * t.n ^ q.length
  | [], th, th', h => by
    cases h
    simp
  | syl :: q, th, th', h => by
    obtain ⟨th1, h1, h2⟩ := walk_cons_some h
    calc th'.length ≤ th1.length * t.n ^ q.length := walk_length t pred q th1 th' h2
      _ ≤ (th.length * t.n) * t.n ^ q.length := Nat.mul_le_mul_right _ (expand_length t _ th th1 h1)
      _ = th.length * t.n ^ (syl :: q).length := by
        rw [List.length_cons, Nat.pow_succ, Nat.mul_assoc, Nat.mul_comm (t.n ^ q.length) t.n]

end Chewing.TrieWalk
