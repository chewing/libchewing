import Chewing.Model.LayoutKeys
import Chewing.Model.Syllable
/-!
Facts about the generated readings table of `data/word.src` (kernel-checked): the translator's codes are
what the model's parser (`FromStr for Syllable`, tied to the Rust parser under C13) makes of the spellings in
the file; no spelling contains the first-tone mark; the table is its four blocks `readingBlock k` in order.
-/
namespace Chewing
open Gen

theorem readings_parse : readingSpellings.map parse = readingCodes.map .ok := by
  decide +kernel

theorem readings_no_tone1 : (readingSpellings.all fun s => s.all fun c => c != 713) = true := by
  decide +kernel

theorem readings_blocks :
    readingCodes = readingBlock 0 ++ (readingBlock 1 ++ (readingBlock 2 ++ readingBlock 3)) := by
  decide +kernel

/-- the shipped character dictionary has no word for the empty syllable -/
theorem readings_no_empty : readingCodes.contains emptyPattern = false := by
  decide +kernel

end Chewing
