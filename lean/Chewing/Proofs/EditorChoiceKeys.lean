import Chewing.Proofs.EditorChoice
/-!
# C04 at the editor level, part 2: which keys of `Entering` / `EnteringSyllable` edit the buffer, and how

`Proofs/EditorCursor.lean` shows arm by arm that a key touches the pre-edit buffer only through
`CompositionEditor` methods.  This file is the same development for the finer relation `EStep`
of `Proofs/EditorChoice.lean`: every arm of `Entering::next` / `EnteringSyllable::next` makes at most ONE
edit of the composition, at the cursor of the pre-state, and its kind is read off the key and the pre-state
(`enteringKinds`, `syllableKinds`: the mirror of the `if` chain of the state's `next`).
-/
namespace Chewing.C04

variable {D L : Type} (env : Env D L)

/-! ## the arms -/

theorem charEff_did {sh sh' : Shared D L} {ev : KeyEvent} {k : KB} (h : CharEff sh ev sh' k) :
    Did [.none, .ins] sh.com sh'.com := by
  cases h with
  | insert _ _ hc => exact did_insert (.tail _ (.head _)) hc
  | _ => exact did_none rfl

/-- `open_symbol`: the shared state is untouched -/
theorem estep_openSymbol {ks : List Kind} (sh : Shared D L) : EStep (.none :: ks) sh.com (openSymbol env sh) :=
  openSymbol_all env (fun _ => did_none rfl) (did_none rfl)

/-- opening a candidate list saves and clamps the cursor -/
theorem estep_startSelecting (sh : Shared D L) : EStep [.none] sh.com (startSelecting env sh) :=
  startSelecting_opensOn env (did_none rfl) fun _ _ _ => did_none (C01.clampCursor_inner _)

theorem estep_startSelectingOrInputSpace (sh : Shared D L) :
    EStep [.none] sh.com (startSelectingOrInputSpace env sh) :=
  startSelectingOrInputSpace_opensOn env (did_none rfl) (fun _ _ _ => did_none (C01.clampCursor_inner _))
    fun _ _ _ => did_none rfl

/-- learning a phrase does not touch the composition editor -/
theorem estep_learnTrans (sh : Shared D L) (a b : Nat) :
    EStep [.none] sh.com (learnTrans (Shared.learnInRangeNotify env sh a b)) :=
  learnTrans_all fun _ _ e => did_none (congrArg (·.inner) (learnInRangeNotify_com env sh a b _ e))

theorem estep_enteringDefault (sh : Shared D L) (ev : KeyEvent) :
    EStep [.none, .ins] sh.com (enteringDefault env sh ev) :=
  enteringDefault_all env (estep_openSymbol env sh) (charEff_inputChar fun _ _ => charEff_did)
    (fun _ _ _ h => did_insertChars (.tail _ (.head _)) h) (fun _ _ h => did_insert (.tail _ (.head _)) h)
    (fun _ _ _ => did_none rfl) (fun _ _ _ => did_none rfl) (fun _ _ _ => charEff_chineseFallback fun _ _ => charEff_did)
    (charEff_chineseFallback fun _ _ => charEff_did) (did_none rfl)

/-! ## `Entering::next` -/

/-- **which keys of `Entering` edit the buffer, and how**: the kinds of edit the arm of `Entering::next`
    taken by the key `ev` in the state `sh` can perform — the MIRROR of the `if … else if …` chain of
    `enteringNext` (same conditions, same order).  This is the classification that C04's editor-level
    theorems quantify over: a choice (a break) is kept by a key unless one of the kinds listed here for that
    key edits inside it (touches it) — `kindEdits` / `kindTouches`, decidable on the pre-state. -/
def enteringKinds (sh : Shared D L) (ev : KeyEvent) : List Kind :=
  /- Backspace: nothing on the empty buffer / at the beginning, else `remove_before_cursor` -/
  if ev.code == KC.backspace then [.none, .bksp]
  /- CapsLock: language mode -/
  else if ev.code == KC.unknown && ev.mods.capslock then [.none]
  /- Ctrl-digit: symbol table, or add a user phrase -/
  else if isDigitCode ev.code && ev.mods.ctrl then [.none]
  /- a passed-through key on the empty buffer -/
  else if isIdleKey ev.code && sh.com.isEmpty then [.none]
  /- Tab at the end: next alternative of the conversion -/
  else if ev.code == KC.tab && sh.com.isEob then [.none]
  /- Tab inside: glue at an interval end, otherwise break -/
  else if ev.code == KC.tab then [.none, .glue, .brk]
  /- Delete: nothing at the end, else `remove_after_cursor` -/
  else if ev.code == KC.del then [.none, .del]
  /- Home -/
  else if ev.code == KC.home then [.none]
  /- Shift-Left / Shift-Right: start highlighting -/
  else if ev.code == KC.left && ev.mods.shift then [.none]
  else if ev.code == KC.right && ev.mods.shift then [.none]
  /- Left / Right / Up -/
  else if ev.code == KC.left then [.none]
  else if ev.code == KC.right then [.none]
  else if ev.code == KC.up then [.none]
  /- Shift-Space: character form -/
  else if ev.code == KC.space && ev.mods.shift && sh.options.enableFullwidthToggleKey then [.none]
  /- Space as a selection key / Down: open a candidate list (cursor saved, clamped, perhaps restored) -/
  else if ev.code == KC.space && sh.options.spaceIsSelectKey && sh.options.languageMode == .chinese then [.none]
  else if ev.code == KC.down then [.none]
  /- End / PageUp / PageDown -/
  else if ev.code == KC.end_ || ev.code == KC.pageUp || ev.code == KC.pageDown then [.none]
  /- Enter: everything is committed -/
  else if ev.code == KC.enter then [.clear]
  /- Esc: with `esc_clear_all_buffer` the buffer is cleared -/
  else if ev.code == KC.esc then [.none, .clear]
  /- NumLock: the key's character is committed at once (empty buffer) or inserted at the cursor -/
  else if ev.mods.numlock then [.none, .ins]
  /- every other key: a symbol (or an easy-symbol expansion) inserted at the cursor, or nothing -/
  else [.none, .ins]

/-- `Entering::next`: every key makes at most one edit of the composition, of a kind in `enteringKinds`.
    Arm by arm, in the order of the two `if` chains. -/
theorem estep_enteringNext (sh : Shared D L) (ev : KeyEvent) :
    EStep (enteringKinds sh ev) sh.com (enteringNext env sh ev) := by
  unfold enteringNext enteringKinds
  exact
    estep_ite2 (enteringBackspace_all (fun _ => did_none rfl) fun _ _ h => did_removeBefore (.head _) h) <|
    estep_ite2 (estep_none rfl) <|
    estep_ite2 (enteringCtrlDigit_all env (estep_openSymbol env sh) (estep_learnTrans env sh) (did_none rfl)) <|
    estep_ite2 (estep_none rfl) <|
    estep_ite2 (estep_none rfl) <|
    estep_ite2 (enteringTabInside_all env (fun _ h => did_insertGap .glue (.head _) nofun rfl h)
      fun _ h => did_insertGap .brk (.tail _ (.head _)) nofun rfl h) <|
    estep_ite2 (enteringDel_all (fun _ => did_none rfl) fun _ _ h => did_removeAfter (.tail _ (.head _)) h) <|
    estep_ite2 (estep_none rfl) <|
    estep_ite2 (enteringShiftLeft_all (did_none rfl) (did_none rfl)) <|
    estep_ite2 (enteringShiftRight_all (did_none rfl) (did_none rfl)) <|
    estep_ite2 (estep_none rfl) <|
    estep_ite2 (estep_none rfl) <|
    estep_ite2 (estep_none rfl) <|
    estep_ite2 (estep_none rfl) <|
    estep_ite2 (estep_startSelectingOrInputSpace env sh) <|
    estep_ite2 (estep_startSelecting env sh) <|
    estep_ite2 (estep_none rfl) <|
    -- Enter: `commit` clears the composition editor (learning aside, which does not touch it)
    estep_ite2 (enteringEnter_all env fun _ e => commit_com env sh _ e ▸ did_clear _ (.head _)) <|
    estep_ite2 (enteringEsc_all (did_clear _ (.tail _ (.head _))) (did_none rfl)) <|
    estep_ite2 (charEff_commitOrInsert (.inl rfl) fun _ _ => charEff_did) (estep_enteringDefault env sh ev)

/-! ## `EnteringSyllable::next` -/

/-- the layout's answer: a completed syllable (`commit`, or a fuzzy one) is inserted at the cursor; with the simple
    engine the candidate list is then opened (`new_phrase_for_simple_engine`: the cursor is saved) -/
theorem estep_syllableAnswer (sh : Shared D L) (beh : LayoutBeh) :
    EStep [.none, .ins] sh.com (syllableAnswer env sh beh) :=
  syllableAnswer_all env (fun _ _ => did_none rfl) (fun _ _ => did_none rfl)
    (fun _ _ _ _ h => did_insert (.tail _ (.head _)) h) (fun _ _ _ => did_none rfl)
    (fun _ _ _ _ h => newPhraseSimple_all fun _ => (did_insert (.tail _ (.head _)) h).inner rfl)
    (fun _ _ _ _ h => did_insert (.tail _ (.head _)) h) (fun _ _ => did_none rfl) fun _ _ _ => did_none rfl

/-- **which keys of `EnteringSyllable` edit the buffer**: Backspace and CapsLock act on the phonetic buffer / the
    mode only; Esc clears the buffer with `esc_clear_all_buffer`; every other key goes to the phonetic layout,
    and a syllable it completes is inserted at the cursor (mirror of the `if` chain of `enteringSyllableNext`) -/
def syllableKinds (_sh : Shared D L) (ev : KeyEvent) : List Kind :=
  if ev.code == KC.backspace then [.none]
  else if ev.code == KC.unknown && ev.mods.capslock then [.none]
  else if ev.code == KC.esc then [.none, .clear]
  else [.none, .ins]

theorem estep_enteringSyllableNext (sh : Shared D L) (ev : KeyEvent) :
    EStep (syllableKinds sh ev) sh.com (enteringSyllableNext env sh ev) := by
  unfold enteringSyllableNext syllableKinds
  refine
    estep_ite2 (estep_ite (estep_none rfl) (estep_none rfl)) <|
    estep_ite2 (estep_none rfl) <|
    estep_ite2 (estep_ite (StepAll.ok (did_clear _ (.tail _ (.head _)))) (estep_none rfl)) ?_
  split
  · exact estep_syllableAnswer env _ _
  · exact estep_syllableAnswer env _ _

end Chewing.C04
