import Chewing.Proofs.EditorFrame
/-!
What `Entering::next` can do, as a relation: `EnteringEff env sh ev sh' t` lists the results `(sh', t)` a key `ev`
can have from the shared state `sh`, each as `sh` with the fields it writes, under the condition of its arm.  It is
proved once against the model (`enteringNext_eff`, through the case principles of `EditorSteps`); a property of the
step is then a `cases` on the relation that names the constructors it cares about.
-/
namespace Chewing

variable {D L : Type} (env : Env D L)

/-- the `CompositionEditor` calls `Entering` makes on a key it absorbs -/
def CedOp.keyEdit : CedOp → Bool
  | .removeBeforeCursor | .removeAfterCursor | .insertGlue | .insertBreak
  | .moveToBeginning | .moveLeft | .moveRight | .moveToEnd | .clear => true
  | _ => false

/-- a character that nothing else takes: committed at once on an empty buffer (`ch` is the key's character or its
    full-width form), else put in at the cursor; or a bell -/
inductive CharEff (sh : Shared D L) (ev : KeyEvent) : Shared D L → KB → Prop
  | bell : CharEff sh ev sh .bell
  | direct (ch : Nat) : sh.com.isEmpty = true → ch = ev.unicode ∨ fullWidthSymbolInput ev.unicode = some ch →
      CharEff sh ev { sh with commitBuf := [ch] } .commit
  | insert (ch : Nat) (c : CompEditor) : sh.com.insert (.chr ch) = .ok c → CharEff sh ev { sh with com := c } .absorb

/-- `start_selecting` opens the list `s` on the symbol `sym` at the cursor of `sh` (which it saves and clamps) -/
structure OpensOn (sh : Shared D L) (sym : Sym) (s : Selecting) : Prop where
  atCursor : sh.com.symbolForSelect = some sym
  /-- the list `new_phrase` makes (a syllable), or a symbol list on page 0 -/
  made : (sym.isSyl = true ∧
      newPhrase env sh = .ok ({ sh with com := sh.com.pushCursor.clampCursor }, .toState (.selecting s))) ∨
    (¬ sym.isSyl = true ∧ s.pageNo = 0 ∧ ∀ p, s.sel ≠ .phrase p)
  /-- it lists something -/
  lists : ∀ cs, Selecting.candidates env s { sh with com := sh.com.pushCursor.clampCursor } = .ok cs → cs ≠ []

/-- the results of `Entering::next` -/
inductive EnteringEff (sh : Shared D L) (ev : KeyEvent) : Shared D L → Trans → Prop
  | ignore : EnteringEff sh ev sh (.spin .ignore)
  | char {sh' k} : CharEff sh ev sh' k → EnteringEff sh ev sh' (.spin k)
  | edit (op : CedOp) (c : CompEditor) : op.keyEdit = true → sh.com.apply op = .ok c →
      EnteringEff sh ev { sh with com := c } (.spin .absorb)
  /-- an easy-symbol abbreviation -/
  | expand (x : Text) (c : CompEditor) : (sh.abbr.find? (fun p => p.1 == ev.unicode)).map (·.2) = some x →
      insertChars sh.com x = .ok c → EnteringEff sh ev { sh with com := c } (.spin .absorb)
  | lang : (ev.code == KC.unknown && ev.mods.capslock) = true →
      EnteringEff sh ev (Shared.switchLanguageMode sh) (.spin .absorb)
  | form : (ev.code == KC.space && ev.mods.shift && sh.options.enableFullwidthToggleKey) = true →
      EnteringEff sh ev (Shared.switchCharacterForm sh) (.spin .absorb)
  | nth : EnteringEff sh ev { sh with nth := sh.nth + 1 } (.spin .absorb)
  /-- Ctrl-digit: a phrase added to the dictionary -/
  | learned (d : D) (p : Text) : (isDigitCode ev.code && ev.mods.ctrl) = true →
      EnteringEff sh ev { sh with dict := d, dirty := sh.dirty + 1, noticeBuf := Shared.msgAdded p } (.spin .absorb)
  /-- … or not, with one of the two messages -/
  | learnFail (msg : Text) : (isDigitCode ev.code && ev.mods.ctrl) = true →
      msg = Shared.msgFail ∨ (∃ p, msg = Shared.msgExists p) →
      EnteringEff sh ev { sh with noticeBuf := msg } (.spin .bell)
  | highlight (m : Nat) : EnteringEff sh ev sh (.toState (.highlighting m))
  /-- the symbol table, which lists something -/
  | symbols : (∀ cs, Selecting.candidates env (newSymbol sh) sh = .ok cs → cs ≠ []) →
      EnteringEff sh ev sh (.toState (.selecting (newSymbol sh)))
  | opened (sym : Sym) (s : Selecting) : OpensOn env sh sym s →
      EnteringEff sh ev { sh with com := sh.com.pushCursor.clampCursor } (.toState (.selecting s))
  /-- Space as selection key on an empty buffer -/
  | space (ch : Nat) : (ev.code == KC.space && sh.options.spaceIsSelectKey && sh.options.languageMode == .chinese) = true →
      ch = 32 ∨ ch = 12288 → sh.com.isEmpty = true →
      EnteringEff sh ev { sh with commitBuf := sh.commitBuf ++ [ch] } (.spin .commit)
  | commit (sh1 : Shared D L) : (ev.code == KC.enter) = true → Shared.commit env sh = .ok sh1 →
      EnteringEff sh ev sh1 (.spin .commit)
  /-- Chinese mode, no modifiers: the phonetic layout takes the key -/
  | syllable : sh.options.languageMode = .chinese → ev.mods.isNone = true →
      ((env.keyPress sh.syl ev).1 == .absorb) = true →
      EnteringEff sh ev { sh with syl := (env.keyPress sh.syl ev).2 } (.toState .enteringSyllable)
  /-- … or does not: its state after the key is kept, the key treated as a character -/
  | rejected {sh' k} : sh.options.languageMode = .chinese → ev.mods.isNone = true →
      ¬ ((env.keyPress sh.syl ev).1 == .absorb) = true →
      CharEff { sh with syl := (env.keyPress sh.syl ev).2 } ev sh' k → EnteringEff sh ev sh' (.spin k)

variable {env}

/-- what the character arms leave alone -/
theorem CharEff.fields {sh sh' : Shared D L} {ev : KeyEvent} {k : KB} (h : CharEff sh ev sh' k) :
    sh'.options = sh.options ∧ sh'.syl = sh.syl := by
  cases h <;> exact ⟨rfl, rfl⟩

variable {P : Shared D L → Trans → Prop} {sh : Shared D L} {ev : KeyEvent}

theorem charEff_commitOrInsert {ch : Nat} (hd : ch = ev.unicode ∨ fullWidthSymbolInput ev.unicode = some ch)
    (h : ∀ sh' k, CharEff sh ev sh' k → P sh' (.spin k)) : StepAll P (commitOrInsert sh ch) :=
  commitOrInsert_all (fun he => h _ _ (.direct ch he hd)) fun c _ hc => h _ _ (.insert ch c hc)

theorem charEff_inputChar (h : ∀ sh' k, CharEff sh ev sh' k → P sh' (.spin k)) : StepAll P (inputChar sh ev) :=
  inputChar_all (fun _ hd => charEff_commitOrInsert hd h) (h _ _ .bell)

theorem charEff_chineseFallback (h : ∀ sh' k, CharEff sh ev sh' k → P sh' (.spin k)) :
    StepAll P (chineseFallback sh ev) :=
  chineseFallback_all (fun s c hc => h _ _ (.insert s c hc)) (charEff_inputChar h) (h _ _ .bell)

variable (env)

/-- the two functions `start_selecting` calls on the symbol `sym` at the cursor: a list is opened, or — a request ignored
    for want of candidates has restored the saved cursor — nothing has changed -/
theorem opensOn_calls (hi : P sh (.spin .ignore))
    (ho : ∀ sym s, OpensOn env sh sym s → P { sh with com := sh.com.pushCursor.clampCursor } (.toState (.selecting s)))
    {sym : Sym} (hs : sh.com.symbolForSelect = some sym) :
    (sym.isSyl = true → StepAll P (openPhrase env sh)) ∧ (¬ sym.isSyl = true → StepAll P (openSpecialSymbol env sh sym)) :=
  have hi : P (Shared.cancelSelecting { sh with com := sh.com.pushCursor.clampCursor }) (.spin .ignore) := by
    rw [cancel_push_clamp hs]; exact hi
  ⟨fun hy => openPhrase_all env (fun s hn hne => ho sym s ⟨hs, .inl ⟨hy, hn⟩, hne⟩) hi,
    fun hy => openSpecialSymbol_all env (fun s h0 hnp hne => ho sym s ⟨hs, .inr ⟨hy, h0, hnp⟩, hne⟩) hi⟩

theorem startSelecting_opensOn (hi : P sh (.spin .ignore))
    (ho : ∀ sym s, OpensOn env sh sym s → P { sh with com := sh.com.pushCursor.clampCursor } (.toState (.selecting s))) :
    StepAll P (startSelecting env sh) :=
  startSelecting_calls env (fun _ hs => (opensOn_calls env hi ho hs).1) (fun _ hs => (opensOn_calls env hi ho hs).2) fun _ => hi

theorem startSelectingOrInputSpace_opensOn (hi : P sh (.spin .ignore))
    (ho : ∀ sym s, OpensOn env sh sym s → P { sh with com := sh.com.pushCursor.clampCursor } (.toState (.selecting s)))
    (hsp : ∀ ch, ch = 32 ∨ ch = 12288 → sh.com.isEmpty = true →
      P { sh with commitBuf := sh.commitBuf ++ [ch] } (.spin .commit)) :
    StepAll P (startSelectingOrInputSpace env sh) :=
  startSelectingOrInputSpace_calls env (fun _ hs => (opensOn_calls env hi ho hs).1)
    (fun _ hs => (opensOn_calls env hi ho hs).2) hsp fun _ => hi

/-- **every result of `Entering::next` is one of `EnteringEff`** -/
theorem enteringNext_eff (sh : Shared D L) (ev : KeyEvent) : StepAll (EnteringEff env sh ev) (enteringNext env sh ev) := by
  have hsym : StepAll (EnteringEff env sh ev) (openSymbol env sh) := openSymbol_all env .symbols .ignore
  exact enteringNext_all env
    (enteringBackspace_all (fun _ => .ignore) fun c _ h => .edit .removeBeforeCursor c rfl h)
    .lang
    (fun e => enteringCtrlDigit_all env hsym
      (fun a b => learnTrans_all fun sh1 okk h => by
        obtain ⟨h1, msg, rfl, hm⟩ | ⟨h1, d, p, rfl⟩ := learnInRangeNotify_cases env sh a b _ h <;> cases h1
        · exact .learnFail msg e hm
        · exact .learned d p e)
      (.learnFail _ e (.inl rfl)))
    (fun _ => .ignore) .nth
    (enteringTabInside_all env (fun c h => .edit .insertGlue c rfl h) fun c h => .edit .insertBreak c rfl h)
    (enteringDel_all (fun _ => .ignore) fun c _ h => .edit .removeAfterCursor c rfl h)
    (fun c h => by
      rcases h with rfl | rfl | rfl | rfl
      · exact .edit .moveToBeginning _ rfl rfl
      · exact .edit .moveLeft _ rfl rfl
      · exact .edit .moveRight _ rfl rfl
      · exact .edit .moveToEnd _ rfl rfl)
    (enteringShiftLeft_all .ignore (.highlight _)) (enteringShiftRight_all .ignore (.highlight _)) .ignore
    .form
    (fun e => startSelectingOrInputSpace_opensOn env .ignore .opened fun ch h he => .space ch e h he)
    (startSelecting_opensOn env .ignore .opened)
    (fun e => enteringEnter_all env fun sh1 h => .commit sh1 e h)
    (enteringEsc_all (.edit .clear _ rfl rfl) .ignore)
    (charEff_commitOrInsert (.inl rfl) fun _ _ => .char)
    (enteringDefault_all env hsym (charEff_inputChar fun _ _ => .char)
      (fun x c hx h => .expand x c hx h) (fun s c h => .char (.insert s c h))
      (fun hl hm ha => .syllable hl hm ha) (fun hl hm ha => .rejected hl hm ha .bell)
      (fun hl hm ha => charEff_chineseFallback fun _ _ => .rejected hl hm ha)
      (charEff_chineseFallback fun _ _ => .char) (.char .bell))

end Chewing
