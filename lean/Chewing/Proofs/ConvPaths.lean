import Chewing.Proofs.ConvBasic
import Chewing.Proofs.StableSort
/-!
Chains of graph edges; `trim_paths` and the sort only select / permute.
-/
namespace Chewing.Conv

/-- `p` is a chain of edges of `E` from node `a` to node `b` -/
def IsChain (E : List Edge) : Nat → Nat → Path → Prop
  | a, b, [] => a = b
  | a, b, e :: r => e ∈ E ∧ e.start = a ∧ IsChain E e.stop b r

theorem IsChain.append {E : List Edge} {a m b : Nat} {p q : Path} (h₁ : IsChain E a m p) (h₂ : IsChain E m b q) :
    IsChain E a b (p ++ q) := by
  induction p generalizing a with
  | nil => cases h₁; exact h₂
  | cons e r ih => exact ⟨h₁.1, h₁.2.1, ih h₁.2.2⟩

theorem IsChain.take {E : List Edge} {a b : Nat} {p : Path} (h : IsChain E a b p) {i : Nat} {e : Edge}
    (hi : p[i]? = some e) : IsChain E a e.start (p.take i) := by
  induction p generalizing a i with
  | nil => cases hi
  | cons x r ih =>
    cases i with
    | zero =>
      simp only [List.getElem?_cons_zero, Option.some.injEq] at hi
      subst hi
      exact h.2.1.symm
    | succ j =>
      simp only [List.getElem?_cons_succ] at hi
      exact ⟨h.1, h.2.1, ih h.2.2 hi⟩

theorem IsChain.mem {E : List Edge} {a b : Nat} {p : Path} (h : IsChain E a b p) {e : Edge} (hm : e ∈ p) : e ∈ E := by
  induction p generalizing a with
  | nil => cases hm
  | cons x r ih =>
    rcases List.mem_cons.mp hm with rfl | hm
    · exact h.1
    · exact ih h.2.2 hm

/-! ### `trim_paths` and the sort select / permute -/

theorem trimInner_sub {cand : Path} {ps : List Path} {drop : Bool} {keeper : List Path} :
    ∀ p ∈ (trimInner cand ps drop keeper).1, p ∈ keeper ∨ p ∈ ps := by
  induction ps generalizing drop keeper with
  | nil => intro p hp; exact Or.inl hp
  | cons q qs ih =>
    intro p hp
    unfold trimInner at hp
    split at hp
    · rcases ih p hp with h | h
      · rcases List.mem_append.mp h with h | h
        · exact Or.inl h
        · exact Or.inr (by simp only [List.mem_singleton] at h; subst h; exact List.mem_cons_self ..)
      · exact Or.inr (List.mem_cons_of_mem _ h)
    · split at hp
      · rcases ih p hp with h | h
        · exact Or.inl h
        · exact Or.inr (List.mem_cons_of_mem _ h)
      · rcases ih p hp with h | h
        · rcases List.mem_append.mp h with h | h
          · exact Or.inl h
          · exact Or.inr (by simp only [List.mem_singleton] at h; subst h; exact List.mem_cons_self ..)
        · exact Or.inr (List.mem_cons_of_mem _ h)

theorem trimStep_sub {trimmed : List Path} {cand : Path} : ∀ p ∈ trimStep trimmed cand, p ∈ trimmed ∨ p = cand := by
  intro p hp
  unfold trimStep at hp
  simp only at hp
  split at hp
  · rcases trimInner_sub p hp with h | h
    · cases h
    · exact Or.inl h
  · rcases List.mem_append.mp hp with h | h
    · rcases trimInner_sub p h with h | h
      · cases h
      · exact Or.inl h
    · exact Or.inr (by simpa using h)

theorem trimPaths_sub {paths : List Path} : ∀ p ∈ trimPaths paths, p ∈ paths := by
  unfold trimPaths
  suffices ∀ (acc : List Path), ∀ p ∈ paths.foldl trimStep acc, p ∈ acc ∨ p ∈ paths by
    intro p hp
    rcases this [] p hp with h | h
    · cases h
    · exact h
  induction paths with
  | nil => intro acc p hp; exact Or.inl hp
  | cons q qs ih =>
    intro acc p hp
    rw [List.foldl_cons] at hp
    rcases ih _ p hp with h | h
    · rcases trimStep_sub p h with h | h
      · exact Or.inl h
      · exact Or.inr (h ▸ List.mem_cons_self ..)
    · exact Or.inr (List.mem_cons_of_mem _ h)

theorem sortDesc_eq_isort (l : List (Int × Path)) : sortDesc l = isort (fun a b => !decide (a.1 ≤ b.1)) l :=
  isort_unique (ins := insertDesc) (fun _ => rfl) (fun _ _ _ => rfl) rfl (fun _ _ => rfl) l

theorem mem_sortDesc {y : Int × Path} {l : List (Int × Path)} : y ∈ sortDesc l ↔ y ∈ l :=
  sortDesc_eq_isort l ▸ mem_isort _

theorem scoreAll_snd {paths : List Path} {sp : List (Int × Path)} (h : scoreAll paths = .ok sp) :
    sp.map (·.2) = paths := by
  induction paths generalizing sp with
  | nil => simp only [scoreAll] at h; cases Outcome.ok.inj h; rfl
  | cons p ps ih =>
    unfold scoreAll at h
    split at h
    · split at h
      · rename_i r hr
        cases Outcome.ok.inj h
        simp [ih hr]
      · cases h
      · cases h
    · cases h
    · cases h

theorem sortPaths_mem {paths sorted : List Path} (h : sortPaths paths = .ok sorted) :
    ∀ p, p ∈ sorted ↔ p ∈ paths := by
  unfold sortPaths at h
  split at h
  · cases Outcome.ok.inj h
    intro p; rfl
  · split at h
    · rename_i sp hsp
      cases Outcome.ok.inj h
      intro p
      rw [← scoreAll_snd hsp]
      simp only [List.mem_map]
      constructor
      · rintro ⟨y, hy, rfl⟩
        exact ⟨y, mem_sortDesc.mp hy, rfl⟩
      · rintro ⟨y, hy, rfl⟩
        exact ⟨y, mem_sortDesc.mpr hy, rfl⟩
    · cases h
    · cases h

end Chewing.Conv
