import Chewing.Proofs.LayoutUnreach
import Chewing.Proofs.LayoutSound
import Chewing.Proofs.SyllablePrefix
/-!
The unenterable readings of Hsu, ET26 and DaChen26 (known finding F21), by argument.  In each of them some rimes are
written only by a key whose row asks for an initial or a medial to be there (`condSym`), every other step on the way to
an absorbed key touches the initial alone and keeps it present, and Backspace takes the rime before the medial and the
initial: so such a rime never stands alone in the layout (`Lone`), and an end key only adds a tone to what stands there.
Hsu's lone ㄑ does stand there, but every end key rewrites it to ㄔ before it writes the tone.
-/
namespace Chewing
open Gen

/-- each rime listed in `need` stands only where the condition listed beside it is met -/
def Lone (need : List (Nat × Nat)) (c : Nat) : Prop := ∀ x ∈ need, rime c = some x.1 → condMet x.2 c

/-- the states the editor can leave the layout in: no tone, and `Lone` -/
def TLs (need : List (Nat × Nat)) (c : Nat) : Prop := Comp c ∧ tone c = none ∧ Lone need c

section
variable {need : List (Nat × Nat)} {c c' : Nat}

theorem condMet.mono {cond : Nat} (h : condMet cond c) (hi : hasInitial c = true → hasInitial c' = true)
    (hm : hasMedial c = true → hasMedial c' = true) : condMet cond c' := by
  refine ⟨fun e => ?_, fun e => hm (h.2 e)⟩
  have := h.1 e
  unfold hasInitialOrMedial at *
  rw [Bool.or_eq_true] at *
  exact this.imp hi hm

theorem Lone.of_rime {b : Nat} (hr : rime c = some b) (hb : ∀ x ∈ need, b ≠ x.1) : Lone need c :=
  fun x hx e => absurd (Option.some.inj (hr.symm.trans e)) (hb x hx)

theorem Lone.of_no_rime (hr : rime c = none) : Lone need c :=
  fun x _ e => by rw [hr] at e; cases e

theorem Lone.congr (h : Lone need c) (hi : hasInitial c' = hasInitial c) (hm : hasMedial c' = hasMedial c)
    (hr : rime c' = rime c) : Lone need c' :=
  fun x hx e => (h x hx (hr ▸ e)).mono (hi ▸ id) (hm ▸ id)

theorem SwapI.lone (hs : SwapI c c') (h : Lone need c) : Lone need c' :=
  h.congr hs.2.1 hs.hasMedial (hs.2.2 2 (by omega) (by omega))

/-- the components by name -/
theorem comp_names {o : Nat → Option Nat} (e : ∀ k < 4, comp k c' = o k) :
    initial c' = o 0 ∧ medial c' = o 1 ∧ rime c' = o 2 ∧ tone c' = o 3 :=
  ⟨e 0 (by omega), e 1 (by omega), e 2 (by omega), e 3 (by omega)⟩

/-- writing a symbol keeps `Lone` if a rime of `need` is written only where it may stand -/
theorem Lone.update {b : Nat} (h : Lone need c) (e : ∀ k < 4, comp k c' = if k = kindOf b then some b else comp k c)
    (hb : ∀ x ∈ need, b = x.1 → condMet x.2 c) : Lone need c' := by
  obtain ⟨e0, e1, e2, -⟩ := comp_names e
  intro x hx hr
  have hi : hasInitial c = true → hasInitial c' = true := by
    unfold hasInitial; rw [e0]; split
    · exact fun _ => rfl
    · exact id
  have hm : hasMedial c = true → hasMedial c' = true := by
    unfold hasMedial; rw [e1]; split
    · exact fun _ => rfl
    · exact id
  rw [e2] at hr
  split at hr
  · exact (hb x hx (Option.some.inj hr)).mono hi hm
  · exact (h x hx hr).mono hi hm

theorem tls_clear : TLs need clearSyl := ⟨comp_clear, by decide, .of_no_rime (by decide)⟩

theorem tls_back (h : TLs need c) : TLs need (removeLast c) :=
  have ⟨t, r⟩ := removeLast_toneless h.1 h.2.1
  ⟨comp_removeLast h.1, t, .of_no_rime r⟩

/-- an end key that rewrites a lone initial to no rime of `need` keeps `Lone` -/
theorem EndRw.lone {rw : List (Nat × Nat × Nat)} (e : EndRw rw c c') (h : Lone need c)
    (hrw : ∀ row ∈ rw, ∀ x ∈ need, row.2.2 ≠ x.1) : Lone need c' := by
  rcases e with ⟨rfl, -⟩ | ⟨i, rm, b, hrow, -, -, hr, e⟩
  · exact h
  · have e2 : rime c' = _ := e 2 (by omega)
    have hr : rime c = none := by simpa [hasRime] using hr
    rw [if_neg (show ¬ (2 = 0 ∧ rm = 1) by omega), show comp 2 c = _ from hr] at e2
    split at e2
    · exact .of_rime e2 (hrw _ hrow)
    · exact .of_no_rime e2

/-- the tone an end key writes changes nothing below it -/
theorem Lone.tone (h : Lone need c) (e : ∀ k < 3, comp k c' = comp k c) : Lone need c' :=
  h.congr (congrArg Option.isSome (e 0 (by omega))) (congrArg Option.isSome (e 1 (by omega))) (e 2 (by omega))

theorem keyRow_mem {tbl : List (Nat × Nat × Nat × Nat)} {key cond a b : Nat} (h : keyRow tbl key = some (cond, a, b)) :
    ∃ key', (key', cond, a, b) ∈ tbl := by
  unfold keyRow at h
  cases hf : tbl.find? (·.1 == key) with
  | none => simp [hf] at h
  | some row =>
    simp only [hf, Option.map_some, Option.some.injEq] at h
    exact ⟨row.1, h ▸ List.mem_of_find?_eq_some hf⟩

/-- a symbol other than a tone, written over a toneless syllable -/
theorem update_toneless {y s : Nat} (hy : Comp y) (ty : tone y = none) (hs : s < 41) (ks : kindOf s < 3)
    (h : update y s = some c') :
    Comp c' ∧ tone c' = none ∧ ∀ k < 4, comp k c' = if k = kindOf s then some s else comp k y := by
  obtain ⟨_, h', hc', e⟩ := update_eff hy hs
  cases h.symm.trans h'
  exact ⟨hc', (e 3 (by omega)).trans ((if_neg (by omega)).trans ty), e⟩

theorem remove_toneless {y : Nat} (hy : Comp y) (ty : tone y = none) {j : Nat} (hj : j < 4) :
    Comp (removeKind j y) ∧ tone (removeKind j y) = none := by
  obtain ⟨hc', e⟩ := remove_eff hy hj
  refine ⟨hc', (e 3 (by omega)).trans ?_⟩
  split
  · rfl
  · exact ty

/-- a symbol that is no tone and no rime of `need`, written over a state of `TLs` -/
theorem write_tls {s : Nat} (hc : Comp c) (hs : s < 41) (ks : kindOf s < 3) (hn : ∀ x ∈ need, s ≠ x.1) :
    ∃ y, update c s = some y ∧ Comp y ∧ (TLs need c → TLs need y) := by
  obtain ⟨y, h, hy, -⟩ := update_eff hc hs
  refine ⟨y, h, hy, fun ⟨_, t, l⟩ => ?_⟩
  have ⟨_, t', e⟩ := update_toneless hc t hs ks h
  exact ⟨hy, t', l.update e fun x hx e => absurd e (hn x hx)⟩

/-- a rime outside `need`, written over any toneless syllable -/
theorem write_rime {y0 s : Nat} (hy : Comp y0) (hs : s < 41) (ks : kindOf s = 2) (hn : ∀ x ∈ need, s ≠ x.1) :
    ∃ y, update y0 s = some y ∧ Comp y ∧ (tone y0 = none → TLs need y) := by
  obtain ⟨y, h, hy', -⟩ := update_eff hy hs
  refine ⟨y, h, hy', fun t => ?_⟩
  have ⟨_, t', e⟩ := update_toneless hy t hs (by omega) h
  exact ⟨hy', t', .of_rime ((e 2 (by omega)).trans (if_pos ks.symm)) hn⟩

theorem tls_no_rime {y : Nat} (hy : Comp y) (ty : tone y = none) : TLs need (removeRime y) :=
  have ⟨hc', t'⟩ := remove_toneless hy ty (j := 2) (by omega)
  ⟨hc', t', .of_no_rime (((remove_eff hy (j := 2) (by omega)).2 2 (by omega)).trans (if_pos rfl))⟩

/-- an absorbed key that has a row: the symbol of the row is written after steps that touch the initial alone -/
theorem tls_absorb {cond a b c3 : Nat} (h : TLs need c) (s : SwapI c c3) (ha : a < 41 ∧ b < 41)
    (hk : kindOf a < 3 ∧ kindOf b < 3) (hn : ∀ x ∈ need, b ≠ x.1 ∧ (a = x.1 → cond = x.2))
    (h4 : update c3 (condSym c cond a b) = some c') : TLs need c' := by
  have hsym : condSym c cond a b < 41 ∧ kindOf (condSym c cond a b) < 3 ∧
      ∀ x ∈ need, condSym c cond a b = x.1 → condMet x.2 c := by
    have met := condSym_ne_snd (c := c) (cond := cond) (a := a) (b := b)
    rcases condSym_cases c cond a b with e | e <;> rw [e] at met ⊢
    · exact ⟨ha.1, hk.1, fun x hx e' => (hn x hx).2 e' ▸ met (e' ▸ (hn x hx).1.symm)⟩
    · exact ⟨ha.2, hk.2, fun x hx e' => absurd e' (hn x hx).1⟩
  have ⟨hc', t', e⟩ := update_toneless s.1 ((s.2.2 3 (by omega) (by omega)).trans h.2.1) hsym.1 hsym.2.1 h4
  exact ⟨hc', t', (s.lone h.2.2).update e fun x hx e => (hsym.2.2 x hx e).mono (s.2.1 ▸ id) (s.hasMedial ▸ id)⟩

/-- a composable syllable without components is the empty one -/
theorem comp_all_none (hc : Comp c) (h : ∀ k < 4, comp k c = none) : c = emptyPattern := by
  obtain ⟨i, m, r, t, ht, rfl⟩ := hc
  obtain ⟨a0, a1, a2, a3⟩ := comp_eq_iff ht (i' := 0) (m' := 0) (r' := 0) (t' := 0) ⟨by omega, by omega, by omega, by omega⟩
  have z : ∀ k < 4, comp k (encode 0 0 0 0) = none := by decide
  have e (k : Nat) (hk : k < 4) := (h k hk).trans (z k hk).symm
  rw [a0.mp (e 0 (by omega)), a1.mp (e 1 (by omega)), a2.mp (e 2 (by omega)), a3.mp (e 3 (by omega))]
  rfl
end

/-- the answer to a key pressed in state `c`: no panic, no `Fuzzy`, a composable state (`PressOk`); and from a state of
    `I` an absorbed key leads to `I` again and a committing one to no reading of `gaps` -/
def PressSpec (I : Nat → Prop) (gaps : List Nat) (c : Nat) (r : PressResult) : Prop :=
  ∃ b c', r = some (b, c') ∧ Comp c' ∧ (∀ s, b ≠ .fuzzy s) ∧ (I c → (b = .absorb → I c') ∧ (b = .commit → c' ∉ gaps))

section
variable {I : Nat → Prop} {gaps : List Nat} {c : Nat}

theorem PressSpec.ok {r : PressResult} (h : PressSpec I gaps c r) : PressOk r :=
  have ⟨b, c', e, hc', hb, _⟩ := h
  ⟨b, c', e, hc', hb⟩

theorem PressSpec.absorb {o : Option Nat} {g : Nat → Nat} (ho : ∃ y, o = some y ∧ Comp (g y) ∧ (I c → I (g y))) :
    PressSpec I gaps c (o.map fun y => (.absorb, g y)) := by
  obtain ⟨y, rfl, hy, hI⟩ := ho
  exact ⟨.absorb, g y, rfl, hy, nofun, fun h => ⟨fun _ => hI h, nofun⟩⟩

theorem PressSpec.commit {o : Option Nat} (ho : ∃ y, o = some y ∧ Comp y ∧ (I c → y ∉ gaps)) :
    PressSpec I gaps c (o.map fun y => (.commit, y)) := by
  obtain ⟨y, rfl, hy, hI⟩ := ho
  exact ⟨.commit, y, rfl, hy, nofun, fun h => ⟨nofun, fun _ => hI h⟩⟩

/-- a step that cannot fail, then the rest -/
theorem bind_spec {o : Option Nat} {f : Nat → PressResult} {Q : PressResult → Prop} {R : Nat → Prop}
    (ho : ∃ c', o = some c' ∧ R c') (h : ∀ c', R c' → Q (f c')) : Q (o.bind f) := by
  obtain ⟨c', rfl, hr⟩ := ho
  exact h c' hr

/-- the three hypotheses of `never_enters` about key presses and Backspace, from `PressSpec` -/
theorem unreach_of_spec {L : Layout} {need : List (Nat × Nat)}
    (h : ∀ c k, Comp c → PressSpec (TLs need) gaps c (L.press c k)) (alt : ∀ c g, g ∈ gaps → g ∉ L.alt c) :
    UnreachHyp L gaps (TLs need) where
  init := tls_clear
  back := fun _ => tls_back
  press := fun c k b c' hI hp => by
    obtain ⟨_, _, e, -, -, h'⟩ := h c k hI.1
    cases hp.symm.trans e
    exact h' hI
  alt := alt
end

/-- (rime symbol, the condition (`condMet`) of the key rows that write it): ㄝ = 27, ㄟ = 29, ㄥ = 35.  The same sets as
    `hsuInv` / `et26Inv` / `dc26Inv` of `Model/LayoutUnreach.lean`, which name the rimes by index (4, 6, 12). -/
def hsuNeed : List (Nat × Nat) := [(27, 2), (29, 1)]
def et26Need : List (Nat × Nat) := [(27, 1), (29, 1)]
def dc26Need : List (Nat × Nat) := [(27, 1), (35, 1)]

/-- no key row yields a symbol of `need` as its fallback, and as its first symbol only under the condition beside it -/
theorem keys_need : ∀ p ∈ [(hsuNeed, hsuKeys), (et26Need, et26Keys), (dc26Need, dc26Keys)], ∀ row ∈ p.2,
    (kindOf row.2.2.1 < 3 ∧ kindOf row.2.2.2 < 3) ∧
    ∀ x ∈ p.1, row.2.2.2 ≠ x.1 ∧ (row.2.2.1 = x.1 → row.2.1 = x.2) := by
  decide +kernel

theorem rewrites_need : ∀ p ∈ [(hsuNeed, hsuEndRewrites), (et26Need, et26EndRewrites)], ∀ row ∈ p.2, ∀ x ∈ p.1,
    row.2.2 ≠ x.1 := by
  decide +kernel

theorem hsu_rewrites_q : (∀ row ∈ hsuEndRewrites, row.2.2 ≠ Sym.Q ∧ (row.1 = Sym.Q → kindOf row.2.2 = 0)) ∧
    ∃ row ∈ hsuEndRewrites, row.1 = Sym.Q := by
  decide +kernel

theorem hsuPress_spec {c : Nat} (hc : Comp c) (k : KeyEv) : PressSpec (TLs hsuNeed) hsuGaps c (hsuPress c k) := by
  unfold hsuPress
  split
  · refine bind_spec (endRewrite_eff (rewrites_syms hsuEndRewrites (by simp)) hc) fun c1 ⟨hc1, e1⟩ => ?_
    refine bind_spec (hsuGtoJ_eff hc1) fun c2 ⟨s2, j2⟩ => ?_
    obtain ⟨c', h3, hc3, e3⟩ := toneStep_eff (tonekeys_syms hsuToneKeys (by simp)) k.code s2.1
    refine .commit ⟨c', h3, hc3, fun ⟨_, _, hl⟩ hg => ?_⟩
    have l3 : Lone hsuNeed c' := (s2.lone (e1.lone hl (rewrites_need _ (.head _)))).tone e3
    simp only [hsuGaps, List.mem_cons, List.not_mem_nil, or_false] at hg
    rcases hg with rfl | rfl | rfl
    · exact absurd ((l3 (27, 2) (by simp [hsuNeed]) (by decide)).2 rfl) (by decide)
    · exact absurd ((l3 (29, 1) (by simp [hsuNeed]) (by decide)).1 rfl) (by decide)
    · -- ㄑ˙: `c1`, what the end key made of `c`, would be a lone ㄑ
      have i3 : initial 6657 = initial c2 := e3 0 (by omega)
      have i1 : initial c1 = some Sym.Q := by
        rcases j2 with e | hj
        · rw [← e, ← i3]; decide
        · rw [← i3] at hj; exact absurd hj (by decide)
      have m1 : hasMedial c1 = false := by
        rw [← s2.hasMedial, hasMedial, ← show medial 6657 = medial c2 from e3 1 (by omega)]; decide
      have r1 : hasRime c1 = false := by
        rw [hasRime, ← show rime c2 = rime c1 from s2.2.2 2 (by omega) (by omega),
          ← show rime 6657 = rime c2 from e3 2 (by omega)]; decide
      obtain ⟨tbl, q, hq, hq1⟩ := hsu_rewrites_q
      rcases e1 with ⟨rfl, hm | hr | hno⟩ | ⟨i, rm, b', hrow, hi, -, -, e⟩
      · rw [m1] at hm; cases hm
      · rw [r1] at hr; cases hr
      · exact hno _ i1 q hq hq1
      · have e0 := e 0 (by omega)
        obtain ⟨nq, kq⟩ := tbl _ hrow
        rw [show comp 0 c1 = _ from i1, show comp 0 c = _ from hi] at e0
        split at e0
        · exact nq (Option.some.inj e0).symm
        · next hk =>
          split at e0
          · cases e0
          · exact hk (kq (Option.some.inj e0).symm).symm
  · split
    · exact ⟨.noWord, c, rfl, hc, nofun, fun _ => ⟨nofun, nofun⟩⟩
    · next cond a b hrow =>
      obtain ⟨key, hmem⟩ := keyRow_mem hrow
      have hk := keys_need _ (.head _) _ hmem
      have hlt := keys26_syms hsuKeys (by simp) _ hmem
      refine bind_spec (hsuGtoJ_eff hc) fun c1 ⟨s1, _⟩ => ?_
      refine bind_spec (swapI_ite _ (swap_initials jqxToZhChSh (by simp)) s1.1) fun c2 s2 => ?_
      refine bind_spec (swapI_ite _ (swap_initials zhChShToJqx (by simp)) s2.1) fun c3 s3 => ?_
      obtain ⟨c4, h4, hc4, -⟩ := update_eff s3.1 (condSym_lt (c := c) (cond := cond) hlt.1 hlt.2)
      exact .absorb ⟨c4, h4, hc4, fun h => tls_absorb h (s1.trans (s2.trans s3)) hlt hk.1 hk.2 h4⟩

theorem et26Press_spec {c : Nat} (hc : Comp c) (k : KeyEv) : PressSpec (TLs et26Need) et26Gaps c (et26Press c k) := by
  unfold et26Press
  split
  · refine bind_spec (endRewrite_eff (rewrites_syms et26EndRewrites (by simp)) hc) fun c1 ⟨hc1, e1⟩ => ?_
    obtain ⟨c', h2, hc2, e2⟩ := toneStep_eff (tonekeys_syms et26ToneKeys (by simp)) k.code hc1
    refine .commit ⟨c', h2, hc2, fun ⟨_, _, hl⟩ hg => ?_⟩
    have l2 : Lone et26Need c' := (e1.lone hl (rewrites_need _ (.tail _ (.head _)))).tone e2
    simp only [et26Gaps, List.mem_cons, List.not_mem_nil, or_false] at hg
    rcases hg with rfl | rfl
    · exact absurd ((l2 (27, 1) (by simp [et26Need]) (by decide)).1 rfl) (by decide)
    · exact absurd ((l2 (29, 1) (by simp [et26Need]) (by decide)).1 rfl) (by decide)
  · split
    · exact ⟨.noWord, c, rfl, hc, nofun, fun _ => ⟨nofun, nofun⟩⟩
    · next cond a b hrow =>
      obtain ⟨key, hmem⟩ := keyRow_mem hrow
      have hk := keys_need _ (.tail _ (.head _)) _ hmem
      have hlt := keys26_syms et26Keys (by simp) _ hmem
      have hj := swap_initials jxToZhSh (by simp)
      refine bind_spec (R := SwapI c) ?_ fun c1 s1 => ?_
      · split
        · split
          · exact swapInitial_eff hj hc
          · exact swapInitial_eff (swap_initials gToQ (by simp)) hc
        · exact swapI_ite _ hj hc
      · obtain ⟨c2, h2, hc2, -⟩ := update_eff s1.1 (condSym_lt (c := c) (cond := cond) hlt.1 hlt.2)
        exact .absorb ⟨c2, h2, hc2, fun h => tls_absorb h s1 hlt hk.1 hk.2 h2⟩

/-- the symbols the `K21` / `K44` cycles write -/
theorem dc26_cycle_syms : (∀ s ∈ [Sym.A, Sym.OU], s < 41 ∧ kindOf s = 2 ∧ ∀ x ∈ dc26Need, s ≠ x.1) ∧
    ∀ s ∈ [Sym.I, Sym.IU], s < 41 ∧ kindOf s < 3 ∧ ∀ x ∈ dc26Need, s ≠ x.1 := by
  decide +kernel

/-- every arm of the `K21` / `K44` cycles that answers leaves no rime, or ㄚ or ㄡ, or writes a medial beside what stood -/
theorem dc26_cycle {c : Nat} (hc : Comp c) {res : PressResult} (hres : dc26K21 c = some res ∨ dc26K44 c = some res) :
    PressSpec (TLs dc26Need) dc26Gaps c res := by
  obtain ⟨hrime, hmed⟩ := dc26_cycle_syms
  have hcm := comp_removeMedial hc
  have tm (h : TLs dc26Need c) : tone (removeMedial c) = none := (remove_toneless hc h.2.1 (j := 1) (by omega)).2
  -- the three kinds of arm: a medial written beside what stood, ㄚ or ㄡ written (over `c` with or without its medial)
  have medial {s : Nat} (hs : s ∈ [Sym.I, Sym.IU]) :
      PressSpec (TLs dc26Need) dc26Gaps c ((update c s).map fun y => (.absorb, y)) :=
    have ⟨h1, h2, h3⟩ := hmed s hs
    .absorb (g := id) (write_tls hc h1 h2 h3)
  have rime {s : Nat} (hs : s ∈ [Sym.A, Sym.OU]) :
      PressSpec (TLs dc26Need) dc26Gaps c ((update c s).map fun y => (.absorb, y)) :=
    have ⟨h1, h2, h3⟩ := hrime s hs
    have ⟨y, h, hy, t⟩ := write_rime hc h1 h2 h3
    .absorb (g := id) ⟨y, h, hy, fun h => t h.2.1⟩
  have rime' {s : Nat} (hs : s ∈ [Sym.A, Sym.OU]) :
      PressSpec (TLs dc26Need) dc26Gaps c ((update (removeMedial c) s).map fun y => (.absorb, y)) :=
    have ⟨h1, h2, h3⟩ := hrime s hs
    have ⟨y, h, hy, t⟩ := write_rime hcm h1 h2 h3
    .absorb (g := id) ⟨y, h, hy, fun h => t (tm h)⟩
  have iu : PressSpec (TLs dc26Need) dc26Gaps c ((update c Sym.IU).map fun y => (.absorb, removeRime y)) := by
    have ⟨h1, h2, _⟩ := hmed Sym.IU (by simp)
    obtain ⟨y, h, hy, -⟩ := update_eff hc h1
    exact .absorb ⟨y, h, comp_removeRime hy, fun hI => tls_no_rime hy (update_toneless hc hI.2.1 h1 h2 h).2.1⟩
  rcases hres with hres | hres
  · unfold dc26K21 at hres
    simp only at hres
    split at hres
    · cases hres
      exact ⟨.absorb, _, rfl, comp_removeRime hcm, nofun, fun h => ⟨fun _ => tls_no_rime hcm (tm h), nofun⟩⟩
    · split at hres
      · cases hres; exact medial (by simp)
      · split at hres
        · cases hres; exact rime' (by simp)
        · split at hres
          · cases hres; exact rime (by simp)
          · cases hres
  · unfold dc26K44 at hres
    simp only at hres
    split at hres
    · cases hres; exact rime' (by simp)
    · split at hres
      · cases hres; exact rime' (by simp)
      · split at hres
        · cases hres; exact iu
        · split at hres
          · cases hres; exact iu
          · split at hres
            · cases hres; exact rime (by simp)
            · cases hres

theorem dc26Press_spec {c : Nat} (hc : Comp c) (k : KeyEv) : PressSpec (TLs dc26Need) dc26Gaps c (dc26Press c k) := by
  unfold dc26Press
  split
  · next hend =>
    obtain ⟨c', h1, hc1, e1⟩ := toneStep_eff (tonekeys_syms dc26ToneKeys (by simp)) k.index hc
    refine .commit ⟨c', h1, hc1, fun ⟨_, ht, hl⟩ hg => ?_⟩
    have l1 : Lone dc26Need c' := hl.tone e1
    -- a lone tone: the key would have been pressed on the empty syllable
    have lone_tone (h0 : ∀ k < 3, comp k c' = none) : False := by
      have := comp_all_none hc fun k hk => by
        rcases Nat.lt_succ_iff_lt_or_eq.mp hk with hk | rfl
        · exact (e1 k hk).symm.trans (h0 k hk)
        · exact ht
      rw [this] at hend
      exact absurd (Bool.and_eq_true_iff.mp hend).2 (by decide)
    simp only [dc26Gaps, List.mem_cons, List.not_mem_nil, or_false] at hg
    rcases hg with rfl | rfl | rfl | rfl | rfl | rfl | rfl
    · exact lone_tone (by decide)
    · exact lone_tone (by decide)
    · exact lone_tone (by decide)
    · exact lone_tone (by decide)
    · exact absurd ((l1 (27, 1) (by simp [dc26Need]) (by decide)).1 rfl) (by decide)
    · exact absurd ((l1 (27, 1) (by simp [dc26Need]) (by decide)).1 rfl) (by decide)
    · exact absurd ((l1 (35, 1) (by simp [dc26Need]) (by decide)).1 rfl) (by decide)
  · split
    · exact ⟨.keyError, c, rfl, hc, nofun, fun _ => ⟨nofun, nofun⟩⟩
    · next cond a b hrow =>
      obtain ⟨key, hmem⟩ := keyRow_mem hrow
      split
      · split
        · next res hres =>
          refine dc26_cycle hc ?_
          split at hres
          · exact .inl hres
          · exact .inr hres
        · have ⟨h1, h2, h3⟩ : (if (k.index == 21) = true then Sym.I else Sym.IU) < 41 ∧
              kindOf (if (k.index == 21) = true then Sym.I else Sym.IU) < 3 ∧
              ∀ x ∈ dc26Need, (if (k.index == 21) = true then Sym.I else Sym.IU) ≠ x.1 := by
            split
            · exact dc26_cycle_syms.2 _ (by simp)
            · exact dc26_cycle_syms.2 _ (by simp)
          exact .absorb (g := id) (write_tls hc h1 h2 h3)
      · have hk := keys_need _ (.tail _ (.tail _ (.head _))) _ hmem
        have hlt := keys26_syms dc26Keys (by simp) _ hmem
        obtain ⟨c2, h2, hc2, -⟩ := update_eff hc (condSym_lt (c := c) (cond := cond) hlt.1 hlt.2)
        exact .absorb (g := id) ⟨c2, h2, hc2, fun h => tls_absorb h (.refl hc) hlt hk.1 hk.2 h2⟩

theorem sound_hsu : SoundLayout hsuL := fun _ k hc => (hsuPress_spec hc k).ok
theorem sound_et26 : SoundLayout et26L := fun _ k hc => (et26Press_spec hc k).ok
theorem sound_dc26 : SoundLayout dc26L := fun _ k hc => (dc26Press_spec hc k).ok

theorem hsu_unreach : UnreachHyp hsuL hsuGaps (TLs hsuNeed) :=
  unreach_of_spec (fun _ k hc => hsuPress_spec hc k) (altLookup_free alt_free_tbl.1)

theorem et26_unreach : UnreachHyp et26L et26Gaps (TLs et26Need) :=
  unreach_of_spec (fun _ k hc => et26Press_spec hc k) (altLookup_free alt_free_tbl.2)

theorem dc26_unreach : UnreachHyp dc26L dc26Gaps (TLs dc26Need) :=
  unreach_of_spec (fun _ k hc => dc26Press_spec hc k) fun _ _ _ h => by cases h

end Chewing
