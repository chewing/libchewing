import Chewing.Proofs.Syllable
/-!
The order-checking builder and `update` on abstract states (tuples `(i, m, r, t)`).
-/
namespace Chewing
open Gen

theorem arms_eq : builderArms = [(32256, 0, 1, 511, (1 : Int), 9), (384, 1, 2, 32383, (-20 : Int), 7),
    (120, 2, 3, 32647, (-23 : Int), 3), (7, 3, 4, 32760, (-36 : Int), 0)] := by decide

theorem update_masks_eq : updateInitialMask = 511 ∧ updateInitialShift = 9 ∧ updateMedialMask = 32383 ∧
    updateMedialShift = 7 ∧ updateRimeMask = 32647 ∧ updateRimeShift = 3 ∧ updateToneMask = 32760 ∧
    updateToneShift = 0 := by decide

def setAt (k v i m r t : Nat) : Nat × Nat × Nat × Nat :=
  match k with
  | 0 => (v, m, r, t)
  | 1 => (i, v, r, t)
  | 2 => (i, m, v, t)
  | _ => (i, m, r, v)

/-- fields of kind ≥ step are still empty -/
def Good (i m r t st : Nat) : Prop :=
  (st ≤ 0 → i = 0) ∧ (st ≤ 1 → m = 0) ∧ (st ≤ 2 → r = 0) ∧ (st ≤ 3 → t = 0)

/-- facts about the 42 symbols (kernel-checked against the generated tables): kind, index in its kind, the offset the
    builder adds to the discriminant, and the entry of the kind's index table -/
theorem sym_spec : ∀ {b : Nat}, b < 42 →
    (kindOf b = 0 ∧ 1 ≤ indexOf b ∧ indexOf b < 22 ∧ ((b : Int) + 1).toNat = indexOf b ∧ initialMap[indexOf b - 1]? = some b) ∨
    (kindOf b = 1 ∧ 1 ≤ indexOf b ∧ indexOf b < 4 ∧ ((b : Int) + -20).toNat = indexOf b ∧ medialMap[indexOf b - 1]? = some b) ∨
    (kindOf b = 2 ∧ 1 ≤ indexOf b ∧ indexOf b < 14 ∧ ((b : Int) + -23).toNat = indexOf b ∧ rimeMap[indexOf b - 1]? = some b) ∨
    (kindOf b = 3 ∧ 1 ≤ indexOf b ∧ indexOf b < 6 ∧ ((b : Int) + -36).toNat = indexOf b ∧
      (b ≠ 41 → indexOf b < 5 ∧ toneMap[indexOf b - 1]? = some b)) := by
  decide +kernel

/-- writing a symbol's index into the field of its kind keeps the tuple in range (`nt = 6`: any symbol; `nt = 5`: not `ˉ`) -/
theorem setAt_tup {nt i m r t b : Nat} (h : Tup nt i m r t) (hb : b < 42) (ht : 6 ≤ nt ∨ (b ≠ 41 ∧ 5 ≤ nt)) :
    on4 (Tup nt) (setAt (kindOf b) (indexOf b) i m r t) := by
  obtain ⟨t0, t1, t2, t3⟩ := h
  rcases sym_spec hb with ⟨hk, -, hi, -, -⟩ | ⟨hk, -, hi, -, -⟩ | ⟨hk, -, hi, -, -⟩ | ⟨hk, -, hi, -, hi5⟩ <;>
    rw [hk]
  · exact ⟨hi, t1, t2, t3⟩
  · exact ⟨t0, hi, t2, t3⟩
  · exact ⟨t0, t1, hi, t3⟩
  · exact ⟨t0, t1, t2, ht.elim (Nat.lt_of_lt_of_le hi) fun h => Nat.lt_of_lt_of_le (hi5 h.1).1 h.2⟩

/-- the value written by `update` and by a successful builder step -/
def rawSet (c b : Nat) : Nat :=
  match kindOf b with
  | 0 => (c &&& 511) ||| (indexOf b <<< 9)
  | 1 => (c &&& 32383) ||| (indexOf b <<< 7)
  | 2 => (c &&& 32647) ||| (indexOf b <<< 3)
  | _ => (c &&& 32760) ||| (indexOf b <<< 0)

def checkMask (k : Nat) : Nat :=
  match k with
  | 0 => 32256
  | 1 => 384
  | 2 => 120
  | _ => 7

theorem rawSet_encode {i m r t b : Nat} (h : Tup 6 i m r t) (hb : b < 42) :
    rawSet (encode i m r t) b = enc4 (setAt (kindOf b) (indexOf b) i m r t) := by
  obtain ⟨p3, -, -, p0⟩ := encode_fields h
  obtain ⟨p1, p2, p4, p5⟩ := encode_parts h
  unfold rawSet
  rcases sym_spec hb with ⟨hk, hi1, hi2, -, -⟩ | ⟨hk, hi1, hi2, -, -⟩ | ⟨hk, hi1, hi2, -, -⟩ | ⟨hk, hi1, hi2, -, -⟩ <;>
    rw [hk] <;> have hi1 := Nat.ne_of_gt hi1
  -- each arm: the bit operation in arithmetic form, the parts of the old code it keeps, the new code in arithmetic form
  · refine (set_initial _ (Nat.lt_trans hi2 (by decide))).trans
      (.trans ?_ (encode_nz (i := indexOf b) (m := m) (r := r) (t := t) (.inl hi1)).symm)
    simp only [p2, Nat.add_assoc]
  · refine (set_medial _ hi2).trans
      (.trans ?_ (encode_nz (i := i) (m := indexOf b) (r := r) (t := t) (.inr (.inl hi1))).symm)
    simp only [p3, p1, Nat.add_assoc]
  · refine (set_rime _ (Nat.lt_trans hi2 (by decide))).trans
      (.trans ?_ (encode_nz (i := i) (m := m) (r := indexOf b) (t := t) (.inr (.inr (.inl hi1)))).symm)
    rw [p4, p0, Nat.add_mul, Nat.mul_assoc]
  · refine (set_tone _ (Nat.lt_trans hi2 (by decide))).trans
      (.trans ?_ (encode_nz (i := i) (m := m) (r := r) (t := indexOf b) (.inr (.inr (.inr hi1)))).symm)
    rw [p5, Nat.add_mul, Nat.add_mul, Nat.mul_assoc, Nat.mul_assoc]

theorem update_eq_rawSet (c b : Nat) :
    update c b = if rawSet c b == 0 then none else some (rawSet c b) := by
  obtain ⟨um1, us1, um2, us2, um3, us3, um4, us4⟩ := update_masks_eq
  unfold update rawSet
  simp only [um1, us1, um2, us2, um3, us3, um4, us4]
  generalize kindOf b = k
  match k with
  | 0 => rfl
  | 1 => rfl
  | 2 => rfl
  | (n + 3) => rfl

theorem update_encode {i m r t b : Nat} (h : Tup 6 i m r t) (hb : b < 42) :
    update (encode i m r t) b = some (enc4 (setAt (kindOf b) (indexOf b) i m r t)) := by
  rw [update_eq_rawSet, rawSet_encode h hb]
  have : enc4 (setAt (kindOf b) (indexOf b) i m r t) ≠ 0 := by
    unfold enc4; exact Nat.pos_iff_ne_zero.mp encode_pos
  simp [this]

theorem kind_lt {b : Nat} (hb : b < 42) : kindOf b < 4 := by
  have hs := sym_spec hb
  omega

theorem insert_unfold (bld : Builder) {b : Nat} (hb : b < 42) :
    bld.insert b =
      if bld.value &&& checkMask (kindOf b) != 0 then .error .multiple
      else if bld.step > kindOf b then .error .order
      else .ok { step := kindOf b + 1, value := rawSet bld.value b } := by
  have hs := sym_spec hb
  unfold Builder.insert rawSet checkMask
  rw [arms_eq]
  rcases hs with ⟨hk, -, -, ht, -⟩ | ⟨hk, -, -, ht, -⟩ | ⟨hk, -, -, ht, -⟩ | ⟨hk, -, -, ht, -⟩ <;>
    simp [hk, ht]

/-- `bld` is the abstract state `(i, m, r, t)` at step `bld.step` -/
structure AbsOk (bld : Builder) (i m r t : Nat) : Prop where
  tup : Tup 6 i m r t
  good : Good i m r t bld.step
  val : bld.value = encode i m r t

theorem absOk_new : AbsOk Builder.new 0 0 0 0 :=
  ⟨by unfold Tup; omega, by unfold Good Builder.new; simp, by decide⟩

/-- the check mask of a kind not below the step finds nothing: its field is still empty -/
theorem check_free {i m r t st k : Nat} (ht : Tup 6 i m r t) (hg : Good i m r t st) (hk : k < 4) (hst : st ≤ k) :
    encode i m r t &&& checkMask k = 0 := by
  obtain ⟨c0, c1, c2, c3⟩ := and_check ht
  obtain ⟨g0, g1, g2, g3⟩ := hg
  match k, hk with
  | 0, _ => exact c0.trans (by rw [g0 hst])
  | 1, _ => exact c1.trans (by rw [g1 hst])
  | 2, _ => exact c2.trans (by rw [g2 hst])
  | 3, _ => exact c3.trans (g3 hst)

/-- writing 0 into a field that is still empty changes nothing -/
theorem setAt_zero {i m r t st k : Nat} (hg : Good i m r t st) (hst : st ≤ k) (hk : k < 4) :
    setAt k 0 i m r t = (i, m, r, t) := by
  obtain ⟨g0, g1, g2, g3⟩ := hg
  match k, hk with
  | 0, _ => rw [g0 hst]; rfl
  | 1, _ => rw [g1 hst]; rfl
  | 2, _ => rw [g2 hst]; rfl
  | 3, _ => rw [g3 hst]; rfl

/-- after field `k` is written the later fields are still empty -/
theorem good_setAt {i m r t st k : Nat} (v : Nat) (hg : Good i m r t st) (hst : st ≤ k) :
    on4 (Good · · · · (k + 1)) (setAt k v i m r t) := by
  obtain ⟨g0, g1, g2, g3⟩ := hg
  have le {a : Nat} (h : k ≤ a) : st ≤ a := Nat.le_trans hst h
  match k with
  | 0 => exact ⟨nofun, fun _ => g1 (le (by decide)), fun _ => g2 (le (by decide)), fun _ => g3 (le (by decide))⟩
  | 1 => exact ⟨nofun, nofun, fun _ => g2 (le (by decide)), fun _ => g3 (le (by decide))⟩
  | 2 => exact ⟨nofun, nofun, nofun, fun _ => g3 (le (by decide))⟩
  | _ + 3 => exact ⟨nofun, nofun, nofun, nofun⟩

theorem insert_abs_ok {bld : Builder} {i m r t b : Nat} (ha : AbsOk bld i m r t) (hb : b < 42)
    (hst : bld.step ≤ kindOf b) :
    ∃ bld', bld.insert b = .ok bld' ∧ bld'.step = kindOf b + 1 ∧
      bld'.value = enc4 (setAt (kindOf b) (indexOf b) i m r t) ∧
      on4 (AbsOk bld') (setAt (kindOf b) (indexOf b) i m r t) := by
  obtain ⟨ht, hg, hv⟩ := ha
  have hraw := rawSet_encode (b := b) ht hb
  rw [insert_unfold bld hb, hv, check_free ht hg (kind_lt hb) hst, if_neg (by decide), if_neg (Nat.not_lt.mpr hst)]
  exact ⟨_, rfl, rfl, hraw, setAt_tup ht hb (.inl (Nat.le_refl _)), good_setAt _ hg hst, hraw⟩

theorem insert_abs_err (bld : Builder) {b : Nat} (hb : b < 42) (hst : kindOf b < bld.step) :
    ∃ e, bld.insert b = .error e := by
  rw [insert_unfold bld hb, if_pos hst]
  split <;> exact ⟨_, rfl⟩

end Chewing
