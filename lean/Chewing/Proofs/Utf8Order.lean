import Chewing.Model.TrieCodec
import Chewing.Model.Cli
import Chewing.Proofs.TrieOrder
import Chewing.Proofs.Utf8
/-!
# UTF-8 preserves order

`str::cmp` compares the UTF-8 bytes; C11's model does the same (`lexLt (utf8Enc a) (utf8Enc b)`), C20's
model compares code points (`Cli.textLt`).  The two agree: `lexLt_utf8Enc` — on all texts, since the model's
encoder continues the four-byte form beyond U+10FFFF; a Rust `String` holds Unicode scalar values only.
-/
namespace Chewing.Utf8Order
open Chewing.Der Chewing.TrieCodec

theorem lexLt_append_same (p x y : List Nat) : lexLt (p ++ x) (p ++ y) = lexLt x y := by
  induction p with
  | nil => rfl
  | cons a p ih => simp [lexLt, ih]

theorem lexLt_nil_right (x : List Nat) : lexLt x [] = false := by cases x <;> rfl

theorem lexLt_cons_lt {a b : Nat} (h : a < b) (x y : List Nat) : lexLt (a :: x) (b :: y) = true := by
  simp [lexLt, h]

/-- Appending one base-64 digit, as a continuation byte, to a strictly monotone encoding `f` of the higher
    digits keeps it strictly monotone: either the higher digits differ already or the last one decides. -/
theorem lexLt_snoc_digit {f : Nat → List Nat} (hf : ∀ {u v}, u < v → ∀ x y, lexLt (f u ++ x) (f v ++ y) = true)
    {u v : Nat} (h : u < v) (x y : List Nat) :
    lexLt (f (u / 64) ++ (0x80 + u % 64) :: x) (f (v / 64) ++ (0x80 + v % 64) :: y) = true := by
  rcases (show u / 64 < v / 64 ∨ u / 64 = v / 64 ∧ u % 64 < v % 64 by omega) with h1 | ⟨e, h2⟩
  · exact hf h1 _ _
  · rw [e, lexLt_append_same]
    exact lexLt_cons_lt (by omega) _ _

/-- a lead byte `L + ` the top digit, then one, two, three continuation bytes -/
theorem lexLt_digits2 (L : Nat) {u v : Nat} (h : u < v) (x y : List Nat) :
    lexLt ((L + u / 64) :: (0x80 + u % 64) :: x) ((L + v / 64) :: (0x80 + v % 64) :: y) = true :=
  lexLt_snoc_digit (f := fun w => [L + w]) (fun h => lexLt_cons_lt (by omega)) h x y

theorem lexLt_digits3 (L : Nat) {u v : Nat} (h : u < v) (x y : List Nat) :
    lexLt ((L + u / 64 / 64) :: (0x80 + u / 64 % 64) :: (0x80 + u % 64) :: x)
      ((L + v / 64 / 64) :: (0x80 + v / 64 % 64) :: (0x80 + v % 64) :: y) = true :=
  lexLt_snoc_digit (f := fun w => [L + w / 64, 0x80 + w % 64]) (lexLt_digits2 L) h x y

theorem lexLt_digits4 (L : Nat) {u v : Nat} (h : u < v) (x y : List Nat) :
    lexLt ((L + u / 64 / 64 / 64) :: (0x80 + u / 64 / 64 % 64) :: (0x80 + u / 64 % 64) :: (0x80 + u % 64) :: x)
      ((L + v / 64 / 64 / 64) :: (0x80 + v / 64 / 64 % 64) :: (0x80 + v / 64 % 64) :: (0x80 + v % 64) :: y) = true :=
  lexLt_snoc_digit (f := fun w => [L + w / 64 / 64, 0x80 + w / 64 % 64, 0x80 + w % 64]) (lexLt_digits3 L) h x y

/-- lead bytes of different lengths: `L + ` a top digit below `q` stays below every lead byte from `L + q` on -/
theorem lead_lt {L L' c k q x : Nat} (hc : c < k * q) (hL : L + q ≤ L') : L + c / k < L' + x :=
  Nat.lt_of_lt_of_le (Nat.add_lt_add_left (Nat.div_lt_of_lt_mul hc) L) (Nat.le_trans hL (Nat.le_add_right _ _))

theorem div_4096 (c : Nat) : c / 4096 = c / 64 / 64 := (Nat.div_div_eq_div_mul c 64 64).symm
theorem div_262144 (c : Nat) : c / 262144 = c / 64 / 64 / 64 := by
  rw [Nat.div_div_eq_div_mul, Nat.div_div_eq_div_mul]

/-- A smaller code point has a lexicographically smaller encoding, whatever follows.  Encodings of one
    length are a lead byte and base-64 digits, most significant first (`lexLt_digits2` ..); the lead bytes of
    the four lengths lie in increasing ranges (below 0x80, from 0xC2, 0xE0, 0xF0), so between two lengths the
    lead byte decides. -/
theorem encChar_lt {c d : Nat} (h : c < d) (x y : List Nat) :
    lexLt (utf8EncChar c ++ x) (utf8EncChar d ++ y) = true := by
  unfold utf8EncChar
  by_cases d1 : d < 0x80
  · rw [if_pos d1, if_pos (Nat.lt_trans h d1)]
    exact lexLt_cons_lt h _ _
  rw [if_neg d1]
  by_cases c1 : c < 0x80
  · rw [if_pos c1]
    repeat' split
    all_goals exact lexLt_cons_lt (Nat.lt_of_lt_of_le c1 (Nat.le_trans (by decide) (Nat.le_add_right _ _))) _ _
  rw [if_neg c1]
  by_cases d2 : d < 0x800
  · rw [if_pos d2, if_pos (Nat.lt_trans h d2)]
    exact lexLt_digits2 0xC0 h x y
  rw [if_neg d2]
  by_cases c2 : c < 0x800
  · rw [if_pos c2]
    split <;> exact lexLt_cons_lt (lead_lt (k := 64) (q := 32) c2 (by decide)) _ _
  rw [if_neg c2]
  by_cases d3 : d < 0x10000
  · rw [if_pos d3, if_pos (Nat.lt_trans h d3), div_4096, div_4096]
    exact lexLt_digits3 0xE0 h x y
  rw [if_neg d3]
  by_cases c3 : c < 0x10000
  · rw [if_pos c3]
    exact lexLt_cons_lt (lead_lt (k := 4096) (q := 16) c3 (by decide)) _ _
  rw [if_neg c3, div_262144, div_262144, div_4096, div_4096]
  exact lexLt_digits4 0xF0 h x y

theorem textLt_cons (a b : Nat) (as bs : List Nat) :
    Cli.textLt (a :: as) (b :: bs) = (decide (a < b) || (a == b && Cli.textLt as bs)) := rfl

theorem lexLt_utf8Enc : ∀ (a b : Text), lexLt (utf8Enc a) (utf8Enc b) = Cli.textLt a b := by
  intro a
  induction a with
  | nil =>
    intro b
    cases b with
    | nil => rfl
    | cons d bs =>
      show lexLt [] (utf8EncChar d ++ utf8Enc bs) = true
      obtain ⟨b0, tl, e, -⟩ := CStr.encChar_head_tail d
      rw [utf8EncChar_eq, e]; rfl
  | cons c as ih =>
    intro b
    cases b with
    | nil => exact lexLt_nil_right _
    | cons d bs =>
      show lexLt (utf8EncChar c ++ utf8Enc as) (utf8EncChar d ++ utf8Enc bs) = _
      rw [textLt_cons]
      rcases Nat.lt_trichotomy c d with h | rfl | h
      · rw [encChar_lt h, decide_eq_true h, Bool.true_or]
      · rw [lexLt_append_same, ih bs, decide_eq_false (Nat.lt_irrefl c), beq_self_eq_true,
          Bool.false_or, Bool.true_and]
      · rw [lexLt_asymm _ _ (encChar_lt h (utf8Enc bs) (utf8Enc as)), decide_eq_false (Nat.lt_asymm h),
          beq_eq_false_iff_ne.mpr (Nat.ne_of_gt h), Bool.false_or, Bool.false_and]

end Chewing.Utf8Order
