import Chewing.Proofs.ConvLive
/-!
The model's fuel never runs out: on a valid composition `convert` is never `Outcome.outOfFuel`, with or
without a word for every syllable, whatever the oracle answers (a panic is a different outcome).
-/
namespace Chewing.Conv

theorem chkI32_ne (site : String) (x : Int) : chkI32 site x ≠ .outOfFuel := by
  unfold chkI32; split <;> simp

theorem avg_ne (p : Path) : ruleLargestAvgWordLen p ≠ .outOfFuel := by
  unfold ruleLargestAvgWordLen
  split
  · simp
  · split
    · split <;> simp
    · simp
    · rename_i h; exact absurd h (chkI32_ne _ _)

theorem var_ne (p : Path) : ruleSmallestLenVariance p ≠ .outOfFuel := by
  unfold ruleSmallestLenVariance; split <;> simp

theorem freq_ne (p : Path) : ruleLargestFreqSum p ≠ .outOfFuel := by
  unfold ruleLargestFreqSum; split <;> simp

theorem score_ne (p : Path) : score p ≠ .outOfFuel := by
  unfold score
  split
  · split
    · split
      · split
        · split
          · split
            · split
              · split
                · exact chkI32_ne _ _
                · simp
                · rename_i h; exact absurd h (freq_ne _)
              · simp
              · rename_i h; exact absurd h (chkI32_ne _ _)
            · simp
            · rename_i h; exact absurd h (chkI32_ne _ _)
          · simp
          · rename_i h; exact absurd h (var_ne _)
        · simp
        · rename_i h; exact absurd h (chkI32_ne _ _)
      · simp
      · rename_i h; exact absurd h (chkI32_ne _ _)
    · simp
    · rename_i h; exact absurd h (avg_ne _)
  · simp
  · rename_i h; exact absurd h (chkI32_ne _ _)

theorem scoreAll_ne (paths : List Path) : scoreAll paths ≠ .outOfFuel := by
  induction paths with
  | nil => simp [scoreAll]
  | cons p ps ih =>
    unfold scoreAll
    split
    · split
      · simp
      · simp
      · rename_i h; exact absurd h ih
    · simp
    · rename_i h; exact absurd h (score_ne _)

theorem sortPaths_ne (paths : List Path) : sortPaths paths ≠ .outOfFuel := by
  unfold sortPaths
  split
  · simp
  · split
    · simp
    · simp
    · rename_i h; exact absurd h (scoreAll_ne _)

theorem finishPaths_ne (c : Composition) (paths : List Path) : finishPaths c paths ≠ .outOfFuel := by
  unfold finishPaths
  split
  · simp
  · split
    · simp
    · simp
    · rename_i h; exact absurd h (sortPaths_ne _)

/-- the fuel supplied by the model always suffices: `ChewingEngine::convert` on a valid composition is
    `ok` or a `panic`, never `outOfFuel` -/
theorem convertChewing_ne {pick : Nat → List Path → Nat} {d : Dict} {strat : Strategy} {c : Composition}
    (hc : CompValid c) : convertChewing pick d strat c ≠ .outOfFuel := by
  unfold convertChewing
  split
  · simp
  · obtain ⟨es, hes⟩ := findIntervals_total (d := d) (strat := strat) hc
    obtain ⟨p, hp⟩ := reach_zero hc hes
    unfold rawPaths
    rw [hes]
    simp only
    rcases findKPaths_total (pick := pick) (k := maxOutPaths) (edgesValid_of_findIntervals hes) hp with
      ⟨_, _, _, h, _⟩ | ⟨⟨m, h⟩, _⟩
    · rw [h]; exact finishPaths_ne _ _
    · rw [h]; simp

end Chewing.Conv
