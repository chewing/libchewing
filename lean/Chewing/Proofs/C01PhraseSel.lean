import Chewing.Proofs.C01Shared
/-!
C01, part 3: the phrase selector.  Break-point searches stay inside the buffer and inside a run of
syllables; `PhraseSelector::init` / `init_single_word` terminate without panic (the shrinking loop stops
at the latest at the single syllable under the cursor — with or without a word for it, since the F02 / F03
repair) and establish the range and anchor clauses of the selector invariant `PhraseOK` (defined here, with
the invariants `SelInv` of an open list and `StInv` of the editor state).
-/
namespace Chewing.C01
open Chewing.C04

variable {D L : Type} (env : Env D L) (w : Prop)

/-- how the range of a phrase selector hangs on the position `orig` it was opened at (`init` /
    `init_single_word`; `next` and the four `jump_to_*_selection_point` keep it): `orig` is a position of
    the buffer, the range starts there when choosing forward and ends right after it when choosing
    rearward — so `jump_to_first_selection_point` (re-`init` from `orig`) and `prev_selection_point` (grow
    up to the break point around `orig`) stay on the run of syllables the range lies in -/
structure Anchor (p : PhraseSel) : Prop where
  orig_lt : p.orig < p.com.symbols.length
  fw : p.forward = true → p.begin_ = p.orig
  rw : p.forward = false → p.end_ = p.orig + 1

/-- the anchor lies in the range -/
theorem Anchor.mem {p : PhraseSel} (h : Anchor p) (hlt : p.begin_ < p.end_) : p.begin_ ≤ p.orig ∧ p.orig < p.end_ := by
  cases hf : p.forward with
  | true => have := h.fw hf; omega
  | false => have := h.rw hf; omega

/-- what every range move of an open selector (`next`, the jumps) keeps: direction and origin, and the
    anchored end of the range -/
structure Keep (s s' : PhraseSel) : Prop where
  com : s'.com = s.com
  forward : s'.forward = s.forward
  orig : s'.orig = s.orig
  fwb : s.forward = true → s'.begin_ = s.begin_
  rwe : s.forward = false → s'.end_ = s.end_

theorem Keep.refl (s : PhraseSel) : Keep s s := ⟨rfl, rfl, rfl, fun _ => rfl, fun _ => rfl⟩

theorem Keep.setEnd {s : PhraseSel} (hf : s.forward = true) (x : Nat) : Keep s { s with end_ := x } :=
  ⟨rfl, rfl, rfl, (fun _ => rfl), (fun hh => by rw [hf] at hh; cases hh)⟩

theorem Keep.setBegin {s : PhraseSel} (hf : ¬ s.forward = true) (x : Nat) : Keep s { s with begin_ := x } :=
  ⟨rfl, rfl, rfl, (fun hh => absurd hh hf), (fun _ => rfl)⟩

theorem Keep.trans {a b c : PhraseSel} (h1 : Keep a b) (h2 : Keep b c) : Keep a c :=
  ⟨h2.com.trans h1.com, h2.forward.trans h1.forward, h2.orig.trans h1.orig,
   (fun hh => (h2.fwb (h1.forward.trans hh)).trans (h1.fwb hh)),
   (fun hh => (h2.rwe (h1.forward.trans hh)).trans (h1.rwe hh))⟩

theorem Anchor.keep {s s' : PhraseSel} (h : Anchor s) (hk : Keep s s') : Anchor s' :=
  ⟨by rw [hk.orig, hk.com]; exact h.orig_lt,
   (fun hh => by rw [hk.fwb (hk.forward ▸ hh), hk.orig]; exact h.fw (hk.forward ▸ hh)),
   (fun hh => by rw [hk.rwe (hk.forward ▸ hh), hk.orig]; exact h.rw (hk.forward ▸ hh))⟩

/-- the part of `PhraseOK` that does not mention the shared state -/
structure RangeOK (s : PhraseSel) : Prop where
  lt : s.begin_ < s.end_
  le : s.end_ ≤ s.com.symbols.length
  syl : AllSyl s.com s.begin_ s.end_

/-- what a range move of an open selector keeps -/
structure JumpPost (s s' : PhraseSel) : Prop where
  strategy : s'.strategy = s.strategy
  range : RangeOK s'
  keep : Keep s s'

/-- a further move from a range that was reached by moving the free end -/
theorem JumpPost.step {s t s' : PhraseSel} (hk : Keep s t) (hs : t.strategy = s.strategy) (h : JumpPost t s') : JumpPost s s' :=
  ⟨h.strategy.trans hs, h.range, hk.trans h.keep⟩

/-- invariant of an open phrase selector -/
structure PhraseOK (sh : Shared D L) (p : PhraseSel) : Prop where
  com : p.com = sh.com.inner
  lt : p.begin_ < p.end_
  le : p.end_ ≤ p.com.symbols.length
  syl : AllSyl p.com p.begin_ p.end_
  /-- (strength `w`) the selector's own lookup strategy is an active strategy: every buffered syllable has a
      word under it -/
  word : w → ∀ c, Sym.syl c ∈ p.com.symbols → env.hasPhrase sh.dict [c] p.strategy = true
  /-- the range is anchored at the position the list was opened at -/
  anchor : Anchor p

/-- invariant of an open candidate list -/
structure SelInv (sh : Shared D L) (s : Selecting) : Prop where
  sel : match s.sel with
    | .phrase p => PhraseOK env w sh p
    | .symbol y => SymWF y
    | .special sym => sym.isSyl = false
  /-- a list that replaces the symbol under the cursor sits on a non-syllable symbol -/
  repl : s.action = .replace → (∃ p, s.sel = .phrase p) ∨ ∃ ch, sh.com.inner.symbols[sh.com.cursor]? = some (Sym.chr ch)

/-- invariant attached to the editor state -/
def StInv (sh : Shared D L) : St → Prop
  | .selecting s => SelInv env w sh s
  | _ => True

variable {env w}

/-- the state invariant only reads the buffer and the cursor — and, for an open phrase list at strength `w'`,
    that every buffered syllable has a word under the selector's strategy (`hw`) -/
theorem StInv.of {w' : Prop} {sh sh' : Shared D L} {st : St} (h : StInv env w sh st) (hc : sh'.com.inner = sh.com.inner)
    (hcur : sh'.com.cursor = sh.com.cursor)
    (hw : ∀ s p, st = .selecting s → s.sel = .phrase p → PhraseOK env w sh p → w' →
      ∀ c, Sym.syl c ∈ p.com.symbols → env.hasPhrase sh'.dict [c] p.strategy = true) : StInv env w' sh' st := by
  cases st with
  | selecting s =>
    obtain ⟨h1, h2⟩ := h
    refine ⟨?_, fun ha => by rw [hc, hcur]; exact h2 ha⟩
    split
    · next p hp =>
      rw [hp] at h1
      exact ⟨h1.com.trans hc.symm, h1.lt, h1.le, h1.syl, hw s p rfl hp h1, h1.anchor⟩
    · next y hp => rw [hp] at h1; exact h1
    · next sym hp => rw [hp] at h1; exact h1
  | entering => trivial
  | enteringSyllable => trivial
  | highlighting m => trivial

theorem StInv.congr {sh sh' : Shared D L} {st : St} (h : StInv env w sh st) (hc : sh'.com.inner = sh.com.inner)
    (hcur : sh'.com.cursor = sh.com.cursor)
    (hm : ∀ c s, env.hasPhrase sh.dict [c] s = true → env.hasPhrase sh'.dict [c] s = true) : StInv env w sh' st :=
  h.of hc hcur fun _ _ _ _ hp hw c hcm => hm _ _ (hp.word hw c hcm)

/-! ## symbols and slices -/

theorem symbol?_lt {c : Composition} {i : Nat} (h : i < c.symbols.length) : c.symbol? i = c.symbols[i]? := by
  unfold Composition.symbol? Composition.len
  rw [if_neg (by omega)]

theorem symbol?_some {c : Composition} {i : Nat} {sym : Sym} (h : c.symbol? i = some sym) :
    i < c.symbols.length ∧ c.symbols[i]? = some sym := by
  unfold Composition.symbol? Composition.len at h
  split at h
  · cases h
  · exact ⟨by omega, h⟩

theorem mem_of_getElem? {α : Type} {l : List α} {i : Nat} {a : α} (h : l[i]? = some a) : a ∈ l :=
  List.mem_of_getElem? h

theorem slice_one {syms : List Sym} {b : Nat} {x : Sym} (h : syms[b]? = some x) :
    (syms.drop b).take (b + 1 - b) = [x] := by
  have hb : b < syms.length := by
    rcases Nat.lt_or_ge b syms.length with h1 | h1
    · exact h1
    · rw [List.getElem?_eq_none h1] at h; cases h
  rw [List.drop_eq_getElem_cons hb, show b + 1 - b = 1 by omega]
  rw [List.getElem?_eq_getElem hb] at h
  cases h
  rfl

/-- the range query of the selectors, for a range inside the buffer -/
theorem rangeHasPhrase_ok (s : PhraseSel) (d : D) {b e : Nat} (h1 : b ≤ e) (h2 : e ≤ s.com.symbols.length) :
    PhraseSel.rangeHasPhrase env s d b e =
      .ok (env.hasPhrase d (sylPrefix ((s.com.symbols.drop b).take (e - b))) s.strategy) := by
  unfold PhraseSel.rangeHasPhrase
  rw [sliceSyms_ok h1 h2]

/-- a one-syllable range has a phrase whenever that syllable has a word -/
theorem rangeHasPhrase_single (s : PhraseSel) (d : D) {b : Nat} {k : Nat} (hs : s.com.symbols[b]? = some (Sym.syl k))
    (hw : env.hasPhrase d [k] s.strategy = true) (hb : b + 1 ≤ s.com.symbols.length) :
    PhraseSel.rangeHasPhrase env s d b (b + 1) = .ok true := by
  rw [rangeHasPhrase_ok s d (by omega) hb, slice_one hs]
  simp only [sylPrefix]
  rw [hw]

/-- … and inside the buffer it answers; for safety it does not matter what -/
theorem rangeHasPhrase_returns (s : PhraseSel) (d : D) (b e : Nat) (h1 : b ≤ e) (h2 : e ≤ s.com.symbols.length) :
    ∃ v, PhraseSel.rangeHasPhrase env s d b e = .ok v := ⟨_, rangeHasPhrase_ok s d h1 h2⟩

/-- one round of a selector loop: the dictionary is asked; on `true` the loop answers `yes`, on `false` it goes on with `no`.
    (`generalizing := false` keeps `hq`, which mentions `q`, out of the motive: the `match` is then the term the
    model's loops unfold to, and `refine .query …` unifies with the goal.) -/
theorem OkAnd.query {α : Type} {P : α → Prop} {q : Outcome Bool} {yes no : Outcome α} (hq : ∃ v, q = .ok v)
    (hy : OkAnd P yes) (hn : OkAnd P no) :
    OkAnd P (match (generalizing := false) q with
      | .ok true => yes
      | .ok false => no
      | .panic p => .panic p
      | .outOfFuel => .outOfFuel) := by
  obtain ⟨v, rfl⟩ := hq
  cases v
  · exact hn
  · exact hy

/-! ## break points -/

theorem nbp_go_spec (s : PhraseSel) : ∀ (fuel c : Nat), c ≤ s.com.symbols.length → s.com.symbols.length - c < fuel →
    c ≤ PhraseSel.nextBreakPoint.go s fuel c ∧ PhraseSel.nextBreakPoint.go s fuel c ≤ s.com.symbols.length ∧
    AllSyl s.com c (PhraseSel.nextBreakPoint.go s fuel c) ∧
    ((∃ k, s.com.symbols[c]? = some (Sym.syl k)) → c < PhraseSel.nextBreakPoint.go s fuel c) ∧
    ∀ k, s.com.symbols[PhraseSel.nextBreakPoint.go s fuel c]? ≠ some (Sym.syl k) := by
  intro fuel
  induction fuel with
  | zero => intro c _ h; omega
  | succ fuel ih =>
    intro c hc hf
    simp only [PhraseSel.nextBreakPoint.go]
    split
    · next heq =>
      simp only [Composition.len, beq_iff_eq] at heq
      have stop : ∀ k, s.com.symbols[c]? ≠ some (Sym.syl k) := fun k hk => by
        rw [List.getElem?_eq_none (by omega)] at hk; cases hk
      exact ⟨Nat.le_refl _, hc, fun j h1 h2 => by omega, fun ⟨k, hk⟩ => absurd hk (stop k), stop⟩
    · next hne =>
      simp only [Composition.len, beq_iff_eq] at hne
      have hlt : c < s.com.symbols.length := by omega
      rw [symbol?_lt hlt, List.getElem?_eq_getElem hlt]
      dsimp only
      split
      · next hns =>
        have stop : ∀ k, s.com.symbols[c]? ≠ some (Sym.syl k) := fun k hk => by
          rw [List.getElem?_eq_getElem hlt] at hk
          injection hk with hk
          rw [hk] at hns
          simp [Sym.isSyl] at hns
        exact ⟨Nat.le_refl _, hc, fun j h1 h2 => by omega,
          fun ⟨k, hk⟩ => absurd ((List.getElem?_eq_getElem hlt).trans hk) (stop k), stop⟩
      · next hsy =>
        obtain ⟨a1, a2, a3, _, a5⟩ := ih (c + 1) (by omega) (by omega)
        refine ⟨by omega, a2, ?_, fun _ => by omega, a5⟩
        intro j h1 h2
        rcases Nat.eq_or_lt_of_le h1 with rfl | h1'
        · cases hx : s.com.symbols[c] with
          | syl k => exact ⟨k, by rw [List.getElem?_eq_getElem hlt, hx]⟩
          | chr k => rw [hx] at hsy; simp [Sym.isSyl] at hsy
        · exact a3 j (by omega) h2

theorem nbp_spec (s : PhraseSel) {c : Nat} (hc : c ≤ s.com.symbols.length) :
    c ≤ s.nextBreakPoint c ∧ s.nextBreakPoint c ≤ s.com.symbols.length ∧ AllSyl s.com c (s.nextBreakPoint c) ∧
    ((∃ k, s.com.symbols[c]? = some (Sym.syl k)) → c < s.nextBreakPoint c) ∧
    ∀ k, s.com.symbols[s.nextBreakPoint c]? ≠ some (Sym.syl k) := by
  unfold PhraseSel.nextBreakPoint
  exact nbp_go_spec s _ c hc (by simp only [Composition.len]; omega)

theorem apbp_go_spec (s : PhraseSel) : ∀ (fuel c : Nat), c ≤ s.com.symbols.length →
    PhraseSel.afterPreviousBreakPoint.go s fuel c ≤ c ∧
    AllSyl s.com (PhraseSel.afterPreviousBreakPoint.go s fuel c) c := by
  intro fuel
  induction fuel with
  | zero => intro c _; simp only [PhraseSel.afterPreviousBreakPoint.go]; exact ⟨Nat.le_refl _, fun j h1 h2 => by omega⟩
  | succ fuel ih =>
    intro c hc
    simp only [PhraseSel.afterPreviousBreakPoint.go]
    split
    · exact ⟨Nat.zero_le _, fun j h1 h2 => by next h0 => simp only [beq_iff_eq] at h0; omega⟩
    · next h0 =>
      simp only [beq_iff_eq] at h0
      split
      · exact ⟨Nat.le_refl _, fun j h1 h2 => by omega⟩
      · split
        · exact ⟨Nat.le_refl _, fun j h1 h2 => by omega⟩
        · have hlt : c - 1 < s.com.symbols.length := by omega
          rw [symbol?_lt hlt, List.getElem?_eq_getElem hlt]
          dsimp only
          split
          · exact ⟨Nat.le_refl _, fun j h1 h2 => by omega⟩
          · next hsy =>
            obtain ⟨a1, a2⟩ := ih (c - 1) (by omega)
            refine ⟨by omega, ?_⟩
            intro j h1 h2
            rcases Nat.lt_or_ge j (c - 1) with h3 | h3
            · exact a2 j h1 h3
            · have : j = c - 1 := by omega
              subst this
              cases hx : s.com.symbols[c - 1] with
              | syl k => exact ⟨k, by rw [List.getElem?_eq_getElem hlt, hx]⟩
              | chr k => rw [hx] at hsy; simp [Sym.isSyl] at hsy

theorem apbp_spec (s : PhraseSel) {c : Nat} (hc : c ≤ s.com.symbols.length) :
    s.afterPreviousBreakPoint c ≤ c ∧ AllSyl s.com (s.afterPreviousBreakPoint c) c := by
  unfold PhraseSel.afterPreviousBreakPoint
  exact apbp_go_spec s _ c hc

/-! ## the shrinking loop of `init` -/

/-- what `init` keeps of the selector it starts from -/
structure SameSel (s s' : PhraseSel) : Prop where
  com : s'.com = s.com
  strategy : s'.strategy = s.strategy
  forward : s'.forward = s.forward
  orig : s'.orig = s.orig
  b1 : s.begin_ ≤ s'.begin_
  b2 : s'.begin_ < s'.end_
  b3 : s'.end_ ≤ s.end_
  /-- choosing forward the loop only moves the end, choosing rearward only the beginning -/
  fwb : s.forward = true → s'.begin_ = s.begin_
  rwe : s.forward = false → s'.end_ = s.end_

theorem initLoop_ok (d : D) : ∀ (fuel : Nat) (s : PhraseSel), RangeOK s → s.end_ ≤ s.begin_ + fuel →
    OkAnd (JumpPost s) (PhraseSel.initLoop env s d fuel) := by
  intro fuel
  induction fuel with
  | zero => intro s hr h5; have := hr.lt; omega
  | succ fuel ih =>
    intro s hr h5
    have h1 := hr.lt
    have h2 := hr.le
    have stay : OkAnd (JumpPost s) (.ok s) := .ok ⟨rfl, hr, .refl s⟩
    simp only [PhraseSel.initLoop]
    rw [if_neg (by omega), if_neg (by simp only [Composition.len]; omega), if_neg (by simp only [beq_iff_eq]; omega)]
    -- a one-syllable range ends the loop (F02 / F03 repair: with or without a word for it)
    refine .query (rangeHasPhrase_returns s d _ _ (by omega) h2) stay (.ite (fun _ => stay) fun hone => ?_)
    obtain ⟨k, hk⟩ := hr.syl s.begin_ (Nat.le_refl _) h1
    rw [symbol?_lt (by omega), hk] at hone
    simp only [Sym.isSyl, Bool.and_true, beq_iff_eq] at hone
    refine .ite (fun hfw => ?_) fun hfw => ?_
    · exact (ih { s with end_ := s.end_ - 1 } ⟨by show s.begin_ < s.end_ - 1; omega,
        by show s.end_ - 1 ≤ s.com.symbols.length; omega, fun j a b => hr.syl j a (by have : j < s.end_ - 1 := b; omega)⟩
        (by show s.end_ - 1 ≤ s.begin_ + fuel; omega)).mono fun _ => .step (.setEnd hfw _) rfl
    · exact (ih { s with begin_ := s.begin_ + 1 } ⟨by show s.begin_ + 1 < s.end_; omega, h2,
        fun j a b => hr.syl j (by have : s.begin_ + 1 ≤ j := a; omega) b⟩
        (by show s.end_ ≤ s.begin_ + 1 + fuel; omega)).mono fun _ => .step (.setBegin hfw _) rfl

/-- **`PhraseSelector::init`** at a syllable inside the buffer: no panic, the loop terminates, and the
    selector covers a non-empty run of syllables inside the buffer -/
theorem init_ok (forward : Bool) (strategy : Strategy) (com : Composition) (cursor : Nat) (d : D)
    (hlt : cursor < com.symbols.length) (hsyl : ∃ k, com.symbols[cursor]? = some (Sym.syl k)) :
    OkAnd (fun p => p.com = com ∧ p.strategy = strategy ∧ p.begin_ < p.end_ ∧ p.end_ ≤ com.symbols.length ∧
        AllSyl com p.begin_ p.end_ ∧ Anchor p ∧ p.forward = forward ∧ p.orig = cursor)
      (PhraseSel.init env forward strategy com cursor d) := by
  -- the loop from a well-formed range anchored at the cursor
  have run : ∀ s : PhraseSel, s.com = com → s.strategy = strategy → s.forward = forward → s.orig = cursor → RangeOK s →
      (forward = true → s.begin_ = cursor) → (forward = false → s.end_ = cursor + 1) →
      OkAnd (fun p => p.com = com ∧ p.strategy = strategy ∧ p.begin_ < p.end_ ∧ p.end_ ≤ com.symbols.length ∧
        AllSyl com p.begin_ p.end_ ∧ Anchor p ∧ p.forward = forward ∧ p.orig = cursor)
        (PhraseSel.initLoop env s d (com.len + 2)) := by
    intro s hc hst hf ho hr hb he
    refine (initLoop_ok d _ s hr (by have := hr.le; rw [hc] at this; simp only [Composition.len]; omega)).mono fun p hp => ?_
    have ha : Anchor s := ⟨by rw [ho, hc]; exact hlt, fun h => ho ▸ hb (hf ▸ h), fun h => ho ▸ he (hf ▸ h)⟩
    have hpc := hp.keep.com.trans hc
    exact ⟨hpc, hp.strategy.trans hst, hp.range.lt, hpc ▸ hp.range.le, hpc ▸ hp.range.syl, ha.keep hp.keep,
      hp.keep.forward.trans hf, hp.keep.orig.trans ho⟩
  unfold PhraseSel.init
  dsimp only
  let s0 : PhraseSel := { begin_ := 0, end_ := com.len, forward := forward, orig := cursor, strategy := strategy, com := com }
  split
  · next hfw =>
    rw [if_neg (by simp only [Composition.len, beq_iff_eq]; omega)]
    rw [if_neg (by simp only [Composition.len, beq_iff_eq]; omega)]
    obtain ⟨_, n2, n3, n4, _⟩ := nbp_spec s0 (c := cursor) (Nat.le_of_lt hlt)
    exact run _ rfl rfl rfl rfl ⟨n4 hsyl, n2, n3⟩ (fun _ => rfl) fun h => by rw [hfw] at h; cases h
  · next hfw =>
    obtain ⟨a1, a2⟩ := apbp_spec s0 (c := cursor) (Nat.le_of_lt hlt)
    rw [show min (cursor + 1) com.len = cursor + 1 by simp only [Composition.len]; omega]
    refine run _ rfl rfl rfl rfl ⟨by show s0.afterPreviousBreakPoint cursor < cursor + 1; omega, hlt, fun j h1 h2 => ?_⟩
      (fun h => absurd h hfw) fun _ => rfl
    rcases Nat.lt_or_ge j cursor with h3 | h3
    · exact a2 j h1 h3
    · cases Nat.le_antisymm (Nat.le_of_lt_succ h2) h3; exact hsyl

/-- **`init_single_word`** right after a syllable was inserted before the cursor -/
theorem initSingleWord_ok (strategy : Strategy) (com : Composition) (cursor : Nat)
    (h0 : 0 < cursor) (hle : cursor ≤ com.symbols.length) (hsyl : ∃ k, com.symbols[cursor - 1]? = some (Sym.syl k)) :
    OkAnd (fun p => p.com = com ∧ p.strategy = strategy ∧ p.begin_ < p.end_ ∧ p.end_ ≤ com.symbols.length ∧
        AllSyl com p.begin_ p.end_ ∧ Anchor p)
      (PhraseSel.initSingleWord strategy com cursor) := by
  unfold PhraseSel.initSingleWord
  have hmin : min cursor com.len = cursor := by simp only [Composition.len]; omega
  dsimp only
  rw [hmin, if_neg (by simp only [beq_iff_eq]; omega)]
  have hlt : cursor - 1 < cursor := Nat.sub_lt h0 Nat.one_pos
  refine .ok ⟨rfl, rfl, hlt, hle, fun j a b => ?_,
    ⟨Nat.lt_of_lt_of_le hlt hle, nofun, fun _ => (Nat.sub_add_cancel h0).symm⟩⟩
  cases Nat.le_antisymm (Nat.le_sub_one_of_lt b) a
  exact hsyl

end Chewing.C01
