import Chewing.Model.Learn
import Chewing.Proofs.KeyedList
/-!
Lemmas about the finite-map user dictionary and the layer merge of `Layered::lookup_all_phrases` (C08):
the two quantities `learn_phrase` reads off the merged list — the frequency of the phrase and the highest
frequency — are order-free functions of the multiset of layer entries (`bestOf`, `maxOf`).  Both, and the
highest frequency among the *other* phrases (`othersOf`), are the maximum over the entries whose text satisfies
a predicate (`maxBy`); the merge is shown invisible to `maxBy` once.
-/
namespace Chewing.Learn

namespace UserMap

theorem get?_insert_self (m : UserMap) (k : UKey) (v : Nat × Nat) : (insert m k v).get? k = some v := by
  simp [get?, insert]

theorem get?_filter_ne (m : UserMap) (k k' : UKey) (h : k' ≠ k) :
    (m.filter (fun e => decide (e.1 ≠ k))).find? (fun e => decide (e.1 = k')) = m.find? (fun e => decide (e.1 = k')) := by
  induction m with
  | nil => rfl
  | cons e r ih =>
    by_cases h1 : e.1 = k
    · have h2 : ¬ e.1 = k' := fun h3 => h (h3.symm.trans h1)
      rw [List.filter_cons_of_neg (by simp [h1]), List.find?_cons_of_neg (by simp [h2])]
      exact ih
    · rw [List.filter_cons_of_pos (by simp [h1])]
      by_cases h2 : e.1 = k'
      · rw [List.find?_cons_of_pos (by simp [h2]), List.find?_cons_of_pos (by simp [h2])]
      · rw [List.find?_cons_of_neg (by simp [h2]), List.find?_cons_of_neg (by simp [h2])]
        exact ih

theorem get?_insert_ne (m : UserMap) (k k' : UKey) (v : Nat × Nat) (h : k' ≠ k) :
    (insert m k v).get? k' = m.get? k' := by
  unfold get? insert
  have h2 : ¬ k = k' := fun h3 => h h3.symm
  rw [List.find?_cons_of_neg (by simp [h2]), get?_filter_ne m k k' h]

theorem lookup_insert_same (m : UserMap) (key : List Nat) (t : Text) (v : Nat × Nat) :
    (insert m (key, t) v).lookup key = (t, v.1) :: (m.lookup key).filter (fun e => decide (e.1 ≠ t)) := by
  unfold lookup insert
  rw [List.filter_cons_of_pos (by simp), List.map_cons, List.filter_filter, List.filter_map, List.filter_filter]
  congr 2
  exact List.filter_congr (fun e _ => by by_cases h1 : e.1.1 = key <;> simp [h1, Prod.ext_iff])

theorem lookup_insert_other (m : UserMap) (key key' : List Nat) (t : Text) (v : Nat × Nat) (h : key' ≠ key) :
    (insert m (key, t) v).lookup key' = m.lookup key' := by
  unfold lookup insert
  rw [List.filter_cons_of_neg (by simpa using Ne.symm h), List.filter_filter]
  congr 1
  exact List.filter_congr (fun e _ => by by_cases h1 : e.1.1 = key' <;> simp [h1, h, Prod.ext_iff])

end UserMap

/-! ### `maxBy`: the highest frequency among the entries whose text satisfies `p` -/

/-- `bestOf` (`p` = "is `t`"), `othersOf` ("is not `x`") and the maximum of a whole list ("any") are instances:
    what is proved about `maxBy` holds of all three -/
def maxBy (p : Text → Bool) (l : List (Text × Nat)) : Nat :=
  maxOf ((l.filter (fun e => p e.1)).map (·.2))

/-- an entry counts with its frequency if its text satisfies `p`, with 0 (neutral for `max`) otherwise -/
theorem maxBy_cons (p : Text → Bool) (q : Text × Nat) (l : List (Text × Nat)) :
    maxBy p (q :: l) = max (if p q.1 then q.2 else 0) (maxBy p l) := by
  unfold maxBy
  cases h : p q.1 <;> simp [List.filter, h, maxOf]

theorem maxBy_append (p : Text → Bool) (a b : List (Text × Nat)) :
    maxBy p (a ++ b) = max (maxBy p a) (maxBy p b) := by
  induction a with
  | nil => exact (Nat.zero_max _).symm
  | cons q r ih => rw [List.cons_append, maxBy_cons, maxBy_cons, ih, Nat.max_assoc]

theorem le_maxBy {p : Text → Bool} {l : List (Text × Nat)} {e : Text × Nat} (h : e ∈ l) (hp : p e.1 = true) :
    e.2 ≤ maxBy p l := by
  induction l with
  | nil => cases h
  | cons q r ih =>
    rw [maxBy_cons]
    rcases List.mem_cons.mp h with rfl | h
    · rw [if_pos hp]; exact Nat.le_max_left _ _
    · exact Nat.le_trans (ih h) (Nat.le_max_right _ _)

theorem maxBy_le {p : Text → Bool} {l : List (Text × Nat)} {b : Nat} (h : ∀ e ∈ l, p e.1 = true → e.2 ≤ b) :
    maxBy p l ≤ b := by
  induction l with
  | nil => exact Nat.zero_le _
  | cons q r ih =>
    rw [maxBy_cons]
    refine Nat.max_le.mpr ⟨?_, ih (fun e he => h e (List.mem_cons_of_mem _ he))⟩
    split
    · exact h q (List.mem_cons_self ..) ‹_›
    · exact Nat.zero_le _

theorem maxBy_mono {p q : Text → Bool} (h : ∀ s, p s = true → q s = true) (l : List (Text × Nat)) :
    maxBy p l ≤ maxBy q l :=
  maxBy_le (fun _ he hp => le_maxBy he (h _ hp))

/-- filtering by `q` first changes nothing if `p` implies `q` … -/
theorem maxBy_filter_of_imp {p q : Text → Bool} (h : ∀ s, p s = true → q s = true) (l : List (Text × Nat)) :
    maxBy p (l.filter (fun e => q e.1)) = maxBy p l := by
  unfold maxBy
  rw [List.filter_filter]
  congr 2
  exact List.filter_congr (fun e _ => by cases hp : p e.1 <;> simp [h _, hp])

/-- … and leaves nothing if `p` excludes `q` -/
theorem maxBy_filter_of_not {p q : Text → Bool} (h : ∀ s, p s = true → q s = false) (l : List (Text × Nat)) :
    maxBy p (l.filter (fun e => q e.1)) = 0 :=
  Nat.le_zero.mp (maxBy_le (fun e he hp => by have := (List.mem_filter.mp he).2; simp [h _ hp] at this))

theorem maxBy_split {p q : Text → Bool} (h : ∀ s, p s = true ∨ q s = true) (l : List (Text × Nat)) :
    maxBy (fun _ => true) l = max (maxBy p l) (maxBy q l) := by
  apply Nat.le_antisymm
  · refine maxBy_le (fun e he _ => ?_)
    rcases h e.1 with hp | hq
    · exact Nat.le_trans (le_maxBy he hp) (Nat.le_max_left ..)
    · exact Nat.le_trans (le_maxBy he hq) (Nat.le_max_right ..)
  · exact Nat.max_le.mpr ⟨maxBy_mono (fun _ _ => rfl) l, maxBy_mono (fun _ _ => rfl) l⟩

/-! ### `bestOf`: the highest frequency listed for a phrase text -/

def bestOf (l : List (Text × Nat)) (t : Text) : Nat :=
  maxOf ((l.filter (fun e => decide (e.1 = t))).map (·.2))

theorem bestOf_eq_maxBy (l : List (Text × Nat)) (t : Text) : bestOf l t = maxBy (fun s => decide (s = t)) l := rfl

theorem bestOf_nil (t : Text) : bestOf [] t = 0 := rfl

theorem bestOf_cons (p : Text × Nat) (l : List (Text × Nat)) (t : Text) :
    bestOf (p :: l) t = if p.1 = t then max p.2 (bestOf l t) else bestOf l t := by
  rw [bestOf_eq_maxBy, maxBy_cons]
  by_cases h : p.1 = t <;> simp [h, bestOf_eq_maxBy]

theorem bestOf_append (a b : List (Text × Nat)) (t : Text) :
    bestOf (a ++ b) t = max (bestOf a t) (bestOf b t) :=
  maxBy_append (fun s => decide (s = t)) a b

theorem le_bestOf_of_mem {l : List (Text × Nat)} {t : Text} {f : Nat} (h : (t, f) ∈ l) : f ≤ bestOf l t :=
  le_maxBy (p := fun s => decide (s = t)) h (decide_eq_true rfl)

theorem bestOf_eq_zero_of_absent (l : List (Text × Nat)) (t : Text) (h : ∀ q ∈ l, q.1 ≠ t) : bestOf l t = 0 :=
  Nat.le_zero.mp (maxBy_le (p := fun s => decide (s = t)) (fun e he hp => absurd (of_decide_eq_true hp) (h e he)))

theorem bestOf_attained {l : List (Text × Nat)} {t : Text} (h : 0 < bestOf l t) : (t, bestOf l t) ∈ l := by
  induction l with
  | nil => exact absurd h (Nat.lt_irrefl 0)
  | cons p r ih =>
    rw [bestOf_cons] at h ⊢
    by_cases e : p.1 = t
    · rw [if_pos e] at h ⊢
      by_cases hm : bestOf r t ≤ p.2
      · rw [Nat.max_eq_left hm, ← e]; exact List.mem_cons_self ..
      · rw [Nat.max_eq_right (by omega)]; exact List.mem_cons_of_mem _ (ih (by omega))
    · rw [if_neg e] at h ⊢; exact List.mem_cons_of_mem _ (ih h)

/-- a value strictly above that of every other text is positive: `0 :: x` is a text other than `x` -/
theorem pos_of_dominant {f : Text → Nat} {x : Text} (h : ∀ t, t ≠ x → f t < f x) : 0 < f x :=
  Nat.zero_lt_of_lt (h (0 :: x) fun e => by simpa using congrArg List.length e)

theorem bestOf_filter_ne (l : List (Text × Nat)) (x t : Text) (h : t ≠ x) :
    bestOf (l.filter (fun e => decide (e.1 ≠ x))) t = bestOf l t :=
  maxBy_filter_of_imp (p := fun s => decide (s = t)) (q := fun s => decide (s ≠ x)) (fun s hs => by simp_all) l

theorem bestOf_filter_ne_self (l : List (Text × Nat)) (x : Text) :
    bestOf (l.filter (fun e => decide (e.1 ≠ x))) x = 0 :=
  maxBy_filter_of_not (p := fun s => decide (s = x)) (q := fun s => decide (s ≠ x)) (fun s hs => by simp_all) l

def othersOf (l : List (Text × Nat)) (x : Text) : Nat :=
  maxOf ((l.filter (fun e => decide (e.1 ≠ x))).map (·.2))

theorem othersOf_eq_maxBy (l : List (Text × Nat)) (x : Text) : othersOf l x = maxBy (fun s => decide (s ≠ x)) l := rfl

theorem maxOf_eq_maxBy (l : List (Text × Nat)) : maxOf (l.map (·.2)) = maxBy (fun _ => true) l := by
  unfold maxBy; rw [List.filter_eq_self.mpr (fun _ _ => rfl)]

theorem maxOf_split (l : List (Text × Nat)) (x : Text) :
    maxOf (l.map (·.2)) = max (bestOf l x) (othersOf l x) := by
  rw [maxOf_eq_maxBy]
  exact maxBy_split (p := fun s => decide (s = x)) (q := fun s => decide (s ≠ x))
    (fun s => by by_cases e : s = x <;> simp [e]) l

theorem bestOf_le_othersOf (l : List (Text × Nat)) (x t : Text) (h : t ≠ x) : bestOf l t ≤ othersOf l x :=
  maxBy_mono (p := fun s => decide (s = t)) (q := fun s => decide (s ≠ x)) (fun s hs => by simp_all) l

theorem othersOf_append (a b : List (Text × Nat)) (x : Text) :
    othersOf (a ++ b) x = max (othersOf a x) (othersOf b x) :=
  maxBy_append (fun s => decide (s ≠ x)) a b

theorem othersOf_cons_self (l : List (Text × Nat)) (x : Text) (f : Nat) :
    othersOf ((x, f) :: l.filter (fun e => decide (e.1 ≠ x))) x = othersOf l x := by
  rw [othersOf_eq_maxBy, maxBy_cons, maxBy_filter_of_imp (fun _ hs => hs)]
  simp [othersOf_eq_maxBy]

/-! ### The merge -/

theorem mergeInto_ne_nil (acc : List (Text × Nat)) (p : Text × Nat) : mergeInto acc p ≠ [] := by
  cases acc with
  | nil => simp [mergeInto]
  | cons q r => simp only [mergeInto]; split <;> simp

theorem foldl_mergeInto_ne_nil (l acc : List (Text × Nat)) (h : acc ≠ []) : l.foldl mergeInto acc ≠ [] := by
  induction l generalizing acc with
  | nil => exact h
  | cons p r ih => exact ih _ (mergeInto_ne_nil _ _)

theorem layeredLookup_eq_nil (a b : List (Text × Nat)) : layeredLookup a b = [] ↔ a ++ b = [] := by
  unfold layeredLookup
  cases h : a ++ b with
  | nil => simp
  | cons p r =>
    simp only [List.foldl_cons, reduceCtorEq, iff_false]
    exact foldl_mergeInto_ne_nil _ _ (mergeInto_ne_nil _ _)

/-- merging an entry in is, for every `maxBy`, consing it: a repeated text keeps the larger frequency -/
theorem maxBy_mergeInto (p : Text → Bool) (acc : List (Text × Nat)) (q : Text × Nat) :
    maxBy p (mergeInto acc q) = max (maxBy p acc) (if p q.1 then q.2 else 0) := by
  induction acc with
  | nil => exact (maxBy_cons p q []).trans (Nat.max_comm _ _)
  | cons a r ih =>
    simp only [mergeInto]
    split
    · next h =>
      rw [maxBy_cons, maxBy_cons, ← h]
      cases p a.1
      · exact (Nat.max_zero _).symm
      · exact Nat.max_right_comm ..
    · rw [maxBy_cons, ih, maxBy_cons, Nat.max_assoc]

theorem maxBy_foldl_mergeInto (p : Text → Bool) (l acc : List (Text × Nat)) :
    maxBy p (l.foldl mergeInto acc) = max (maxBy p acc) (maxBy p l) := by
  induction l generalizing acc with
  | nil => exact (Nat.max_zero _).symm
  | cons q r ih => rw [List.foldl_cons, ih, maxBy_mergeInto, maxBy_cons, Nat.max_assoc]

/-- the merge of `Layered::lookup_all_phrases` is invisible to every `maxBy` -/
theorem maxBy_layeredLookup (p : Text → Bool) (a b : List (Text × Nat)) :
    maxBy p (layeredLookup a b) = maxBy p (a ++ b) :=
  (maxBy_foldl_mergeInto p _ []).trans (Nat.zero_max _)

theorem layeredLookup_bestOf (a b : List (Text × Nat)) (t : Text) :
    bestOf (layeredLookup a b) t = bestOf (a ++ b) t :=
  maxBy_layeredLookup (fun s => decide (s = t)) a b

theorem layeredLookup_maxOf (a b : List (Text × Nat)) :
    maxOf ((layeredLookup a b).map (·.2)) = maxOf ((a ++ b).map (·.2)) := by
  rw [maxOf_eq_maxBy, maxOf_eq_maxBy]; exact maxBy_layeredLookup _ a b

/-- every text is listed once (the invariant `sort_map` maintains) -/
abbrev Uniq (l : List (Text × Nat)) : Prop := l.Pairwise (fun a b => a.1 ≠ b.1)

theorem mergeInto_uniq (acc : List (Text × Nat)) (p : Text × Nat) (h : Uniq acc) : Uniq (mergeInto acc p) :=
  List.pairwise_map.mp <|
    upsert_keys (f := (·.1)) (step := mergeInto) (c := fun q p => (q.1, max q.2 p.2)) (fun _ => rfl) (fun _ _ _ => rfl)
      (fun _ _ _ => rfl) p acc ▸ nodup_add_if_absent (List.pairwise_map.mpr h) p.1

theorem foldl_mergeInto_uniq (l acc : List (Text × Nat)) (h : Uniq acc) : Uniq (l.foldl mergeInto acc) := by
  induction l generalizing acc with
  | nil => exact h
  | cons p r ih => exact ih _ (mergeInto_uniq _ _ h)

theorem layeredLookup_uniq (a b : List (Text × Nat)) : Uniq (layeredLookup a b) :=
  foldl_mergeInto_uniq _ _ .nil

theorem uniq_mem_bestOf {es : List (Text × Nat)} (h : Uniq es) {q : Text × Nat} (hq : q ∈ es) : bestOf es q.1 = q.2 :=
  Nat.le_antisymm
    (maxBy_le (p := fun s => decide (s = q.1)) fun _ he ht =>
      Nat.le_of_eq (congrArg (·.2) (key_unique h he hq (of_decide_eq_true ht))))
    (le_bestOf_of_mem hq)

/-- on a list without repeated texts, the frequency `learn_phrase` finds is `bestOf` (`absentFreq = 0`) -/
theorem phraseFreq_eq_bestOf (es : List (Text × Nat)) (t : Text) (h : Uniq es) : phraseFreq es t = bestOf es t := by
  unfold phraseFreq
  split
  · next e hf =>
    have ht := List.find?_some hf
    rw [← of_decide_eq_true ht, uniq_mem_bestOf h (List.mem_of_find?_eq_some hf)]
  · next hf =>
    exact (bestOf_eq_zero_of_absent es t fun q hq => of_decide_eq_false (by simpa using List.find?_eq_none.mp hf q hq)).symm

end Chewing.Learn
