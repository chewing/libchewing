import Chewing.Proofs.C01Select
/-!
C01, part 8: `PhraseSelector::next` (Down / Space on the last page) terminates without panic: a bounded loop
over ranges that stay non-empty runs of syllables; without any range that has a phrase it returns to the
range it started from (F03 repair).
Then Down/Space, j/k (`retarget`) and the whole of `Selecting::next`.
-/
namespace Chewing.C01
open Chewing.C04

variable {D L : Type} {env : Env D L} {G : D → Prop} {w : Prop}

/-- what `next` keeps -/
structure NextPost (s s' : PhraseSel) : Prop where
  com : s'.com = s.com
  strategy : s'.strategy = s.strategy
  range : RangeOK s'
  keep : Keep s s'

theorem PhraseOK.range {sh : Shared D L} {p : PhraseSel} (h : PhraseOK env w sh p) : RangeOK p := ⟨h.lt, h.le, h.syl⟩

/-- a range move of an open selector keeps its invariant -/
theorem PhraseOK.move {sh : Shared D L} {p p' : PhraseSel} (h : PhraseOK env w sh p) (hs : p'.strategy = p.strategy)
    (hr : RangeOK p') (hk : Keep p p') : PhraseOK env w sh p' :=
  ⟨hk.com.trans h.com, hr.lt, hr.le, hr.syl, (fun hw c hc => by rw [hs]; exact h.word hw c (by rw [← hk.com]; exact hc)),
   h.anchor.keep hk⟩

/-- **`PhraseSelector::next`**: the bounded loop (`for _ in 0..len`): every round moves to a range that is again
    a non-empty run of syllables anchored like the one before (one symbol shorter, or — wrapping around —
    up to the break point); it ends at the first range with a phrase, or after the last round back on the
    range it started from.  No dictionary hypothesis (F03 repair: the loop used to spin forever when no
    range had a phrase). -/
theorem next_go_ok (d : D) (s : PhraseSel) (hrs : RangeOK s) : ∀ (fuel : Nat) (t : PhraseSel), RangeOK t →
    t.com = s.com → t.strategy = s.strategy → Keep s t →
    OkAnd (NextPost s) (PhraseSel.next.go env s d fuel t) := by
  intro fuel
  induction fuel with
  | zero =>
    intro t hr hc hst hk
    simp only [PhraseSel.next.go]
    exact .ok ⟨hc, hst,
      ⟨hrs.lt, (by show s.end_ ≤ t.com.symbols.length; rw [hc]; exact hrs.le),
       (by show AllSyl t.com s.begin_ s.end_; rw [hc]; exact hrs.syl)⟩,
      ⟨hc, hk.forward, hk.orig, (fun _ => rfl), (fun _ => rfl)⟩⟩
  | succ fuel ih =>
    intro t hr hc hst hk
    -- the range tried in this round
    have step : ∀ t' : PhraseSel, RangeOK t' → t'.com = t.com → t'.strategy = t.strategy → Keep t t' →
        OkAnd (NextPost s) (match PhraseSel.rangeHasPhrase env t' d t'.begin_ t'.end_ with
          | .ok true => .ok t'
          | .ok false => PhraseSel.next.go env s d fuel t'
          | .panic p => .panic p
          | .outOfFuel => .outOfFuel) := fun t' hr' hc' hst' hk' =>
      .query (rangeHasPhrase_returns _ d _ _ (Nat.le_of_lt hr'.lt) hr'.le)
        (.ok ⟨hc'.trans hc, hst'.trans hst, hr', hk.trans hk'⟩) (ih t' hr' (hc'.trans hc) (hst'.trans hst) (hk.trans hk'))
    simp only [PhraseSel.next.go]
    by_cases hf : t.forward = true
    · rw [if_pos hf, if_neg (by simp only [beq_iff_eq]; have := hr.lt; omega)]
      try dsimp only
      by_cases hwrap : t.begin_ = t.end_ - 1
      · rw [if_pos (by simp only [beq_iff_eq]; exact hwrap)]
        obtain ⟨n1, n2, n3, n4, _⟩ := nbp_spec t (c := t.begin_) (by have := hr.le; have := hr.lt; omega)
        have n4 := n4 (hr.syl t.begin_ (Nat.le_refl _) hr.lt)
        exact step { t with end_ := t.nextBreakPoint t.begin_ } ⟨n4, n2, n3⟩ rfl rfl (Keep.setEnd hf _)
      · rw [if_neg (by simp only [beq_iff_eq]; exact hwrap)]
        exact step { t with end_ := t.end_ - 1 }
          ⟨by show t.begin_ < t.end_ - 1; have := hr.lt; omega,
           by show t.end_ - 1 ≤ t.com.symbols.length; have := hr.le; omega,
           fun j a b => hr.syl j a (by have : j < t.end_ - 1 := b; omega)⟩ rfl rfl (Keep.setEnd hf _)
    · rw [if_neg hf]
      try dsimp only
      by_cases hwrap : t.begin_ + 1 = t.end_
      · rw [if_pos (by simp only [beq_iff_eq]; exact hwrap)]
        obtain ⟨a1, a2⟩ := apbp_spec t (c := t.begin_ + 1 - 1) (by have := hr.le; have := hr.lt; omega)
        have hall : AllSyl t.com (t.afterPreviousBreakPoint (t.begin_ + 1 - 1)) t.end_ := by
          intro j h1 h2
          rcases Nat.lt_or_ge j (t.begin_ + 1 - 1) with h3 | h3
          · exact a2 j h1 h3
          · exact hr.syl j (by omega) h2
        exact step { t with begin_ := t.afterPreviousBreakPoint (t.begin_ + 1 - 1) }
          ⟨by show t.afterPreviousBreakPoint (t.begin_ + 1 - 1) < t.end_; omega, hr.le, hall⟩ rfl rfl (Keep.setBegin hf _)
      · rw [if_neg (by simp only [beq_iff_eq]; exact hwrap)]
        exact step { t with begin_ := t.begin_ + 1 }
          ⟨by show t.begin_ + 1 < t.end_; have := hr.lt; omega, hr.le,
           fun j a b => hr.syl j (by have : t.begin_ + 1 ≤ j := a; omega) b⟩ rfl rfl (Keep.setBegin hf _)

/-- **`PhraseSelector::next`** -/
theorem next_ok (d : D) (s : PhraseSel) (hr : RangeOK s) : OkAnd (NextPost s) (PhraseSel.next env s d) := by
  unfold PhraseSel.next
  exact next_go_ok d s hr _ s hr rfl rfl (Keep.refl s)

/-! ## Down / Space -/

theorem selDownSpace_ok (hE : EnvOK env G) {sh : Shared D L} (h : ShInv env G w sh) {s : Selecting}
    (hs : SelInv env w sh s) : SelResOK env G w (selDownSpace env s sh) := by
  obtain ⟨tp, hq, _⟩ := totalPage_ok hE h hs
  unfold selDownSpace
  rw [hq]
  dsimp only
  split
  · exact .ok (selPost_spin h (hs.page _))
  · have h1 := hs.sel
    split
    · next p hp =>
      rw [hp] at h1
      obtain ⟨p', hq', hn⟩ := next_ok (env := env) sh.dict p h1.range
      rw [hq']
      exact .ok (selPost_spin h ⟨h1.move hn.strategy hn.range hn.keep, fun _ => .inl ⟨p', rfl⟩⟩)
    · next hns =>
      exact .ok (selPost_spin h ⟨hs.sel, hs.repl⟩)

/-! ## j / k -/

theorem retarget_ok {sh : Shared D L} (h : ShInv env G w sh) (s : Selecting)
    (hlt : sh.com.cursor < sh.com.inner.symbols.length) :
    OkAnd (fun x => ShInv env G w x.1 ∧ ∃ s', x.2 = .toState (.selecting s') ∧ SelInv env w x.1 s') (retarget env s sh) := by
  unfold retarget
  have hsym : sh.com.symbol? = some (sh.com.inner.symbols[sh.com.cursor]) := by
    unfold CompEditor.symbol?
    rw [symbol?_lt hlt, List.getElem?_eq_getElem hlt]
  rw [hsym]
  dsimp only
  cases hx : sh.com.inner.symbols[sh.com.cursor] with
  | syl k =>
    simp only [Sym.isSyl, if_true]
    have hk : sh.com.inner.symbols[sh.com.cursor]? = some (Sym.syl k) := by rw [List.getElem?_eq_getElem hlt, hx]
    obtain ⟨p, hq, p1, p2, p3, p4, p5, p6, _, _⟩ := init_ok (env := env) (!sh.options.phraseChoiceRearward) sh.options.lookupStrategy
      sh.com.inner sh.com.cursor sh.dict hlt ⟨k, hk⟩
    rw [hq]
    exact .ok ⟨h, _, rfl, phraseOK_of_init h p1 p2 p3 p4 p5 p6, fun _ => .inl ⟨p, rfl⟩⟩
  | chr ch =>
    simp only [Sym.isSyl]
    have hk : sh.com.inner.symbols[sh.com.cursor]? = some (Sym.chr ch) := by rw [List.getElem?_eq_getElem hlt, hx]
    -- (C07 fix) a symbol without special-symbol candidates gets the symbol table, the others their own list
    obtain ⟨l, hl⟩ := specialMenu_chr ch
    rw [hl]
    cases l with
    | nil => exact .ok ⟨h, _, rfl, h.symOK, fun _ => .inr ⟨ch, hk⟩⟩
    | cons a as => exact .ok ⟨h, _, rfl, rfl, fun _ => .inr ⟨ch, hk⟩⟩

/-- the end of the `j` / `k` arms: a list without candidates is closed (saved cursor restored) -/
theorem closeIfEmpty_ok (hE : EnvOK env G) {r : SelRes D L} (h : ShInv env G w r.shared) (hs : SelInv env w r.shared r.sel)
    (ht : r.trans = .spin .absorb) : SelResOK env G w (closeIfEmpty env r) := by
  obtain ⟨tp, hq, _⟩ := totalPage_ok hE h hs
  unfold closeIfEmpty
  rw [hq]
  dsimp only
  split
  · exact .ok (selPost_entering (cancel_inv h))
  · exact .ok ⟨h, fun _ _ => hs, fun st hst => (by rw [ht] at hst; cases hst)⟩

theorem selMove_ok (hE : EnvOK env G) {sh : Shared D L} (h : ShInv env G w sh) {s : Selecting} (hs : SelInv env w sh s) (isJ : Bool) :
    SelResOK env G w (selMove env s sh isJ) := by
  unfold selMove
  split
  · exact .ok (selPost_spin h hs)
  · next hne =>
    have hpos : 0 < sh.com.inner.symbols.length := by
      simp only [CompEditor.isEmpty, Composition.isEmpty, Composition.len, beq_iff_eq] at hne; omega
    have hbegin : (match s.sel with | .phrase p => p.begin_ | _ => sh.com.cursor) ≤ sh.com.inner.symbols.length := by
      have h1 := hs.sel
      split
      · next p hp => rw [hp] at h1; have := h1.lt; have := h1.le; rw [h1.com] at this; omega
      · exact h.ced.cur
    have hJ : ∀ b, b ≤ sh.com.inner.symbols.length → (sh.com.moveCursor (b - 1)).cursor < sh.com.inner.symbols.length := by
      intro b hb
      show min (b - 1) sh.com.inner.len < _
      simp only [Composition.len]; omega
    have hK : ∀ b, ((sh.com.moveCursor (b + 1)).clampCursor).cursor < sh.com.inner.symbols.length := by
      intro b
      unfold CompEditor.clampCursor
      split
      · next he =>
        show (sh.com.moveCursor (b + 1)).cursor - 1 < _
        simp only [CompEditor.moveCursor, Composition.len] at he ⊢; omega
      · next he =>
        show (sh.com.moveCursor (b + 1)).cursor < _
        simp only [CompEditor.moveCursor, Composition.len] at he ⊢; omega
    dsimp only
    have key : ∀ com : CompEditor, CedInv com → com.inner = sh.com.inner → com.cursor < sh.com.inner.symbols.length →
        SelResOK env G w (match retarget env s { sh with com := com } with
          | .ok (sh', .toState (.selecting s')) => closeIfEmpty env ⟨sh', s', .spin .absorb⟩
          | .ok (sh', _) => closeIfEmpty env ⟨sh', s, .spin .absorb⟩
          | .panic q => .panic q
          | .outOfFuel => .outOfFuel) := by
      intro com hc hin hcur
      have h1 : ShInv env G w { sh with com := com } := h.setComSame hc (by rw [hin])
      obtain ⟨⟨sh', t⟩, hq, hi, s', ht, hs'⟩ := retarget_ok h1 s (by show com.cursor < com.inner.symbols.length; rw [hin]; exact hcur)
      rw [hq]
      simp only at ht
      subst ht
      exact closeIfEmpty_ok hE (r := ⟨sh', s', .spin .absorb⟩) hi hs' rfl
    cases isJ with
    | true =>
      simp only [if_true]
      exact key _ (ced_moveCursor h.ced _) rfl (hJ _ hbegin)
    | false =>
      simp only [Bool.false_eq_true, if_false]
      exact key _ (ced_clampCursor (ced_moveCursor h.ced _)) (clampCursor_inner _) (hK _)

/-! ## digits, and all of `Selecting::next` -/

theorem selDigit_ok (hE : EnvOK env G) {sh : Shared D L} (h : ShInv env G w sh) {s : Selecting}
    (hs : SelInv env w sh s) (c : Nat) : SelResOK env G w (selDigit env s sh c) := by
  obtain ⟨⟨s', sh', t⟩, hq, h1, h2, h3⟩ := select_ok hE h hs (c - 1)
  unfold selDigit
  rw [hq]
  exact .ok ⟨h1, h2, h3⟩

theorem selectingNext_ok (hE : EnvOK env G) {sh : Shared D L} {s : Selecting} (h : ShInv env G w sh)
    (hs : SelInv env w sh s) (ev : KeyEvent) : SelResOK env G w (selectingNext env s sh ev) := by
  have leafSpin : ∀ {b}, SelResOK env G w (.ok ⟨sh, s, .spin b⟩) := .ok (selPost_spin h hs)
  have leafTo : ∀ {sh' : Shared D L}, ShInv env G w sh' → SelResOK env G w (.ok ⟨sh', s, .toState .entering⟩) :=
    fun h' => .ok (selPost_entering h')
  unfold selectingNext
  exact .ite (fun _ => leafSpin) fun _ => .ite (fun _ => leafTo (cancel_inv h)) fun _ =>
    .ite (fun _ => leafTo (cancel_inv (h.congr rfl))) fun _ => .ite (fun _ => leafTo (cancel_inv h)) fun _ =>
    .ite (fun _ => selDownSpace_ok hE h hs) fun _ => .ite (fun _ => selMove_ok hE h hs _) fun _ =>
    .ite (fun _ => selMove_ok hE h hs _) fun _ => .ite (fun _ => selPrevPage_ok hE h hs) fun _ =>
    .ite (fun _ => selNextPage_ok hE h hs) fun _ => .ite (fun _ => selDigit_ok hE h hs _) fun _ =>
    .ite (fun _ => leafTo ((cancel_inv h).setComSame (ced_popCursor (cancel_inv h).ced) (by rw [popCursor_inner])))
      fun _ => .ite (fun _ => leafSpin) fun _ => leafSpin

end Chewing.C01
