import Chewing.Proofs.EditorCommit
import Chewing.Props.C05
import Chewing.Model.ConversionSpec
/-!
# Helpers for C02 over whole histories (operation lists)

* `TilesAt env sh`: the tiling hypothesis on the conversion engine AT ONE STATE (what C03 provides for a
  valid composition and a well-formed dictionary); `ConvTiles env` is "at every state";
* every public operation split into its *editing part* (`editPart`: the state machine / API call up to
  the point where a commit path may run) and its *commit path* (Enter / `commit()` = `SharedState::commit`,
  overflow after a key / after `select(n)` = `try_auto_commit`, or the direct one-character commit of an
  empty pre-edit);
* `emitted`: the text an application receives from the operation; `accepted`: the net number of
  characters the editing part took in (negative: deleted);
* `StepShape`: the three ways an operation can relate the two (nothing committed / one character passed
  straight through / a leading part of the conversion of the edited buffer pushed out), proved for every
  operation (`step_shape`), and the per-step ledger under `TilesAt` (`shape_ledger`);
* `Editor.runLog`: a history with its log of emitted strings and its ledger.
-/
namespace Chewing.C02
open Chewing.C06

variable {D L : Type} (env : Env D L)

/-! ### glue for `process_keyevent` (`C06.processKey_eq`: preamble, dispatch, tail) -/

/-- the preamble of a key (tick, reset of the per-key buffers) does not change what is displayed -/
theorem display_preamble (sh : Shared D L) : Shared.display env (preamble sh) = Shared.display env sh :=
  display_congr env rfl rfl rfl rfl

theorem dispatch_entering {e : Editor D L} (ev : KeyEvent) (hs : e.state = .entering) :
    dispatch env e ev =
      (enteringNext env (preamble e.shared) ev).map fun (sh', t) => applyTrans sh' .entering t :=
  C05.dispatch_entering_eq env ev hs

/-- the part of `process_keyevent` after the state's `next`, case by case -/
theorem tail_spec {sh : Shared D L} {st : St} {e' : Editor D L} {b : KB} (h : tail env sh st = .ok (e', b)) :
    e'.state = st ∧
    ((e'.shared = flush env sh ∧ b = sh.last ∧
        (st = .entering ∨ st = .enteringSyllable → sh.last = .absorb → sh.com.len ≤ sh.options.autoCommitThreshold)) ∨
     ((st = .entering ∨ st = .enteringSyllable) ∧ sh.last = .absorb ∧ sh.options.autoCommitThreshold < sh.com.len ∧ b = .commit ∧
        ∃ sh2, Shared.tryAutoCommit env sh = .ok sh2 ∧ e'.shared = flush env sh2)) :=
  tail_cases env h

/-! ### the tiling hypothesis at one state -/

/-- at state `sh`, every alternative the engine returns tiles the buffer with one character per symbol -/
def TilesAt (sh : Shared D L) : Prop :=
  ∀ paths, env.convert sh.engine sh.dict sh.com.inner = .ok paths → ∀ p ∈ paths, Tiles 0 sh.com.len p

theorem ConvTiles.tilesAt (hT : ConvTiles env) (sh : Shared D L) : TilesAt env sh :=
  fun paths hp p hm => hT _ _ _ paths hp p hm

/-- `TilesAt` depends on (engine, dictionary, composition) only -/
theorem TilesAt.congr {a b : Shared D L} (h : TilesAt env a) (h1 : a.engine = b.engine) (h2 : a.dict = b.dict)
    (h3 : a.com.inner = b.com.inner) : TilesAt env b := by
  intro paths hp p hm
  have : b.com.len = a.com.len := by rw [len_eq, len_eq, h3]
  rw [this]
  exact h paths (by rw [h1, h2, h3]; exact hp) p hm

/-- under `TilesAt`, the shown conversion tiles the buffer -/
theorem TilesAt.conversion {sh : Shared D L} (h : TilesAt env sh) {ivs : List Interval}
    (hc : Shared.conversion env sh = .ok ivs) : Tiles 0 sh.com.len ivs := by
  obtain ⟨paths, hp, hm⟩ := conversion_mem env hc
  exact h paths hp ivs hm

/-- **every key step, classified by how it commits**: the state machine part `(sh, st)` with (N) a result other than
    *commit*, nothing in the commit buffer; (S) one character committed directly through an empty pre-edit;
    (W) the whole pre-edit committed by Enter — in these three the tail only flushed; (A) the key absorbed and the
    overflow pushed out by the auto-commit -/
theorem key_cases {e e' : Editor D L} {ev : KeyEvent} {b : KB} (h : e.processKey env ev = .ok (e', b)) :
    ∃ sh st, dispatch env e ev = .ok (sh, st) ∧ e'.state = st ∧
      ((b ≠ .commit ∧ sh.last = b ∧ sh.commitBuf = [] ∧ e'.shared = flush env sh) ∨
       (b = .commit ∧ sh.last = .commit ∧ e.state = .entering ∧ st = .entering ∧ e.shared.com.isEmpty = true ∧
          sh.com = e.shared.com ∧ (∃ ch, DirectChar ev ch ∧ sh.commitBuf = [ch]) ∧ e'.shared = flush env sh) ∨
       (b = .commit ∧ e.state = .entering ∧ st = .entering ∧ ev.code = KC.enter ∧ e.shared.com.isEmpty = false ∧
          Shared.commit env (preamble e.shared) = .ok sh ∧ e'.shared = flush env sh) ∨
       (b = .commit ∧ (st = .entering ∨ st = .enteringSyllable) ∧ sh.last = .absorb ∧ sh.commitBuf = [] ∧
          sh.options.autoCommitThreshold < sh.com.len ∧
          ∃ sh2, Shared.tryAutoCommit env sh = .ok sh2 ∧ e'.shared = flush env sh2)) := by
  obtain ⟨sh, st, hd, ht⟩ := C05.processKey_split env h
  obtain ⟨hst, hcase⟩ := tail_cases env ht
  refine ⟨sh, st, hd, hst, ?_⟩
  rcases dispatch_shape_aux env hd with ⟨hnc, hbuf⟩ | ⟨hc, hs, hst', hcase2⟩
  · rcases hcase with ⟨hsh, rfl, _⟩ | ⟨h1, h2, h3, h4, sh2, h5, h6⟩
    · exact .inl ⟨hnc, rfl, hbuf, hsh⟩
    · exact .inr (.inr (.inr ⟨h4, h1, h2, hbuf, h3, sh2, h5, h6⟩))
  · -- a step that reports *commit* itself is not followed by the auto-commit
    rcases hcase with ⟨hsh, rfl, _⟩ | ⟨_, h2, _⟩
    · rcases hcase2 with ⟨he, hcom, hch⟩ | ⟨hk, hne, hcm⟩
      · exact .inr (.inl ⟨hc, hc, hs, hst', he, hcom, hch, hsh⟩)
      · exact .inr (.inr (.inl ⟨hc, hs, hst', hk, hne, hcm, hsh⟩))
    · exact nomatch hc.symm.trans h2

/-! ### editing part, emitted text, accepted characters -/

/-- the shared state after the *editing part* of an operation, before any commit path.  Key: the result
    of the state's `next` — except when `next` itself committed a non-empty pre-edit (only Enter does,
    `whole_commit_only_by_enter`): then nothing was edited (the key preamble only).  `select(n)`: the
    choice applied.  `commit()`: nothing edited.  The other calls have no commit path: their result. -/
def editPart (e : Editor D L) : Op L → Outcome (Shared D L)
  | .key ev =>
    (dispatch env e ev).map fun r =>
      if r.1.last = .commit ∧ e.shared.com.isEmpty = false then preamble e.shared else r.1
  | .select n =>
    match e.state with
    | .selecting s =>
      (Selecting.select env s e.shared n).map fun r => (applyTrans r.2.1 (.selecting r.1) r.2.2).1
    | _ => .ok e.shared
  | .commit => .ok e.shared
  | .startSelecting => (e.apply env .startSelecting).map (·.shared)
  | .cancelSelecting => (e.apply env .cancelSelecting).map (·.shared)
  | .clear => (e.apply env .clear).map (·.shared)
  | .ack => (e.apply env .ack).map (·.shared)
  | .clearSyl => (e.apply env .clearSyl).map (·.shared)
  | .setOptions o => (e.apply env (.setOptions o)).map (·.shared)
  | .setLayout l => (e.apply env (.setLayout l)).map (·.shared)
  | .setEngine k => (e.apply env (.setEngine k)).map (·.shared)
  | .learn k p => (e.apply env (.learn k p)).map (·.shared)
  | .unlearn k p => (e.apply env (.unlearn k p)).map (·.shared)
  | .jump w => (e.apply env (.jump w)).map (·.shared)

/-- the text an application newly receives from the operation (it reads the commit string after a key
    that answers *commit*, after a successful `commit()`, after a `select(n)` that overflowed) -/
def emitted (e : Editor D L) (op : Op L) (e' : Editor D L) : Text :=
  match op with
  | .key _ => e'.shared.commitBuf
  | .commit => if e.state = .entering ∧ e.shared.com.isEmpty = false then e'.shared.commitBuf else []
  | .select _ =>
    match e.state with
    | .selecting _ => if e'.shared.last = .commit then e'.shared.commitBuf else []
    | _ => []
  | _ => []

/-- the key was committed directly (empty pre-edit: English / full-width / symbol pass-through) -/
def direct (e : Editor D L) (op : Op L) (m : Shared D L) : Bool :=
  match op with
  | .key _ => m.last == .commit && e.shared.com.isEmpty
  | _ => false

/-- net number of characters the editing part took in: 1 for a directly committed key, otherwise the
    change of the number of symbols in the pre-edit (negative: Backspace, Del, Esc, reset …) -/
def accepted (e : Editor D L) (op : Op L) (m : Shared D L) : Int :=
  if direct e op m then 1 else (m.com.len : Int) - (e.shared.com.len : Int)

/-- **how one operation relates what it emits to what it edited** (`m` = state after the editing part):
    (K) nothing emitted, the pre-edit is what the editing part left;
    (S) one character passed straight through, the (empty) pre-edit untouched — the key's own
        character, its full-width form, or a half- or full-width space for Space as selection key;
    (C) a commit path ran: the emitted text is the text of the first `k` intervals of the conversion of
        the edited buffer (`k ≥ 1` unless the conversion is empty) — all of them and the pre-edit is empty
        afterwards (Enter, `commit()`), or
        the buffer exceeded the threshold and exactly the symbols under those intervals were removed
        from the front (overflow after a key or after `select(n)`), `k` least such that the rest fits. -/
def StepShape (e : Editor D L) (op : Op L) (m : Shared D L) (e' : Editor D L) : Prop :=
  (direct e op m = false ∧ emitted e op e' = [] ∧ e'.shared.com = m.com) ∨
  (direct e op m = true ∧ e'.shared.com = e.shared.com ∧
    ∃ ch, emitted e op e' = [ch] ∧ ∀ ev, op = .key ev → DirectChar ev ch) ∨
  (direct e op m = false ∧ ∃ ivs k, Shared.conversion env m = .ok ivs ∧ k ≤ ivs.length ∧ (ivs = [] ∨ 0 < k) ∧
    emitted e op e' = textOf (ivs.take k) ∧
    ((k = ivs.length ∧ e'.shared.com.symbols = [] ∧ e'.shared.com.cursor = 0) ∨
     (m.options.autoCommitThreshold < m.com.len ∧ sumLen (ivs.take k) ≤ m.com.len ∧
      e'.shared.com.symbols = m.com.symbols.drop (sumLen (ivs.take k)) ∧
      (∀ j, j < k → m.options.autoCommitThreshold < m.com.len - sumLen (ivs.take j)) ∧
      (k = ivs.length ∨ m.com.len - sumLen (ivs.take k) ≤ m.options.autoCommitThreshold))))

/-- the (C) shape produced by `SharedState::commit` -/
theorem shape_of_commit {sh sh' : Shared D L} (h : Shared.commit env sh = .ok sh') :
    ∃ ivs k, Shared.conversion env sh = .ok ivs ∧ k ≤ ivs.length ∧ (ivs = [] ∨ 0 < k) ∧
      sh'.commitBuf = textOf (ivs.take k) ∧ k = ivs.length ∧ sh'.com.symbols = [] ∧ sh'.com.cursor = 0 := by
  obtain ⟨ivs, sh1, hc, _, rfl⟩ := commit_spec env h
  refine ⟨ivs, ivs.length, hc, Nat.le_refl _, ?_, by rw [List.take_length]; rfl, rfl, rfl, rfl⟩
  cases ivs with
  | nil => exact Or.inl rfl
  | cons a r => exact Or.inr (by simp)

/-- the (C) shape produced by `try_auto_commit` on a buffer over the threshold: the texts of the first `k` intervals
    of the conversion are committed, `k` least such that the rest fits (or all of them); exactly the symbols they cover
    are removed from the front; the result is *commit*; `nth`, dictionary, engine, options are untouched -/
theorem shape_of_overflow {sh sh' : Shared D L} (h : Shared.tryAutoCommit env sh = .ok sh')
    (hlen : sh.options.autoCommitThreshold < sh.com.len) :
    ∃ ivs k, Shared.conversion env sh = .ok ivs ∧ k ≤ ivs.length ∧ (ivs = [] ∨ 0 < k) ∧
      sh'.commitBuf = textOf (ivs.take k) ∧
      sumLen (ivs.take k) ≤ sh.com.len ∧
      sh'.com.symbols = sh.com.symbols.drop (sumLen (ivs.take k)) ∧
      sh'.com.cursor = sh.com.cursor - sumLen (ivs.take k) ∧
      (∀ j, j < k → sh.options.autoCommitThreshold < sh.com.len - sumLen (ivs.take j)) ∧
      (k = ivs.length ∨ sh.com.len - sumLen (ivs.take k) ≤ sh.options.autoCommitThreshold) ∧
      sh'.last = .commit ∧ sh'.nth = sh.nth ∧ sh'.dict = sh.dict ∧ sh'.engine = sh.engine ∧
      sh'.options = sh.options := by
  obtain ⟨ivs, k, com, hc, hk, hpos, hrf, rfl, hle, hmin, hfin⟩ := tryAutoCommit_spec env h hlen
  obtain ⟨_, hsym, hcur, _⟩ := C05.remove_front_frame sh.com _ com hrf
  exact ⟨ivs, k, hc, hk, hpos, rfl, hle, hsym, hcur, hmin, hfin, rfl, rfl, rfl, rfl, rfl⟩

/-- **every key step has one of the three shapes**: (K) for a step that does not commit, (S) for a character
    committed directly, (C) for Enter and for the overflow -/
theorem stepShape_key {e e' : Editor D L} {ev : KeyEvent} {m : Shared D L}
    (ha : e.apply env (.key ev) = .ok e') (hm : editPart env e (.key ev) = .ok m) :
    StepShape env e (.key ev) m e' := by
  obtain ⟨⟨e1, b⟩, hp, rfl⟩ := Outcome.of_map_ok ha
  obtain ⟨sh, st, hd, -, hcase⟩ := key_cases env hp
  -- the edited state is `sh`, except that Enter on a non-empty pre-edit has edited nothing
  have hmm : (if sh.last = .commit ∧ e.shared.com.isEmpty = false then preamble e.shared else sh) = m := by
    obtain ⟨r, hd', hmm⟩ := Outcome.of_map_ok hm
    cases hd.symm.trans hd'
    exact hmm
  have hdir : ∀ {x : Shared D L}, x.last ≠ .commit → direct e (.key ev) x = false := fun hn => by
    show (_ == KB.commit && _) = false
    rw [beq_eq_false_iff_ne.mpr hn]; rfl
  rcases hcase with ⟨hnc, rfl, hbuf, hsh⟩ | ⟨-, hc, -, -, he, hcom, ⟨ch, hq, hch⟩, hsh⟩ | ⟨-, -, -, -, hne, hcm, hsh⟩ |
    ⟨-, -, hab, -, hlt, sh2, hac, hsh⟩
  -- what was flushed, read at the commit buffer (`f1`) and the pre-edit (`f2`)
  · obtain ⟨f1, f2, _⟩ := hsh ▸ flush_fields env sh
    obtain rfl : m = sh := by rw [← hmm, if_neg fun c => hnc c.1]
    exact .inl ⟨hdir hnc, f1.trans hbuf, f2⟩
  · obtain ⟨f1, f2, _⟩ := hsh ▸ flush_fields env sh
    obtain rfl : m = sh := by rw [← hmm, if_neg fun c => by rw [he] at c; exact nomatch c.2]
    refine .inr (.inl ⟨?_, f2.trans hcom, ch, f1.trans hch, fun _ hev => by cases hev; exact hq⟩)
    simp only [direct, hc, he, beq_self_eq_true, Bool.and_self]
  · obtain ⟨f1, f2, _⟩ := hsh ▸ flush_fields env sh
    obtain ⟨ivs, k, h1, h2, h3, h4, h5, h6, h7⟩ := shape_of_commit env hcm
    have hc : sh.last = .commit := by obtain ⟨_, _, _, _, rfl⟩ := commit_spec env hcm; rfl
    obtain rfl : m = preamble e.shared := by rw [← hmm, if_pos ⟨hc, hne⟩]
    refine .inr (.inr ⟨?_, ivs, k, h1, h2, h3, f1.trans h4, .inl ⟨h5, (congrArg _ f2).trans h6, (congrArg _ f2).trans h7⟩⟩)
    simp only [direct, hne, Bool.and_false]
  · obtain ⟨f1, f2, _⟩ := hsh ▸ flush_fields env sh2
    have hnc : sh.last ≠ .commit := fun c => nomatch hab.symm.trans c
    obtain rfl : m = sh := by rw [← hmm, if_neg fun c => hnc c.1]
    obtain ⟨ivs, k, h1, h2, h3, h4, h5, h6, _, h7, h8, _⟩ := shape_of_overflow env hac hlt
    exact .inr (.inr ⟨hdir hnc, ivs, k, h1, h2, h3, f1.trans h4, .inr ⟨hlt, h5, (congrArg _ f2).trans h6, h7, h8⟩⟩)

/-- **`select(n)`**: the choice itself (`m`, the editing part) neither commits nor touches the commit buffer; then
    nothing more happens, or — the list has closed over a buffer beyond the threshold — the overflow path runs from `m` -/
theorem select_path (e : Editor D L) (n : Nat) :
    ResAll (fun x => ∃ m, editPart env e (.select n) = .ok m ∧ m.commitBuf = e.shared.commitBuf ∧
      ((x.1.shared = m ∧ ((∀ s, e.state ≠ .selecting s) ∧ x.1 = e ∨ m.last ≠ .commit)) ∨
       ((∃ s, e.state = .selecting s) ∧ m.last = .absorb ∧ m.options.autoCommitThreshold < m.com.len ∧
         Shared.tryAutoCommit env m = .ok x.1.shared ∧ x.1.shared.last = .commit))) (e.select env n) := by
  refine select_api_all env (fun hn => ⟨e.shared, ?_, rfl, .inl ⟨rfl, .inl ⟨hn, rfl⟩⟩⟩)
    fun s s' sh t sh1 st sh2 hs hq hp hr => ?_
  · show (match e.state with | .selecting _ => _ | _ => _) = _
    split
    · next s hs => exact absurd hs (hn s)
    · rfl
  · obtain ⟨hn, hb⟩ := select_nocommit env s e.shared n _ hq
    obtain ⟨hlast, hbuf⟩ := applyTrans_nocommit (sh := sh) (st := .selecting s') hn
    rw [hp] at hlast hbuf
    refine ⟨sh1, by simp only [editPart, hs, hq, Outcome.map, hp], hbuf.trans hb, ?_⟩
    -- the overflow path runs only once the list has closed (`self.is_entering() || self.is_entering_syllable()`, F40's fix)
    rcases autoCommit_cases env hr with ⟨rfl, _⟩ | ⟨_, hab, hlt, hac, hl2⟩
    · exact .inl ⟨rfl, .inr hlast⟩
    · exact .inr ⟨⟨s, hs⟩, hab, hlt, hac, hl2⟩

theorem stepShape_select {e e' : Editor D L} {n : Nat} {m : Shared D L}
    (ha : e.apply env (.select n) = .ok e') (hm : editPart env e (.select n) = .ok m) :
    StepShape env e (.select n) m e' := by
  obtain ⟨⟨e1, r⟩, hp, rfl⟩ := Outcome.of_map_ok ha
  obtain ⟨m', hm', _, ⟨hsh, hq⟩ | ⟨⟨s, hs⟩, _, hlt, hac, hl⟩⟩ := select_path env e n _ hp <;> cases hm.symm.trans hm'
  · refine .inl ⟨rfl, ?_, congrArg (·.com) hsh⟩
    show (match e.state with | .selecting _ => _ | _ => _) = _
    split
    · next s hs => exact if_neg (hsh ▸ hq.resolve_left fun c => c.1 s hs)
    · rfl
  · obtain ⟨ivs, k, h1, h2, h3, h4, h5, h6, _, h7, h8, _⟩ := shape_of_overflow env hac hlt
    exact .inr (.inr ⟨rfl, ivs, k, h1, h2, h3, by simp only [emitted, hs]; exact (if_pos hl).trans h4,
      .inr ⟨hlt, h5, h6, h7, h8⟩⟩)

theorem stepShape_commit {e e' : Editor D L} {m : Shared D L}
    (ha : e.apply env .commit = .ok e') (hm : editPart env e .commit = .ok m) :
    StepShape env e .commit m e' := by
  obtain ⟨⟨e1, r⟩, hp, rfl⟩ := Outcome.of_map_ok ha
  cases hm
  refine commit_api_all env (Q := fun x => StepShape env e .commit e.shared x.1) (fun hn => .inl ⟨rfl, if_neg hn, rfl⟩)
    (fun sh hs hne hq => ?_) _ hp
  obtain ⟨ivs, k, h1, h2, h3, h4, h5, h6, h7⟩ := shape_of_commit env hq
  exact .inr (.inr ⟨rfl, ivs, k, h1, h2, h3, (if_pos ⟨hs, hne⟩).trans h4, .inl ⟨h5, h6, h7⟩⟩)

/-- **every operation has one of the three shapes**; the calls other than a key, `select(n)` and `commit()` have
    no commit path -/
theorem step_shape {e e' : Editor D L} {op : Op L} {m : Shared D L}
    (ha : e.apply env op = .ok e') (hm : editPart env e op = .ok m) : StepShape env e op m e' := by
  cases op with
  | key ev => exact stepShape_key env ha hm
  | select n => exact stepShape_select env ha hm
  | commit => exact stepShape_commit env ha hm
  | _ =>
    cases (congrArg (Outcome.map Editor.shared) ha).symm.trans hm
    exact .inl ⟨rfl, rfl, rfl⟩

/-- whenever the operation returns, so does its editing part -/
theorem editPart_ok {e e' : Editor D L} {op : Op L} (ha : e.apply env op = .ok e') :
    ∃ m, editPart env e op = .ok m := by
  cases op with
  | key ev =>
    obtain ⟨⟨e1, b⟩, hp, _⟩ := Outcome.of_map_ok ha
    obtain ⟨sh, st, hd, _⟩ := C05.processKey_split env hp
    exact ⟨_, by rw [editPart, hd]; rfl⟩
  | select n =>
    obtain ⟨⟨e1, b⟩, hp, _⟩ := Outcome.of_map_ok ha
    obtain ⟨m, hm, _⟩ := select_path env e n _ hp
    exact ⟨m, hm⟩
  | commit => exact ⟨_, rfl⟩
  | _ => exact ⟨e'.shared, congrArg (Outcome.map Editor.shared) ha⟩

/-! ### the per-step ledger -/

/-- under the tiling hypothesis at the edited state: characters emitted + symbols remaining =
    symbols before + characters accepted -/
theorem shape_ledger {e e' : Editor D L} {op : Op L} {m : Shared D L} (hT : TilesAt env m)
    (h : StepShape env e op m e') :
    ((emitted e op e').length : Int) + e'.shared.com.len = e.shared.com.len + accepted e op m := by
  rcases h with ⟨hd, hem, hcom⟩ | ⟨hd, hcom, ch, hem⟩ | ⟨hd, ivs, k, hc, hk, _, hem, hcase⟩
  · simp only [accepted, hd, hem, hcom, List.length_nil, Bool.false_eq_true, if_false]
    omega
  · simp only [accepted, hd, hem.1, hcom, List.length_cons, List.length_nil, if_true]
    omega
  · have ht := hT.conversion env hc
    simp only [accepted, hd, hem, Bool.false_eq_true, if_false]
    rcases hcase with ⟨hk', hsym, _⟩ | ⟨_, hle, hsym, _, _⟩
    · have hl : e'.shared.com.len = 0 := congrArg List.length hsym
      obtain ⟨t1, t2⟩ := ht.total
      rw [hk', List.take_length, t2, hl]
      omega
    · have hl : e'.shared.com.len = m.com.len - sumLen (ivs.take k) :=
        (congrArg List.length hsym).trans List.length_drop
      obtain ⟨t1, _⟩ := ht.take k
      rw [t1, hl]
      omega

/-! ### histories with their log -/

/-- a history, with the list of texts the application received (one entry per operation) and the ledger
    of accepted characters -/
def _root_.Chewing.Editor.runLog (e : Editor D L) : List (Op L) → Outcome (Editor D L × List Text × Int)
  | [] => .ok (e, [], 0)
  | op :: ops =>
    match e.apply env op, editPart env e op with
    | .ok e', .ok m =>
      match Editor.runLog e' ops with
      | .ok (e'', outs, acc) => .ok (e'', emitted e op e' :: outs, accepted e op m + acc)
      | .panic p => .panic p
      | .outOfFuel => .outOfFuel
    | .panic p, _ => .panic p
    | .outOfFuel, _ => .outOfFuel
    | .ok _, .panic p => .panic p
    | .ok _, .outOfFuel => .outOfFuel

/-- the tiling hypothesis holds at the edited state of every step of the history -/
def TilesAlong : Editor D L → List (Op L) → Prop
  | _, [] => True
  | e, op :: ops =>
    (∀ m, editPart env e op = .ok m → TilesAt env m) ∧ (∀ e', e.apply env op = .ok e' → TilesAlong e' ops)

theorem ConvTiles.tilesAlong (hT : ConvTiles env) (e : Editor D L) (ops : List (Op L)) : TilesAlong env e ops := by
  induction ops generalizing e with
  | nil => trivial
  | cons op ops ih => exact ⟨fun m _ => hT.tilesAt env m, fun e' _ => ih e'⟩

/-- `P` holds of every step of the history (pre-state, operation, edited state, post-state) -/
def AllSteps (P : Editor D L → Op L → Shared D L → Editor D L → Prop) : Editor D L → List (Op L) → Prop
  | _, [] => True
  | e, op :: ops =>
    ∀ e' m, e.apply env op = .ok e' → editPart env e op = .ok m → P e op m e' ∧ AllSteps P e' ops

/-- a chain of non-empty contiguous intervals with one character per symbol is a tiling (C03's two
    theorems `alt_chain` and `one_char_per_symbol` put together) -/
theorem tiles_of_chain {a n : Nat} {p : List Interval} (hc : Conv.IvChain a n p)
    (hl : ∀ iv ∈ p, iv.text.length = iv.stop - iv.start) : Tiles a n p := by
  induction p generalizing a with
  | nil => exact hc
  | cons x r ih =>
    obtain ⟨h1, h2, h3⟩ := hc
    exact ⟨h1, by omega, hl x (List.mem_cons_self ..), ih h3 (fun iv hm => hl iv (List.mem_cons_of_mem _ hm))⟩

/-- … and a tiling is such a chain -/
theorem chain_of_tiles {a n : Nat} {p : List Interval} (h : Tiles a n p) : Conv.IvChain a n p := by
  induction p generalizing a with
  | nil => exact h
  | cons x r ih => exact ⟨h.1, h.1.symm ▸ h.2.1, ih h.2.2.2⟩

end Chewing.C02
