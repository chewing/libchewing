import Chewing.Model.Editor
import Chewing.Proofs.Collects
/-!
Definitions and lemmas for C17 (queries are pure, contexts are independent, reset is clean), over
the editor model `Model/Editor.lean`.

* `Query`, `Value`, `Editor.query`: the `&self` getters of `Editor` (`src/editor/mod.rs`) as functions
  of the editor value; `Editor.applyR`: every mutating entry point WITH its return value;
  `OpQ`, `Editor.runQ`: histories with queries interleaved.
* `Pair`: two editors side by side (two contexts of one process).
* `Config`, `Editor.fresh`: what the constructors produce; `Editor.config`: what a reset keeps.
* `Ctx`: a small wrapper model of the C context (`capi/src/public.rs: ChewingContext`): the editor plus
  three of the four iterator slots written by the enumerate-style calls (see `Ctx` for the fourth).
* `LogSlot`: the process-wide logger slot of `capi/src/io.rs` (`static LOGGER`).
-/
namespace Chewing

/-! ### values and queries -/

/-- what getters and operations return -/
inductive Value where
  | unit
  | bool (b : Bool)
  | nat (n : Nat)
  | text (t : Text)
  | texts (l : List Text)
  | syms (l : List Sym)
  | ivs (l : List Interval)
  | kb (k : KB)
  | opts (o : Options)
  /-- `Err(EditorError::InvalidState)` of the candidate getters outside `Selecting` -/
  | invalidState
deriving Repr, DecidableEq

/-- the `&self` getters of `Editor` (`syllable_buffer_display` needs the layout's `key_seq`, which the
    environment does not expose: it is covered by the harness oracle only) -/
inductive Query where
  | display | displayCommit | notification | intervals | cursor | symbols | len | isEmpty
  | isEntering | isSelecting | enteringSyllable | syllableBuffer
  | allCandidates | paginatedCandidates | totalPage | currentPageNo
  | hasNextSelectionPoint | hasPrevSelectionPoint | editorOptions | lastKeyBehavior
deriving Repr, DecidableEq

section
variable {D L : Type} (env : Env D L)

/-- the candidate getters: `Err(InvalidState)` unless a candidate list is open -/
def Editor.whenSelecting (e : Editor D L) (f : Selecting → Outcome Value) : Outcome Value :=
  match e.state with
  | .selecting s => f s
  | _ => .ok .invalidState

/-- every getter is a function of the editor value (a panic inside a getter is a value too) -/
def Editor.query (e : Editor D L) : Query → Outcome Value
  | .display => (Shared.display env e.shared).map .text
  | .displayCommit => .ok (.text e.shared.commitBuf)
  | .notification => .ok (.text e.shared.noticeBuf)
  | .intervals => (Shared.conversion env e.shared).map .ivs
  | .cursor => .ok (.nat e.shared.com.cursor)
  | .symbols => .ok (.syms e.shared.com.symbols)
  | .len => .ok (.nat e.shared.com.len)
  | .isEmpty => .ok (.bool e.shared.com.isEmpty)
  | .isEntering => .ok (.bool (e.state == .entering))
  | .isSelecting => .ok (.bool (match e.state with | .selecting _ => true | _ => false))
  | .enteringSyllable => .ok (.bool (!env.sylIsEmpty e.shared.syl))
  | .syllableBuffer => .ok (.nat (env.read e.shared.syl))
  | .allCandidates => e.whenSelecting fun s => (Selecting.candidates env s e.shared).map .texts
  | .paginatedCandidates => e.whenSelecting fun s =>
      (Selecting.candidates env s e.shared).map fun cs =>
        .texts (cs.drop (s.pageNo * e.shared.options.candidatesPerPage))
  | .totalPage => e.whenSelecting fun s => (Selecting.totalPage env s e.shared).map .nat
  | .currentPageNo => e.whenSelecting fun s => .ok (.nat s.pageNo)
  | .hasNextSelectionPoint =>
    match e.state with
    | .selecting { sel := .phrase p, .. } =>
      (PhraseSel.nextSelectionPoint env p e.shared.dict).map fun o => .bool o.isSome
    | _ => .ok (.bool false)
  | .hasPrevSelectionPoint =>
    match e.state with
    | .selecting { sel := .phrase p, .. } =>
      (PhraseSel.prevSelectionPoint env p e.shared.dict).map fun o => .bool o.isSome
    | _ => .ok (.bool false)
  | .editorOptions => .ok (.opts e.shared.options)
  | .lastKeyBehavior => .ok (.kb e.shared.last)

/-- one operation with its return value (`Editor.apply` drops it) -/
def Editor.applyR (e : Editor D L) : Op L → Outcome (Editor D L × Value)
  | .key ev => (e.processKey env ev).map fun r => (r.1, .kb r.2)
  | .select n => (e.select env n).map fun r => (r.1, .bool r.2)
  | .startSelecting => (e.startSelecting env).map fun r => (r.1, .bool r.2)
  | .cancelSelecting => .ok (e.cancelSelecting.1, .bool e.cancelSelecting.2)
  | .commit => (e.commit env).map fun r => (r.1, .bool r.2)
  | .clear => .ok (e.clear env, .unit)
  | .ack => .ok (e.ack, .unit)
  | .clearSyl => .ok (e.clearSyllableEditor env, .unit)
  | .setOptions o => (Editor.revalidate env (e.setOptions env o)).map fun e' => (e', .unit)
  | .setLayout l => (Editor.revalidate env (e.setLayout env l)).map fun e' => (e', .unit)
  | .setEngine k => .ok ({ e with shared := { e.shared with engine := k } }, .unit)
  | .learn k p =>
    match Shared.learnPhrase env e.shared k p with
    | .ok (sh, okk) => (Editor.revalidate env { e with shared := sh }).map fun e' => (e', .bool okk)
    | .panic q => .panic q
    | .outOfFuel => .outOfFuel
  | .unlearn k p =>
    (Editor.revalidate env { e with shared := Shared.unlearnPhrase env e.shared k p }).map fun e' => (e', .bool true)
  | .jump w => (e.jump env w).map fun r => (r.1, .bool r.2)

/-- `applyR` is `apply` plus the return value -/
theorem Editor.applyR_fst (e : Editor D L) (op : Op L) : (e.applyR env op).map (·.1) = e.apply env op := by
  cases op <;> simp only [Editor.applyR, Editor.apply, Outcome.map_map] <;> try rfl
  case setOptions => exact Outcome.map_id' _
  case setLayout => exact Outcome.map_id' _
  case unlearn => exact Outcome.map_id' _
  case learn k p =>
    cases Shared.learnPhrase env e.shared k p with
    | ok r => obtain ⟨sh, okk⟩ := r; simp only [Outcome.map_map]; exact Outcome.map_id' _
    | panic q => rfl
    | outOfFuel => rfl

/-- a history with all return values -/
def Editor.runR (e : Editor D L) : List (Op L) → Outcome (Editor D L × List Value)
  | [] => .ok (e, [])
  | op :: ops =>
    match e.applyR env op with
    | .ok (e', v) => (Editor.runR e' ops).map fun r => (r.1, v :: r.2)
    | .panic p => .panic p
    | .outOfFuel => .outOfFuel

theorem Editor.runR_collects :
    Collects (fun (e : Editor D L) o => (e.applyR env o).map fun r => (r.1, [r.2])) (Editor.runR env) :=
  ⟨fun _ => rfl, fun e o _ => by rw [Editor.runR]; cases e.applyR env o <;> rfl⟩

theorem Editor.runR_fst (ops : List (Op L)) : ∀ e : Editor D L, (e.runR env ops).map (·.1) = e.run env ops := by
  induction ops with
  | nil => intro e; rfl
  | cons op ops ih =>
    intro e
    have h := Editor.applyR_fst env e op
    simp only [Editor.runR, Editor.run]
    cases hr : e.applyR env op with
    | ok x =>
      obtain ⟨e', v⟩ := x
      rw [hr] at h; simp only [Outcome.map] at h
      rw [← h]; simp only [Outcome.map_map]; exact ih e'
    | panic p => rw [hr] at h; simp only [Outcome.map] at h; rw [← h]; rfl
    | outOfFuel => rw [hr] at h; simp only [Outcome.map] at h; rw [← h]; rfl

/-! ### histories with queries -/

/-- an operation or a query -/
inductive OpQ (L : Type) where
  | op (o : Op L)
  | query (q : Query)

/-- what a client sees of one call -/
inductive Ev where
  /-- return value of an operation -/
  | ret (v : Value)
  /-- answer of a query -/
  | ans (q : Query) (v : Outcome Value)
deriving DecidableEq

/-- one call: a query returns its answer and THE SAME editor value -/
def Editor.stepQ (e : Editor D L) : OpQ L → Outcome (Editor D L × Ev)
  | .op o => (e.applyR env o).map fun r => (r.1, .ret r.2)
  | .query q => .ok (e, .ans q (e.query env q))

def Editor.runQ (e : Editor D L) : List (OpQ L) → Outcome (Editor D L × List Ev)
  | [] => .ok (e, [])
  | c :: cs =>
    match e.stepQ env c with
    | .ok (e', ev) => (Editor.runQ e' cs).map fun r => (r.1, ev :: r.2)
    | .panic p => .panic p
    | .outOfFuel => .outOfFuel

/-- the operations of a mixed history -/
def OpQ.strip : List (OpQ L) → List (Op L)
  | [] => []
  | .op o :: cs => o :: OpQ.strip cs
  | .query _ :: cs => OpQ.strip cs

/-- the return values of the operations in a trace -/
def Ev.rets : List Ev → List Value
  | [] => []
  | .ret v :: es => v :: Ev.rets es
  | .ans _ _ :: es => Ev.rets es

/-! ### two contexts -/

/-- two contexts of one process: two editor values, each with its own dictionary and layout -/
structure Pair (D₁ L₁ D₂ L₂ : Type) where
  a : Editor D₁ L₁
  b : Editor D₂ L₂

/-- which context answered -/
inductive Tagged where
  | a (v : Value)
  | b (v : Value)
deriving DecidableEq

section pair
variable {D₁ L₁ D₂ L₂ : Type} (envA : Env D₁ L₁) (envB : Env D₂ L₂)

/-- a call on one of the two contexts -/
def Pair.step (p : Pair D₁ L₁ D₂ L₂) : Op L₁ ⊕ Op L₂ → Outcome (Pair D₁ L₁ D₂ L₂ × Tagged)
  | .inl o => (p.a.applyR envA o).map fun r => ({ p with a := r.1 }, .a r.2)
  | .inr o => (p.b.applyR envB o).map fun r => ({ p with b := r.1 }, .b r.2)

def Pair.run (p : Pair D₁ L₁ D₂ L₂) : List (Op L₁ ⊕ Op L₂) → Outcome (Pair D₁ L₁ D₂ L₂ × List Tagged)
  | [] => .ok (p, [])
  | c :: cs =>
    match p.step envA envB c with
    | .ok (p', v) => (Pair.run p' cs).map fun r => (r.1, v :: r.2)
    | .panic s => .panic s
    | .outOfFuel => .outOfFuel

/-- a step of the pair that returns is a step of one of the two contexts that returns -/
theorem Pair.step_ok {p p' : Pair D₁ L₁ D₂ L₂} {c : Op L₁ ⊕ Op L₂} {t : Tagged} (h : p.step envA envB c = .ok (p', t)) :
    (∃ o a v, c = .inl o ∧ p.a.applyR envA o = .ok (a, v) ∧ p' = { p with a := a } ∧ t = .a v) ∨
    (∃ o b v, c = .inr o ∧ p.b.applyR envB o = .ok (b, v) ∧ p' = { p with b := b } ∧ t = .b v) := by
  cases c <;> obtain ⟨⟨x, v⟩, hx, heq⟩ := Outcome.of_map_ok h <;> cases heq
  · exact .inl ⟨_, x, v, rfl, hx, rfl, rfl⟩
  · exact .inr ⟨_, x, v, rfl, hx, rfl, rfl⟩

theorem Pair.run_collects :
    Collects (fun (p : Pair D₁ L₁ D₂ L₂) c => (p.step envA envB c).map fun r => (r.1, [r.2])) (Pair.run envA envB) :=
  ⟨fun _ => rfl, fun p c _ => by rw [Pair.run]; cases p.step envA envB c <;> rfl⟩

def lefts {α β : Type} : List (α ⊕ β) → List α
  | [] => []
  | .inl x :: l => x :: lefts l
  | .inr _ :: l => lefts l

def rights {α β : Type} : List (α ⊕ β) → List β
  | [] => []
  | .inl _ :: l => rights l
  | .inr x :: l => x :: rights l

def Tagged.as : List Tagged → List Value
  | [] => []
  | .a v :: l => v :: Tagged.as l
  | .b _ :: l => Tagged.as l

def Tagged.bs : List Tagged → List Value
  | [] => []
  | .a _ :: l => Tagged.bs l
  | .b v :: l => v :: Tagged.bs l

end pair

/-! ### fresh editors and what a reset keeps -/

/-- the constructor arguments and the configuration of an editor -/
structure Config (D L : Type) where
  /-- the installed phonetic layout, in its initial (empty) state -/
  syl : L
  engine : EngineKind
  dict : D
  abbr : List (Nat × Text)
  symSel : SymSel
  options : Options
  /-- initial clock of the frequency estimator (`LaxUserFreqEstimate::new(t)` / `max_from(user_dict)`) -/
  time : Nat

/-- `Editor::new(engine, dict, estimate, abbr, sym_sel)` followed by `set_editor_options`,
    `set_syllable_editor`: every other field of `SharedState` has its initial value (empty composition,
    cursor 0, no saved cursor, `last_key_behavior = Absorb`, `dirty_level = 0`, `nth_conversion = 0`,
    empty commit / notice buffers), state `Entering` -/
def Editor.fresh (cfg : Config D L) : Editor D L :=
  { shared := { syl := cfg.syl, engine := cfg.engine, dict := cfg.dict, abbr := cfg.abbr, symSel := cfg.symSel,
                time := cfg.time, options := cfg.options },
    state := .entering }

/-- what a reset keeps of an editor: its configuration, dictionary, tables, the layout object (cleared)
    and the running clock -/
def Editor.config (e : Editor D L) : Config D L :=
  { syl := env.clearSyl e.shared.syl, engine := e.shared.engine, dict := e.shared.dict, abbr := e.shared.abbr,
    symSel := e.shared.symSel, options := e.shared.options, time := e.shared.time }

/-- set the pending flush level (the only field a reset keeps that a fresh editor cannot be given) -/
def Editor.withDirty (e : Editor D L) (k : Nat) : Editor D L := { e with shared := { e.shared with dirty := k } }

/-- `Editor::clear` as it was before the F25 fix: `CompositionEditor::clear` kept `cursor_stack` -/
def Editor.clearBeforeFix (e : Editor D L) : Editor D L :=
  { shared := { Shared.clear env e.shared with com := { e.shared.com with inner := e.shared.com.inner.clear, cursor := 0 } },
    state := .entering }

end

/-! ### the C context: editor + iterator slots (capi/src/public.rs) -/

/-- an iterator slot of the context (`Option<Peekable<…>>`): the items not yet handed out -/
abbrev Slot (α : Type) := Option (List α)

namespace Slot

/-- `*_hasNext`: `peek().is_some()` -/
def hasNext {α : Type} (s : Slot α) : Bool :=
  match s with
  | some (_ :: _) => true
  | _ => false

/-- `*_String` / `*_Get`: `next()` -/
def next {α : Type} (s : Slot α) : Option α × Slot α :=
  match s with
  | some (x :: xs) => (some x, some xs)
  | s => (none, s)

/-- the documented loop `while hasNext { get }`, with fuel -/
def drain {α : Type} : Nat → Slot α → List α × Slot α
  | 0, s => ([], s)
  | fuel + 1, s =>
    if s.hasNext then
      match s.next with
      | (some x, s') => let r := drain fuel s'; (x :: r.1, r.2)
      | (none, s') => ([], s')
    else ([], s)

theorem drain_some {α : Type} (l : List α) : ∀ fuel, l.length ≤ fuel → drain fuel (some l) = (l, some []) := by
  induction l with
  | nil => intro fuel _; cases fuel <;> rfl
  | cons x xs ih =>
    intro fuel h
    cases fuel with
    | zero => simp at h
    | succ f =>
      have := ih f (by simpa using h)
      simp [drain, hasNext, next, this]

end Slot

/-- the context: the editor, plus the slots written by `chewing_cand_Enumerate`,
    `chewing_interval_Enumerate`, `chewing_kbtype_Enumerate` (`chewing_userphrase_enumerate` has the same
    shape; its source, the user dictionary's entry list, is not part of `Env`) -/
structure Ctx (D L : Type) where
  ed : Editor D L
  cand : Slot Text := none
  iv : Slot Interval := none
  kb : Slot Nat := none

/-- the enumerate-style C calls -/
inductive CQuery where
  | candEnumerate | candHasNext | candString
  | intervalEnumerate | intervalHasNext | intervalGet
  | kbtypeEnumerate | kbtypeHasNext | kbtypeString
  /-- any plain getter of the editor -/
  | plain (q : Query)
deriving DecidableEq

/-- answers of the enumerate-style calls -/
inductive CAns where
  | none
  | bool (b : Bool)
  | text (t : Option Text)
  | iv (i : Option Interval)
  | kb (k : Option Nat)
  | val (v : Outcome Value)
deriving DecidableEq

section
variable {D L : Type} (env : Env D L)

/-- the number of keyboard layouts (`KeyboardLayoutCompat`) -/
def kbTypes : List Nat := List.range 17

/-- the enumerate-style calls as coded: `Enumerate` overwrites its own slot (the candidate one only
    while a list is open), `hasNext` peeks (`chewing_cand_hasNext` answers 0 outside `Selecting`),
    `String`/`Get` advance the slot; nothing else is written -/
def Ctx.cquery (c : Ctx D L) : CQuery → Ctx D L × CAns
  | .candEnumerate =>
    match c.ed.query env .paginatedCandidates with
    | .ok (.texts l) => ({ c with cand := some l }, .none)
    | _ => (c, .none)
  | .candHasNext =>
    match c.ed.state with
    | .selecting _ => (c, .bool c.cand.hasNext)
    | _ => (c, .bool false)
  | .candString => ({ c with cand := c.cand.next.2 }, .text c.cand.next.1)
  | .intervalEnumerate =>
    match Shared.conversion env c.ed.shared with
    | .ok l => ({ c with iv := some (l.filter (·.isPhrase)) }, .none)
    | _ => (c, .none)
  | .intervalHasNext => (c, .bool c.iv.hasNext)
  | .intervalGet => ({ c with iv := c.iv.next.2 }, .iv c.iv.next.1)
  | .kbtypeEnumerate => ({ c with kb := some kbTypes }, .none)
  | .kbtypeHasNext => (c, .bool c.kb.hasNext)
  | .kbtypeString => ({ c with kb := c.kb.next.2 }, .kb c.kb.next.1)
  | .plain q => (c, .val (c.ed.query env q))

/-- an operation of the context: only the editor is read and written -/
def Ctx.cop (c : Ctx D L) (o : Op L) : Outcome (Ctx D L × Value) :=
  (c.ed.applyR env o).map fun r => ({ c with ed := r.1 }, r.2)

/-- a call on the context -/
inductive CCall (L : Type) where
  | op (o : Op L)
  | q (q : CQuery)

/-- run calls; collect the return values of the operations only -/
def Ctx.run (c : Ctx D L) : List (CCall L) → Outcome (Ctx D L × List Value)
  | [] => .ok (c, [])
  | .op o :: cs =>
    match c.cop env o with
    | .ok (c', v) => (Ctx.run c' cs).map fun r => (r.1, v :: r.2)
    | .panic p => .panic p
    | .outOfFuel => .outOfFuel
  | .q q :: cs => Ctx.run (c.cquery env q).1 cs

/-- what a client sees of one C call: the return value of an operation or the answer of a getter -/
inductive CEv where
  | ret (v : Value)
  | ans (a : CAns)
deriving DecidableEq

/-- run calls; collect EVERYTHING the client sees (slot reads without Enumerate included) -/
def Ctx.trace (c : Ctx D L) : List (CCall L) → Outcome (Ctx D L × List CEv)
  | [] => .ok (c, [])
  | .op o :: cs =>
    match c.cop env o with
    | .ok (c', v) => (Ctx.trace c' cs).map fun r => (r.1, .ret v :: r.2)
    | .panic p => .panic p
    | .outOfFuel => .outOfFuel
  | .q q :: cs => (Ctx.trace (c.cquery env q).1 cs).map fun r => (r.1, .ans (c.cquery env q).2 :: r.2)

/-- `chewing_Reset` (capi/src/io.rs, after the second C17 fix): the editor is cleared and the iterator
    slots are dropped -/
def Ctx.reset (c : Ctx D L) : Ctx D L := { ed := c.ed.clear env }

/-- `chewing_Reset` as it was: only `ctx.editor.clear()`, the slots kept -/
def Ctx.resetBeforeFix (c : Ctx D L) : Ctx D L := { c with ed := c.ed.clear env }

/-- `chewing_new2`: a new editor, empty slots -/
def Ctx.fresh (cfg : Config D L) : Ctx D L := { ed := Editor.fresh cfg }

def CCall.strip : List (CCall L) → List (Op L)
  | [] => []
  | .op o :: cs => o :: CCall.strip cs
  | .q _ :: cs => CCall.strip cs

end

/-! ### the process-wide logger slot (capi/src/io.rs `static LOGGER`, capi/src/logger.rs) -/

/-- calls that touch the logger slot, per context id -/
inductive LogCall where
  /-- `chewing_new2(.., logger, data)`: installs the callback only when one is given -/
  | new2 (ctx : Nat) (withLogger : Bool)
  /-- `chewing_delete(ctx)`: `LOGGER.set(None)` whoever owns the slot -/
  | delete (ctx : Nat)
  /-- `chewing_set_logger(ctx, logger, data)` -/
  | setLogger (ctx : Nat) (withLogger : Bool)
  /-- any call on `ctx` that emits a log line -/
  | work (ctx : Nat)
deriving DecidableEq

/-- the slot: whose callback and data pointer are installed -/
abbrev LogSlot := Option Nat

/-- one call: new slot, and for `work` who emitted and whose callback received the line -/
def LogSlot.step (s : LogSlot) : LogCall → LogSlot × Option (Nat × Option Nat)
  | .new2 c true => (some c, none)
  | .new2 _ false => (s, none)
  | .delete _ => (none, none)
  | .setLogger c true => (some c, none)
  | .setLogger _ false => (none, none)
  | .work c => (s, some (c, s))

/-- deliveries of a history: (emitting context, receiving callback) -/
def LogSlot.run (s : LogSlot) : List LogCall → List (Nat × Option Nat)
  | [] => []
  | c :: cs =>
    match (s.step c).2 with
    | some d => d :: LogSlot.run (s.step c).1 cs
    | none => LogSlot.run (s.step c).1 cs

/-- does the call touch the slot on behalf of a context other than `c`? (the class `F33-logger-global`) -/
def LogCall.foreign (c : Nat) : LogCall → Bool
  | .new2 d true => d != c
  | .new2 _ false => false
  | .delete d => d != c
  | .setLogger d _ => d != c
  | .work _ => false

/-- does the call (by `c` itself) remove `c`'s callback? -/
def LogCall.uninstalls (c : Nat) : LogCall → Bool
  | .delete d => d == c
  | .setLogger d false => d == c
  | _ => false

end Chewing
