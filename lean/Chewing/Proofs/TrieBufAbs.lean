import Chewing.Proofs.TrieBuild
/-!
`TrieBuf`: the pending tree and the graveyard as finite maps / sets, how `put` / `remove` change the
denoted map over *any* persisted layer, and the enumeration of a trie file (`Trie.entries`): selecting
its entries by a predicate on the key is selecting leaves, which is what the lookups do.
-/
namespace Chewing
open MapSpec

namespace TrieBuf
open Trie

def KeysOk (bt : List (PKey × Val)) : Prop := bt.Pairwise (fun a b => a.1 ≠ b.1)

theorem KeysOk.unique {bt : List (PKey × Val)} (h : KeysOk bt) {a b : PKey × Val} (ha : a ∈ bt) (hb : b ∈ bt)
    (e : a.1 = b.1) : a = b :=
  key_unique h ha hb e

theorem btGet_iff {bt : List (PKey × Val)} (h : KeysOk bt) {k : PKey} {v : Val} :
    btGet bt k = some v ↔ (k, v) ∈ bt :=
  find_key_snd_iff h

theorem btGet_eq_none {bt : List (PKey × Val)} {k : PKey} : btGet bt k = none ↔ ∀ v, (k, v) ∉ bt := by
  unfold btGet
  simp only [Option.map_eq_none_iff, List.find?_eq_none, beq_iff_eq]
  exact ⟨fun h v hm => h (k, v) hm rfl, fun h e he hk => h e.2 (by rw [← hk]; exact he)⟩

theorem btHas_iff {bt : List (PKey × Val)} {k : PKey} : btHas bt k = true ↔ ∃ v, (k, v) ∈ bt := by
  unfold btHas
  simp only [List.any_eq_true, beq_iff_eq]
  exact ⟨fun ⟨e, he, hk⟩ => ⟨e.2, by rw [← hk]; exact he⟩, fun ⟨v, hv⟩ => ⟨(k, v), hv, rfl⟩⟩

theorem btHas_false {bt : List (PKey × Val)} {k : PKey} : btHas bt k = false ↔ ∀ v, (k, v) ∉ bt := by
  rw [← Bool.not_eq_true, btHas_iff]
  exact not_exists

theorem mem_btreeRange {bt : List (PKey × Val)} {k : Key} {p : Phrase} :
    p ∈ btreeRange bt k ↔ ∃ v, ((k, p.text), v) ∈ bt ∧ p = mkPhrase p.text v := by
  unfold btreeRange
  simp only [List.mem_map, List.mem_filter, beq_iff_eq]
  constructor
  · rintro ⟨e, ⟨he, rfl⟩, rfl⟩; exact ⟨e.2, he, rfl⟩
  · rintro ⟨v, hm, hp⟩; exact ⟨((k, p.text), v), ⟨hm, rfl⟩, hp.symm⟩

theorem leafOk_btreeRange {bt : List (PKey × Val)} (h : KeysOk bt) (k : Key) : LeafOk (btreeRange bt k) := by
  refine List.pairwise_map.mpr ((List.Pairwise.filter _ h).imp_of_mem fun ha hb hab e => hab ?_)
  exact Prod.ext ((beq_iff_eq.mp (List.mem_filter.mp ha).2).trans (beq_iff_eq.mp (List.mem_filter.mp hb).2).symm) e

theorem mem_btInsert {bt : List (PKey × Val)} {k : PKey} {v : Val} {x : PKey × Val} :
    x ∈ btInsert bt k v ↔ x = (k, v) ∨ (x ∈ bt ∧ x.1 ≠ k) := by
  unfold btInsert
  rw [mem_place]
  simp [List.mem_filter]

theorem keysOk_btErase {bt : List (PKey × Val)} (h : KeysOk bt) (k : PKey) : KeysOk (btErase bt k) :=
  List.Pairwise.filter _ h

theorem keysOk_btInsert {bt : List (PKey × Val)} (h : KeysOk bt) (k : PKey) (v : Val) : KeysOk (btInsert bt k v) := by
  unfold btInsert KeysOk
  have hp := place_perm (fun a b : PKey × Val => pkeyLt a.1 b.1) (k, v) (bt.filter (fun e => e.1 != k))
  rw [hp.pairwise_iff (fun {x y} (hxy : x.1 ≠ y.1) => hxy.symm), List.pairwise_cons]
  refine ⟨fun a ha e => ?_, keysOk_btErase h k⟩
  simpa [← e] using (List.mem_filter.mp ha).2

theorem btGet_btInsert {bt : List (PKey × Val)} (h : KeysOk bt) (k : PKey) (v : Val) (k' : PKey) :
    btGet (btInsert bt k v) k' = if k' = k then some v else btGet bt k' := by
  apply Option.ext
  intro w
  rw [btGet_iff (keysOk_btInsert h k v), mem_btInsert]
  split
  · subst k'; simp [eq_comm]
  · rename_i e; simp [e, btGet_iff h]

theorem btGet_btErase (bt : List (PKey × Val)) (k : PKey) (k' : PKey) :
    btGet (btErase bt k) k' = if k' = k then none else btGet bt k' := by
  unfold btGet btErase
  rw [find_filter_key_ne (f := fun e : PKey × Val => e.1) bt k k']
  split <;> rfl

theorem contains_graveErase (g : List PKey) (k k' : PKey) :
    (graveErase g k).contains k' = (g.contains k' && k' != k) := by
  rw [Bool.eq_iff_iff]
  simp [graveErase]

theorem contains_graveInsert (g : List PKey) (k k' : PKey) :
    (graveInsert g k).contains k' = (g.contains k' || k' == k) := by
  rw [Bool.eq_iff_iff]
  unfold graveInsert
  split
  · rename_i h
    simpa using fun e : k' = k => e ▸ List.contains_iff_mem.mp h
  · simp [or_comm]

/-- `add_phrase` / `update_phrase` write one key of the denoted map, whatever the persisted layer is -/
theorem absOver_put (b : List Leaf) {s : State} (h : KeysOk s.btree) (k : PKey) (v : Val) :
    absOver b (put s k v) = (absOver b s).set k (some v) := by
  funext k'
  unfold absOver put Map.set
  simp only [contains_graveErase, btGet_btInsert h]
  by_cases e : k' = k
  · subst e; simp
  · simp [e]

/-- the `remove_phrase` arm of `TrieBuf.apply` -/
def removeSt (s : State) (k : PKey) : State :=
  { s with btree := btErase s.btree k, grave := graveInsert s.grave k, dirty := true }

theorem apply_remove (s : State) (k : Key) (t : Text) : apply s (.remove k t) = removeSt s (k, t) := rfl

theorem absOver_remove (b : List Leaf) (s : State) (k : PKey) :
    absOver b (removeSt s k) = (absOver b s).set k none := by
  funext k'
  unfold absOver removeSt Map.set
  simp only [contains_graveInsert, btGet_btErase]
  by_cases e : k' = k
  · subst e; simp
  · simp [e]

theorem valOf_mkPhrase (t : Text) (v : Val) : valOf (mkPhrase t v) = v := by
  simp [valOf, mkPhrase]

/-! ### a trie file: lookups and enumeration -/

theorem mem_lookupAll {t : List Leaf} {q : Key} {st : Strategy} {p : Phrase} :
    p ∈ Trie.lookupAll t q st ↔ ∃ l ∈ t, keyMatch st l.1 q = true ∧ p ∈ l.2 := by
  unfold Trie.lookupAll Trie.lookupLeaves
  simp only [List.mem_flatten, List.mem_map, List.mem_filter]
  constructor
  · rintro ⟨ps, ⟨l, ⟨hl, hm⟩, rfl⟩, hp⟩; exact ⟨l, hl, hm, hp⟩
  · rintro ⟨l, hl, hm, hp⟩; exact ⟨l.2, ⟨l, ⟨hl, hm⟩, rfl⟩, hp⟩

theorem mem_lookupAll_std {t : List Leaf} {k : Key} {p : Phrase} :
    p ∈ Trie.lookupAll t k .standard ↔ ∃ l ∈ t, l.1 = k ∧ p ∈ l.2 := by
  simp only [mem_lookupAll, keyMatch, beq_iff_eq]

theorem mem_lookupAll_fuzzy {t : List Leaf} {q : Key} {p : Phrase} :
    p ∈ Trie.lookupAll t q .fuzzyPartialPrefix ↔ ∃ l ∈ t, fuzzyMatch l.1 q = true ∧ p ∈ l.2 :=
  mem_lookupAll

theorem lookupAll_std {t : List Leaf} (h : t.Pairwise (fun a b => a.1 ≠ b.1)) (k : Key) :
    Trie.lookupAll t k .standard = ((t.find? (fun l => l.1 == k)).map (·.2)).getD [] := by
  show ((t.filter (fun l => l.1 == k)).map (·.2)).flatten = _
  rw [filter_key_eq_find h]
  cases t.find? (fun l => l.1 == k) <;> simp

theorem leafOk_lookupAll_std {t : List Leaf} (h : SnapOk t) (k : Key) : LeafOk (Trie.lookupAll t k .standard) := by
  rw [lookupAll_std h.1]
  cases hf : t.find? (fun l => l.1 == k) with
  | none => exact List.Pairwise.nil
  | some l => exact h.2 l (List.mem_of_find?_eq_some hf)

theorem mem_trie_entries {t : List Leaf} {e : Entry} : e ∈ Trie.entries t ↔ ∃ l ∈ t, l.1 = e.1 ∧ e.2 ∈ l.2 := by
  unfold Trie.entries
  simp only [List.mem_flatMap, List.mem_map]
  constructor
  · rintro ⟨l, hl, p, hp, rfl⟩; exact ⟨l, hl, rfl, hp⟩
  · rintro ⟨l, hl, e1, hp⟩; exact ⟨l, hl, e.2, hp, by rw [e1]⟩

theorem trie_entries_of_pred (t : List Leaf) (P : Key → Bool) :
    ((Trie.entries t).filter (fun e => P e.1)).map (·.2) = ((t.filter (fun l => P l.1)).map (·.2)).flatten := by
  have := filter_flatMap_key (fun e : Entry => e.1) (fun l : Leaf => l.1) (fun l => l.2.map fun p => (l.1, p))
    (fun l e he => by obtain ⟨p, _, rfl⟩ := List.mem_map.mp he; rfl) P t
  rw [Trie.entries, this]
  simp [List.flatMap_def, Function.comp_def]

theorem trie_entries_of_match (t : List Leaf) (q : Key) (st : Strategy) :
    ((Trie.entries t).filter (fun e => keyMatch st e.1 q)).map (·.2) = Trie.lookupAll t q st :=
  trie_entries_of_pred t (fun k => keyMatch st k q)

/-- the persisted candidates of a prefix lookup are what `Trie::lookup_all_phrases` returns for that
    strategy: with nothing pending and no tombstone the repaired code answers as the code before the fix -/
theorem trie_entries_fuzzy (t : List Leaf) (q : Key) :
    ((Trie.entries t).filter (fun e => fuzzyMatch e.1 q)).map (·.2) = Trie.lookupAll t q .fuzzyPartialPrefix :=
  trie_entries_of_match t q .fuzzyPartialPrefix

/-- the entry's own key -/
def pkeyOf (e : Entry) : PKey := (e.1, e.2.text)

theorem pairwise_trie_entries {t : List Leaf} (h : SnapOk t) :
    (Trie.entries t).Pairwise (fun a b => pkeyOf a ≠ pkeyOf b) := by
  unfold Trie.entries
  rw [List.pairwise_flatMap]
  constructor
  · intro l hl
    exact List.pairwise_map.mpr ((h.2 l hl).imp fun hab e => hab (Prod.mk.inj e).2)
  · refine h.1.imp fun hab x hx y hy e => ?_
    obtain ⟨p, _, rfl⟩ := List.mem_map.mp hx
    obtain ⟨q, _, rfl⟩ := List.mem_map.mp hy
    exact hab (Prod.mk.inj e).1

theorem mem_match_entries {mt : Key → Key → Bool} {es : List Entry} {q : Key} {p : Phrase} :
    p ∈ (es.filter (fun e => mt e.1 q)).map (·.2) ↔ ∃ key, mt key q = true ∧ (key, p) ∈ es := by
  simp only [List.mem_map, List.mem_filter]
  constructor
  · rintro ⟨e, ⟨he, hm⟩, rfl⟩; exact ⟨e.1, hm, he⟩
  · rintro ⟨key, hm, he⟩; exact ⟨(key, p), ⟨he, hm⟩, rfl⟩

theorem nodup_texts_of_key {es : List Entry} (h : (es.map pkeyOf).Nodup) (k : Key) :
    (texts ((es.filter (fun e => e.1 == k)).map (·.2))).Nodup := by
  rw [texts, List.map_map]
  refine List.pairwise_map.mpr (((List.pairwise_map.mp h).filter _).imp_of_mem fun ha hb hab e => hab ?_)
  rw [pkeyOf, pkeyOf, beq_iff_eq.mp (List.mem_filter.mp ha).2, beq_iff_eq.mp (List.mem_filter.mp hb).2]
  exact congrArg (Prod.mk k) e

end TrieBuf

end Chewing
