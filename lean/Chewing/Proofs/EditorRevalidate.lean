import Chewing.Proofs.EditorSteps
/-!
`Editor::revalidate_selecting` (the F32 repair): what it can do to an editor.  Used by every property
that reasons about the option / layout / dictionary calls (`Editor.apply` on `setOptions`, `setLayout`,
`learn`, `unlearn` ends with it).  Then case principles, in the manner of `Proofs/EditorSteps.lean`, for the
entry points beside `process_keyevent`: `Editor::select`, `Editor::start_selecting` and the four jumps.
-/
namespace Chewing

variable {D L : Type} (env : Env D L)

/-- the three things `revalidate_selecting` can do: nothing, the page of an open list being below the page count;
    clamp the page of the open list to the last page; close a list that has become empty (`cancel_selecting`) -/
theorem revalidate_cases {e e' : Editor D L} (h : e.revalidate env = .ok e') :
    (e' = e ∧ ∀ s, e.state = .selecting s → ∃ tp, Selecting.totalPage env s e.shared = .ok tp ∧ s.pageNo < tp) ∨
    (∃ s tp, e.state = .selecting s ∧ Selecting.totalPage env s e.shared = .ok tp ∧ 0 < tp ∧ tp ≤ s.pageNo ∧
      e' = { e with state := .selecting { s with pageNo := tp - 1 } }) ∨
    (∃ s, e.state = .selecting s ∧ Selecting.totalPage env s e.shared = .ok 0 ∧
      e' = { shared := Shared.cancelSelecting e.shared, state := .entering }) := by
  unfold Editor.revalidate at h
  split at h
  · next s hs =>
    split at h
    · next tp ht =>
      by_cases h0 : tp = 0
      · cases h0
        cases h
        exact .inr (.inr ⟨s, hs, ht, rfl⟩)
      · rw [if_neg (fun e => h0 (beq_iff_eq.1 e))] at h
        by_cases hge : s.pageNo ≥ tp
        · rw [if_pos hge] at h
          cases h
          exact .inr (.inl ⟨s, tp, hs, ht, Nat.pos_of_ne_zero h0, hge, rfl⟩)
        · rw [if_neg hge] at h
          cases h
          exact .inl ⟨rfl, fun s' hs' => by cases hs.symm.trans hs'; exact ⟨tp, ht, Nat.not_le.mp hge⟩⟩
    · cases h
    · cases h
  · next hns => cases h; exact .inl ⟨rfl, fun s hs => absurd hs (hns s)⟩

/-- outside `Selecting` it does nothing -/
theorem revalidate_not_selecting {e : Editor D L} (h : ∀ s, e.state ≠ .selecting s) : e.revalidate env = .ok e := by
  unfold Editor.revalidate
  split
  · rename_i s hs; exact absurd hs (h s)
  · rfl

/-- the resulting state: unchanged, the same list on another page, or `Entering` -/
theorem revalidate_state {e e' : Editor D L} (h : e.revalidate env = .ok e') :
    e'.state = e.state ∨ (∃ s k, e.state = .selecting s ∧ e'.state = .selecting { s with pageNo := k }) ∨
    (e'.state = .entering ∧ ∃ s, e.state = .selecting s) := by
  rcases revalidate_cases env h with ⟨rfl, _⟩ | ⟨s, tp, hs, _, _, _, rfl⟩ | ⟨s, hs, _, rfl⟩
  · exact .inl rfl
  · exact .inr (.inl ⟨s, _, hs, rfl⟩)
  · exact .inr (.inr ⟨rfl, s, hs⟩)

/-- every field of the shared state except the buffer's cursor stack / cursor is untouched -/
theorem revalidate_fields {e e' : Editor D L} (h : e.revalidate env = .ok e') :
    e'.shared = { e.shared with com := e'.shared.com } ∧
    (e'.shared.com = e.shared.com ∨ e'.shared.com = e.shared.com.popCursor) := by
  rcases revalidate_cases env h with ⟨rfl, _⟩ | ⟨s, tp, _, _, _, _, rfl⟩ | ⟨s, _, _, rfl⟩
  · exact ⟨rfl, .inl rfl⟩
  · exact ⟨rfl, .inl rfl⟩
  · exact ⟨rfl, .inr rfl⟩

/-! ### the other entry points -/

theorem C05.leaveIfEmpty_shared (e : Editor D L) : (Editor.leaveIfEmpty env e).shared = e.shared := by
  unfold Editor.leaveIfEmpty; split <;> rfl

theorem leaveIfEmpty_selecting (e : Editor D L) {s : Selecting} (h : (Editor.leaveIfEmpty env e).state = .selecting s) :
    e.state = .selecting s := by
  unfold Editor.leaveIfEmpty at h
  split at h
  · cases h
  · exact h

/-- `Editor::select(n)` (= `chewing_cand_choose_by_index`): refused outside `Selecting` (`hno`); else
    `Selecting::select`, its transition applied and — back in an editing state after an *absorb* — the auto-commit -/
theorem editorSelect_all {Q : Editor D L × Bool → Prop} {e : Editor D L} {n : Nat}
    (hno : (∀ s, e.state ≠ .selecting s) → Q (e, false))
    (h : ∀ s s' sh t sh2, e.state = .selecting s → Selecting.select env s e.shared n = .ok (s', sh, t) →
      (if ((applyTrans sh (.selecting s') t).2 == .entering || (applyTrans sh (.selecting s') t).2 == .enteringSyllable) &&
          (applyTrans sh (.selecting s') t).1.last == .absorb
        then Shared.tryAutoCommit env (applyTrans sh (.selecting s') t).1
        else .ok (applyTrans sh (.selecting s') t).1) = .ok sh2 →
      Q ({ shared := sh2, state := (applyTrans sh (.selecting s') t).2 }, sh2.last != .bell)) :
    ResAll Q (e.select env n) := by
  unfold Editor.select
  split
  · next s hs =>
    split
    · next s' sh t hq =>
      dsimp only
      split
      · next sh2 h2 => exact .ok (h s s' sh t sh2 hs hq h2)
      · exact .panic _
      · exact .fuel
    · exact .panic _
    · exact .fuel
  · next hns => exact .ok (hno hns)

/-- `Editor::start_selecting` (= `chewing_cand_open`): `Entering::start_selecting` from the two editing states (from
    `EnteringSyllable` with the phonetic buffer cleared), a bell from the others; the transition is applied, and
    the flag tells whether a list is open afterwards -/
theorem editorStartSelecting_all {Q : Editor D L × Bool → Prop} {e : Editor D L}
    (h : ∀ sh t e', (e.state = .entering ∧ startSelecting env e.shared = .ok (sh, t)) ∨
        (e.state = .enteringSyllable ∧
          startSelecting env { e.shared with syl := env.clearSyl e.shared.syl } = .ok (sh, t)) ∨
        (e.state ≠ .entering ∧ e.state ≠ .enteringSyllable ∧ sh = e.shared ∧ t = .spin .bell) →
      e' = Editor.leaveIfEmpty env { shared := (applyTrans sh e.state t).1, state := (applyTrans sh e.state t).2 } →
      Q (e', match e'.state with | .selecting _ => true | _ => false)) :
    ResAll Q (e.startSelecting env) := by
  unfold Editor.startSelecting
  dsimp only
  split
  · next sh t hr =>
    refine .ok (h sh t _ ?_ rfl)
    split at hr
    · next hs => exact .inl ⟨hs, hr⟩
    · next hs => exact .inr (.inl ⟨hs, hr⟩)
    · next h1 h2 => cases hr; exact .inr (.inr ⟨h1, h2, rfl, rfl⟩)
  · exact .panic _
  · exact .fuel

/-- `jump_to_{first,last,next,prev}_selection_point` (= `chewing_cand_list_*`, `which` = 0, 1, 2, 3): without an open
    phrase list, or without a next / previous selection point, the call is refused and nothing changes (`hno`);
    else the list goes to page 0 of the range `p'`: re-initialised from the position the list was opened at, the
    last, the next or the previous selection point -/
theorem jump_all {Q : Editor D L × Bool → Prop} {e : Editor D L} {which : Nat} (hno : Q (e, false))
    (hmove : ∀ s p p', e.state = .selecting s → s.sel = .phrase p →
      (which = 0 ∧ PhraseSel.init env p.forward p.strategy p.com p.orig e.shared.dict = .ok p') ∨
      (which = 1 ∧ PhraseSel.jumpToLast env p e.shared.dict = .ok p') ∨
      (∃ b en, which = 2 ∧ PhraseSel.nextSelectionPoint env p e.shared.dict = .ok (some (b, en)) ∧
        p' = { p with begin_ := b, end_ := en }) ∨
      (∃ b en, 2 < which ∧ PhraseSel.prevSelectionPoint env p e.shared.dict = .ok (some (b, en)) ∧
        p' = { p with begin_ := b, end_ := en }) →
      Q ({ e with state := .selecting { s with sel := .phrase p', pageNo := 0 } }, true)) :
    ResAll Q (e.jump env which) := by
  unfold Editor.jump
  split
  · next s hs =>
    split
    · next p hp =>
      dsimp only
      split
      · split
        · next p' hq => exact .ok (hmove s p p' hs hp (.inl ⟨rfl, hq⟩))
        · exact .panic _
        · exact .fuel
      · split
        · next p' hq => exact .ok (hmove s p p' hs hp (.inr (.inl ⟨rfl, hq⟩)))
        · exact .panic _
        · exact .fuel
      · split
        · next b en hq => exact .ok (hmove s p _ hs hp (.inr (.inr (.inl ⟨b, en, rfl, hq, rfl⟩))))
        · exact .ok hno
        · exact .panic _
        · exact .fuel
      · next h0 h1 h2 =>
        split
        · next b en hq =>
          have hw : 2 < which := Nat.lt_of_le_of_ne (Nat.lt_of_le_of_ne (Nat.pos_of_ne_zero h0) (Ne.symm h1)) (Ne.symm h2)
          exact .ok (hmove s p _ hs hp (.inr (.inr (.inr ⟨b, en, hw, hq, rfl⟩))))
        · exact .ok hno
        · exact .panic _
        · exact .fuel
    · exact .ok hno
  · exact .ok hno

/-- a moved range starts at page 0, a refused jump changes nothing -/
theorem jump_page0 (e : Editor D L) (which : Nat) :
    ResAll (fun x => x.1 = e ∨ (x.1.shared = e.shared ∧ ∃ s, x.1.state = .selecting s ∧ s.pageNo = 0))
      (e.jump env which) :=
  jump_all env (.inl rfl) fun _ _ _ _ _ _ => .inr ⟨rfl, _, rfl, rfl⟩

theorem C05.jump_shared {e e' : Editor D L} {w : Nat} {okk : Bool} (h : e.jump env w = .ok (e', okk)) :
    e'.shared = e.shared := by
  obtain h1 | ⟨h1, _⟩ := jump_page0 env e w _ h
  · exact congrArg (·.shared) h1
  · exact h1

end Chewing
