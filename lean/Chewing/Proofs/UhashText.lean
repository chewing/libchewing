import Chewing.Proofs.UhashDecimal
import Chewing.Proofs.RustText
import Chewing.Proofs.UhashBin
import Chewing.Proofs.UhashAscii
/-!
Round trip of the legacy TEXT store: `loadUhash (encodeText lifetime rs) = liveRecs rs` for every list of
`GRec.TextValid` records and every `i64` lifetime (C19: "every valid record of the legacy store is present"), also for
the `\r\n` / trailing-blank variations (`encodeTextWith`).

Layers: `BufRead::lines` (`lines_enc`, `Proofs/RustText.lean`), `split_ascii_whitespace` (`splitWs_toks`), UTF-8 of phrase ++ ASCII tail
(`validUtf8_append_ascii`, `Proofs/UhashAscii.lean`), the syllable columns (`textSyls_enc`), one line (`textLine_encTextLine`), the file.
-/
namespace Chewing.Uhash

theorem splitWsAux_append : ∀ (tok rest cur : List Nat), (∀ b ∈ tok, isAsciiWs b = false) →
    splitWsAux (tok ++ rest) cur = splitWsAux rest (tok.reverse ++ cur)
  | [], _, _, _ => by simp
  | b :: tok, rest, cur, h => by
    have hb : isAsciiWs b = false := h b List.mem_cons_self
    simp only [List.cons_append, splitWsAux, hb, Bool.false_eq_true, ↓reduceIte]
    rw [splitWsAux_append tok rest (b :: cur) (fun x hx => h x (List.mem_cons_of_mem _ hx))]
    simp

theorem splitWsAux_blank (rest cur : List Nat) :
    splitWsAux (32 :: rest) cur = (if cur.isEmpty then [] else [cur.reverse]) ++ splitWsAux rest [] := by
  have : isAsciiWs 32 = true := rfl
  simp only [splitWsAux, this, ↓reduceIte]
  cases cur <;> simp

theorem splitWsAux_pad : ∀ (pad : Nat) (cur : List Nat),
    splitWsAux (List.replicate pad 32) cur = if cur.isEmpty then [] else [cur.reverse]
  | 0, cur => by simp [splitWsAux]
  | pad + 1, cur => by
    rw [List.replicate_succ, splitWsAux_blank, splitWsAux_pad pad []]
    simp

/-- a token of a line: non-empty, no ASCII white space -/
def TokOk (t : List Nat) : Prop := t ≠ [] ∧ ∀ b ∈ t, isAsciiWs b = false

theorem TokOk.rev_isEmpty {t : List Nat} (h : TokOk t) : (t.reverse ++ []).isEmpty = false := by
  cases ht : t with
  | nil => exact absurd ht h.1
  | cons c r => simp

theorem splitWsAux_toks : ∀ (toks : List (List Nat)) (pad : Nat) (cur : List Nat), (∀ t ∈ toks, TokOk t) →
    splitWsAux (toks.flatMap (fun t => 32 :: t) ++ List.replicate pad 32) cur =
      (if cur.isEmpty then [] else [cur.reverse]) ++ toks
  | [], pad, cur, _ => by simp [splitWsAux_pad]
  | t :: toks, pad, cur, h => by
    have ht := h t List.mem_cons_self
    have hne := ht.rev_isEmpty
    rw [List.flatMap_cons, List.append_assoc, List.cons_append, splitWsAux_blank, splitWsAux_append t _ [] ht.2,
      splitWsAux_toks toks pad _ (fun x hx => h x (List.mem_cons_of_mem _ hx)), hne]
    simp

/-- `split_ascii_whitespace` of blank-separated tokens (with trailing blanks) = the tokens -/
theorem splitWs_toks (t0 : List Nat) (toks : List (List Nat)) (pad : Nat) (h0 : TokOk t0) (h : ∀ t ∈ toks, TokOk t) :
    splitWs (t0 ++ (toks.flatMap (fun t => 32 :: t) ++ List.replicate pad 32)) = t0 :: toks := by
  have hne := h0.rev_isEmpty
  unfold splitWs
  rw [splitWsAux_append t0 _ [] h0.2, splitWsAux_toks toks pad _ h, hne]
  simp

/-- the `n_chars` syllable columns are read back -/
theorem textSyls_enc : ∀ (syls : List Nat) (rest : List (List Nat)), (∀ s ∈ syls, validCode s = true ∧ s < 65536) →
    textSyls syls.length (syls.map natToDigits ++ rest) = some (syls, rest)
  | [], _, _ => rfl
  | s :: ss, rest, h => by
    have hs := h s List.mem_cons_self
    have hp : parseUnsigned u16Max (natToDigits s) = some s :=
      parseUnsigned_natToDigits_le (by simp only [u16Max]; omega)
    simp only [List.length_cons, List.map_cons, List.cons_append, textSyls, hp, hs.1, Bool.not_true,
      Bool.false_eq_true, ↓reduceIte]
    rw [textSyls_enc ss rest (fun x hx => h x (List.mem_cons_of_mem _ hx))]

theorem tokOk_natToDigits (n : Nat) : TokOk (natToDigits n) := ⟨natToDigits_ne_nil n, natToDigits_noWs n⟩

/-- the tail of a record line (everything after the phrase) is ASCII -/
theorem tail_ascii (toks : List (List Nat)) (pad : Nat) (h : ∀ t ∈ toks, ∀ b ∈ t, b < 128) :
    ∀ b ∈ toks.flatMap (fun t => 32 :: t) ++ List.replicate pad 32, b < 128 := by
  intro b hb
  rcases List.mem_append.mp hb with hb | hb
  · obtain ⟨t, ht, hbt⟩ := List.mem_flatMap.mp hb
    rcases List.mem_cons.mp hbt with rfl | hbt
    · omega
    · exact h t ht b hbt
  · have := (List.mem_replicate.mp hb).2
    omega

/-- the normal form of a (padded) record line -/
theorem encTextLine_eq (g : GRec) (pad : Nat) :
    encTextLine g ++ List.replicate pad 32 =
      g.phrase ++ ((g.syls.map natToDigits ++ g.fields.map natToDigits).flatMap (fun t => 32 :: t) ++
        List.replicate pad 32) := by
  simp only [encTextLine, List.flatMap_map, List.flatMap_append, List.append_assoc]

theorem charCount_pos_ne_nil {p : List Nat} (h : 1 ≤ charCount p) : p ≠ [] := by
  intro hp
  subst hp
  simp [charCount] at h

/-- **one line**: the reader decodes the (padded) line of a live text-valid record to exactly that record.
    Hypotheses actually used: ≥ 1 syllable, syllables are 16-bit codes `Syllable::try_from` accepts, phrase valid
    UTF-8 with one character per syllable and no ASCII white space, four fields below 2^31 (live). -/
theorem textLine_encTextLine_pad (g : GRec) (pad : Nat) (hv : g.TextValid) (hl : g.live = true) :
    textLine (encTextLine g ++ List.replicate pad 32) = some g.toRec := by
  obtain ⟨hl1, _, hs, _, hutf, hcc, hws, hf4, _⟩ := hv
  obtain ⟨f, t, m, o, hfl⟩ := length_eq_four hf4
  have hlive : f < 2147483648 ∧ t < 2147483648 ∧ m < 2147483648 ∧ o < 2147483648 := by
    have := hl
    simp only [GRec.live, hfl, List.all_cons, List.all_nil, Bool.and_true, Bool.and_eq_true, decide_eq_true_eq] at this
    exact this.2
  have htoks : ∀ x ∈ g.syls.map natToDigits ++ g.fields.map natToDigits, TokOk x ∧ ∀ b ∈ x, b < 128 := by
    intro x hx
    rcases List.mem_append.mp hx with hx | hx <;>
    · obtain ⟨n, _, rfl⟩ := List.mem_map.mp hx
      exact ⟨tokOk_natToDigits n, natToDigits_ascii n⟩
  have hp0 : TokOk g.phrase := ⟨charCount_pos_ne_nil (by omega), hws⟩
  rw [encTextLine_eq]
  unfold textLine
  rw [validUtf8_append_ascii _ _ hutf (tail_ascii _ pad (fun x hx => (htoks x hx).2)),
    splitWs_toks g.phrase _ pad hp0 (fun x hx => (htoks x hx).1)]
  simp only [Bool.not_true, Bool.false_eq_true, ↓reduceIte]
  rw [hcc, textSyls_enc g.syls _ hs, hfl]
  have hF : parseUnsigned u32Max (natToDigits f) = some f := parseUnsigned_natToDigits_le (by simp only [u32Max]; omega)
  have hT : parseUnsigned u64Max (natToDigits t) = some t := parseUnsigned_natToDigits_le (by simp only [u64Max]; omega)
  have hM : parseUnsigned u32Max (natToDigits m) = some m := parseUnsigned_natToDigits_le (by simp only [u32Max]; omega)
  have hO : parseUnsigned u32Max (natToDigits o) = some o := parseUnsigned_natToDigits_le (by simp only [u32Max]; omega)
  simp only [List.map_cons, List.map_nil, hF, hT, hM, hO]
  simp [GRec.toRec, hfl]

theorem textLine_encTextLine (g : GRec) (hv : g.TextValid) (hl : g.live = true) :
    textLine (encTextLine g) = some g.toRec := by
  have := textLine_encTextLine_pad g 0 hv hl
  simpa using this

theorem textLines_enc (pad : Nat) : ∀ (gs : List GRec), (∀ g ∈ gs, g.TextValid ∧ g.live = true) →
    textLines (gs.map (fun g => encTextLine g ++ List.replicate pad 32)) = some (gs.map GRec.toRec)
  | [], _ => rfl
  | g :: gs, h => by
    have hg := h g List.mem_cons_self
    simp only [List.map_cons, textLines, textLine_encTextLine_pad g pad hg.1 hg.2,
      textLines_enc pad gs (fun x hx => h x (List.mem_cons_of_mem _ hx))]

theorem natToDigits_ne10_13 (n : Nat) : ∀ b ∈ natToDigits n, b ≠ 10 ∧ b ≠ 13 := fun b hb => by
  have := isDigit_iff.mp (natToDigits_digits n b hb); omega

/-- a (padded) record line of a text-valid record contains neither `\n` nor `\r` -/
theorem encTextLine_clean (g : GRec) (pad : Nat) (hws : ∀ b ∈ g.phrase, isAsciiWs b = false) :
    ∀ b ∈ encTextLine g ++ List.replicate pad 32, b ≠ 10 ∧ b ≠ 13 := by
  intro b hb
  have hnum : ∀ (l : List Nat), b ∈ l.flatMap (fun s => 32 :: natToDigits s) → b ≠ 10 ∧ b ≠ 13 := by
    intro l hb
    obtain ⟨s, _, hbs⟩ := List.mem_flatMap.mp hb
    rcases List.mem_cons.mp hbs with rfl | hbs
    · omega
    · exact natToDigits_ne10_13 s b hbs
  rcases List.mem_append.mp hb with hb | hb
  · unfold encTextLine at hb
    rcases List.mem_append.mp hb with hb | hb
    · have := hws b hb
      simp only [isAsciiWs, Bool.or_eq_false_iff, beq_eq_false_iff_ne] at this
      omega
    · rcases List.mem_append.mp hb with hb | hb
      · exact hnum _ hb
      · exact hnum _ hb
  · have := (List.mem_replicate.mp hb).2
    omega

theorem lineOk_of_clean (crlf : Bool) (l : List Nat) (h : ∀ b ∈ l, b ≠ 10 ∧ b ≠ 13) : LineOk crlf l := by
  refine ⟨fun b hb => (h b hb).1, fun _ hlast => ?_⟩
  have := List.mem_of_getLast? hlast
  exact (h 13 this).2 rfl

theorem intToDigits_clean (z : Int) : ∀ b ∈ intToDigits z, b ≠ 10 ∧ b ≠ 13 := fun b hb => by
  have := intToDigits_mem z b hb; omega

/-- `lines` of the encoded file: the header, then one (padded) line per live record -/
theorem lines_encodeTextWith (crlf : Bool) (pad : Nat) (lt : Int) (rs : List GRec) (hv : ∀ g ∈ rs, g.TextValid) :
    lines (encodeTextWith crlf pad lt rs) =
      intToDigits lt :: (rs.filter GRec.live).map (fun g => encTextLine g ++ List.replicate pad 32) := by
  have e : encodeTextWith crlf pad lt rs =
      (intToDigits lt :: (rs.filter GRec.live).map (fun g => encTextLine g ++ List.replicate pad 32)).flatMap
        (fun l => l ++ eol crlf) := by
    simp only [encodeTextWith, List.flatMap_map, List.flatMap_cons, List.append_assoc]
  rw [e]
  refine lines_enc crlf _ ?_
  intro l hl
  rcases List.mem_cons.mp hl with rfl | hl
  · exact lineOk_of_clean crlf _ (intToDigits_clean lt)
  · obtain ⟨g, hg, rfl⟩ := List.mem_map.mp hl
    exact lineOk_of_clean crlf _ (encTextLine_clean g pad (hv g (List.mem_filter.mp hg).1).2.2.2.2.2.2.1)

theorem lifetimeOk_intToDigits (z : Int) (h : -9223372036854775808 ≤ z ∧ z < 9223372036854775808) :
    lifetimeOk (intToDigits z) = true := by
  unfold lifetimeOk
  rw [(parseI64Ok_intToDigits z).mpr h, validUtf8_of_ascii _ (fun b hb => by have := intToDigits_mem z b hb; omega)]
  rfl

/-- conversely a lifetime outside `i64` makes the reader reject the file's header -/
theorem lifetimeOk_intToDigits_iff (z : Int) :
    lifetimeOk (intToDigits z) = true ↔ (-9223372036854775808 ≤ z ∧ z < 9223372036854775808) := by
  refine ⟨fun h => ?_, lifetimeOk_intToDigits z⟩
  unfold lifetimeOk at h
  exact (parseI64Ok_intToDigits z).mp (by simpa using (Bool.and_eq_true _ _ ▸ h : _ ∧ _).2)

/-! ### the binary reader declines a text file (no panic path) -/

theorem loadBin_of_head (c : Nat) (r : List Nat) (hc : c ≠ 0x43) : loadBin (c :: r) = .ok (.error ()) := by
  unfold loadBin loadBinWith
  by_cases h : (c :: r).length < 4
  · rw [if_pos h]
  · rw [if_neg h]
    have : ((c :: r).take 4 != binSig) = true := by
      simp only [binSig, List.take_succ_cons, bne_iff_ne, ne_eq, List.cons.injEq, not_and]
      intro h'; exact absurd h' hc
    rw [this]
    rfl

theorem loadBin_encodeTextWith (crlf : Bool) (pad : Nat) (lt : Int) (rs : List GRec) :
    loadBin (encodeTextWith crlf pad lt rs) = .ok (.error ()) := by
  obtain ⟨c, r, h, hc⟩ := intToDigits_head lt
  rw [encodeTextWith, h, List.cons_append]
  exact loadBin_of_head c _ (by omega)

/-- **what the legacy importer makes of a written text file** (binary attempt first, then text; `\r\n` line ends and
    trailing blanks allowed): for ANY store of text-valid records — removed and negative records interspersed (they
    are not written) — exactly the live records, in order, if the lifetime is an `i64`; otherwise the header, and with
    it the whole file, is rejected (the legacy engine's lifetime is a C `int`, so that cannot be written) -/
theorem loadUhash_encodeTextWith_eq (crlf : Bool) (pad : Nat) (lt : Int) (rs : List GRec) (hv : ∀ g ∈ rs, g.TextValid) :
    loadUhash (encodeTextWith crlf pad lt rs) =
      .ok (if -9223372036854775808 ≤ lt ∧ lt < 9223372036854775808 then .ok (liveRecs rs) else .error ()) := by
  unfold loadUhash
  rw [loadBin_encodeTextWith]
  unfold loadText loadTextWith
  rw [lines_encodeTextWith crlf pad lt rs hv]
  simp only [← lifetimeOk_intToDigits_iff]
  cases lifetimeOk (intToDigits lt)
  · rfl
  · simp only [Bool.not_true, Bool.false_eq_true, ↓reduceIte]
    rw [textLines_enc pad _ (fun g hg => ⟨hv g (List.mem_filter.mp hg).1, (List.mem_filter.mp hg).2⟩)]
    rfl

theorem loadUhash_encodeTextWith (crlf : Bool) (pad : Nat) (lt : Int)
    (hlt : -9223372036854775808 ≤ lt ∧ lt < 9223372036854775808) (rs : List GRec) (hv : ∀ g ∈ rs, g.TextValid) :
    loadUhash (encodeTextWith crlf pad lt rs) = .ok (.ok (liveRecs rs)) :=
  (loadUhash_encodeTextWith_eq crlf pad lt rs hv).trans (by rw [if_pos hlt])

theorem encodeTextWith_plain (lt : Int) (rs : List GRec) : encodeTextWith false 0 lt rs = encodeText lt rs := by
  simp [encodeTextWith, encodeText, eol]

/-- the plain writer (`enc_text` of `harness/src/bin/legacy.rs`, the grammar of `tests/data/golden-uhash-text.dat`) -/
theorem loadUhash_encodeText (lt : Int) (hlt : -9223372036854775808 ≤ lt ∧ lt < 9223372036854775808)
    (rs : List GRec) (hv : ∀ g ∈ rs, g.TextValid) : loadUhash (encodeText lt rs) = .ok (.ok (liveRecs rs)) :=
  encodeTextWith_plain lt rs ▸ loadUhash_encodeTextWith false 0 lt hlt rs hv

theorem loadUhash_encodeText_lifetime (lt : Int) (hlt : ¬ (-9223372036854775808 ≤ lt ∧ lt < 9223372036854775808))
    (rs : List GRec) (hv : ∀ g ∈ rs, g.TextValid) : loadUhash (encodeText lt rs) = .ok (.error ()) :=
  encodeTextWith_plain lt rs ▸ (loadUhash_encodeTextWith_eq false 0 lt rs hv).trans (by rw [if_neg hlt])

end Chewing.Uhash
