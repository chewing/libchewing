import Chewing.Proofs.EditorLinkBound
import Chewing.Proofs.EditorLink
/-!
# The global buffer bound, linked to C01

`Proofs/EditorLinkBound.lean` keeps the invariant `Within` along a history given the auto-commit's own bound
(`ACBound`) at the states inside the steps.  Here that premise is discharged from C01: the states inside a step
satisfy the shared-state invariant (`mid_shInv`), there the conversion answer tiles the buffer
(`Link.tilingAt_of_shInv`, from `EnvOK.convert_ok` = C03), hence the auto-commit leaves at most `threshold`
symbols.  Result (`within_run_linked`): for every environment satisfying `EnvOK` (either lookup strategy, since the FX3 repair), from every state
satisfying C01's safety invariant and `Within`, every history of valid operations under `SafeAlong` RUNS (no panic)
and ends in a state satisfying both; and every conversion the editor asks for inside those steps is over at most
`B + max 2 K` symbols (`mid_len`; C05's `conversions_are_short`).
-/
namespace Chewing.Bound
open Chewing.C01

variable {D L : Type} {env : Env D L} {G : D → Prop} {w : Prop}

/-- the auto-commit's bound at a state satisfying C01's shared-state invariant -/
theorem acBound_of_shInv (hE : EnvOK env G) {sh : Shared D L} (h : ShInv env G w sh) : ACBound env sh :=
  .of_tilingAt (Link.tilingAt_of_shInv hE h)

/-- the states inside a step satisfy C01's shared-state invariant -/
theorem mid_shInv (hE : EnvOK env G) {e : Editor D L} (hi : EditorInv env G w e) {op : Op L} {sh : Shared D L}
    (hm : Mid env e op sh) : ShInv env G w sh := by
  cases op with
  | key ev =>
    obtain ⟨st, hd⟩ := hm
    exact Link.dispatch_shInv hE hi ev hd
  | select n =>
    obtain ⟨s, s', sh0, t, hs, hq, rfl⟩ := hm
    exact Link.editPart_shInv hE hi (.select n) trivial (fun _ => nofun)
      (by simp only [C02.editPart, hs, hq, Outcome.map])
  | startSelecting | cancelSelecting | commit | clear | ack | clearSyl | setOptions _ | setLayout _ | setEngine _
  | learn _ _ | unlearn _ _ | jump _ => exact hm.elim

/-- **one operation, no premise on the conversion**: it returns, C01's invariant and `Within` hold afterwards -/
theorem within_apply_linked {B K : Nat} (hE : EnvOK env G) {e : Editor D L}
    (hi : EditorInv env G w e) (hw : Within B K e) (op : Op L) (hv : OpValid op) (hk : w → ¬ Known env e op)
    (hs : SafeOp B e op) : ∃ e', e.apply env op = .ok e' ∧ EditorInv env G w e' ∧ Within B K e' := by
  obtain ⟨e', h, hi'⟩ := apply_ok hE hi op hv hk
  exact ⟨e', h, hi', within_apply env hw op hs (fun sh hm => acBound_of_shInv hE (mid_shInv hE hi hm)) h⟩

/-- **every history**: valid operations (C01's `OpValid`), side conditions `SafeAlong` — the run returns and both
    invariants hold at the end (strength `False` of C01's invariant: no exclusion of a known class) -/
theorem within_run_linked {B K : Nat} (hE : EnvOK env G) (ops : List (Op L)) :
    ∀ e : Editor D L, SafeInv env G e → Within B K e → (∀ op ∈ ops, OpValid op) → SafeAlong env B e ops →
      ∃ e', e.run env ops = .ok e' ∧ SafeInv env G e' ∧ Within B K e' := fun _ hi hw hv hs =>
  (Editor.folds env).returns (I := fun e => SafeInv env G e ∧ Within B K e)
    (S := fun e ops => (∀ op ∈ ops, OpValid op) ∧ SafeAlong env B e ops)
    (fun s h1 => ⟨(List.forall_mem_cons.mp s.1).2, s.2.2 _ h1⟩)
    (fun i s => within_apply_linked hE i.1 i.2 _ (List.forall_mem_cons.mp s.1).1 (fun hf => hf.elim) s.2.1)
    ops ⟨hi, hw⟩ ⟨hv, hs⟩

end Chewing.Bound
