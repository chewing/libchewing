import Chewing.Proofs.LayoutTables
import Chewing.Proofs.SyllableParse
/-!
`Comp c` = `c` is the code of a tuple `(i, m, r, t)` in range (what C13 calls composable), and what the steps a layout is
made of do to the four components of a composable syllable: `update` writes the
component of the symbol's kind, `removeKind` clears one, and the shared pieces of the 26-key layouts
(`swapInitial`, `endRewrite`, `toneStep`) are compositions of these.
-/
namespace Chewing
open Gen

def Comp (c : Nat) : Prop := ∃ i m r t, Tup 5 i m r t ∧ c = encode i m r t

theorem comp_empty : Comp emptyPattern := ⟨0, 0, 0, 0, by unfold Tup; omega, by decide⟩

theorem comp_clear : Comp clearSyl := comp_empty

theorem comp_lt {c : Nat} (h : Comp c) : 0 < c ∧ c < 65536 := by
  obtain ⟨i, m, r, t, ht, rfl⟩ := h
  exact ⟨encode_pos, encode_lt (tup5_to6 ht)⟩

theorem comp_removeKind {c : Nat} (k : Nat) (h : Comp c) : Comp (removeKind k c) := by
  obtain ⟨i, m, r, t, ht, rfl⟩ := h
  exact ⟨_, _, _, _, zeroAt_tup ht (by omega) k, remove_encode (tup5_to6 ht) k⟩

theorem comp_removeMedial {c : Nat} (h : Comp c) : Comp (removeMedial c) := comp_removeKind 1 h
theorem comp_removeRime {c : Nat} (h : Comp c) : Comp (removeRime c) := comp_removeKind 2 h
theorem comp_removeTone {c : Nat} (h : Comp c) : Comp (removeTone c) := comp_removeKind 3 h

theorem comp_removeLast {c : Nat} (h : Comp c) : Comp (removeLast c) := by
  unfold removeLast pop
  split
  · exact comp_removeKind _ h
  · exact h

/-- a syllable with a present component is not the empty syllable -/
theorem comp_has_ne {c : Nat} (hh : hasInitial c = true ∨ hasMedial c = true ∨ hasRime c = true) :
    c ≠ emptyPattern := by
  rintro rfl
  revert hh
  decide

theorem lt4_cases {k : Nat} (hk : k < 4) : k = 0 ∨ k = 1 ∨ k = 2 ∨ k = 3 := by omega

def kindMap (k : Nat) : List Nat :=
  match k with
  | 0 => initialMap
  | 1 => medialMap
  | 2 => rimeMap
  | _ => toneMap

/-- a symbol other than `ˉ` stands in the index table of its kind at its index -/
theorem sym_at (b : Nat) (hb : b < 41) : kindOf b < 4 ∧ indexOf b ≠ 0 ∧ (kindMap (kindOf b))[indexOf b - 1]? = some b := by
  rcases sym_spec (Nat.lt_succ_of_lt hb) with ⟨hk, h1, -, -, hm⟩ | ⟨hk, h1, -, -, hm⟩ | ⟨hk, h1, -, -, hm⟩ | ⟨hk, h1, -, -, hm⟩ <;>
    rw [hk]
  · exact ⟨by decide, Nat.ne_of_gt h1, hm⟩
  · exact ⟨by decide, Nat.ne_of_gt h1, hm⟩
  · exact ⟨by decide, Nat.ne_of_gt h1, hm⟩
  · exact ⟨by decide, Nat.ne_of_gt h1, (hm (Nat.ne_of_lt hb)).2⟩

theorem tupleComp_setAt {j k : Nat} (hj : j < 4) (hk : k < 4) (v i m r t : Nat) :
    on4 (tupleComp k) (setAt j v i m r t) =
      if k = j then (if v = 0 then none else (kindMap j)[v - 1]?) else tupleComp k i m r t := by
  rcases lt4_cases hj with rfl | rfl | rfl | rfl <;> rcases lt4_cases hk with rfl | rfl | rfl | rfl <;> rfl

theorem tupleComp_zeroAt {j k : Nat} (hj : j < 4) (hk : k < 4) (i m r t : Nat) :
    on4 (tupleComp k) (zeroAt j i m r t) =
      if k = j then none else tupleComp k i m r t := by
  rcases lt4_cases hj with rfl | rfl | rfl | rfl <;> rcases lt4_cases hk with rfl | rfl | rfl | rfl <;> rfl

/-- `update` writes the symbol into the component of its kind and leaves the others -/
theorem update_eff {c b : Nat} (h : Comp c) (hb : b < 41) :
    ∃ c', update c b = some c' ∧ Comp c' ∧ ∀ k < 4, comp k c' = if k = kindOf b then some b else comp k c := by
  obtain ⟨i, m, r, t, ht, rfl⟩ := h
  have ht' := setAt_tup (b := b) ht (by omega) (.inr ⟨by omega, Nat.le_refl _⟩)
  obtain ⟨hk, h0, hm⟩ := sym_at b hb
  refine ⟨_, update_encode (tup5_to6 ht) (by omega), ⟨_, _, _, _, ht', rfl⟩, fun k hk' => ?_⟩
  unfold enc4
  rw [comp_encode (tup5_to6 ht'), comp_encode (tup5_to6 ht)]
  exact (tupleComp_setAt hk hk' ..).trans (by rw [if_neg h0, hm])

/-- `removeKind` clears one component and leaves the others -/
theorem remove_eff {c j : Nat} (h : Comp c) (hj : j < 4) :
    Comp (removeKind j c) ∧ ∀ k < 4, comp k (removeKind j c) = if k = j then none else comp k c := by
  refine ⟨comp_removeKind j h, fun k hk => ?_⟩
  obtain ⟨i, m, r, t, ht, rfl⟩ := h
  rw [remove_encode (tup5_to6 ht)]
  unfold enc4
  rw [comp_encode (tup5_to6 (zeroAt_tup ht (by omega) j)), comp_encode (tup5_to6 ht)]
  exact tupleComp_zeroAt hj hk ..

/-- Backspace on a syllable without a tone leaves no rime: it takes the rime if there is one, else the medial, else the initial -/
theorem removeLast_toneless {c : Nat} (hc : Comp c) (ht : tone c = none) :
    tone (removeLast c) = none ∧ rime (removeLast c) = none := by
  unfold removeLast pop
  rw [show popOrder = [3, 2, 1, 0] from rfl]
  simp only [List.find?, show comp 3 c = none from ht, Option.isSome_none]
  have gone (j : Nat) (hj : j < 3) (hr : j ≠ 2 → rime c = none) :
      tone (removeKind j c) = none ∧ rime (removeKind j c) = none := by
    have e := (remove_eff hc (j := j) (by omega)).2
    refine ⟨(e 3 (by omega)).trans ((if_neg (by omega)).trans ht), (e 2 (by omega)).trans ?_⟩
    split
    · rfl
    · exact hr (by omega)
  cases h2 : (comp 2 c).isSome
  · have hr : rime c = none := Option.isSome_eq_false_iff.mp h2 |> Option.isNone_iff_eq_none.mp
    cases (comp 1 c).isSome
    · cases (comp 0 c).isSome
      · exact ⟨ht, hr⟩
      · exact gone 0 (by omega) fun _ => hr
    · exact gone 1 (by omega) fun _ => hr
  · exact gone 2 (by omega) (absurd rfl)

theorem kind_initial {b : Nat} (hb : b < 21) : kindOf b = 0 := (syms_tbl.1 (b + 1) (by omega) (by omega)).2.1

/-- `c'` is `c` but for the initial, which both have or neither has -/
def SwapI (c c' : Nat) : Prop :=
  Comp c' ∧ hasInitial c' = hasInitial c ∧ ∀ k < 4, k ≠ 0 → comp k c' = comp k c

theorem SwapI.refl {c : Nat} (hc : Comp c) : SwapI c c := ⟨hc, rfl, fun _ _ _ => rfl⟩

theorem SwapI.trans {c c' c'' : Nat} (h : SwapI c c') (h' : SwapI c' c'') : SwapI c c'' :=
  ⟨h'.1, h'.2.1.trans h.2.1, fun k hk hk0 => (h'.2.2 k hk hk0).trans (h.2.2 k hk hk0)⟩

theorem SwapI.hasMedial {c c' : Nat} (h : SwapI c c') : hasMedial c' = hasMedial c :=
  congrArg Option.isSome (h.2.2 1 (by omega) (by omega))

/-- writing an initial over an initial -/
theorem update_swapI {c a b : Nat} (hc : Comp c) (hb : b < 21) (hi : initial c = some a) :
    ∃ c', update c b = some c' ∧ SwapI c c' ∧ initial c' = some b := by
  obtain ⟨c', h, hc', he⟩ := update_eff hc (b := b) (by omega)
  rw [kind_initial hb] at he
  have h0 : initial c' = some b := he 0 (by omega)
  refine ⟨c', h, ⟨hc', ?_, fun k hk hk0 => (he k hk).trans (if_neg hk0)⟩, h0⟩
  unfold hasInitial
  rw [h0, hi]
  rfl

theorem swapInitial_eff {pairs : List (Nat × Nat)} (hp : ∀ row ∈ pairs, row.2 < 21) {c : Nat} (hc : Comp c) :
    ∃ c', swapInitial pairs c = some c' ∧ SwapI c c' := by
  unfold swapInitial
  split
  · exact ⟨c, rfl, .refl hc⟩
  · split
    · exact ⟨c, rfl, .refl hc⟩
    · next i hi _ a b hf =>
      obtain ⟨c', h, s, -⟩ := update_swapI hc (hp _ (List.mem_of_find?_eq_some hf)) hi
      exact ⟨c', h, s⟩

theorem swapI_ite (p : Prop) [Decidable p] {pairs : List (Nat × Nat)} (hp : ∀ row ∈ pairs, row.2 < 21) {c : Nat}
    (hc : Comp c) : ∃ c', (if p then swapInitial pairs c else some c) = some c' ∧ SwapI c c' := by
  split
  · exact swapInitial_eff hp hc
  · exact ⟨c, rfl, .refl hc⟩

theorem hsuGtoJ_eff {c : Nat} (hc : Comp c) :
    ∃ c', hsuGtoJ c = some c' ∧ SwapI c c' ∧ (c' = c ∨ initial c' = some Sym.J) := by
  unfold hsuGtoJ
  split
  · next h =>
    simp only [Bool.and_eq_true, beq_iff_eq] at h
    obtain ⟨c', h', s, hj⟩ := update_swapI hc (b := Sym.J) (by decide) h.1
    exact ⟨c', h', s, .inr hj⟩
  · exact ⟨c, rfl, .refl hc, .inl rfl⟩

/-- an end key writes or clears the tone -/
theorem toneStep_eff {tk : List (Nat × Nat)} (htk : ∀ row ∈ tk, row.2 < 41 ∧ kindOf row.2 = 3) (key : Nat) {c : Nat}
    (hc : Comp c) : ∃ c', toneStep tk c key = some c' ∧ Comp c' ∧ ∀ k < 3, comp k c' = comp k c := by
  unfold toneStep
  split
  · next a t hf =>
    obtain ⟨hb, hk3⟩ := htk _ (List.mem_of_find?_eq_some hf)
    obtain ⟨c', h, hc', he⟩ := update_eff hc hb
    exact ⟨c', h, hc', fun k hk => by rw [he k (by omega), if_neg (by omega)]⟩
  · obtain ⟨hc', he⟩ := remove_eff hc (j := 3) (by omega)
    exact ⟨_, rfl, hc', fun k hk => (he k (by omega)).trans (if_neg (by omega))⟩

/-- what an end key does before the tone: nothing, or (a lone initial with a row in `rw`) the rewriting the row says -/
def EndRw (rw : List (Nat × Nat × Nat)) (c c' : Nat) : Prop :=
  (c' = c ∧ (hasMedial c = true ∨ hasRime c = true ∨ ∀ i, initial c = some i → ∀ row ∈ rw, row.1 ≠ i)) ∨
  ∃ i rm b, (i, rm, b) ∈ rw ∧ initial c = some i ∧ hasMedial c = false ∧ hasRime c = false ∧
    ∀ k < 4, comp k c' = if k = kindOf b then some b else if k = 0 ∧ rm = 1 then none else comp k c

theorem endRewrite_eff {rw : List (Nat × Nat × Nat)} (hrw : ∀ row ∈ rw, row.2.2 < 41) {c : Nat} (hc : Comp c) :
    ∃ c', endRewrite rw c = some c' ∧ Comp c' ∧ EndRw rw c c' := by
  unfold endRewrite EndRw
  split
  · next hlone =>
    simp only [Bool.and_eq_true, Bool.not_eq_true'] at hlone
    split
    · next hi => exact ⟨c, rfl, hc, .inl ⟨rfl, .inr (.inr fun i h => by rw [hi] at h; cases h)⟩⟩
    · next i hi =>
      split
      · next hf =>
        refine ⟨c, rfl, hc, .inl ⟨rfl, .inr (.inr fun i' h row hrow e => ?_)⟩⟩
        rw [hi] at h
        cases h
        simpa [e] using List.find?_eq_none.mp hf row hrow
      · next a rm b hf =>
        have hm := List.mem_of_find?_eq_some hf
        have ha : a = i := by simpa using List.find?_some hf
        subst ha
        have hb := hrw _ hm
        split
        · next hrm =>
          obtain ⟨hc1, he1⟩ := remove_eff hc (j := 0) (by omega)
          obtain ⟨c', h, hc', he⟩ := update_eff hc1 hb
          refine ⟨c', h, hc', .inr ⟨a, rm, b, hm, hi, hlone.1, hlone.2, fun k hk => ?_⟩⟩
          rw [he k hk, he1 k hk]
          simp only [beq_iff_eq] at hrm
          simp [hrm]
        · next hrm =>
          obtain ⟨c', h, hc', he⟩ := update_eff hc hb
          refine ⟨c', h, hc', .inr ⟨a, rm, b, hm, hi, hlone.1, hlone.2, fun k hk => ?_⟩⟩
          rw [he k hk]
          simp only [beq_iff_eq] at hrm
          simp [hrm]
  · next h =>
    refine ⟨c, rfl, hc, .inl ⟨rfl, ?_⟩⟩
    simp only [Bool.and_eq_true, Bool.not_eq_true', not_and, Bool.not_eq_false] at h
    cases hm : hasMedial c
    · exact .inr (.inl (h hm))
    · exact .inl rfl

/-- the symbol of a key is one of the two of its row -/
theorem condSym_cases (c cond a b : Nat) : condSym c cond a b = a ∨ condSym c cond a b = b := by
  unfold condSym defaultOrAlt
  repeat' split
  all_goals simp

/-- the condition a key row asks for (`condSym`) holds in state `c`: 1 = an initial or medial, 2 = a medial -/
def condMet (cond c : Nat) : Prop := (cond = 1 → hasInitialOrMedial c = true) ∧ (cond = 2 → hasMedial c = true)

/-- a key that did not yield its fallback symbol found its condition met -/
theorem condSym_ne_snd {c cond a b : Nat} (h : condSym c cond a b ≠ b) : condMet cond c := by
  constructor <;> rintro rfl <;> simp only [condSym] at h <;> split at h <;> first | assumption | exact absurd rfl h

end Chewing
