import Chewing.Proofs.CliText
/-!
`parse_line` reads back what `dump` writes: the well-formedness predicate on records, what `parse_line` accepts
(`parseLine_ok_iff`), and the one-line round trip for source lines in free style (`parseLine_head`,
`parse_renderLine`), of which both dump formats are instances.
-/
namespace Chewing.Cli
open Gen

/-- a syllable the dumper spells with at least one symbol and the parser reads back -/
def sylOK (c : Nat) : Bool := decide (Chewing.parse (spell c) = .ok c) && !(spell c).isEmpty

/-- a phrase that is one field for every splitter of `parse_line`: not empty, no comma or
    whitespace inside, no quote at either end -/
def phraseOK (p : Text) : Bool :=
  !p.isEmpty && p.head? != some cliQuote && p.getLast? != some cliQuote && p.all (fun c => !sylSep c)

def wellFormed (r : Rec) : Bool :=
  phraseOK r.phrase && decide (r.freq < 4294967296) && r.syls.all sylOK &&
  !r.syls.isEmpty && r.syls.length == r.phrase.length

/-- the records the round trip is stated for (decidable) -/
def WellFormedRecord (r : Rec) : Prop := wellFormed r = true

instance (r : Rec) : Decidable (WellFormedRecord r) := by unfold WellFormedRecord; infer_instance

/-- the one-character frequency rule of the compiler -/
def zeroFreq (keep : Bool) (r : Rec) : Rec :=
  if r.phrase.length == 1 && !keep then { r with freq := 0 } else r

theorem wellFormed_iff {r : Rec} : WellFormedRecord r ↔
    (r.phrase ≠ [] ∧ r.phrase.head? ≠ some cliQuote ∧ r.phrase.getLast? ≠ some cliQuote ∧
      (∀ c ∈ r.phrase, sylSep c = false)) ∧ r.freq < 4294967296 ∧
    (∀ c ∈ r.syls, Chewing.parse (spell c) = .ok c ∧ spell c ≠ []) ∧
    r.syls ≠ [] ∧ r.syls.length = r.phrase.length := by
  simp only [WellFormedRecord, wellFormed, phraseOK, Bool.and_eq_true, Bool.not_eq_eq_eq_not, Bool.not_true,
    List.isEmpty_eq_false_iff, ne_eq, bne_iff_ne, and_assoc, List.all_eq_true, decide_eq_true_eq, sylOK, beq_iff_eq]

/-- the characters rejected in a phrase are the separators of the syllable fields (both literals of the
    source are regenerated) -/
theorem phraseSep_eq : phraseSep = sylSep := rfl

/-- **what `parse_line` accepts, field by field**: a first delimiter field that strips to a non-empty phrase
    without comma / whitespace, a frequency, syllable fields that parse to at least one syllable, as many
    as the phrase has characters -/
theorem parseLine_ok_iff {d : Nat} {keep : Bool} {l : Text} {r : Rec} :
    parseLine d keep l = .ok r ↔
      ∃ f0 fs n syls, tokens (· == d) l = f0 :: fs ∧ trimQ f0 ≠ [] ∧ (∀ c ∈ trimQ f0, sylSep c = false) ∧
        parseFreq keep (trimQ f0) (f0 :: fs) = .ok n ∧ parseSyls ((tokens sylSep l).drop 2) = .ok syls ∧
        syls ≠ [] ∧ syls.length = (trimQ f0).length ∧ r = ⟨trimQ f0, n, syls⟩ := by
  constructor
  · -- the checks in the order of the code; every failing one returns an error
    intro h
    unfold parseLine at h
    split at h
    · cases h
    rename_i f0 fs ht
    split at h
    · cases h
    rename_i hne
    split at h
    · cases h
    rename_i hsep
    split at h
    · cases h
    rename_i n hf
    split at h
    · cases h
    rename_i syls hs
    split at h
    · cases h
    rename_i hsne
    split at h
    · cases h
    rename_i hlen
    refine ⟨f0, fs, n, syls, ht, fun e => hne (by rw [e]; rfl), fun c hc => ?_, hf, hs,
      fun e => hsne (by rw [e]; rfl), by simpa using hlen, (Except.ok.inj h).symm⟩
    exact Bool.eq_false_iff.mpr fun hc' => hsep (List.any_eq_true.mpr ⟨c, hc, hc'⟩)
  · rintro ⟨f0, fs, n, syls, ht, hne, hsep, hf, hs, hsne, hlen, rfl⟩
    have h1 : (trimQ f0).isEmpty = false := by simpa using hne
    have h2 : (trimQ f0).any phraseSep = false := by simpa [phraseSep_eq] using hsep
    have h3 : syls.isEmpty = false := by simpa using hsne
    have h4 : (syls.length != (trimQ f0).length) = false := by simpa using hlen
    simp only [parseLine, ht, h1, h2, hf, hs, h3, h4, Bool.false_eq_true, if_false]

theorem parseFreq_ok_iff {keep : Bool} {p f0 : Text} {fs : List Text} {n : Nat} :
    parseFreq keep p (f0 :: fs) = .ok n ↔
      ∃ f1 m, fs.head? = some f1 ∧ parseU32 (trimQ f1) = some m ∧ n = if p.length == 1 && !keep then 0 else m := by
  unfold parseFreq
  cases fs with
  | nil => simp
  | cons f1 rest =>
    simp only [List.getElem?_cons_succ, List.getElem?_cons_zero, List.head?_cons, Option.some.injEq]
    cases hu : parseU32 (trimQ f1) with
    | none => exact ⟨nofun, fun ⟨_, _, e, hm, _⟩ => by rw [← e, hu] at hm; cases hm⟩
    | some m =>
      exact ⟨fun h => ⟨f1, m, rfl, hu, (Except.ok.inj h).symm⟩,
        fun ⟨_, _, e, hm, hn⟩ => by rw [← e, hu] at hm; cases hm; rw [hn]⟩

theorem zeroFreq_eq (keep : Bool) (p : Text) (f : Nat) (syls : List Nat) :
    zeroFreq keep ⟨p, f, syls⟩ = ⟨p, if p.length == 1 && !keep then 0 else f, syls⟩ := by
  by_cases hw : (p.length == 1 && !keep) = true <;> simp [zeroFreq, hw]

theorem parseSyls_mem : ∀ {ts : List Text} {syls : List Nat}, parseSyls ts = .ok syls →
    ∀ v ∈ syls, ∃ t ∈ ts, trimQ t ≠ [] ∧ Chewing.parse (trimQ t) = .ok v
  | [], syls, h => by cases h; nofun
  | t :: ts, syls, h => by
    have ih : ∀ syls, parseSyls ts = .ok syls →
        ∀ v ∈ syls, ∃ t' ∈ t :: ts, trimQ t' ≠ [] ∧ Chewing.parse (trimQ t') = .ok v :=
      fun syls h v hv => (parseSyls_mem h v hv).imp fun _ h => ⟨List.mem_cons_of_mem _ h.1, h.2⟩
    unfold parseSyls at h
    simp only at h
    split at h
    · exact ih _ h
    rename_i hemp
    split at h
    · cases h; nofun
    split at h
    · cases h
    · cases h
    rename_i v hv
    split at h
    · rename_i vs hvs
      cases h
      intro x hx
      rcases List.mem_cons.mp hx with rfl | hx
      · exact ⟨t, List.mem_cons_self, fun e => hemp (by rw [e]; rfl), hv⟩
      · exact ih vs hvs x hx
    · cases h

theorem go_chars : ∀ (s : List Nat) (bld : Builder) (v : Nat), parse.go bld s = .ok v →
    ∀ c ∈ s, (bopoOfChar c).isSome = true
  | [], _, _, _ => by simp
  | c :: cs, bld, v, h => by
    unfold parse.go at h
    cases hb : bopoOfChar c with
    | none => simp [hb] at h
    | some b =>
      simp only [hb] at h
      cases hi : bld.insert b with
      | error e => simp [hi] at h
      | ok bld' =>
        simp only [hi] at h
        intro x hx
        rcases List.mem_cons.mp hx with rfl | hx
        · simp [hb]
        · exact go_chars cs bld' v h x hx

theorem bopo_table_plain : ∀ p ∈ bopoFromChar, sylSep p.1 = false ∧ p.1 ≠ cliQuote ∧ p.1 ≠ cliComment := by
  decide +kernel

theorem bopoChar_plain {c : Nat} (h : (bopoOfChar c).isSome = true) :
    sylSep c = false ∧ c ≠ cliQuote ∧ c ≠ cliComment := by
  unfold bopoOfChar at h
  cases hf : bopoFromChar.find? (fun p => p.1 == c) with
  | none => simp [hf] at h
  | some p =>
    have e : p.1 = c := by simpa using List.find?_some hf
    exact e ▸ bopo_table_plain p (List.mem_of_find?_eq_some hf)

theorem spell_plain {c : Nat} (h : sylOK c = true) :
    Chewing.parse (spell c) = .ok c ∧ spell c ≠ [] ∧
    ∀ x ∈ spell c, sylSep x = false ∧ x ≠ cliQuote ∧ x ≠ cliComment := by
  simp [sylOK] at h
  refine ⟨h.1, h.2, ?_⟩
  intro x hx
  have := h.1
  unfold Chewing.parse at this
  exact bopoChar_plain (go_chars _ _ _ this x hx)

theorem spelled_tokens {sep : Nat → Bool} (hsep : ∀ x, sylSep x = false → sep x = false) (syls : List Nat)
    (h : ∀ c ∈ syls, sylOK c = true) : ∀ t ∈ syls.map spell, SepFree sep t ∧ t ≠ [] := by
  intro t ht
  obtain ⟨c, hc, rfl⟩ := List.mem_map.mp ht
  obtain ⟨_, hne, hpl⟩ := spell_plain (h c hc)
  exact ⟨fun x hx => hsep x (hpl x hx).1, hne⟩

theorem sylSep_of_ws {c : Nat} (h : isWs c = true) : sylSep c = true := by simp [sylSep, h]

theorem parseLine_of_tokens {d : Nat} {keep : Bool} {line fp ff p : Text} {rest1 : List Text} {f : Nat}
    {syls : List Nat} (h1 : tokens (· == d) line = fp :: ff :: rest1) (hp : trimQ fp = p)
    (hf : parseU32 (trimQ ff) = some f) (hs : parseSyls ((tokens sylSep line).drop 2) = .ok syls)
    (hpne : p ≠ []) (hpsep : ∀ c ∈ p, sylSep c = false) (hsne : syls ≠ []) (hlen : syls.length = p.length) :
    parseLine d keep line = .ok (zeroFreq keep ⟨p, f, syls⟩) := by
  subst hp
  exact parseLine_ok_iff.mpr ⟨fp, _, _, syls, h1, hpne, hpsep, parseFreq_ok_iff.mpr ⟨ff, f, rfl, hf, rfl⟩, hs, hsne,
    hlen, zeroFreq_eq ..⟩

theorem parseSyls_comment {t : Text} (cm : List Text) (h : (trimQ t).head? = some cliComment) :
    parseSyls (t :: cm) = .ok [] := by
  unfold parseSyls
  have hne : (trimQ t).isEmpty = false := by
    cases ht : trimQ t with
    | nil => rw [ht] at h; cases h
    | cons a as => rfl
  simp [hne, h]

theorem parseSyls_spell_append : ∀ (syls : List Nat), (∀ c ∈ syls, sylOK c = true) → ∀ (cm : List Text),
    parseSyls cm = .ok [] → parseSyls (syls.map spell ++ cm) = .ok syls
  | [], _, cm, h => by simpa using h
  | c :: cs, h, cm, hcm => by
    obtain ⟨hp, hne, hpl⟩ := spell_plain (h c (List.mem_cons_self))
    have ih := parseSyls_spell_append cs (fun x hx => h x (List.mem_cons_of_mem _ hx)) cm hcm
    have ht : trimQ (spell c) = spell c := trimQ_of_noquote (fun x hx => (hpl x hx).2.1)
    have hhead : ((spell c).head? == some cliComment) = false := by
      cases hs : spell c with
      | nil => exact absurd hs hne
      | cons a as =>
        have := (hpl a (by rw [hs]; exact List.mem_cons_self)).2.2
        simpa using this
    have hemp : (spell c).isEmpty = false := by
      cases hs : spell c with
      | nil => exact absurd hs hne
      | cons a as => rfl
    simp only [List.map_cons, List.cons_append, parseSyls, ht, hemp, hhead, hp, ih]
    simp

theorem parseSyls_spell (syls : List Nat) (h : ∀ c ∈ syls, sylOK c = true) :
    parseSyls (syls.map spell) = .ok syls := by
  simpa using parseSyls_spell_append syls h [] rfl

/-- the part of a free-style line after the frequency: any run of commas / whitespace between the syllables,
    optionally (after commas / whitespace) a `#` comment of arbitrary text -/
def renderTail (gs : Text) (cm : Option (Text × Text)) (r : Rec) : Text :=
  match cm with
  | none => joinWith gs (r.syls.map spell)
  | some (gc, c) => joinWith gs (r.syls.map spell) ++ gc ++ cliComment :: c

/-- a source line in free style: optional quotes around the phrase and the frequency, runs of delimiters
    between the fields, then `renderTail` -/
def renderLine (qp qf : Bool) (g1 g2 gs : Text) (cm : Option (Text × Text)) (r : Rec) : Text :=
  quoteIf qp r.phrase ++ g1 ++ (quoteIf qf (decimal r.freq) ++ g2 ++ renderTail gs cm r)

theorem quote_not_sep : sylSep cliQuote = false := by decide
theorem comment_not_sep : sylSep cliComment = false := by decide

theorem quoteIf_sepfree {sep : Nat → Bool} (hq : sep cliQuote = false) (b : Bool) {s : Text} (h : SepFree sep s) :
    SepFree sep (quoteIf b s) := by
  cases b with
  | false => exact h
  | true =>
    intro c hc
    simp only [quoteIf, if_true, List.mem_cons, List.mem_append] at hc
    rcases hc with rfl | hc | hc
    · exact hq
    · exact h c hc
    · simp at hc; subst hc; exact hq

theorem quoteIf_ne_nil (b : Bool) {s : Text} (h : s ≠ []) : quoteIf b s ≠ [] := by
  cases b <;> simp [quoteIf, h]

theorem sylOK_of_wellFormed {r : Rec} (h : WellFormedRecord r) : ∀ c ∈ r.syls, sylOK c = true := by
  intro c hc
  have := (wellFormed_iff.mp h).2.2.1 c hc
  simp [sylOK, this.1, this.2]

theorem SepFree.of_sylSep {d : Nat} (hd : sylSep d = true) {s : Text} (h : SepFree sylSep s) : SepFree (· == d) s := by
  intro c hc
  have : c ≠ d := by rintro rfl; rw [h c hc] at hd; cases hd
  simpa using this

/-- The part of a line `parse_line` reads with both splitters: phrase and frequency of a well-formed record,
    each in quotes or not, each followed by a run of the delimiter `d` (a syllable separator, as `' '` and `','`
    are); whatever text `T` follows, the line parses to the record if the syllable loop reads its syllables
    from `T`. -/
theorem parseLine_head (d : Nat) (keep qp qf : Bool) (g1 g2 T : Text) (r : Rec) (h : WellFormedRecord r)
    (hd : sylSep d = true) (hg1 : g1 ≠ [] ∧ ∀ c ∈ g1, c = d) (hg2 : g2 ≠ [] ∧ ∀ c ∈ g2, c = d)
    (hT : parseSyls (tokens sylSep T) = .ok r.syls) :
    parseLine d keep (quoteIf qp r.phrase ++ g1 ++ (quoteIf qf (decimal r.freq) ++ g2 ++ T)) =
      .ok (zeroFreq keep r) := by
  obtain ⟨⟨pne, ph, pl, psep⟩, hf, hs, hsne, hslen⟩ := wellFormed_iff.mp h
  obtain ⟨dv, dd, dne⟩ := decimal_spec hf
  have hqd : ((cliQuote == d) = false) := by
    have : cliQuote ≠ d := by rintro rfl; rw [quote_not_sep] at hd; cases hd
    simpa using this
  -- the runs of `d` separate for both splitters, phrase and digits contain no separator of either
  have g1d : AllSep (· == d) g1 := fun c hc => by simp [hg1.2 c hc]
  have g2d : AllSep (· == d) g2 := fun c hc => by simp [hg2.2 c hc]
  have g1s : AllSep sylSep g1 := fun c hc => by rw [hg1.2 c hc]; exact hd
  have g2s : AllSep sylSep g2 := fun c hc => by rw [hg2.2 c hc]; exact hd
  have dfree : SepFree sylSep (decimal r.freq) := fun c hc => (isDigit_not_sep (dd c hc)).1
  have PS := quoteIf_sepfree quote_not_sep qp psep
  have PD := quoteIf_sepfree (sep := (· == d)) hqd qp (SepFree.of_sylSep hd psep)
  have FS := quoteIf_sepfree quote_not_sep qf dfree
  have FD := quoteIf_sepfree (sep := (· == d)) hqd qf (dfree.of_sylSep hd)
  have Pne := quoteIf_ne_nil qp pne
  have Fne := quoteIf_ne_nil qf dne
  have td : trimQ (quoteIf qf (decimal r.freq)) = decimal r.freq :=
    trimQ_quoteIf qf (fun e => (isDigit_not_sep (dd _ (List.mem_of_mem_head? e))).2.1 rfl)
      (fun e => (isDigit_not_sep (dd _ (List.mem_of_mem_getLast? e))).2.1 rfl)
  refine parseLine_of_tokens (fp := quoteIf qp r.phrase) (ff := quoteIf qf (decimal r.freq))
    (rest1 := tokens (· == d) T) ?_ (trimQ_quoteIf qp ph pl) (by rw [td]; exact parseU32_decimal hf) ?_
    pne psep hsne hslen
  · rw [tokens_append_gap _ PD Pne g1d hg1.1, tokens_append_gap _ FD Fne g2d hg2.1]
  · rw [tokens_append_gap _ PS Pne g1s hg1.1, tokens_append_gap _ FS Fne g2s hg2.1]
    exact hT

theorem parseSyls_renderTail (gs : Text) (cm : Option (Text × Text)) (r : Rec)
    (hsyl : ∀ c ∈ r.syls, sylOK c = true) (hgs : gs ≠ [] ∧ AllSep sylSep gs)
    (hcm : ∀ gc c, cm = some (gc, c) → gc ≠ [] ∧ AllSep sylSep gc) :
    parseSyls (tokens sylSep (renderTail gs cm r)) = .ok r.syls := by
  have hst := spelled_tokens (sep := sylSep) (fun _ hx => hx) r.syls hsyl
  unfold renderTail
  cases cm with
  | none =>
    simp only
    rw [tokens_joinWith_gap hgs.2 hgs.1 _ hst]
    exact parseSyls_spell r.syls hsyl
  | some gcc =>
    obtain ⟨gc, c⟩ := gcc
    obtain ⟨hgc1, hgc2⟩ := hcm gc c rfl
    simp only
    rw [tokens_joinWith_gap_append hgs.2 hgs.1 hgc2 hgc1 _ _ hst]
    obtain ⟨w, rest, hw⟩ := tokens_head (sep := sylSep) c comment_not_sep
    rw [hw]
    apply parseSyls_spell_append r.syls hsyl
    exact parseSyls_comment rest (trimQ_head w (by decide))

/-- **a well-formed record written in free style parses to the record** (one-character frequency rule
    applied), for any delimiter that is itself a syllable separator (`' '` and `','` are) -/
theorem parse_renderLine (d : Nat) (keep : Bool) (qp qf : Bool) (g1 g2 gs : Text) (cm : Option (Text × Text))
    (r : Rec) (h : WellFormedRecord r) (hd : sylSep d = true)
    (hg1 : g1 ≠ [] ∧ ∀ c ∈ g1, c = d) (hg2 : g2 ≠ [] ∧ ∀ c ∈ g2, c = d)
    (hgs : gs ≠ [] ∧ AllSep sylSep gs) (hcm : ∀ gc c, cm = some (gc, c) → gc ≠ [] ∧ AllSep sylSep gc) :
    parseLine d keep (renderLine qp qf g1 g2 gs cm r) = .ok (zeroFreq keep r) :=
  parseLine_head d keep qp qf g1 g2 _ r h hd hg1 hg2 (parseSyls_renderTail gs cm r (sylOK_of_wellFormed h) hgs hcm)

/-! ### the two dump formats: free style without quotes, single separators, no comment -/

theorem parse_dump_ssv (keep : Bool) (r : Rec) (h : WellFormedRecord r) :
    parseLine cliSsvDelim keep (dumpLine r) = .ok (zeroFreq keep r) := by
  have := parse_renderLine cliSsvDelim keep false false dumpSsvSep1 dumpSsvSep2 dumpSsvJoin none r h
    (by decide) (by decide) (by decide) ⟨by decide, by simp [AllSep, dumpSsvJoin]; decide⟩ nofun
  simpa [renderLine, renderTail, quoteIf, dumpLine] using this

theorem parse_dump_csv (keep : Bool) (r : Rec) (h : WellFormedRecord r) :
    parseLine cliCsvDelim keep (dumpCsvLine r) = .ok (zeroFreq keep r) := by
  have := parse_renderLine cliCsvDelim keep false false dumpCsvSep1 dumpCsvSep2 dumpCsvJoin none r h
    (by decide) (by decide) (by decide) ⟨by decide, by simp [AllSep, dumpCsvJoin]; decide⟩ nofun
  simpa [renderLine, renderTail, quoteIf, dumpCsvLine] using this

end Chewing.Cli
