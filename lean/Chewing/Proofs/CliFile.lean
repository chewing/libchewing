import Chewing.Proofs.CliSource
import Chewing.Proofs.CliQuoted
/-!
Whole source files of well-formed lines: every line parses, so the compiler reports nothing and inserts
the records in file order; the text goes through `writeln!` / `BufRead::lines` unchanged (LF or CRLF).
-/
namespace Chewing.Cli

/-- one source line in free style (see `renderLine`) and the record it stands for -/
structure SrcLine where
  /-- quotes around the phrase / the frequency -/
  qp : Bool
  qf : Bool
  /-- one pair of quotes around the syllables and the comment (`"鑰匙",668,"ㄧㄠˋ ㄔˊ # not official"`) -/
  qs : Bool
  /-- the runs of delimiters after the phrase and after the frequency, the run between syllables -/
  g1 : Text
  g2 : Text
  gs : Text
  /-- optional comment: the separators before `#` and the text after it -/
  cm : Option (Text × Text)
  r : Rec

def SrcLine.text (l : SrcLine) : Text := renderLineQ l.qp l.qf l.qs l.g1 l.g2 l.gs l.cm l.r

def SrcLine.OK (d : Nat) (l : SrcLine) : Prop :=
  WellFormedRecord l.r ∧ (l.g1 ≠ [] ∧ ∀ c ∈ l.g1, c = d) ∧ (l.g2 ≠ [] ∧ ∀ c ∈ l.g2, c = d) ∧
  (l.gs ≠ [] ∧ AllSep sylSep l.gs) ∧ ∀ gc c, l.cm = some (gc, c) → gc ≠ [] ∧ AllSep sylSep gc

/-- the lines of a source file: with `--csv` any first line `hdr` is the header -/
def sourceLines (f : Flags) (hdr : Text) (ls : List SrcLine) : List Text :=
  if f.csv then hdr :: ls.map SrcLine.text else ls.map SrcLine.text

/-- the records the compiler makes of them -/
def sourceRecs (f : Flags) (ls : List SrcLine) : List Rec := ls.map fun l => zeroFreq f.keep l.r

theorem delim_sylSep (f : Flags) : sylSep f.delim = true := by
  cases hc : f.csv <;> simp [Flags.delim, hc] <;> decide

/-- **a file of well-formed lines compiles**: nothing is reported, every line's record is inserted, in
    file order, with the one-character frequency rule applied -/
theorem compileRun_wellformed (f : Flags) (hdr : Text) (ls : List SrcLine) (h : ∀ l ∈ ls, l.OK f.delim) :
    compileRun f (sourceLines f hdr ls) = { reported := [], inserted := some (sourceRecs f ls) } := by
  apply compileRun_of_parsed
  have hb : body f (sourceLines f hdr ls) = ls.map SrcLine.text := by
    cases hc : f.csv <;> simp [body, sourceLines, hc]
  rw [hb, sourceRecs, List.map_map, List.map_map]
  refine List.map_congr_left fun l hl => ?_
  obtain ⟨h1, h2, h3, h4, h5⟩ := h l hl
  show parseLine f.delim f.keep l.text = .ok (zeroFreq f.keep l.r)
  exact parse_renderLineQ f.delim f.keep l.qp l.qf l.qs l.g1 l.g2 l.gs l.cm l.r h1 (delim_sylSep f) h2 h3 h4 h5

theorem zeroFreq_wellFormed {keep : Bool} {r : Rec} (h : WellFormedRecord r) : WellFormedRecord (zeroFreq keep r) := by
  unfold zeroFreq
  split
  · obtain ⟨hp, _, hs⟩ := wellFormed_iff.mp h
    exact wellFormed_iff.mpr ⟨hp, by simp, hs⟩
  · exact h

theorem zeroFreq_idem (keep : Bool) (r : Rec) : zeroFreq keep (zeroFreq keep r) = zeroFreq keep r := by
  unfold zeroFreq
  by_cases h : (r.phrase.length == 1 && !keep) = true <;> simp [h]

theorem sourceRecs_dumpable (f : Flags) (ls : List SrcLine) (h : ∀ l ∈ ls, l.OK f.delim) :
    ∀ r ∈ sourceRecs f ls, Dumpable f.keep r := by
  intro r hr
  obtain ⟨l, hl, rfl⟩ := List.mem_map.mp hr
  exact ⟨zeroFreq_wellFormed (h l hl).1, zeroFreq_idem _ _⟩

/-- the same file with CRLF line ends -/
def writeLinesCrlf (ls : List Text) : Text := ls.flatMap (· ++ [13, 10])

/-- `BufRead::lines` drops the carriage return of a CRLF line end -/
theorem readLines_writeLinesCrlf (ls : List Text) (h : ∀ l ∈ ls, ∀ c ∈ l, c ≠ 10) :
    readLines (writeLinesCrlf ls) = ls :=
  (Uhash.readLines_eq _).trans (Uhash.lines_enc true ls fun l hl => ⟨h l hl, nofun⟩)

/-- a final line without line end is still a line -/
theorem readLines_no_final_newline (ls : List Text) (l : Text) (h : ∀ x ∈ ls, FileLine x) (hl : ∀ c ∈ l, c ≠ 10)
    (hne : l ≠ []) : readLines (writeLines ls ++ l) = ls ++ [l] := by
  have := Uhash.lines_enc_last false l hl ls fun x hx => ⟨(h x hx).1, fun _ => (h x hx).2⟩
  rw [List.isEmpty_eq_false_iff.mpr hne] at this
  exact (Uhash.readLines_eq _).trans this

end Chewing.Cli
