import Chewing.Proofs.ConvSimpleInv
/-!
Under `CompValid` `find_intervals` never panics and the graph contains an edge for
every selection and for every symbol outside the selections (a word, or the spelling of a word-less
syllable), hence a chain from `0` to `len` — for every dictionary.
-/
namespace Chewing.Conv

theorem phraseOk_total {s e : Nat} {p : Phrase} {sels : List Interval}
    (h : ∀ x ∈ sels, x.text ≠ [] ∧ x.start ≤ x.stop) : ∃ b, phraseOk s e p sels = .ok b := by
  induction sels with
  | nil => exact ⟨true, rfl⟩
  | cons y ys ih =>
    have hy := h y (List.mem_cons_self ..)
    have ih := ih (fun x hx => h x (List.mem_cons_of_mem _ hx))
    unfold phraseOk
    rw [if_neg hy.1]
    split
    · rw [if_neg (by omega)]
      split
      · exact ⟨false, rfl⟩
      · exact ih
    · exact ih

theorem pickBest_total {sels : List Interval} {s e : Nat} {ps : List Phrase} {best : Option Phrase}
    (h : ∀ x ∈ sels, x.text ≠ [] ∧ x.start ≤ x.stop) : ∃ r, pickBest sels s e ps best = .ok r := by
  induction ps generalizing best with
  | nil => exact ⟨best, rfl⟩
  | cons q qs ih =>
    obtain ⟨b, hb⟩ := phraseOk_total (s := s) (e := e) (p := q) h
    unfold pickBest
    rw [hb]
    cases b with
    | true =>
      simp only
      cases best with
      | none => simp only [if_true]; exact ih
      | some b0 => simp only; split <;> exact ih
    | false => exact ih

theorem compValid_sels {c : Composition} (hc : CompValid c) :
    ∀ x ∈ c.selections, x.text ≠ [] ∧ x.start ≤ x.stop :=
  fun x hx => ⟨validSel_text_ne (hc.sels x hx), Nat.le_of_lt (hc.sels x hx).nonempty⟩

theorem findBestPhrase_total {d : Dict} {strat : Strategy} {c : Composition} (hc : CompValid c) (s e : Nat) :
    ∃ r, findBestPhrase d strat c s e = .ok r := by
  unfold findBestPhrase
  split
  · exact ⟨none, rfl⟩
  split
  · exact ⟨none, rfl⟩
  split
  · exact ⟨none, rfl⟩
  split
  · exact ⟨_, rfl⟩
  · split
    · exact ⟨none, rfl⟩
    · obtain ⟨r, hr⟩ := pickBest_total (s := s) (e := e) (ps := d.lookup (sylPrefix (slice c s e)) strat) (best := none)
        (compValid_sels hc)
      rw [hr]
      cases r <;> exact ⟨_, rfl⟩

theorem collectEdges_total {d : Dict} {strat : Strategy} {c : Composition} (hc : CompValid c)
    (ps : List (Nat × Nat)) : ∃ es, collectEdges d strat c ps = .ok es := by
  induction ps with
  | nil => exact ⟨[], rfl⟩
  | cons q qs ih =>
    obtain ⟨b, e⟩ := q
    obtain ⟨r, hr⟩ := findBestPhrase_total (d := d) (strat := strat) hc b e
    obtain ⟨es, hes⟩ := ih
    unfold collectEdges
    rw [hr, hes]
    exact ⟨_, rfl⟩

theorem findIntervals_total {d : Dict} {strat : Strategy} {c : Composition} (hc : CompValid c) :
    ∃ es, findIntervals d strat c = .ok es := collectEdges_total hc _

/-! ### the edges that always exist -/

theorem selConflict_of_disjoint {c : Composition} (hc : CompValid c) {x : Interval} (hx : x ∈ c.selections) :
    selConflict c x.start x.stop = false := by
  unfold selConflict
  rw [List.any_eq_false]
  intro y hy
  simp only [Bool.and_eq_true, Bool.not_eq_true', not_and, Bool.not_eq_false]
  intro hi
  cases hc.sel_eq hy hx (intersectRange_eq_true.mp hi)
  exact isContainedBy_eq_true.mpr ⟨Nat.le_refl _, Nat.le_refl _⟩

theorem edge_of_selection {d : Dict} {strat : Strategy} {c : Composition} (hc : CompValid c)
    {x : Interval} (hx : x ∈ c.selections) :
    ∃ ph, findBestPhrase d strat c x.start x.stop = .ok (some ph) := by
  have hv := hc.sels x hx
  have hne : (slice c x.start x.stop).isEmpty = false := by
    rw [List.isEmpty_eq_false_iff]
    intro he
    have := slice_length (s := x.start) hv.inRange
    rw [he] at this
    have := hv.nonempty
    simp only [List.length_nil] at *
    omega
  unfold findBestPhrase
  rw [hne, hv.noBreak, selConflict_of_disjoint hc hx]
  simp only [Bool.false_eq_true, if_false]
  split
  · exact ⟨_, rfl⟩
  · have hany : ((slice c x.start x.stop).any fun sym => !sym.isSyl) = false := by
      rw [List.any_eq_false]
      intro sym hs
      simp [hv.syllables sym hs]
    rw [hany]
    simp only [Bool.false_eq_true, if_false]
    obtain ⟨r, hr⟩ := pickBest_total (s := x.start) (e := x.stop)
      (ps := d.lookup (sylPrefix (slice c x.start x.stop)) strat) (best := none) (compValid_sels hc)
    rw [hr]
    cases r with
    | some p => exact ⟨_, rfl⟩
    | none =>
      simp only
      obtain ⟨p, hp⟩ := Option.isSome_iff_exists.mp (forcedSel_isSome (c := c) hx)
      rw [hp]
      exact ⟨_, rfl⟩

/-- the edge over a single symbol that no selection intersects exists — whatever the dictionary holds:
    a syllable without an acceptable word falls back to its spelling (F02 / F03 repaired) -/
theorem edge_of_free {d : Dict} {strat : Strategy} {c : Composition} (hc : CompValid c)
    {i : Nat} (hi : i < c.symbols.length) (hf : Free c i) :
    ∃ ph, findBestPhrase d strat c i (i + 1) = .ok (some ph) := by
  have hsome : c.symbols[i]? = some c.symbols[i] := List.getElem?_eq_getElem hi
  have hs := slice_one hsome
  unfold findBestPhrase
  rw [hasBreakInside_single, selConflict_of_free hf, hs]
  simp only [List.isEmpty_cons, Bool.false_eq_true, if_false]
  cases hx : c.symbols[i] with
  | chr cp => exact ⟨_, rfl⟩
  | syl k =>
    simp only [List.any_cons, Sym.isSyl, Bool.not_true, List.any_nil, Bool.or_self, Bool.false_eq_true, if_false,
      sylPrefix]
    obtain ⟨r, hr⟩ := pickBest_total (s := i) (e := i + 1) (ps := d.lookup [k] strat) (best := none)
      (compValid_sels hc)
    rw [hr]
    cases r with
    | some q => exact ⟨_, rfl⟩
    | none =>
      simp only [spelledSyl]
      cases forcedSel c i (i + 1) <;> exact ⟨_, rfl⟩

/-! ### a chain from `0` to `len` exists -/

theorem IvChain.toIsChain {E : List Edge} {a b : Nat} {l : List Interval} (h : IvChain a b l)
    (hE : ∀ iv ∈ l, ∃ ph, (⟨iv.start, iv.stop, ph⟩ : Edge) ∈ E) : ∃ p, IsChain E a b p := by
  induction l generalizing a with
  | nil => exact ⟨[], h⟩
  | cons x r ih =>
    obtain ⟨hx, hr⟩ := List.forall_mem_cons.mp hE
    obtain ⟨ph, hph⟩ := hx
    obtain ⟨p, hp⟩ := ih h.2.2 hr
    exact ⟨⟨x.start, x.stop, ph⟩ :: p, hph, h.1, hp⟩

/-- the interval graph of a valid composition has a path from `0` to `len`, whatever the dictionary: the
    tiling the simple engine returns (the selections, and one interval per symbol outside them) is one -/
theorem reach_zero {d : Dict} {strat : Strategy} {c : Composition} {es : List Edge}
    (hc : CompValid c) (hes : findIntervals d strat c = .ok es) :
    ∃ p, IsChain es 0 c.symbols.length p := by
  refine (convertSimple_chain (d := d) hc).toIsChain fun iv hiv => ?_
  have hm := (sortByStart_perm _).mem_iff.mp hiv
  have hb := simpleList_bounds hc iv hm
  rcases simple_mem_cases hm with ⟨sym, i, _, hfree, rfl⟩ | hs
  · obtain ⟨r1, r2⟩ := simpleInterval_range d sym i
    rw [r1, r2] at hb ⊢
    obtain ⟨ph, hph⟩ := edge_of_free (d := d) (strat := strat) hc (by omega) hfree
    exact ⟨ph, collectEdges_complete hes (mem_pairs.mpr ⟨by omega, by omega, hb.2.2⟩) hph⟩
  · obtain ⟨ph, hph⟩ := edge_of_selection (d := d) (strat := strat) hc hs
    exact ⟨ph, collectEdges_complete hes (mem_pairs.mpr ⟨by omega, by omega, hb.2.2⟩) hph⟩

end Chewing.Conv
