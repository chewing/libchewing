import Chewing.Model.Cli
/-!
The compiler loop on source files as bytes.  A line that is not valid UTF-8 is a malformed line like any other
(fix of F45): `BufRead::lines` yields `Err(InvalidData)` for it and goes on with the next line; `run` collects
it with its number.  The text-level run `compileRun` is the byte-level run `compileRaw` on a file all of whose
lines are valid (`Proofs/CliCompile.lean` takes its lemmas from here); conversely, if no line the loop reads is
invalid, the byte-level run *is* a text-level run (`compileRaw_valid`).
-/
namespace Chewing.Cli

/-- line `i` is read by the loop (it is not the skipped CSV header) and is not valid UTF-8 -/
def InvalidAt (f : Flags) (src : RawLines) (i : Nat) : Prop := src[i]? = some none ∧ (f.csv = true → i ≠ 0)

/-- the lines `run` looks at: with `--csv` the first one is skipped unread -/
def rawBody (f : Flags) (src : RawLines) : RawLines := if f.csv then src.drop 1 else src

def okRawRec (f : Flags) (l : Option Text) : Option Rec :=
  match parseRawLine f l with
  | .ok r => some r
  | .error _ => none

/-- the records of the lines that are valid UTF-8 and parse, in file order -/
def validRawRecs (f : Flags) (src : RawLines) : List Rec := (rawBody f src).filterMap (okRawRec f)

theorem parseAllRaw_fst (f : Flags) : ∀ (ls : RawLines) (idx : Nat),
    (parseAllRaw f idx ls).1 = (if f.csv && idx == 0 then ls.drop 1 else ls).filterMap (okRawRec f)
  | [], idx => by simp [parseAllRaw]
  | l :: ls, idx => by
    have ih : (parseAllRaw f (idx + 1) ls).1 = ls.filterMap (okRawRec f) := by
      simpa using parseAllRaw_fst f ls (idx + 1)
    rw [parseAllRaw]
    by_cases hs : (f.csv && idx == 0) = true
    · simp [hs, ih]
    · cases hp : parseRawLine f l <;> simp [hs, okRawRec, hp, ih]

/-- what the loop records for the line `l` at position `i`: its failure, unless it is the header or it parses -/
def rawErr (f : Flags) (li : Option Text × Nat) : Option (Nat × LineErr) :=
  if f.csv && li.2 == 0 then none else
    match parseRawLine f li.1 with
    | .ok _ => none
    | .error e => some (li.2, e)

theorem parseAllRaw_snd (f : Flags) : ∀ (ls : RawLines) (idx : Nat),
    (parseAllRaw f idx ls).2 = (ls.zipIdx idx).filterMap (rawErr f)
  | [], idx => rfl
  | l :: ls, idx => by
    rw [parseAllRaw, List.zipIdx_cons, List.filterMap_cons, ← parseAllRaw_snd f ls (idx + 1), rawErr]
    by_cases hs : (f.csv && idx == 0) = true
    · simp [hs]
    · cases parseRawLine f l <;> simp [hs]

theorem rawErr_eq_some {f : Flags} {l : Option Text} {i j : Nat} {e : LineErr} :
    rawErr f (l, i) = some (j, e) ↔ (f.csv = true → i ≠ 0) ∧ j = i ∧ parseRawLine f l = .error e := by
  unfold rawErr
  by_cases hs : (f.csv && i == 0) = true
  · have ⟨hc, h0⟩ : f.csv = true ∧ i = 0 := by simpa using hs
    simp [hc, h0]
  · have h0 : f.csv = true → i ≠ 0 := fun hc h0 => hs (by simp [hc, h0])
    cases parseRawLine f l with
    | ok r => simp [hs]
    | error e0 => simpa [hs, eq_comm (a := j)] using fun _ _ => h0

theorem compileRaw_inserted (f : Flags) (src : RawLines) :
    (compileRaw f src).inserted =
      if (compileRaw f src).reported ≠ [] ∧ f.skip = false then none else some (validRawRecs f src) := by
  unfold compileRaw validRawRecs rawBody
  rw [parseAllRaw_fst]
  cases h : (parseAllRaw f 0 src).2 with
  | nil => simp
  | cons e es => cases hs : f.skip <;> simp

theorem mem_raw_reported (f : Flags) (src : RawLines) (n : Nat) (e : LineErr) :
    (n, e) ∈ (compileRaw f src).reported ↔
      ∃ i l, src[i]? = some l ∧ (f.csv = true → i ≠ 0) ∧ n = i + 1 ∧ parseRawLine f l = .error e := by
  unfold compileRaw
  simp only [parseAllRaw_snd, List.mem_map, List.mem_filterMap, Prod.exists, List.mk_mem_zipIdx_iff_getElem?,
    rawErr_eq_some, Prod.mk.injEq]
  constructor
  · rintro ⟨i, _, ⟨l, _, h1, h2, rfl, h4⟩, rfl, rfl⟩
    exact ⟨i, l, h1, h2, rfl, h4⟩
  · rintro ⟨i, l, h1, h2, rfl, h4⟩
    exact ⟨i, e, ⟨l, i, h1, h2, rfl, h4⟩, rfl, rfl⟩

/-- the text the loop sees for a line (an invalid CSV header, which is skipped unread, counts as empty) -/
def rawText (l : Option Text) : Text := l.getD []

theorem parseAllRaw_valid (f : Flags) : ∀ (ls : RawLines) (idx : Nat),
    (∀ k, ¬ (ls[k]? = some none ∧ (f.csv = true → idx + k ≠ 0))) →
    parseAllRaw f idx ls = parseAll f idx (ls.map rawText)
  | [], _, _ => by simp [parseAllRaw, parseAll]
  | l :: ls, idx, h => by
    have ih := parseAllRaw_valid f ls (idx + 1) fun k c =>
      h (k + 1) ⟨c.1, by simpa only [Nat.add_assoc, Nat.add_comm 1] using c.2⟩
    rw [parseAllRaw, List.map_cons, parseAll, ih]
    split
    · rfl
    · rename_i hskip
      cases l with
      | none => exact absurd ⟨rfl, fun hc h0 => hskip (by simp [hc, show idx = 0 from h0])⟩ (h 0)
      | some t => rfl

theorem compileRaw_valid (f : Flags) (src : RawLines) (h : ∀ i, ¬ InvalidAt f src i) :
    compileRaw f src = compileRun f (src.map rawText) := by
  unfold compileRaw compileRun
  rw [parseAllRaw_valid f src 0 (fun k c => h k ⟨c.1, by simpa using c.2⟩)]

theorem invalid_reported (f : Flags) (src : RawLines) (i : Nat) (h : InvalidAt f src i) :
    (i + 1, LineErr.invalidUtf8) ∈ (compileRaw f src).reported :=
  (mem_raw_reported f src (i + 1) _).mpr ⟨i, none, h.1, h.2, rfl, rfl⟩

end Chewing.Cli
