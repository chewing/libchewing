import Chewing.Proofs.ConvEdges
import Chewing.Proofs.ConvPaths
import Chewing.Proofs.ConvSpec
/-!
`glue_fn` preserves the tiling and every per-interval invariant that is closed under merging across a
`Glue` gap (`MergeClosed`); the invariants the C03 / C04 theorems are read off from.
-/
namespace Chewing.Conv

/-- a chain held in reverse (the accumulator of the glue fold: `acc.last()` is the head) -/
def RChain : Nat → Nat → List Interval → Prop
  | a, b, [] => a = b
  | a, b, x :: r => x.stop = b ∧ x.start < x.stop ∧ RChain a x.start r

theorem RChain.reverse {a b : Nat} {r : List Interval} (h : RChain a b r) : IvChain a b r.reverse := by
  induction r generalizing b with
  | nil => exact h
  | cons x r ih =>
    obtain ⟨h1, h2, h3⟩ := h
    rw [List.reverse_cons]
    exact (ih h3).append ⟨rfl, h2, h1⟩

/-- `P` survives the merge `glue_fn` performs: two adjacent non-empty phrase intervals across a `Glue` gap -/
def MergeClosed (c : Composition) (P : Interval → Prop) : Prop :=
  ∀ a b : Interval, P a → P b → a.isPhrase = true → b.isPhrase = true →
    gapAt c a.stop = some Gap.glue → a.stop = b.start → a.start < a.stop → b.start < b.stop →
    P { start := a.start, stop := b.stop, isPhrase := true, text := a.text ++ b.text }

/-- `glue_fn` pushes the interval or merges it into the last one: either way the reversed chain is
    extended to `x.stop` and a merge-closed `P` is kept -/
theorem glueStep_spec {P : Interval → Prop} {c : Composition} (hmerge : MergeClosed c P) {racc : List Interval}
    {a m : Nat} {x : Interval} (hr : RChain a m racc) (hpr : ∀ iv ∈ racc, P iv) (x1 : x.start = m)
    (x2 : x.start < x.stop) (hpx : P x) :
    RChain a x.stop (glueStep c racc x) ∧ ∀ iv ∈ glueStep c racc x, P iv := by
  have hpush : RChain a x.stop (x :: racc) ∧ ∀ iv ∈ x :: racc, P iv :=
    ⟨⟨rfl, x2, x1 ▸ hr⟩, List.forall_mem_cons.mpr ⟨hpx, hpr⟩⟩
  unfold glueStep
  split
  · exact hpush
  · rename_i last rest
    obtain ⟨r1, r2, r3⟩ := hr
    split
    · exact hpush
    · rename_i hph
      simp only [Bool.or_eq_true, Bool.not_eq_true', not_or, Bool.not_eq_false] at hph
      split
      · rename_i hg
        obtain ⟨hplast, hprest⟩ := List.forall_mem_cons.mp hpr
        exact ⟨⟨rfl, by simp only; omega, r3⟩, List.forall_mem_cons.mpr
          ⟨hmerge last x hplast hpx hph.1 hph.2 hg (by omega) r2 x2, hprest⟩⟩
      · exact hpush

theorem glue_fold {P : Interval → Prop} {c : Composition} (hmerge : MergeClosed c P) {l : List Interval} :
    ∀ {racc : List Interval} {a m b : Nat}, RChain a m racc → IvChain m b l →
      (∀ iv ∈ racc, P iv) → (∀ iv ∈ l, P iv) →
      RChain a b (l.foldl (glueStep c) racc) ∧ ∀ iv ∈ l.foldl (glueStep c) racc, P iv := by
  induction l with
  | nil =>
    intro racc a m b hr hl hpr _
    cases hl
    exact ⟨hr, hpr⟩
  | cons x l ih =>
    intro racc a m b hr hl hpr hpl
    obtain ⟨x1, x2, x3⟩ := hl
    obtain ⟨hpx, hpl'⟩ := List.forall_mem_cons.mp hpl
    obtain ⟨h1, h2⟩ := glueStep_spec hmerge hr hpr x1 x2 hpx
    exact ih h1 x3 h2 hpl'

theorem gluePath_spec {P : Interval → Prop} {c : Composition} (hmerge : MergeClosed c P)
    {p : Path} {n : Nat} (hc : IvChain 0 n (p.map toInterval)) (hp : ∀ iv ∈ p.map toInterval, P iv) :
    IvChain 0 n (gluePath c p) ∧ ∀ iv ∈ gluePath c p, P iv := by
  obtain ⟨h1, h2⟩ := glue_fold hmerge (racc := []) (a := 0) rfl hc nofun hp
  exact ⟨h1.reverse, fun iv hiv => h2 iv (List.mem_reverse.mp hiv)⟩

theorem IsChain.toIvChain {E : List Edge} {a b : Nat} {p : Path} (h : IsChain E a b p)
    (hlt : ∀ e ∈ E, e.start < e.stop) : IvChain a b (p.map toInterval) := by
  induction p generalizing a with
  | nil => exact h
  | cons e r ih => exact ⟨h.2.1, hlt e h.1, ih h.2.2⟩

/-! ### the invariants -/

/-- per-interval invariant of both engines, no assumption on the dictionary at all -/
structure IvInv1 (d : Dict) (strat : Strategy) (c : Composition) (iv : Interval) : Prop where
  prov : ProvS d strat c iv
  le : iv.stop ≤ c.symbols.length
  noBreak : ∀ i, iv.start < i → i < iv.stop → gapAt c i ≠ some Gap.brk
  selCont : ∀ x ∈ c.selections, x.intersectRange iv.start iv.stop = true → iv.start ≤ x.start ∧ x.stop ≤ iv.stop
  charOwn : ∀ i cp, iv.start ≤ i → i < iv.stop → c.symbols[i]? = some (Sym.chr cp) →
    iv = { start := i, stop := i + 1, isPhrase := false, text := [cp] }

/-- per-interval invariant that needs `WellFormed d`, `HasWord d strat c` and valid selections -/
structure IvInv2 (c : Composition) (iv : Interval) : Prop where
  len : iv.text.length = iv.stop - iv.start
  selAgree : ∀ x ∈ c.selections, iv.start ≤ x.start → x.stop ≤ iv.stop →
    (iv.text.drop (x.start - iv.start)).take (x.stop - x.start) = x.text

/-- per-interval invariant that needs `WellFormed d` and valid selections but no word per syllable -/
structure IvInv3 (d : Dict) (strat : Strategy) (c : Composition) (iv : Interval) : Prop where
  shape : SpelledText d strat c iv.start iv.stop iv.text
  single : NoGlueInside c iv.start iv.stop → iv.text.length = iv.stop - iv.start ∨ Spelled d strat c iv

theorem allSyl_index {c : Composition} {s e : Nat} (h : ∀ sym ∈ slice c s e, sym.isSyl = true)
    (he : e ≤ c.symbols.length) : ∀ i, s ≤ i → i < e → ∃ k, c.symbols[i]? = some (Sym.syl k) := by
  intro i h1 h2
  have hi : i < c.symbols.length := by omega
  have hsome : c.symbols[i]? = some c.symbols[i] := List.getElem?_eq_getElem hi
  have := h _ (mem_slice_iff.mpr ⟨i, h1, h2, hsome⟩)
  cases hx : c.symbols[i] with
  | syl k => exact ⟨k, by rw [hsome, hx]⟩
  | chr cp => rw [hx] at this; simp [Sym.isSyl] at this

/-- over a position that no selection intersects the break and selection clauses are empty -/
theorem free_single {c : Composition} {i : Nat} (hf : Free c i) :
    (∀ j, i < j → j < i + 1 → gapAt c j ≠ some Gap.brk) ∧
    ∀ x ∈ c.selections, x.intersectRange i (i + 1) = true → i ≤ x.start ∧ x.stop ≤ i + 1 :=
  ⟨fun j h1 h2 => by omega, fun x hx hi => absurd hi (by simpa using List.any_eq_false.mp hf x hx)⟩

theorem kind_inv1 {d : Dict} {strat : Strategy} {c : Composition} {iv : Interval} (hc : CompValid c)
    (h : IvKind d strat c iv) : IvInv1 d strat c iv := by
  -- a range of syllables holds no character
  have noChr : ∀ {s e : Nat}, (∀ sym ∈ slice c s e, sym.isSyl = true) → e ≤ c.symbols.length →
      ∀ i cp, s ≤ i → i < e → c.symbols[i]? = some (Sym.chr cp) → False := by
    intro s e hall hle i cp h1 h2 hi
    obtain ⟨k, hk⟩ := allSyl_index hall hle i h1 h2
    rw [hi] at hk
    cases hk
  cases h with
  | @chr i cp hi =>
    have hf := free_single (no_sel_at_char hc hi)
    refine ⟨.base (.chr hi), (List.getElem?_eq_some_iff.mp hi).1, hf.1, hf.2, fun j cp' h1 h2 hj => ?_⟩
    have : j = i := by simp only at h1 h2; omega
    subst this
    rw [hi] at hj
    cases hj
    rfl
  | dict hlt hle hall hl _ hnb hnc =>
    exact ⟨.base (.dict hlt hle hall hl), hle, hasBreakInside_eq_false_iff.mp hnb, selConflict_false hnc,
      fun i cp h1 h2 hi => (noChr hall hle i cp h1 h2 hi).elim⟩
  | @sel x b hx =>
    have hv := hc.sels x hx
    refine ⟨.base (.sel hx), hv.inRange, hasBreakInside_eq_false_iff.mp hv.noBreak, fun y hy hi => ?_,
      fun i cp h1 h2 hi => (noChr hv.syllables hv.inRange i cp h1 h2 hi).elim⟩
    cases hc.sel_eq hy hx (intersectRange_eq_true.mp hi)
    exact ⟨Nat.le_refl _, Nat.le_refl _⟩
  | @spell i k hi hl hf =>
    refine ⟨.spell ⟨i, k, hi, hl, hf, rfl⟩, (List.getElem?_eq_some_iff.mp hi).1, (free_single hf).1,
      (free_single hf).2, fun j cp h1 h2 hj => ?_⟩
    have : j = i := by simp only at h1 h2; omega
    subst this
    rw [hi] at hj
    cases hj

theorem inv1_merge {d : Dict} {strat : Strategy} {c : Composition} : MergeClosed c (IvInv1 d strat c) := by
  intro a b ha hb pa pb hg hm la lb
  obtain ⟨as, ae, ap, at'⟩ := a
  obtain ⟨bs, be, bp, bt⟩ := b
  simp only at pa pb hg hm la lb
  subst pa pb hm
  refine ⟨ProvS.glue ha.prov hb.prov hg, hb.le, ?_, ?_, ?_⟩
  · intro i h1 h2
    simp only at h1 h2
    rcases Nat.lt_trichotomy i ae with h | h | h
    · exact ha.noBreak i h1 h
    · subst h; rw [hg]; simp
    · exact hb.noBreak i h h2
  · intro x hx hi
    simp only at hi ⊢
    have hi := intersectRange_eq_true.mp hi
    by_cases hlow : max x.start as < min x.stop ae
    · have := ha.selCont x hx (intersectRange_eq_true.mpr hlow)
      simp only at this
      omega
    · have := hb.selCont x hx (intersectRange_eq_true.mpr (by simp only; omega))
      simp only at this
      omega
  · -- a phrase interval covers no character, so neither does the merge of two
    intro i cp h1 h2 hi
    simp only at h1 h2
    by_cases h : i < ae
    · exact absurd (congrArg Interval.isPhrase (ha.charOwn i cp h1 h hi)) (by simp)
    · exact absurd (congrArg Interval.isPhrase (hb.charOwn i cp (by simp only; omega) h2 hi)) (by simp)

theorem phraseOk_true {s e : Nat} {p : Phrase} {sels : List Interval} (h : phraseOk s e p sels = .ok true) :
    ∀ x ∈ sels, s ≤ x.start → x.stop ≤ e → (p.text.drop (x.start - s)).take (x.stop - x.start) = x.text := by
  induction sels with
  | nil => intro x hx; cases hx
  | cons y ys ih =>
    unfold phraseOk at h
    split at h
    · cases h
    · split at h
      · rename_i hcont
        split at h
        · cases h
        · split at h
          · cases h
          · rename_i heq
            intro x hx h1 h2
            rcases List.mem_cons.mp hx with rfl | hx
            · exact Decidable.of_not_not heq
            · exact ih h x hx h1 h2
      · rename_i hcont
        intro x hx h1 h2
        rcases List.mem_cons.mp hx with rfl | hx
        · exact absurd ⟨h1, h2⟩ hcont
        · exact ih h x hx h1 h2

/-! ### the exact text shape, without `HasWord` -/

theorem SpelledText.plain {d : Dict} {strat : Strategy} {c : Composition} {s e : Nat} {t : Text}
    (hle : s ≤ e) (h : t.length = e - s) : SpelledText d strat c s e t := by
  induction t generalizing s with
  | nil =>
    have : s = e := by simp at h; omega
    subst this
    exact .nil
  | cons x r ih =>
    simp only [List.length_cons] at h
    exact .char (ih (by omega) (by omega))

theorem SpelledText.append {d : Dict} {strat : Strategy} {c : Composition} {s m e : Nat} {t₁ t₂ : Text}
    (h₁ : SpelledText d strat c s m t₁) (h₂ : SpelledText d strat c m e t₂) : SpelledText d strat c s e (t₁ ++ t₂) := by
  induction h₁ with
  | nil => exact h₂
  | char _ ih => exact .char (ih h₂)
  | spell a b f _ ih =>
    rw [List.append_assoc]
    exact .spell a b f (ih h₂)

theorem SpelledText.le {d : Dict} {strat : Strategy} {c : Composition} {s e : Nat} {t : Text}
    (h : SpelledText d strat c s e t) : s ≤ e := by
  induction h with
  | nil => exact Nat.le_refl _
  | char _ ih => omega
  | spell _ _ _ _ ih => omega

/-- with a word for every syllable no piece is a spelling: one character per symbol -/
theorem SpelledText.length_hasWord {d : Dict} {strat : Strategy} {c : Composition} {s e : Nat} {t : Text}
    (h : SpelledText d strat c s e t) (hw : HasWord d strat c) : t.length = e - s := by
  induction h with
  | nil => simp
  | char h ih => have := h.le; simp only [List.length_cons, ih]; omega
  | spell a b _ _ _ => exact absurd b (hw _ (List.mem_of_getElem? a))

/-- at least one character per symbol as soon as no buffered syllable has an empty spelling -/
theorem SpelledText.length_ge {d : Dict} {strat : Strategy} {c : Composition} {s e : Nat} {t : Text}
    (h : SpelledText d strat c s e t) (hn : SpellNonempty c) : e - s ≤ t.length := by
  induction h with
  | nil => simp
  | char h ih => simp only [List.length_cons]; omega
  | spell a _ _ h ih =>
    have := List.length_pos_iff.mpr (hn _ (List.mem_of_getElem? a))
    have := h.le
    simp only [List.length_append]
    omega

theorem Spelled.shape {d : Dict} {strat : Strategy} {c : Composition} {iv : Interval} (h : Spelled d strat c iv) :
    SpelledText d strat c iv.start iv.stop iv.text := by
  obtain ⟨i, k, h1, h2, h3, rfl⟩ := h
  have := SpelledText.spell (e := i + 1) h1 h2 h3 .nil
  rwa [List.append_nil] at this

/-- an interval of either engine carries one character per symbol before gluing, or it is the fallback interval -/
theorem kind_len_or_spelled {d : Dict} {strat : Strategy} {c : Composition} {iv : Interval} (hc : CompValid c)
    (hw : WellFormed d) (h : IvKind d strat c iv) :
    iv.text.length = iv.stop - iv.start ∨ Spelled d strat c iv := by
  cases h with
  | chr _ => exact .inl (by simp)
  | dict _ hle hall hl _ _ _ =>
    left
    simp only
    rw [hw _ _ _ hl, sylPrefix_length_of_all hall, slice_length hle]
  | sel hx => exact .inl (hc.sels _ hx).textLen
  | spell hi hl hf => exact .inr ⟨_, _, hi, hl, hf, rfl⟩

theorem kind_inv3 {d : Dict} {strat : Strategy} {c : Composition} {iv : Interval} (hc : CompValid c)
    (hw : WellFormed d) (h : IvKind d strat c iv) : IvInv3 d strat c iv := by
  have key := kind_len_or_spelled hc hw h
  refine ⟨?_, fun _ => key⟩
  rcases key with hl | hs
  · refine SpelledText.plain ?_ hl
    cases h with
    | chr _ => exact Nat.le_succ _
    | dict hlt _ _ _ _ _ _ => exact Nat.le_of_lt hlt
    | sel hx => exact Nat.le_of_lt (hc.sels _ hx).nonempty
    | spell _ _ _ => exact Nat.le_succ _
  · exact hs.shape

/-- with a word for every syllable: one character per symbol, and the text agrees with every selection
    inside the interval -/
theorem kind_inv2 {d : Dict} {strat : Strategy} {c : Composition} {iv : Interval} (hc : CompValid c)
    (hw : WellFormed d) (hh : HasWord d strat c) (h : IvKind d strat c iv) : IvInv2 c iv := by
  have hlen := (kind_len_or_spelled hc hw h).resolve_right (hasWord_not_spelled hh)
  refine ⟨hlen, ?_⟩
  cases h with
  | chr hi =>
    intro x hx h1 h2
    have h3 := (hc.sels x hx).nonempty
    simp only at h1 h2
    have := List.any_eq_false.mp (no_sel_at_char hc hi) x hx
    simp only [Interval.intersectRange, decide_eq_true_eq] at this
    omega
  | dict _ _ _ _ hok _ _ => exact phraseOk_true hok
  | @sel x0 _ hx0 =>
    intro x hx h1 h2
    have h3 := (hc.sels x hx).nonempty
    simp only at h1 h2 ⊢
    rw [hc.sel_eq hx hx0 (by omega), Nat.sub_self, List.drop_zero, ← (hc.sels x0 hx0).textLen, List.take_length]
  | spell hi hl _ => exact absurd hl (hh _ (List.mem_of_getElem? hi))

theorem inv3_merge {d : Dict} {strat : Strategy} {c : Composition} : MergeClosed c (IvInv3 d strat c) :=
  fun a _ ha hb _ _ hg hm la _ =>
    ⟨ha.shape.append (hm ▸ hb.shape), fun hng => absurd hg (hng a.stop la (by simp only; omega))⟩

/-- `IvInv2` alone is not merge-closed: that a selection inside the merged interval lies inside one of the
    two halves is `IvInv1.selCont` -/
theorem inv12_merge {d : Dict} {strat : Strategy} {c : Composition} (hc : CompValid c) :
    MergeClosed c (fun iv => IvInv1 d strat c iv ∧ IvInv2 c iv) := by
  intro a b ha hb pa pb hg hm la lb
  refine ⟨inv1_merge a b ha.1 hb.1 pa pb hg hm la lb, ?_⟩
  obtain ⟨as, ae, ap, at'⟩ := a
  obtain ⟨bs, be, bp, bt⟩ := b
  simp only at hm la lb
  subst hm
  have hla := ha.2.len
  have hlb := hb.2.len
  simp only at hla hlb
  refine ⟨?_, ?_⟩
  · simp only [List.length_append]; omega
  · intro x hx h1 h2
    simp only at h1 h2 ⊢
    have hv := hc.sels x hx
    have h3 := hv.nonempty
    by_cases hlow : x.start < ae
    · have := ha.1.selCont x hx (intersectRange_eq_true.mpr (by simp only; omega))
      simp only at this
      rw [List.drop_append_of_le_length (by omega), List.take_append_of_le_length (by rw [List.length_drop]; omega)]
      exact ha.2.selAgree x hx this.1 this.2
    · have := hb.1.selCont x hx (intersectRange_eq_true.mpr (by simp only; omega))
      simp only at this
      rw [List.drop_append, List.drop_eq_nil_of_le (by omega), List.nil_append, hla]
      rw [show x.start - as - (ae - as) = x.start - ae by omega]
      exact hb.2.selAgree x hx this.1 this.2

end Chewing.Conv
