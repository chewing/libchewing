import Chewing.Proofs.EditorEffect
/-!
Options frame of the editor state machine (C18, C05): a key changes `EditorOptions` only through
`switch_language_mode` (the CapsLock event, in every state) or `switch_character_form` (Shift-Space in
`Entering` while the toggle key is enabled).  Every other arm of every state, and the auto-commit tail,
leave every option exactly as it was.  For every environment.
-/
namespace Chewing

variable {D L : Type} (env : Env D L)

/-- the step keeps the options of `sh0` -/
def OStep (sh0 : Shared D L) (r : StepRes D L) : Prop := ∀ sh' t, r = .ok (sh', t) → sh'.options = sh0.options

theorem ostep_ite {sh0 : Shared D L} {c : Prop} [Decidable c] {a b : StepRes D L}
    (h1 : OStep sh0 a) (h2 : OStep sh0 b) : OStep sh0 (if c then a else b) :=
  ite_intro (fun _ => h1) fun _ => h2

/-! learning and committing never touch the options -/

theorem learnInRangeNotify_options (sh : Shared D L) (a b : Nat) :
    ResAll (fun x => x.1.options = sh.options) (Shared.learnInRangeNotify env sh a b) :=
  learnInRangeNotify_keeps env (·.options) (fun _ _ _ _ => rfl) sh a b

theorem commit_options (sh : Shared D L) :
    ResAll (fun x => x.options = sh.options) (Shared.commit env sh) := fun _ e => by
  obtain ⟨_, _, _, hf, rfl⟩ := C02.commit_spec env e
  exact hf.fields.2.2.2.1

/-- what a step did to the options: nothing, or one of the two toggles -/
def OptEffect (sh0 : Shared D L) (lang form : Prop) (r : StepRes D L) : Prop :=
  ∀ sh' t, r = .ok (sh', t) →
    sh'.options = sh0.options ∨
    (lang ∧ sh'.options = (Shared.switchLanguageMode sh0).options) ∨
    (form ∧ sh'.options = (Shared.switchCharacterForm sh0).options)

/-- **`Entering::next`**: the options change only in the CapsLock arm (language mode toggled) and in the
    Shift-Space arm (character form toggled; the arm exists only while the toggle key is enabled) -/
theorem enteringNext_options (sh : Shared D L) (ev : KeyEvent) :
    OptEffect sh (ev.code = KC.unknown ∧ ev.mods.capslock = true)
      (ev.code = KC.space ∧ ev.mods.shift = true ∧ sh.options.enableFullwidthToggleKey = true)
      (enteringNext env sh ev) := fun sh' t e => by
  cases enteringNext_eff env sh ev sh' t e with
  | lang h => exact .inr (.inl ⟨by simpa using h, rfl⟩)
  | form h => exact .inr (.inr ⟨by simpa [and_assoc] using h, rfl⟩)
  | char h => exact .inl h.fields.1
  | rejected _ _ _ h => exact .inl h.fields.1
  | commit _ _ h => exact .inl (commit_options env sh _ h)
  | _ => exact .inl rfl

theorem ostep_syllableAnswer (sh : Shared D L) (beh : LayoutBeh) : OStep sh (syllableAnswer env sh beh) :=
  syllableAnswer_all env (fun _ _ => rfl) (fun _ _ => rfl) (fun _ _ _ _ _ => rfl) (fun _ _ _ => rfl)
    (fun _ _ _ _ _ => newPhraseSimple_all fun _ => rfl) (fun _ _ _ _ _ => rfl) (fun _ _ => rfl) fun _ _ _ => rfl

/-- **`EnteringSyllable::next`**: only the CapsLock arm changes the options -/
theorem enteringSyllableNext_options (sh : Shared D L) (ev : KeyEvent) :
    OptEffect sh (ev.code = KC.unknown ∧ ev.mods.capslock = true) False (enteringSyllableNext env sh ev) :=
  enteringSyllableNext_all env (fun _ => .inl rfl) (fun _ => .inl rfl) (fun e => .inr (.inl ⟨by simpa using e, rfl⟩))
    (.inl rfl) (.inl rfl) fun a _ sh' t e => .inl (ostep_syllableAnswer env { sh with syl := a.2 } a.1 sh' t e)

/-! ### Selecting -/

theorem select_options (s : Selecting) (sh : Shared D L) (n : Nat) :
    ResAll (fun x => x.2.1.options = sh.options) (Selecting.select env s sh n) :=
  select_all env (fun _ _ _ => rfl) (fun _ _ _ _ _ _ _ _ => rfl) (fun _ _ _ _ _ => rfl) (fun _ _ _ _ _ _ _ => rfl)
    (fun _ _ _ _ _ => rfl) fun _ _ _ => rfl

theorem osel_selMove (s : Selecting) (sh : Shared D L) (isJ : Bool) :
    ResAll (fun x => x.shared.options = sh.options) (selMove env s sh isJ) :=
  selMove_all env (fun _ => rfl) fun _ _ _ _ => closeIfEmpty_all env (fun _ => rfl) fun _ _ _ => rfl

/-- what a `Selecting` step did to the options: nothing, or the language toggle -/
def OSelEff (sh0 : Shared D L) (lang : Prop) (r : Outcome (SelRes D L)) : Prop :=
  ∀ x, r = .ok x → x.shared.options = sh0.options ∨ (lang ∧ x.shared.options = (Shared.switchLanguageMode sh0).options)

theorem oseleff_of_osel {sh0 : Shared D L} {lang : Prop} {r : Outcome (SelRes D L)}
    (h : ResAll (fun x => x.shared.options = sh0.options) r) : OSelEff sh0 lang r :=
  fun x hr => Or.inl (h x hr)

/-- **`Selecting::next`**: only the CapsLock arm changes the options (and Shift / Ctrl combinations are
    answered with a bell before anything else) -/
theorem selectingNext_options (s : Selecting) (sh : Shared D L) (ev : KeyEvent) :
    OSelEff sh (ev.code = KC.unknown ∧ ev.mods.capslock = true ∧ ev.mods.ctrl = false ∧ ev.mods.shift = false)
      (selectingNext env s sh ev) :=
  selectingNext_all env (.inl rfl) (.inl rfl)
    (fun e hm => .inr ⟨by
      simp only [Bool.or_eq_true, not_or, Bool.not_eq_true] at hm
      simp only [Bool.and_eq_true, beq_iff_eq] at e
      exact ⟨e.1, e.2, hm.1, hm.2⟩, rfl⟩)
    (oseleff_of_osel (selDownSpace_all env (fun _ _ _ => rfl) (fun _ _ _ _ _ _ => rfl) fun _ _ => rfl))
    (fun _ => oseleff_of_osel (osel_selMove env s sh _))
    (oseleff_of_osel (selPrevPage_all env (fun _ => rfl) fun _ _ _ => rfl))
    (oseleff_of_osel (selNextPage_all env (fun _ _ _ => rfl) fun _ _ _ => rfl))
    (oseleff_of_osel (selDigit_all env (select_options env s sh _))) (.inl rfl) (.inl rfl)

/-- **`Highlighting::next`**: only the CapsLock arm changes the options -/
theorem highlightingNext_options (m : Nat) (sh : Shared D L) (ev : KeyEvent) :
    ∀ x, highlightingNext env m sh ev = .ok x →
      x.1.options = sh.options ∨
      ((ev.code = KC.unknown ∧ ev.mods.capslock = true) ∧ x.1.options = (Shared.switchLanguageMode sh).options) :=
  highlightingNext_all env (fun e => .inr ⟨by simpa using e, rfl⟩) (fun _ => .inl rfl)
    (fun _ _ e => .inl (learnInRangeNotify_options env _ _ _ _ e)) (.inl rfl)

end Chewing
