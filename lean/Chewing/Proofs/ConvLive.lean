import Chewing.Proofs.ConvFindIntervals
import Chewing.Proofs.ConvKPaths
/-!
Liveness of `ChewingEngine::convert`: on a valid composition the conversion does not panic, its loops
finish within the supplied fuel, and it returns at least one alternative — for every dictionary (a
syllable without a word is shown as its spelling).
-/
namespace Chewing.Conv

theorem edgesValid_of_findIntervals {d : Dict} {strat : Strategy} {c : Composition} {es : List Edge}
    (hes : findIntervals d strat c = .ok es) :
    EdgesValid c.symbols.length es := by
  intro e he
  obtain ⟨h1, _, _, h4⟩ := findIntervals_edge hes he
  exact ⟨h1.lt, h4⟩

/-- the raw k-shortest paths exist: no `unwrap()` on "no path" (F02), no index panic, fuel suffices; the
    breadth-first path comes first -/
theorem rawPaths_live {pick : Nat → List Path → Nat} {d : Dict} {strat : Strategy} {c : Composition}
    (hpick : PickInRange pick) (hc : CompValid c) :
    ∃ es sp rest, findIntervals d strat c = .ok es ∧ shortestPath es c.symbols.length [] 0 = .ok (some sp) ∧
      rawPaths pick d strat c = .ok (sp :: rest) ∧ trimPaths (sp :: rest) ≠ [] ∧
      ∀ p ∈ sp :: rest, IsChain es 0 c.symbols.length p := by
  obtain ⟨es, hes⟩ := findIntervals_total (d := d) (strat := strat) hc
  have hv := edgesValid_of_findIntervals hes
  obtain ⟨p, hp⟩ := reach_zero hc hes
  obtain ⟨sp, rest, hsp, hpaths, hchain⟩ := (findKPaths_total (k := maxOutPaths) hv hp).resolve_right (·.2 hpick)
  refine ⟨es, sp, rest, hes, hsp, ?_, trimPaths_ne (List.cons_ne_nil _ _), hchain⟩
  unfold rawPaths
  rw [hes]
  exact hpaths

theorem convertChewing_live {pick : Nat → List Path → Nat} {d : Dict} {strat : Strategy} {c : Composition}
    (hpick : PickInRange pick) (hc : CompValid c)
    (hb : ScoreBound d strat c) : ∃ alts, convertChewing pick d strat c = .ok alts ∧ alts ≠ [] := by
  unfold convertChewing
  by_cases h0 : c.symbols.length = 0
  · rw [if_pos h0]; exact ⟨_, rfl, by simp⟩
  · rw [if_neg h0]
    obtain ⟨es, sp, rest, hes, _, hraw, htrim, hchain⟩ := rawPaths_live hpick hc
    generalize sp :: rest = paths at hraw htrim hchain
    rw [hraw]
    simp only
    have hv := edgesValid_of_findIntervals hes
    have hscore : ∀ p ∈ trimPaths paths, ∃ s, score p = .ok s := by
      intro p hp
      exact score_total (hchain p (trimPaths_sub p hp)) (fun e he => (hv e he).1)
        (fun e he => (findIntervals_edge hes he).1.freq_le hb.2) hb.1
    obtain ⟨sorted, hsorted⟩ := sortPaths_total hscore
    unfold finishPaths
    rw [if_neg htrim, hsorted]
    refine ⟨_, rfl, ?_⟩
    intro hmap
    have hse : sorted = [] := List.map_eq_nil_iff.mp hmap
    cases hq : trimPaths paths with
    | nil => exact htrim hq
    | cons q qs =>
      have := (sortPaths_mem hsorted q).mpr (by rw [hq]; exact List.mem_cons_self ..)
      rw [hse] at this
      cases this

end Chewing.Conv
