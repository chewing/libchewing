import Chewing.Proofs.ListBasics
/-!
Lists whose elements carry pairwise different keys `f x`, read as finite maps: an element is determined
by its key, `find?` by key is membership, selecting by key finds at most that one element (from a concatenation of one-key
blocks: the block, `filter_flatMap_key`), and `upsertBy` is the update of such a map that keeps the order of insertion.
Used for trie leaves (key: phrase text), trie files (key: syllables), the pending tree of `TrieBuf`, the rows of the SQLite
models, the de-duplicated candidate lists (`Dedup`, `LearnMap`) and the option table of C16.
-/
namespace Chewing

variable {α β : Type} {f : α → β} {l : List α}

theorem key_unique (h : l.Pairwise (fun a b => f a ≠ f b)) {a b : α} (ha : a ∈ l) (hb : b ∈ l)
    (e : f a = f b) : a = b :=
  (pairwise_mem h ha hb).elim id fun o => o.elim (absurd e) (absurd e.symm)

theorem nodup_add_if_absent {α : Type} {l : List α} (h : l.Nodup) (x : α) {_ : Decidable (x ∈ l)} :
    (if x ∈ l then l else l ++ [x]).Nodup := by
  split
  · exact h
  · rename_i hm
    exact List.nodup_append.mpr ⟨h, by simp, fun a ha b hb e => hm (List.mem_singleton.mp hb ▸ e ▸ ha)⟩

section upsert
variable [DecidableEq β]

/-- replace by key, else append: `TrieBuilder::insert` on a leaf, `INSERT OR REPLACE` -/
def upsertBy (f : α → β) : List α → α → List α
  | [], r => [r]
  | q :: l, r => if f q = f r then r :: l else q :: upsertBy f l r

theorem upsertBy_ne_nil (f : α → β) (l : List α) (r : α) : upsertBy f l r ≠ [] := by
  cases l with
  | nil => exact List.cons_ne_nil _ _
  | cons q l => unfold upsertBy; split <;> exact List.cons_ne_nil _ _

theorem upsertBy_new {r : α} : ∀ {l : List α}, (∀ q ∈ l, f q ≠ f r) → upsertBy f l r = l ++ [r]
  | [], _ => rfl
  | q :: l, h => by
    rw [upsertBy, if_neg (h q List.mem_cons_self), upsertBy_new fun x hx => h x (List.mem_cons_of_mem _ hx)]
    rfl

/-- a step that rewrites in place the first element with the key of `r` (to one with the same key) and otherwise appends
    `r` — given by its two recursion equations — does to the keys what `firstOccStep` does: `upsertBy`, `Learn.mergeInto` -/
theorem upsert_keys {step : List α → α → List α} {c : α → α → α} (h0 : ∀ r, step [] r = [r])
    (h1 : ∀ q l r, step (q :: l) r = if f q = f r then c q r :: l else q :: step l r)
    (hc : ∀ q r, f q = f r → f (c q r) = f q) (r : α) : ∀ l : List α,
    (step l r).map f = if f r ∈ l.map f then l.map f else l.map f ++ [f r]
  | [] => by simp [h0]
  | q :: l => by
    rw [h1]
    by_cases e : f q = f r
    · simp [e, hc q r e]
    · rw [if_neg e, List.map_cons, upsert_keys h0 h1 hc r l]
      simp only [List.map_cons, List.mem_cons, (Ne.symm e : f r ≠ f q), false_or]
      split <;> rfl

theorem upsertBy_keys (f : α → β) (r : α) (l : List α) :
    (upsertBy f l r).map f = if f r ∈ l.map f then l.map f else l.map f ++ [f r] :=
  upsert_keys (fun _ => rfl) (fun _ _ _ => rfl) (fun _ _ e => e.symm) r l

theorem upsertBy_keyed (h : (l.map f).Nodup) (r : α) : ((upsertBy f l r).map f).Nodup :=
  upsertBy_keys f r l ▸ nodup_add_if_absent h (f r)

theorem mem_upsertBy (h : l.Pairwise (fun a b => f a ≠ f b)) {r x : α} :
    x ∈ upsertBy f l r ↔ x = r ∨ (x ∈ l ∧ f x ≠ f r) := by
  induction h with
  | nil => simp [upsertBy]
  | @cons q l hq _ ih =>
    unfold upsertBy
    by_cases e : f q = f r
    · rw [if_pos e, List.mem_cons, List.mem_cons]
      exact or_congr_right ⟨fun hx => ⟨.inr hx, fun c => hq x hx (e.trans c.symm)⟩,
        fun ⟨hx, ne⟩ => hx.resolve_left fun c => ne (c ▸ e)⟩
    · rw [if_neg e, List.mem_cons, List.mem_cons, ih, or_left_comm, or_and_right,
        and_iff_left_of_imp fun c : x = q => (c ▸ e : f x ≠ f r)]

theorem upsertBy_map {γ : Type} {g : α → γ} {f' : γ → β} (hf : ∀ a, f' (g a) = f a) (r : α) :
    ∀ l : List α, (upsertBy f l r).map g = upsertBy f' (l.map g) (g r)
  | [] => rfl
  | q :: l => by
    rw [List.map_cons, upsertBy, upsertBy, hf, hf, ← upsertBy_map hf r l]
    split <;> rfl

end upsert

variable [BEq β] [LawfulBEq β]

theorem find_key_iff (h : l.Pairwise (fun a b => f a ≠ f b)) {k : β} {a : α} :
    l.find? (fun x => f x == k) = some a ↔ a ∈ l ∧ f a = k := by
  constructor
  · intro hf
    exact ⟨List.mem_of_find?_eq_some hf, by simpa using List.find?_some hf⟩
  · rintro ⟨ha, e⟩
    cases hf : l.find? (fun x => f x == k) with
    | none => exact absurd e (by simpa using List.find?_eq_none.mp hf a ha)
    | some b =>
      have eb : f b = k := by simpa using List.find?_some hf
      rw [key_unique h (List.mem_of_find?_eq_some hf) ha (eb.trans e.symm)]

theorem find_key_snd_iff {κ ν : Type} [BEq κ] [LawfulBEq κ] {l : List (κ × ν)}
    (h : l.Pairwise (fun a b => a.1 ≠ b.1)) {k : κ} {v : ν} :
    (l.find? (fun e => e.1 == k)).map (·.2) = some v ↔ (k, v) ∈ l := by
  rw [Option.map_eq_some_iff]
  exact ⟨fun ⟨e, he, hv⟩ => by obtain ⟨hm, rfl⟩ := (find_key_iff h).mp he; exact hv ▸ hm,
    fun hm => ⟨(k, v), (find_key_iff h).mpr ⟨hm, rfl⟩, rfl⟩⟩

/-- two such lists with the same members find the same element under every key -/
theorem find_key_congr {l' : List α} (h : l.Pairwise (fun a b => f a ≠ f b)) (h' : l'.Pairwise (fun a b => f a ≠ f b))
    (hm : ∀ a, a ∈ l ↔ a ∈ l') (k : β) : l.find? (fun x => f x == k) = l'.find? (fun x => f x == k) :=
  Option.ext fun a => by rw [find_key_iff h, find_key_iff h', hm]

theorem filter_key_eq_find (h : l.Pairwise (fun a b => f a ≠ f b)) (k : β) :
    l.filter (fun x => f x == k) = (l.find? (fun x => f x == k)).toList := by
  induction h with
  | nil => rfl
  | @cons x r hx _ ih =>
    by_cases e : f x = k
    · have hr : r.filter (fun y => f y == k) = [] :=
        List.filter_eq_nil_iff.mpr fun y hy => by simpa using fun c => hx y hy (e.trans c.symm)
      simp [e, hr]
    · simp [e, ih]

theorem find_filter_key_ne [DecidableEq β] (l : List α) (k k' : β) :
    (l.filter (fun x => f x != k)).find? (fun x => f x == k') = if k' = k then none else l.find? (fun x => f x == k') := by
  rw [List.find?_filter]
  split
  · subst k'; exact List.find?_eq_none.mpr (by simp)
  · rename_i e
    congr; funext x
    by_cases c : f x = k'
    · simp [c, e]
    · simp [c]

/-- selecting by key from a concatenation of blocks, each of one key: the blocks of the selected keys -/
theorem filter_flatMap_key {ι κ : Type} (key : α → κ) (ikey : ι → κ) (g : ι → List α)
    (hg : ∀ i, ∀ e ∈ g i, key e = ikey i) (P : κ → Bool) (is : List ι) :
    (is.flatMap g).filter (fun e => P (key e)) = (is.filter (fun i => P (ikey i))).flatMap g := by
  induction is with
  | nil => rfl
  | cons i is ih =>
    rw [List.flatMap_cons, List.filter_append, ih, List.filter_cons]
    cases hp : P (ikey i) with
    | true => rw [List.filter_eq_self.mpr fun e he => by rw [hg i e he, hp]]; rfl
    | false => rw [List.filter_eq_nil_iff.mpr fun e he => by rw [hg i e he, hp]; simp]; rfl

end Chewing
