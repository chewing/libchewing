/-!
# Runs that fold a step function

Every history function of the model (`Editor.run`, `CompEditor.run`, `Composition.run`, `Persist.run`, …) stops at the
first step that does not return and otherwise continues from the state that step returned.  `Folds` says that of a
`run`; `Ret r s` says that the result `r` is the returned state `s` (`r = .ok s`, or `r = some s` for an `Option`-valued
run).  What the proofs about histories need is proved here once: the first step of a returning run (`cons_ok`),
concatenation (`append`, `of_append`), and the two inductions: what every returning step keeps, a returning run keeps
(`keeps`); where every step returns, the run returns (`returns`).  In both, `I` is the invariant of the states and
`S s l` any condition on the operations `l` still to come from `s` that passes to the rest of the history: "every
operation is valid", or a condition evaluated along the run.  `inv` and `ok` are the case `∀ i ∈ l, V i`, `always` the
case of no condition.  `reach` is the induction for predicates `P l s` of the history so far and the state it reached.
-/

namespace Chewing

structure Folds {σ ι ρ : Type} (Ret : ρ → σ → Prop) (step : σ → ι → ρ) (run : σ → List ι → ρ) : Prop where
  nil_ok : ∀ {s s'}, Ret (run s []) s' ↔ s = s'
  /-- a run continues from the state its first step returned, and returns only if that step did -/
  cons : ∀ s i is, (∀ {s'}, Ret (step s i) s' → run s (i :: is) = run s' is) ∧
    ∀ {s''}, Ret (run s (i :: is)) s'' → ∃ s', Ret (step s i) s'

namespace Folds
variable {σ ι ρ : Type} {Ret : ρ → σ → Prop} {step : σ → ι → ρ} {run : σ → List ι → ρ} (h : Folds Ret step run)
include h

theorem cons_eq {s s' : σ} {i : ι} (hs : Ret (step s i) s') (is : List ι) : run s (i :: is) = run s' is :=
  (h.cons s i is).1 hs

theorem cons_ok {s s'' : σ} {i : ι} {is : List ι} :
    Ret (run s (i :: is)) s'' ↔ ∃ s', Ret (step s i) s' ∧ Ret (run s' is) s'' :=
  ⟨fun hr => let ⟨s', hs⟩ := (h.cons s i is).2 hr; ⟨s', hs, h.cons_eq hs is ▸ hr⟩, fun ⟨_, hs, hr⟩ => h.cons_eq hs is ▸ hr⟩

theorem one {s s' : σ} {i : ι} : Ret (run s [i]) s' ↔ Ret (step s i) s' :=
  h.cons_ok.trans ⟨fun ⟨_, hs, hr⟩ => h.nil_ok.mp hr ▸ hs, fun hs => ⟨_, hs, h.nil_ok.mpr rfl⟩⟩

theorem append {s s' : σ} : ∀ {a : List ι}, Ret (run s a) s' → ∀ b, run s (a ++ b) = run s' b
  | [], hr, _ => h.nil_ok.mp hr ▸ rfl
  | _ :: _, hr, b => let ⟨_, hs, hr⟩ := h.cons_ok.mp hr; (h.cons_eq hs _).trans (append hr b)

theorem of_append {s'' : σ} {b : List ι} :
    ∀ {a : List ι} {s : σ}, Ret (run s (a ++ b)) s'' → ∃ s', Ret (run s a) s' ∧ Ret (run s' b) s''
  | [], s, hr => ⟨s, h.nil_ok.mpr rfl, hr⟩
  | _ :: _, _, hr =>
    let ⟨_, hs, hr⟩ := h.cons_ok.mp hr
    let ⟨s', h1, h2⟩ := of_append hr
    ⟨s', h.cons_ok.mpr ⟨_, hs, h1⟩, h2⟩

/-- induction along a returning run from `s0`, the history so far in hand: what holds of the empty history and passes
    from a history to its extension by one returning step holds of every returning run -/
theorem reach {P : List ι → σ → Prop} {s0 : σ} (h0 : P [] s0)
    (hstep : ∀ {l s i s'}, Ret (run s0 l) s → P l s → Ret (step s i) s' → P (l ++ [i]) s') {l : List ι} {s : σ}
    (hr : Ret (run s0 l) s) : P l s := by
  suffices ∀ l2 l1 s1, Ret (run s0 l1) s1 → P l1 s1 → ∀ s, Ret (run s1 l2) s → P (l1 ++ l2) s from
    this l [] s0 (h.nil_ok.mpr rfl) h0 s hr
  intro l2
  induction l2 with
  | nil => intro l1 s1 _ hp s hr; rw [List.append_nil, ← h.nil_ok.mp hr]; exact hp
  | cons i is ih =>
    intro l1 s1 h1 hp s hr
    obtain ⟨s', hs, hr⟩ := h.cons_ok.mp hr
    have := ih (l1 ++ [i]) s' (h.append h1 [i] ▸ h.one.mpr hs) (hstep h1 hp hs) s hr
    rwa [List.append_assoc] at this

variable {I : σ → Prop} {S : σ → List ι → Prop}

theorem keeps (tl : ∀ {s i is s'}, S s (i :: is) → Ret (step s i) s' → S s' is)
    (hstep : ∀ {s i is s'}, I s → S s (i :: is) → Ret (step s i) s' → I s') :
    ∀ (l : List ι) {s s' : σ}, I s → S s l → Ret (run s l) s' → I s'
  | [], _, _, hi, _, hr => h.nil_ok.mp hr ▸ hi
  | _ :: is, _, _, hi, hs, hr =>
    let ⟨_, h1, hr⟩ := h.cons_ok.mp hr
    keeps tl hstep is (hstep hi hs h1) (tl hs h1) hr

theorem returns (tl : ∀ {s i is s'}, S s (i :: is) → Ret (step s i) s' → S s' is)
    (hstep : ∀ {s i is}, I s → S s (i :: is) → ∃ s', Ret (step s i) s' ∧ I s') :
    ∀ (l : List ι) {s : σ}, I s → S s l → ∃ s', Ret (run s l) s' ∧ I s'
  | [], s, hi, _ => ⟨s, h.nil_ok.mpr rfl, hi⟩
  | _ :: is, _, hi, hs =>
    let ⟨_, h1, hi1⟩ := hstep hi hs
    let ⟨s2, h2, hi2⟩ := returns tl hstep is hi1 (tl hs h1)
    ⟨s2, h.cons_ok.mpr ⟨_, h1, h2⟩, hi2⟩

variable {V : ι → Prop}

theorem inv (hstep : ∀ {s i s'}, V i → I s → Ret (step s i) s' → I s') (l : List ι) {s s' : σ}
    (hv : ∀ i ∈ l, V i) (hi : I s) (hr : Ret (run s l) s') : I s' :=
  h.keeps (S := fun _ l => ∀ i ∈ l, V i) (fun hv _ => (List.forall_mem_cons.mp hv).2)
    (fun hi hv => hstep (List.forall_mem_cons.mp hv).1 hi) l hi hv hr

theorem always (hstep : ∀ {s i s'}, I s → Ret (step s i) s' → I s') (l : List ι) {s s' : σ} (hi : I s)
    (hr : Ret (run s l) s') : I s' :=
  h.inv (V := fun _ => True) (fun _ => hstep) l (fun _ _ => trivial) hi hr

theorem ok (hstep : ∀ {s i}, V i → I s → ∃ s', Ret (step s i) s' ∧ I s') (l : List ι) {s : σ}
    (hv : ∀ i ∈ l, V i) (hi : I s) : ∃ s', Ret (run s l) s' ∧ I s' :=
  h.returns (S := fun _ l => ∀ i ∈ l, V i) (fun hv _ => (List.forall_mem_cons.mp hv).2)
    (fun hi hv => hstep (List.forall_mem_cons.mp hv).1 hi) l hi hv

end Folds

end Chewing
