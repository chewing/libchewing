import Chewing.Proofs.C01Inv
import Chewing.Proofs.ConvDisplay
/-!
C01, part 2: hypotheses on the environment (`EnvOK`), the invariant of `SharedState` (`ShInv`), and
no-panic + preservation for the `SharedState` methods: `conversion`, `display`, `learn_phrase`,
`learn_phrase_in_range_*`, `auto_learn`, `commit`, `try_auto_commit`.
-/
namespace Chewing.C01

variable {D L : Type} (env : Env D L) (G : D → Prop) (w : Prop)

/-- what the conversion result looks like on a buffer whose syllables all have a word: a chain of
    non-empty intervals from 0 to the buffer length, one character per covered symbol (C03: `alt_chain`,
    `one_char_per_symbol`) -/
def PathOK (c : Composition) (p : List Interval) : Prop :=
  Conv.IvChain 0 c.symbols.length p ∧ ∀ iv ∈ p, iv.text.length = iv.stop - iv.start

/-- … and on ANY valid buffer (C03: `alt_chain`, `text_at_least_one_per_symbol`): the same chain; an
    interval's text has at least one character per covered symbol (a syllable without a word is shown as its
    Bopomofo spelling, one to four characters) -/
def PathW (c : Composition) (p : List Interval) : Prop :=
  Conv.IvChain 0 c.symbols.length p ∧ ∀ iv ∈ p, iv.stop - iv.start ≤ iv.text.length

theorem PathOK.weak {c : Composition} {p : List Interval} (h : PathOK c p) : PathW c p :=
  ⟨h.1, fun iv hm => Nat.le_of_eq (h.2 iv hm).symm⟩

/-- **explicit hypotheses on the environment** (dictionary, conversion engines, estimator).  `G` is
    "this dictionary value is well formed" (the statement quantifies over contexts with well-formed
    dictionaries). -/
structure EnvOK : Prop where
  /-- every phrase has one character per syllable of its key (F27 is about the compiler not checking it) -/
  wf : ∀ d, G d → ∀ k s, ∀ p ∈ env.lookupAll d k s, p.text.length = k.length
  /-- an exact match is also a prefix match -/
  std_fuzzy : ∀ d c, G d → env.hasPhrase d [c] .standard = true → env.hasPhrase d [c] .fuzzyPartialPrefix = true
  /-- adding a well-sized phrase keeps the dictionary well formed and removes no word -/
  add_good : ∀ d k p d', G d → env.addPhrase d k p = some d' → p.text.length = k.length → G d'
  add_mono : ∀ d k p d', env.addPhrase d k p = some d' →
    ∀ c s, env.hasPhrase d [c] s = true → env.hasPhrase d' [c] s = true
  update_good : ∀ d k p f t, G d → p.text.length = k.length → G (env.updatePhrase d k p f t)
  update_mono : ∀ d k p f t c s, env.hasPhrase d [c] s = true → env.hasPhrase (env.updatePhrase d k p f t) [c] s = true
  flush_good : ∀ d, G d → G (env.reopenFlush d)
  flush_mono : ∀ d c s, env.hasPhrase d [c] s = true → env.hasPhrase (env.reopenFlush d) [c] s = true
  /-- removing a phrase keeps the dictionary well formed (it may of course remove the last word of a syllable) -/
  remove_good : ∀ d k t, G d → G (env.removePhrase d k t)
  /-- C03 (`nonempty_result`, `alt_chain`, `text_at_least_one_per_symbol`, `fuel_suffices`): on EVERY valid
      composition — with or without a word for each syllable, since the F02 / F03 repair — every engine
      returns at least one alternative, each a chain over `0..len` whose texts have at least one character
      per symbol -/
  convert_ok : ∀ k d c, G d → Conv.CompValid c →
    OkAnd (fun paths => paths ≠ [] ∧ ∀ p ∈ paths, PathW c p) (env.convert k d c)
  /-- C03 (`one_char_per_symbol`): when every syllable has a word under the engine's strategy, exactly one
      character per symbol -/
  convert_len : ∀ k d c paths, G d → Conv.CompValid c →
    (∀ x, Sym.syl x ∈ c.symbols → env.hasPhrase d [x] (engStrategy k) = true) →
    env.convert k d c = .ok paths → ∀ p ∈ paths, ∀ iv ∈ p, iv.text.length = iv.stop - iv.start
  /-- the frequency estimate does not overflow on the editor path (C08: Δt = 0 there) -/
  estimate_ok : ∀ t f m, ∃ v, env.estimate t f m = .ok v

/-- well-formedness of a symbol selector (the tables of `symbols.dat` as loaded, plus the open category):
    a leaf category has a non-empty name, a table category points to an existing table (after the `as u8`
    cast), an open category is an existing table -/
structure SymWF (y : SymSel) : Prop where
  cur : ∀ c, y.cursor = some c → c < y.table.length
  leaf : ∀ name, (name, none) ∈ y.category → name ≠ []
  idx : ∀ name i, (name, some i) ∈ y.category → i % 256 < y.table.length

/-- **invariant of the shared state**, in two strengths: `w = False` is the SAFETY invariant (kept by every
    operation; enough for no-panic / no-hang since the F02 / F03 repair), `w = True` adds the clause `word`
    (kept by every operation outside the class `Known`; what the one-character-per-symbol properties need) -/
structure ShInv (sh : Shared D L) : Prop where
  good : G sh.dict
  ced : CedInv sh.com
  /-- (strength `w`) every buffered syllable has a word under the engine's strategy and under the editor's
      lookup strategy -/
  word : w → ∀ c, Sym.syl c ∈ sh.com.inner.symbols →
    env.hasPhrase sh.dict [c] (engStrategy sh.engine) = true ∧ env.hasPhrase sh.dict [c] sh.options.lookupStrategy = true
  /-- (strength `w`) prefix lookup is only configured together with the fuzzy engine (the C API sets both at
      once; only needed to carry `word` from the editor's strategy to the engine's) -/
  coupled : w → sh.options.lookupStrategy = .fuzzyPartialPrefix → engStrategy sh.engine = .fuzzyPartialPrefix
  perPage : 0 < sh.options.candidatesPerPage
  /-- the symbol tables the editor was created with are well formed -/
  symOK : SymWF sh.symSel

variable {env G w}

/-- the invariant only reads `dict`, `com`, `engine`, two options and the symbol tables (one equation of tuples, so that
    a caller who wrote other fields closes it with `rfl`) -/
theorem ShInv.congr {sh sh' : Shared D L} (h : ShInv env G w sh)
    (e : (sh'.dict, sh'.com, sh'.engine, sh'.options.lookupStrategy, sh'.options.candidatesPerPage, sh'.symSel) =
      (sh.dict, sh.com, sh.engine, sh.options.lookupStrategy, sh.options.candidatesPerPage, sh.symSel)) :
    ShInv env G w sh' := by
  simp only [Prod.mk.injEq] at e
  obtain ⟨hd, hc, he, hl, hp, hy⟩ := e
  exact ⟨hd ▸ h.good, hc ▸ h.ced, by rw [hd, hc, he, hl]; exact h.word, by rw [hl, he]; exact h.coupled,
    hp ▸ h.perPage, hy ▸ h.symOK⟩

/-- a new composition editor each of whose syllables was buffered before or has its words -/
theorem ShInv.setComOf {sh : Shared D L} (h : ShInv env G w sh) {c : CompEditor} (hc : CedInv c)
    (hs : ∀ k, Sym.syl k ∈ c.inner.symbols → Sym.syl k ∈ sh.com.inner.symbols ∨ (w →
      env.hasPhrase sh.dict [k] (engStrategy sh.engine) = true ∧ env.hasPhrase sh.dict [k] sh.options.lookupStrategy = true)) :
    ShInv env G w { sh with com := c } :=
  ⟨h.good, hc, fun hw k hk => (hs k hk).elim (h.word hw k) (· hw), h.coupled, h.perPage, h.symOK⟩

/-- … whose one new symbol `x`, if a syllable, has its words -/
theorem ShInv.setComIns {sh : Shared D L} (h : ShInv env G w sh) {c : CompEditor} {x : Sym} (hp : CedPost sh.com (some x) c)
    (hx : w → ∀ k, x = .syl k → env.hasPhrase sh.dict [k] (engStrategy sh.engine) = true ∧
      env.hasPhrase sh.dict [k] sh.options.lookupStrategy = true) :
    ShInv env G w { sh with com := c } :=
  h.setComOf hp.1 fun k hk => (hp.2 _ hk).imp_right fun e hw => hx hw k (Option.some.inj e)

/-- … all of whose new symbols are characters -/
theorem ShInv.setComC {sh : Shared D L} (h : ShInv env G w sh) {c : CompEditor} (hp : CedPostC sh.com c) :
    ShInv env G w { sh with com := c } :=
  h.setComOf hp.1 fun _ hk => (hp.2 _ hk).imp_right nofun

/-- … whose buffer is only re-read: cursor moves, cursor stack -/
theorem ShInv.setComSame {sh : Shared D L} (h : ShInv env G w sh) {c : CompEditor} (hc : CedInv c)
    (hs : c.inner.symbols = sh.com.inner.symbols) : ShInv env G w { sh with com := c } :=
  h.setComOf hc fun _ hk => .inl (hs ▸ hk)

theorem cancel_inv {sh : Shared D L} (h : ShInv env G w sh) : ShInv env G w (Shared.cancelSelecting sh) :=
  h.setComSame (ced_popCursor h.ced) (by rw [popCursor_inner])

theorem ShInv.clearCom {sh : Shared D L} (h : ShInv env G w sh) : ShInv env G w { sh with com := sh.com.clear } :=
  h.setComOf (ced_clear h.ced) fun _ hk => nomatch hk

/-- a new dictionary value that is well formed, whatever happened to its words: the safety invariant only -/
theorem ShInv.setDictAny {sh : Shared D L} (h : ShInv env G False sh) {d : D} (hg : G d) :
    ShInv env G False { sh with dict := d } :=
  ⟨hg, h.ced, fun hw => hw.elim, fun hw => hw.elim, h.perPage, h.symOK⟩

/-- the safety invariant is the word-free part of the full one -/
theorem ShInv.safe {sh : Shared D L} (h : ShInv env G w sh) : ShInv env G False sh :=
  ⟨h.good, h.ced, fun hw => hw.elim, fun hw => hw.elim, h.perPage, h.symOK⟩

/-- what dictionary-only methods keep -/
structure Keeps (env : Env D L) (sh sh' : Shared D L) : Prop where
  com : sh'.com = sh.com
  engine : sh'.engine = sh.engine
  options : sh'.options = sh.options
  symSel : sh'.symSel = sh.symSel
  syl : sh'.syl = sh.syl
  mono : ∀ c s, env.hasPhrase sh.dict [c] s = true → env.hasPhrase sh'.dict [c] s = true

theorem Keeps.refl (sh : Shared D L) : Keeps env sh sh := ⟨rfl, rfl, rfl, rfl, rfl, fun _ _ h => h⟩

theorem Keeps.trans {a b c : Shared D L} (h1 : Keeps env a b) (h2 : Keeps env b c) : Keeps env a c :=
  ⟨h2.com.trans h1.com, h2.engine.trans h1.engine, h2.options.trans h1.options, h2.symSel.trans h1.symSel,
   h2.syl.trans h1.syl, fun x s h => h2.mono x s (h1.mono x s h)⟩

/-- a dictionary-only step to a well-formed dictionary that lost no single-syllable word (`e`: one equation of tuples,
    as in `ShInv.congr`) -/
theorem ShInv.newDict {sh sh' : Shared D L} (h : ShInv env G w sh) (hg : G sh'.dict)
    (hm : ∀ c s, env.hasPhrase sh.dict [c] s = true → env.hasPhrase sh'.dict [c] s = true)
    (e : (sh'.com, sh'.engine, sh'.options, sh'.symSel, sh'.syl) = (sh.com, sh.engine, sh.options, sh.symSel, sh.syl)) :
    ShInv env G w sh' ∧ Keeps env sh sh' := by
  simp only [Prod.mk.injEq] at e
  obtain ⟨hc, he, ho, hy, hl⟩ := e
  refine ⟨⟨hg, hc ▸ h.ced, fun hw c hcm => ?_, by rw [ho, he]; exact h.coupled, ho ▸ h.perPage, hy ▸ h.symOK⟩,
    hc, he, ho, hy, hl, hm⟩
  rw [he, ho]
  exact ⟨hm _ _ (h.word hw c (hc ▸ hcm)).1, hm _ _ (h.word hw c (hc ▸ hcm)).2⟩

/-- … that writes `dict` and nothing else -/
theorem ShInv.setDict {sh : Shared D L} (h : ShInv env G w sh) {d : D} (hg : G d)
    (hm : ∀ c s, env.hasPhrase sh.dict [c] s = true → env.hasPhrase d [c] s = true) :
    ShInv env G w { sh with dict := d } :=
  (h.newDict (sh' := { sh with dict := d }) hg hm rfl).1

/-! ## `conversion` / `display` -/

theorem conversion_pick {P : List Interval → Prop} (sh : Shared D L) {paths : List (List Interval)}
    (hp : env.convert sh.engine sh.dict sh.com.inner = .ok paths) (hne : paths ≠ []) (hall : ∀ p ∈ paths, P p) :
    OkAnd P (Shared.conversion env sh) := by
  unfold Shared.conversion
  rw [hp]
  dsimp only
  have hl : 0 < paths.length := List.length_pos_iff.mpr hne
  split
  · split
    · next h0 => simp only [beq_iff_eq] at h0; omega
    · have hlt : sh.nth % paths.length < paths.length := Nat.mod_lt _ hl
      rw [List.getElem?_eq_getElem hlt]
      exact ⟨_, rfl, hall _ (List.getElem_mem _)⟩
  · cases paths with
    | nil => exact absurd rfl hne
    | cons p ps => exact ⟨p, rfl, hall p (List.mem_cons_self ..)⟩

/-- `conversion` returns on every state satisfying the safety invariant (no `unwrap()` on "no path") -/
theorem conversion_ok (hE : EnvOK env G) {sh : Shared D L} (h : ShInv env G w sh) :
    OkAnd (PathW sh.com.inner) (Shared.conversion env sh) := by
  obtain ⟨paths, hp, hne, hall⟩ := hE.convert_ok sh.engine sh.dict sh.com.inner h.good
    (compValid_of_cinv h.ced.inner)
  exact conversion_pick sh hp hne hall

/-- … with one character per symbol when every buffered syllable has a word -/
theorem conversion_exact (hE : EnvOK env G) {sh : Shared D L} (h : ShInv env G True sh) :
    OkAnd (PathOK sh.com.inner) (Shared.conversion env sh) := by
  obtain ⟨paths, hp, hne, hall⟩ := hE.convert_ok sh.engine sh.dict sh.com.inner h.good
    (compValid_of_cinv h.ced.inner)
  exact conversion_pick sh hp hne (fun p hm => ⟨(hall p hm).1,
    hE.convert_len _ _ _ _ h.good (compValid_of_cinv h.ced.inner) (fun x hx => (h.word trivial x hx).1) hp p hm⟩)

theorem display_length_ge {a b : Nat} {l : List Interval} (h : Conv.IvChain a b l)
    (hl : ∀ iv ∈ l, iv.stop - iv.start ≤ iv.text.length) : b - a ≤ (Conv.display l).length := by
  induction l generalizing a with
  | nil => cases h; simp
  | cons x r ih =>
    obtain ⟨h1, h2, h3⟩ := h
    rw [Conv.display_cons, List.length_append]
    have := ih h3 (fun iv hm => hl iv (List.mem_cons_of_mem _ hm))
    have := hl x (List.mem_cons_self ..)
    have := h3.le
    omega

theorem display_ok (hE : EnvOK env G) {sh : Shared D L} (h : ShInv env G w sh) :
    OkAnd (fun t => sh.com.inner.symbols.length ≤ t.length) (Shared.display env sh) := by
  obtain ⟨p, hp, hc, ht⟩ := conversion_ok hE h
  unfold Shared.display
  rw [hp]
  refine ⟨_, rfl, ?_⟩
  have := display_length_ge hc ht
  simpa [Conv.display] using this

/-! ## `learn_phrase` -/

theorem estimate_ne_panic (hE : EnvOK env G) (t f m : Nat) (q : String) : env.estimate t f m ≠ .panic q := by
  obtain ⟨v, hv⟩ := hE.estimate_ok t f m; rw [hv]; intro h; cases h

theorem estimate_ne_fuel (hE : EnvOK env G) (t f m : Nat) : env.estimate t f m ≠ .outOfFuel := by
  obtain ⟨v, hv⟩ := hE.estimate_ok t f m; rw [hv]; intro h; cases h

theorem learnPhrase_ok (hE : EnvOK env G) {sh : Shared D L} (h : ShInv env G w sh) (k : List Nat) (p : Text) :
    OkAnd (fun r => ShInv env G w r.1 ∧ Keeps env sh r.1) (Shared.learnPhrase env sh k p) := by
  unfold Shared.learnPhrase
  split
  · exact .ok ⟨h, Keeps.refl _⟩
  · next hlen =>
    have hlen : p.length = k.length := by
      simp only [bne_iff_ne, ne_eq, Decidable.not_not] at hlen; exact hlen.symm
    dsimp only
    split
    · split
      · next d hd => exact .ok (h.newDict (hE.add_good _ _ _ _ h.good hd hlen) (hE.add_mono _ _ _ _ hd) rfl)
      · exact .ok ⟨h, Keeps.refl _⟩
    · split
      · exact .ok (h.newDict (hE.update_good _ _ _ _ _ h.good hlen) (hE.update_mono _ _ _ _ _) rfl)
      · next q hq => exact absurd hq (estimate_ne_panic hE _ _ _ _)
      · next hq => exact absurd hq (estimate_ne_fuel hE _ _ _)

/-! ## slices -/

theorem sliceSyms_ok {syms : List Sym} {b e : Nat} (h1 : b ≤ e) (h2 : e ≤ syms.length) :
    sliceSyms syms b e = .ok ((syms.drop b).take (e - b)) := by
  unfold sliceSyms
  rw [if_neg (by omega), if_neg (by omega)]

theorem sylPrefix_length_of_all {l : List Sym} (h : l.any (fun s => !s.isSyl) = false) :
    (sylPrefix l).length = l.length := by
  induction l with
  | nil => rfl
  | cons x r ih =>
    simp only [List.any_cons, Bool.or_eq_false_iff] at h
    cases x with
    | syl c => simp only [sylPrefix, List.length_cons]; rw [ih h.2]
    | chr c => cases h.1

/-- the same window of two lists that both reach its end -/
theorem slice_length_eq {α β : Type} {l : List α} {m : List β} {a b : Nat} (hb : b ≤ l.length) (hm : l.length ≤ m.length) :
    ((m.drop a).take (b - a)).length = ((l.drop a).take (b - a)).length := by
  rw [List.length_take, List.length_take, List.length_drop, List.length_drop,
    Nat.min_eq_left (Nat.sub_le_sub_right hb a), Nat.min_eq_left (Nat.sub_le_sub_right (Nat.le_trans hb hm) a)]

/-! ## `learn_phrase_in_range_*` (Ctrl+digit, Enter on a highlight) -/

theorem learnInRangeQuiet_ok (hE : EnvOK env G) {sh : Shared D L} (h : ShInv env G w sh) (a b : Nat) (hab : a ≤ b) :
    OkAnd (fun r => ShInv env G w r.1 ∧ Keeps env sh r.1) (Shared.learnInRangeQuiet env sh a b) := by
  unfold Shared.learnInRangeQuiet
  split
  · exact .ok ⟨h, Keeps.refl _⟩
  · next hb =>
    have hb : b ≤ sh.com.inner.symbols.length := by
      simp only [CompEditor.len, Composition.len] at hb; omega
    rw [show sh.com.symbols = sh.com.inner.symbols from rfl, sliceSyms_ok hab hb]
    dsimp only
    split
    · exact .ok ⟨h, Keeps.refl _⟩
    · next hall =>
      obtain ⟨disp, hd, hdl⟩ := display_ok hE h
      rw [hd]
      dsimp only
      split
      · exact .ok ⟨h, Keeps.refl _⟩
      · split
        · next d hadd =>
          have hlen : ((disp.drop a).take (b - a)).length =
              (sylPrefix ((sh.com.inner.symbols.drop a).take (b - a))).length := by
            rw [sylPrefix_length_of_all ((Bool.not_eq_true _).mp hall)]
            exact slice_length_eq hb hdl
          exact .ok (h.newDict (hE.add_good _ _ _ _ h.good hadd hlen) (hE.add_mono _ _ _ _ hadd) rfl)
        · exact .ok ⟨h, Keeps.refl _⟩

theorem learnInRangeNotify_ok (hE : EnvOK env G) {sh : Shared D L} (h : ShInv env G w sh) (a b : Nat) (hab : a ≤ b) :
    OkAnd (fun r => ShInv env G w r.1 ∧ Keeps env sh r.1) (Shared.learnInRangeNotify env sh a b) := by
  obtain ⟨⟨sh', res⟩, hq, hi, hk⟩ := learnInRangeQuiet_ok hE h a b hab
  unfold Shared.learnInRangeNotify
  rw [hq]
  cases res <;> exact .ok ⟨hi.congr rfl, hk.com, hk.engine, hk.options, hk.symSel, hk.syl, hk.mono⟩

/-! ## `auto_learn` -/

theorem autoLearn_flush_ok (hE : EnvOK env G) {sh : Shared D L} (h : ShInv env G w sh) (pending : Text) (syls : List Sym) :
    OkAnd (fun sh' => ShInv env G w sh' ∧ Keeps env sh sh') (Shared.autoLearn.flush env sh pending syls) := by
  unfold Shared.autoLearn.flush
  split
  · exact .ok ⟨h, Keeps.refl _⟩
  · obtain ⟨⟨sh', b⟩, hq, hi, hk⟩ := learnPhrase_ok hE h (sylPrefix syls) pending
    rw [hq]
    exact .ok ⟨hi, hk⟩

theorem autoLearn_go_ok (hE : EnvOK env G) (ivs : List Interval) :
    ∀ (sh : Shared D L) (a : Nat) (pending : Text) (syls : List Sym), ShInv env G w sh →
      Conv.IvChain a sh.com.inner.symbols.length ivs →
      OkAnd (fun sh' => ShInv env G w sh' ∧ Keeps env sh sh') (Shared.autoLearn.go env sh ivs pending syls) := by
  induction ivs with
  | nil =>
    intro sh a pending syls h _
    simp only [Shared.autoLearn.go]
    exact autoLearn_flush_ok hE h pending syls
  | cons iv rest ih =>
    intro sh a pending syls h hch
    obtain ⟨h1, h2, h3⟩ := hch
    have hle := h3.le
    simp only [Shared.autoLearn.go]
    rw [if_neg (by omega)]
    have hsl : sliceSyms sh.com.symbols iv.start iv.stop = .ok ((sh.com.inner.symbols.drop iv.start).take (iv.stop - iv.start)) :=
      sliceSyms_ok (by omega) hle
    split
    · rw [hsl]
      exact ih sh iv.stop _ _ h h3
    · obtain ⟨sh1, hq, hi1, hk1⟩ := autoLearn_flush_ok hE h pending syls
      rw [hq]
      dsimp only
      have hlen1 : sh1.com.inner.symbols.length = sh.com.inner.symbols.length := by rw [hk1.com]
      split
      · have hsl1 : sliceSyms sh1.com.symbols iv.start iv.stop =
            .ok ((sh1.com.inner.symbols.drop iv.start).take (iv.stop - iv.start)) :=
          sliceSyms_ok (by omega) (by show iv.stop ≤ sh1.com.inner.symbols.length; rw [hlen1]; exact hle)
        rw [hsl1]
        dsimp only
        obtain ⟨⟨sh2, b⟩, hq2, hi2, hk2⟩ := learnPhrase_ok hE hi1
          (sylPrefix ((sh1.com.inner.symbols.drop iv.start).take (iv.stop - iv.start))) iv.text
        rw [hq2]
        dsimp only
        have hlen2 : sh2.com.inner.symbols.length = sh.com.inner.symbols.length := by rw [hk2.com, hk1.com]
        exact (ih sh2 iv.stop [] [] hi2 (by rw [hlen2]; exact h3)).mono
          (fun sh' hh => ⟨hh.1, (hk1.trans hk2).trans hh.2⟩)
      · exact (ih sh1 iv.stop [] [] hi1 (by rw [hlen1]; exact h3)).mono
          (fun sh' hh => ⟨hh.1, hk1.trans hh.2⟩)

/-! ## `commit` -/

theorem commit_ok (hE : EnvOK env G) {sh : Shared D L} (h : ShInv env G w sh) :
    OkAnd (fun sh' => ShInv env G w sh' ∧ sh'.com = sh.com.clear ∧ sh'.engine = sh.engine ∧ sh'.options = sh.options ∧
        sh'.symSel = sh.symSel ∧ sh'.syl = sh.syl ∧
        ∀ c s, env.hasPhrase sh.dict [c] s = true → env.hasPhrase sh'.dict [c] s = true)
      (Shared.commit env sh) := by
  obtain ⟨ivs, hq, hc, _⟩ := conversion_ok hE h
  unfold Shared.commit
  rw [hq]
  dsimp only
  have h0 : ShInv env G w { sh with commitBuf := [] } := h.congr rfl
  have hlearn : OkAnd (fun sh1 => ShInv env G w sh1 ∧ Keeps env sh sh1)
      (if !sh.options.disableAutoLearnPhrase then Shared.autoLearn env { sh with commitBuf := [] } ivs
       else .ok { sh with commitBuf := [] }) := by
    split
    · obtain ⟨sh1, hq1, hi1, hk1⟩ := autoLearn_go_ok hE ivs { sh with commitBuf := [] } 0 [] [] h0 hc
      unfold Shared.autoLearn
      rw [hq1]
      exact .ok ⟨hi1, ⟨hk1.com, hk1.engine, hk1.options, hk1.symSel, hk1.syl, hk1.mono⟩⟩
    · exact .ok ⟨h0, ⟨rfl, rfl, rfl, rfl, rfl, fun _ _ hh => hh⟩⟩
  obtain ⟨sh1, hq1, hi1, hk⟩ := hlearn
  rw [hq1]
  refine .ok ⟨hi1.clearCom.congr rfl, ?_, hk.engine, hk.options, hk.symSel, hk.syl, hk.mono⟩
  show sh1.com.clear = sh.com.clear
  rw [hk.com]

/-! ## `try_auto_commit` -/

theorem autoCommitTake_ok (len th : Nat) (ivs : List Interval) (a : Nat) (buf : Text) (h : Conv.IvChain a len ivs) :
    OkAnd (fun r => r.2 ≤ len) (Shared.autoCommitTake len th ivs buf a) :=
  have ⟨hwf, hsum⟩ := Link.tilesLen_of_chain h
  have ⟨buf', r', h1, _, h3, _⟩ := autoCommitTake_bound len th ivs buf a hwf hsum
  ⟨(buf', r'), h1, h3⟩

theorem tryAutoCommit_ok (hE : EnvOK env G) {sh : Shared D L} (h : ShInv env G w sh) :
    OkAnd (fun sh' => ShInv env G w sh' ∧ sh'.dict = sh.dict ∧ sh'.engine = sh.engine ∧ sh'.options = sh.options ∧
        sh'.symSel = sh.symSel ∧ sh'.syl = sh.syl ∧ sh'.dirty = sh.dirty)
      (Shared.tryAutoCommit env sh) := by
  unfold Shared.tryAutoCommit
  dsimp only
  split
  · exact .ok ⟨h, rfl, rfl, rfl, rfl, rfl, rfl⟩
  · obtain ⟨ivs, hq, hc, _⟩ := conversion_ok hE h
    rw [hq]
    dsimp only
    obtain ⟨⟨buf, remove⟩, hq2, hr⟩ := autoCommitTake_ok sh.com.len sh.options.autoCommitThreshold ivs 0 [] hc
    rw [hq2]
    dsimp only
    obtain ⟨com, hq3, hp⟩ := ced_removeFront h.ced remove hr
    rw [hq3]
    exact .ok ⟨(h.setComC (hp.toC nofun)).congr rfl, rfl, rfl, rfl, rfl, rfl, rfl⟩

end Chewing.C01
