import Chewing.Model.TrieWalk
/-!
Structural predicates over an index table.  The negations of `Forward ∧ DisjointRanges` and of
`NoZeroChild` are the finding classes the harness oracle uses (`non_tree_index`, `zero_syllable_child`
in `harness/src/c12_common.rs`).
-/
namespace Chewing.TrieWalk

variable {P : Type}

/-- the record can be entered as a *node* by the traversals: the root, or a non-zero syllable -/
def NodeIsh (t : Tbl P) (i : Nat) : Prop := i = 0 ∨ (t.get i).s ≠ 0

/-- its child range passes `bail_if_oob!` (non-empty, inside the table) -/
def InRange (t : Tbl P) (i : Nat) : Prop := 0 < (t.get i).b ∧ (t.get i).a + (t.get i).b ≤ t.n

/-- children come after their parent (what the writer's breadth-first layout guarantees) -/
def Forward (t : Tbl P) : Prop :=
  ∀ i, i < t.n → NodeIsh t i → InRange t i → i < (t.get i).a

/-- the child ranges of two different node records do not overlap -/
def DisjointRanges (t : Tbl P) : Prop :=
  ∀ i j, i < t.n → j < t.n → i ≠ j → NodeIsh t i → NodeIsh t j → InRange t i → InRange t j →
    (t.get i).a + (t.get i).b ≤ (t.get j).a ∨ (t.get j).a + (t.get j).b ≤ (t.get i).a

/-- a zero syllable (= leaf record) only ever sits at the *first* position of a child range -/
def NoZeroChild (t : Tbl P) : Prop :=
  ∀ i, i < t.n → NodeIsh t i → InRange t i →
    ∀ j, (t.get i).a < j → j < (t.get i).a + (t.get i).b → (t.get j).s ≠ 0

/-- every non-zero syllable inside a child range is a value `Syllable::try_from` accepts (`validCode`; what the
    per-record syllable check of `validate_index` guarantees since the repair of C13's F47) -/
def ValidSyls (t : Tbl P) : Prop :=
  ∀ i, i < t.n → NodeIsh t i → InRange t i →
    ∀ j, (t.get i).a ≤ j → j < (t.get i).a + (t.get i).b → (t.get j).s ≠ 0 → validCode (t.get j).s = true

instance (t : Tbl P) (i : Nat) : Decidable (NodeIsh t i) := by unfold NodeIsh; exact inferInstance
instance (t : Tbl P) (i : Nat) : Decidable (InRange t i) := by unfold InRange; exact inferInstance

end Chewing.TrieWalk
