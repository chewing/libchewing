import Chewing.Model.UhashTextEnc
/-!
Decimal print / parse round trip between the writer `natToDigits` / `intToDigits` (`Model/UhashTextEnc.lean`) and
the reader's `str::parse` model `parseUnsigned` / `parseI64Ok` (`Model/Uhash.lean`), and what ELSE the reader accepts
(leading zeros, a leading `+`) or rejects (blanks around the header number).
-/
namespace Chewing.Uhash

theorem digitsVal_append_single (xs : List Nat) (d : Nat) : digitsVal (xs ++ [d]) = digitsVal xs * 10 + (d - 48) := by
  simp [digitsVal, List.foldl_append]

theorem isDigit_iff {b : Nat} : isDigit b = true ↔ 48 ≤ b ∧ b ≤ 57 := by
  simp [isDigit]

/-- induction along the printed digits: one digit `r`, or the digits of `q ≥ 1` followed by one more, which prints
    `q * 10 + r` (the fuel `n + 1` never runs out) -/
theorem natToDigits_induct {P : Nat → List Nat → Prop} (one : ∀ r, r < 10 → P r [48 + r])
    (more : ∀ q r l, 1 ≤ q → r < 10 → P q l → P (q * 10 + r) (l ++ [48 + r])) (n : Nat) : P n (natToDigits n) := by
  suffices ∀ fuel n, n < fuel → P n (natToDigitsFuel fuel n) from this _ n (Nat.lt_succ_self n)
  intro fuel
  induction fuel with
  | zero => exact fun n h => absurd h (Nat.not_lt_zero n)
  | succ fuel ih =>
    intro n h
    unfold natToDigitsFuel
    split
    next h10 => exact one n h10
    next h10 =>
      have h10 := Nat.le_of_not_lt h10
      have hlt : n / 10 < fuel := Nat.lt_of_lt_of_le (Nat.div_lt_self (by omega) (by decide)) (Nat.le_of_lt_succ h)
      have := more (n / 10) (n % 10) _ (Nat.div_pos h10 (by decide)) (Nat.mod_lt n (by decide)) (ih _ hlt)
      rwa [Nat.div_add_mod'] at this

theorem digitsVal_natToDigits (n : Nat) : digitsVal (natToDigits n) = n := by
  refine natToDigits_induct (P := fun n l => digitsVal l = n) (fun r _ => by simp [digitsVal]) ?_ n
  intro q r l _ _ ih
  rw [digitsVal_append_single, ih, Nat.add_sub_cancel_left]

theorem natToDigits_all (n : Nat) : (natToDigits n).all isDigit = true := by
  have digit (r : Nat) (h : r < 10) : isDigit (48 + r) = true := by rw [isDigit_iff]; omega
  refine natToDigits_induct (P := fun _ l => l.all isDigit = true) ?_ ?_ n
  · intro r h
    simp [digit r h]
  · intro q r l _ h ih
    simp [ih, digit r h]

theorem natToDigits_digits (n : Nat) : ∀ d ∈ natToDigits n, isDigit d = true :=
  List.all_eq_true.mp (natToDigits_all n)

theorem natToDigits_ne_nil_head (n : Nat) : natToDigits n ≠ [] ∧ (1 ≤ n → (natToDigits n).head? ≠ some 48) := by
  refine natToDigits_induct (P := fun n l => l ≠ [] ∧ (1 ≤ n → l.head? ≠ some 48)) ?_ ?_ n
  · intro r _
    simp; omega
  · intro q r l hq _ ih
    cases l with
    | nil => exact absurd rfl ih.1
    | cons c l => exact ⟨List.cons_ne_nil _ _, fun _ => ih.2 hq⟩

theorem natToDigits_ne_nil (n : Nat) : natToDigits n ≠ [] := (natToDigits_ne_nil_head n).1

theorem natToDigits_no_leading_zero (n : Nat) (h : 1 ≤ n) : (natToDigits n).head? ≠ some 48 :=
  (natToDigits_ne_nil_head n).2 h

theorem natToDigits_isEmpty (n : Nat) : (natToDigits n).isEmpty = false := by
  simp [natToDigits_ne_nil]

/-- the first byte is a digit — in particular neither `+` (43) nor `-` (45) nor `C` (0x43) -/
theorem natToDigits_head (n : Nat) : ∃ c r, natToDigits n = c :: r ∧ 48 ≤ c ∧ c ≤ 57 := by
  match h : natToDigits n, natToDigits_ne_nil n with
  | c :: r, _ => exact ⟨c, r, rfl, isDigit_iff.mp (natToDigits_digits n c (h ▸ List.mem_cons_self))⟩

theorem natToDigits_zero : natToDigits 0 = [48] := rfl

theorem natToDigits_ascii (n : Nat) : ∀ d ∈ natToDigits n, d < 128 := fun d hd => by
  have := isDigit_iff.mp (natToDigits_digits n d hd); omega

theorem natToDigits_noWs (n : Nat) : ∀ d ∈ natToDigits n, isAsciiWs d = false := fun d hd => by
  have := isDigit_iff.mp (natToDigits_digits n d hd)
  simp only [isAsciiWs, Bool.or_eq_false_iff, beq_eq_false_iff_ne]
  omega

/-- a non-empty all-digit token is parsed as its value, subject to the range check only -/
theorem parseUnsigned_digits (max : Nat) (ds : List Nat) (hne : ds ≠ []) (hd : ∀ d ∈ ds, isDigit d = true) :
    parseUnsigned max ds = if digitsVal ds ≤ max then some (digitsVal ds) else none := by
  match ds, hne, hd with
  | c :: r, _, hd =>
    unfold parseUnsigned
    split
    next h => cases h; exact absurd (hd 43 List.mem_cons_self) (by decide)
    · simp [List.all_eq_true.mpr hd]

/-- **print/parse round trip, both directions**: the decimal image of `n` parses to `n` iff `n` fits the type -/
theorem parseUnsigned_natToDigits (max n : Nat) :
    parseUnsigned max (natToDigits n) = if n ≤ max then some n else none := by
  rw [parseUnsigned_digits max _ (natToDigits_ne_nil n) (natToDigits_digits n), digitsVal_natToDigits]

theorem parseUnsigned_natToDigits_le {max n : Nat} (h : n ≤ max) : parseUnsigned max (natToDigits n) = some n := by
  rw [parseUnsigned_natToDigits, if_pos h]

theorem parseUnsigned_natToDigits_gt {max n : Nat} (h : max < n) : parseUnsigned max (natToDigits n) = none := by
  rw [parseUnsigned_natToDigits, if_neg (by omega)]

theorem digitsVal_cons_zero (ds : List Nat) : digitsVal (48 :: ds) = digitsVal ds := by
  simp [digitsVal]

/-- the reader also accepts leading zeros (the writer never produces them) -/
theorem parseUnsigned_leading_zero (max n : Nat) :
    parseUnsigned max (48 :: natToDigits n) = if n ≤ max then some n else none := by
  rw [parseUnsigned_digits max _ (List.cons_ne_nil _ _) (List.forall_mem_cons.mpr ⟨rfl, natToDigits_digits n⟩),
    digitsVal_cons_zero, digitsVal_natToDigits]

/-- the reader also accepts a leading `+` (the writer never produces it) -/
theorem parseUnsigned_plus (max n : Nat) :
    parseUnsigned max (43 :: natToDigits n) = if n ≤ max then some n else none := by
  unfold parseUnsigned
  simp [natToDigits_isEmpty, natToDigits_all, digitsVal_natToDigits]

/-- a `-` is never accepted in an unsigned column (a negative field of the legacy `%d` rejects the line) -/
theorem parseUnsigned_minus (max : Nat) (r : List Nat) : parseUnsigned max (45 :: r) = none := by
  unfold parseUnsigned
  simp [isDigit]

/-- all-digit tokens: `parseI64Ok` is the range check -/
theorem parseI64Ok_digits (ds : List Nat) (hne : ds ≠ []) (hd : ∀ d ∈ ds, isDigit d = true) :
    parseI64Ok ds = decide (digitsVal ds ≤ 2 ^ 63 - 1) := by
  match ds, hne, hd with
  | c :: r, _, hd =>
    unfold parseI64Ok
    split
    next h => cases h; exact absurd (hd 43 List.mem_cons_self) (by decide)
    next h => cases h; exact absurd (hd 45 List.mem_cons_self) (by decide)
    · simp [List.all_eq_true.mpr hd]

/-- **signed print/parse, both directions**: the decimal image of `z` is accepted iff `z` is an `i64` -/
theorem parseI64Ok_intToDigits (z : Int) :
    parseI64Ok (intToDigits z) = true ↔ (-9223372036854775808 ≤ z ∧ z < 9223372036854775808) := by
  cases z with
  | ofNat n =>
    rw [intToDigits, parseI64Ok_digits _ (natToDigits_ne_nil n) (natToDigits_digits n), digitsVal_natToDigits]
    simp only [decide_eq_true_eq, Int.ofNat_eq_natCast]
    omega
  | negSucc n =>
    rw [intToDigits]
    unfold parseI64Ok
    simp only [natToDigits_isEmpty, natToDigits_all, digitsVal_natToDigits, Bool.not_false, Bool.true_and,
      decide_eq_true_eq]
    omega

/-- the first byte of a printed integer: a digit or `-` -/
theorem intToDigits_head (z : Int) : ∃ c r, intToDigits z = c :: r ∧ (c = 45 ∨ (48 ≤ c ∧ c ≤ 57)) := by
  cases z with
  | ofNat n =>
    obtain ⟨c, r, h, hc⟩ := natToDigits_head n
    exact ⟨c, r, h, Or.inr hc⟩
  | negSucc n => exact ⟨45, _, rfl, Or.inl rfl⟩

theorem intToDigits_mem (z : Int) : ∀ d ∈ intToDigits z, d = 45 ∨ (48 ≤ d ∧ d ≤ 57) := by
  have nat (n : Nat) : ∀ d ∈ natToDigits n, d = 45 ∨ (48 ≤ d ∧ d ≤ 57) :=
    fun d hd => Or.inr (isDigit_iff.mp (natToDigits_digits n d hd))
  cases z with
  | ofNat n => exact nat n
  | negSucc n => exact List.forall_mem_cons.mpr ⟨Or.inl rfl, nat _⟩

/-! ### what the header does NOT tolerate: blanks (`str::parse` does not trim) -/

theorem parseI64Ok_blank {t : List Nat} (h : 32 ∈ t) : parseI64Ok t = false := by
  have blank {l : List Nat} (h : 32 ∈ l) : l.all isDigit = false := List.all_eq_false.mpr ⟨32, h, by decide⟩
  unfold parseI64Ok
  split
  · simp [blank ((List.mem_cons.mp h).resolve_left (by decide))]
  · simp [blank ((List.mem_cons.mp h).resolve_left (by decide))]
  · simp [blank h]

theorem lifetimeOk_leading_blank (n : Nat) : lifetimeOk (32 :: natToDigits n) = false := by
  simp [lifetimeOk, parseI64Ok_blank]

theorem lifetimeOk_trailing_blank (n : Nat) : lifetimeOk (natToDigits n ++ [32]) = false := by
  simp [lifetimeOk, parseI64Ok_blank]

end Chewing.Uhash
