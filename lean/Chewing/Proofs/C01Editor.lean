import Chewing.Proofs.C01Entering
import Chewing.Proofs.EditorKey
/-!
C01, part 5: the editor level.  The frame of `process_keyevent` around the state's `next` (preamble, recording the
transition, auto-commit, dictionary flush) and the public entry points that do not consult a candidate list
re-establish `EditorInv` and never panic / run out of fuel.
-/
namespace Chewing.C01
open Chewing.C06

variable {D L : Type} {env : Env D L} {G : D → Prop} {w : Prop}

/-- **the reachable-state invariant of the editor**, in two strengths (see `ShInv`): `EditorInv env G False`
    is the safety invariant every operation keeps, `EditorInv env G True` adds "every buffered syllable has a
    word under every active lookup strategy", kept outside the class `Known` -/
structure EditorInv (env : Env D L) (G : D → Prop) (w : Prop) (e : Editor D L) : Prop where
  sh : ShInv env G w e.shared
  st : StInv env w e.shared e.state

theorem EditorInv.selInv {e : Editor D L} (hi : EditorInv env G w e) {s : Selecting} (hst : e.state = .selecting s) :
    SelInv env w e.shared s :=
  show StInv env w e.shared (.selecting s) from hst ▸ hi.st

/-- `StInv` under a change of fields the selector invariant does not read -/
theorem StInv.same {sh sh' : Shared D L} {st : St} (h : StInv env w sh st) (hc : sh'.com = sh.com)
    (hd : sh'.dict = sh.dict) : StInv env w sh' st :=
  h.congr (by rw [hc]) (by rw [hc]) (fun c s hh => by rw [hd]; exact hh)

/-! ## `process_keyevent` -/

/-- the auto-commit of `process_keyevent` and `select`: only after a step that ends in `Entering` /
    `EnteringSyllable`, whose state invariant is trivial -/
theorem autoCommit_ok (hE : EnvOK env G) {sh : Shared D L} {st : St} (h : ShInv env G w sh) (hs : StInv env w sh st) :
    OkAnd (fun sh2 => ShInv env G w sh2 ∧ StInv env w sh2 st)
      (if (st == .entering || st == .enteringSyllable) && sh.last == .absorb then Shared.tryAutoCommit env sh else .ok sh) := by
  refine .ite (fun hc => ?_) fun _ => .ok ⟨h, hs⟩
  have hst : st = .entering ∨ st = .enteringSyllable := by
    simp only [Bool.and_eq_true, Bool.or_eq_true] at hc
    exact hc.1.imp eq_of_beq eq_of_beq
  exact (tryAutoCommit_ok hE h).mono fun _ h2 => ⟨h2.1, by rcases hst with rfl | rfl <;> trivial⟩

theorem tail_ok (hE : EnvOK env G) {sh : Shared D L} {st : St} (h : ShInv env G w sh) (hs : StInv env w sh st) :
    OkAnd (fun x => EditorInv env G w x.1) (tail env sh st) := by
  obtain ⟨sh2, hq, h2, hs2⟩ := autoCommit_ok hE h hs
  unfold tail
  rw [hq]
  refine .ok ?_
  show EditorInv env G w { shared := if sh2.dirty > 0 then _ else sh2, state := st }
  split
  · have hf := h2.newDict (sh' := { sh2 with dict := env.reopenFlush sh2.dict, dirty := 0 }) (hE.flush_good _ h2.good)
      (hE.flush_mono _) rfl
    exact ⟨hf.1, hs2.congr rfl rfl hf.2.mono⟩
  · exact ⟨h2, hs2⟩

theorem preamble_inv {sh : Shared D L} (h : ShInv env G w sh) : ShInv env G w (preamble sh) :=
  h.congr rfl

/-- recording the transition: the state stays (`hs0`) or is switched (`hs`) -/
theorem applyTrans_ok {sh : Shared D L} {st : St} {t : Trans} (h : ShInv env G w sh)
    (hs0 : ∀ b, t = .spin b → StInv env w sh st) (hs : ∀ s, t = .toState s → StInv env w sh s) :
    ShInv env G w (applyTrans sh st t).1 ∧ StInv env w (applyTrans sh st t).1 (applyTrans sh st t).2 := by
  cases t with
  | toState s => exact ⟨h.congr rfl, (hs s rfl).same rfl rfl⟩
  | spin b => exact ⟨h.congr rfl, (hs0 b rfl).same rfl rfl⟩

/-! ## the other entry points -/

theorem leaveIfEmpty_inv {e : Editor D L} (hi : EditorInv env G w e) : EditorInv env G w (Editor.leaveIfEmpty env e) := by
  unfold Editor.leaveIfEmpty
  split
  · exact ⟨hi.sh, trivial⟩
  · exact hi

theorem startSelecting_api_ok (hE : EnvOK env G) {e : Editor D L} (hi : EditorInv env G w e) :
    OkAnd (fun x => EditorInv env G w x.1) (e.startSelecting env) := by
  have fin : ∀ {st : St} {sh : Shared D L} {t : Trans}, ShInv env G w sh → (∀ s, t = .toState s → StInv env w sh s) →
      StInv env w sh st →
      EditorInv env G w (Editor.leaveIfEmpty env { shared := (applyTrans sh st t).1, state := (applyTrans sh st t).2 }) :=
    fun h1 h2 h3 => leaveIfEmpty_inv ⟨(applyTrans_ok h1 (fun _ _ => h3) h2).1, (applyTrans_ok h1 (fun _ _ => h3) h2).2⟩
  obtain ⟨sh0, st⟩ := e
  have hsh : ShInv env G w sh0 := hi.sh
  have hst : StInv env w sh0 st := hi.st
  unfold Editor.startSelecting
  cases st with
  | entering =>
    obtain ⟨⟨sh, t⟩, hq, h1, h2⟩ := startSelecting_ok hsh
    dsimp only
    rw [hq]
    exact .ok (fin h1 h2 trivial)
  | enteringSyllable =>
    obtain ⟨⟨sh, t⟩, hq, h1, h2⟩ := startSelecting_ok (sh := { sh0 with syl := env.clearSyl sh0.syl }) (hsh.congr rfl)
    dsimp only
    rw [hq]
    exact .ok (fin h1 h2 trivial)
  -- in the other states the request is refused and nothing changes
  | selecting s => exact .ok (fin (t := .spin .bell) hsh nofun hst)
  | highlighting m => exact .ok (fin (t := .spin .bell) hsh nofun hst)

theorem cancelSelecting_api_ok {e : Editor D L} (hi : EditorInv env G w e) : EditorInv env G w e.cancelSelecting.1 := by
  unfold Editor.cancelSelecting
  split
  · exact ⟨(cancel_inv hi.sh).congr rfl, trivial⟩
  · exact hi

theorem commit_api_ok (hE : EnvOK env G) {e : Editor D L} (hi : EditorInv env G w e) :
    OkAnd (fun x => EditorInv env G w x.1) (e.commit env) := by
  unfold Editor.commit
  refine .ite (fun _ => .ok hi) fun hc => ?_
  have hst : e.state = .entering := by
    simp only [Bool.or_eq_true, not_or, Bool.not_eq_true, bne_eq_false_iff_eq] at hc
    exact hc.1
  obtain ⟨sh, hq, h1, _⟩ := commit_ok hE hi.sh
  rw [hq]
  exact .ok ⟨h1, by show StInv env w sh e.state; rw [hst]; trivial⟩

theorem clear_api_ok {e : Editor D L} (hi : EditorInv env G w e) : EditorInv env G w (e.clear env) :=
  ⟨hi.sh.clearCom.congr rfl, trivial⟩

theorem learn_api_ok (hE : EnvOK env G) {e : Editor D L} (hi : EditorInv env G w e) (k : List Nat) (p : Text) :
    OkAnd (EditorInv env G w) ((Shared.learnPhrase env e.shared k p).map fun (sh, _) => { e with shared := sh }) := by
  obtain ⟨⟨sh, b⟩, hq, h1, hk⟩ := learnPhrase_ok hE hi.sh k p
  rw [hq]
  exact .ok ⟨h1, hi.st.congr (by rw [hk.com]) (by rw [hk.com]) hk.mono⟩

/-! ## findings: the operations that can leave the invariant (F02, F03) -/

/-- every buffered syllable has a word under strategy `s` in dictionary `d` -/
def WordsUnder (env : Env D L) (d : D) (c : Composition) (s : Strategy) : Prop :=
  ∀ k, Sym.syl k ∈ c.symbols → env.hasPhrase d [k] s = true

/-- the lookup strategy of an open phrase selector -/
def selStrategy : St → Option Strategy
  | .selecting s =>
    match s.sel with
    | .phrase p => some p.strategy
    | _ => none
  | _ => none

/-- **the word-losing operations (the class of findings F02 / F03), state based** — not a crash class:
    since the repair every operation is safe from every reachable state (`apply_ok` at strength `False`); the
    predicate only delimits where the clause "every buffered syllable has a word" (strength `True`) may be
    lost: after the operation some buffered syllable has no word
    under an active lookup strategy (the engine's, the editor's, an open selector's) — reachable only by
    removing a phrase or by changing the lookup strategy / engine — or prefix lookup is configured
    without the prefix-matching engine (possible through the Rust API only: the C API sets both) -/
def Known (env : Env D L) (e : Editor D L) : Op L → Prop
  | .unlearn k p =>
    ¬ (WordsUnder env (env.removePhrase e.shared.dict k p) e.shared.com.inner (engStrategy e.shared.engine) ∧
       WordsUnder env (env.removePhrase e.shared.dict k p) e.shared.com.inner e.shared.options.lookupStrategy ∧
       ∀ s, selStrategy e.state = some s → WordsUnder env (env.removePhrase e.shared.dict k p) e.shared.com.inner s)
  | .setOptions o =>
    ¬ (WordsUnder env e.shared.dict e.shared.com.inner o.lookupStrategy ∧
       (o.lookupStrategy = .fuzzyPartialPrefix → engStrategy e.shared.engine = .fuzzyPartialPrefix))
  | .setEngine k =>
    ¬ (WordsUnder env e.shared.dict e.shared.com.inner (engStrategy k) ∧
       (e.shared.options.lookupStrategy = .fuzzyPartialPrefix → engStrategy k = .fuzzyPartialPrefix))
  | _ => False

/-- arguments the C layer validates before they reach the editor (`candidates_per_page` in 1..10) -/
def OpValid : Op L → Prop
  | .setOptions o => 0 < o.candidatesPerPage
  | _ => True

theorem stInv_unlearn {e : Editor D L} (hi : EditorInv env G w e) {d : D}
    (hw : w → ∀ s, selStrategy e.state = some s → WordsUnder env d e.shared.com.inner s) {sh' : Shared D L}
    (hc : sh'.com = e.shared.com) (hd : sh'.dict = d) : StInv env w sh' e.state :=
  hi.st.of (by rw [hc]) (by rw [hc]) fun s p hs hp hpo hw0 c hcm => by
    rw [hd]
    exact hw hw0 p.strategy (by simp only [selStrategy, hs, hp]) c (hpo.com ▸ hcm)

end Chewing.C01
