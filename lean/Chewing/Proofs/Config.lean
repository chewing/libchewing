import Chewing.Model.Config
/-!
Lemmas about the configuration model (C16): field access, the write-back of `chewing_config_set_int`,
a context-free check of one option row that the kernel evaluates over the generated tables, and frame
lemmas (which call touches which part of the context).
-/
namespace Chewing.Config
open Chewing.Gen.Cfg

theorem assoc_mem {α β : Type} [DecidableEq α] {a : α} {b : β} {l : List (α × β)}
    (h : assoc a l = some b) : (a, b) ∈ l := by
  induction l with
  | nil => simp [assoc] at h
  | cons p es ih =>
    obtain ⟨k, x⟩ := p
    unfold assoc at h
    split at h
    · next hk => cases h; subst hk; exact List.mem_cons_self
    · exact List.mem_cons_of_mem _ (ih h)

theorem assoc_none {α β : Type} [DecidableEq α] {a : α} {l : List (α × β)}
    (h : a ∉ l.map Prod.fst) : assoc a l = none := by
  induction l with
  | nil => rfl
  | cons p es ih =>
    obtain ⟨k, x⟩ := p
    simp only [List.map_cons, List.mem_cons, not_or] at h
    unfold assoc
    rw [if_neg h.1]
    exact ih h.2

theorem assoc_key_mem {α β : Type} [DecidableEq α] {a : α} {b : β} {l : List (α × β)}
    (h : assoc a l = some b) : a ∈ l.map Prod.fst :=
  List.mem_map.mpr ⟨(a, b), assoc_mem h, rfl⟩

/-- tables with the same key column, side by side: the row of `lc` with key `k` stands beside the row that
    a lookup of `k` in `la` returns -/
theorem assoc_zip {α β γ : Type} [DecidableEq α] {key : γ → α} {la : List (α × β)} {lc : List γ}
    (hk : la.map Prod.fst = lc.map key) (hnd : (lc.map key).Nodup) {c : γ} (hc : c ∈ lc) :
    ∃ b, assoc (key c) la = some b ∧ ((key c, b), c) ∈ la.zip lc := by
  induction lc generalizing la with
  | nil => cases hc
  | cons c' lc ih =>
    match la, hk with
    | (k, b) :: la, hk =>
      simp only [List.map_cons, List.cons.injEq] at hk
      obtain ⟨rfl, hk⟩ := hk
      obtain ⟨hnot, hnd⟩ := List.nodup_cons.mp hnd
      unfold assoc
      rcases List.mem_cons.mp hc with rfl | hc
      · exact ⟨b, if_pos rfl, List.mem_cons_self⟩
      · obtain ⟨b', h1, h2⟩ := ih hk hnd hc
        rw [if_neg fun he => hnot (by rw [← he]; exact List.mem_map_of_mem hc)]
        exact ⟨b', h1, List.mem_cons_of_mem _ h2⟩

namespace Options

/-- the options whose field number `k` holds `g k`; every `o` is `ofFn o.get`, by `rfl` -/
def ofFn (g : Nat → Nat) : Options :=
  ⟨g 0, g 1, g 2, g 3, g 4, g 5, g 6, g 7, g 8, g 9, g 10, g 11, g 12, g 13⟩

theorem get_ofFn (g : Nat → Nat) (j : Nat) : (ofFn g).get j = if j < nFields then g j else 0 :=
  match j with
  | 0 | 1 | 2 | 3 | 4 | 5 | 6 | 7 | 8 | 9 | 10 | 11 | 12 | 13 => rfl
  | n + 14 => by rw [if_neg (by unfold nFields; omega)]; rfl

theorem set_ofFn (g : Nat → Nat) (i v : Nat) :
    (ofFn g).set i v = ofFn fun k => if k = i then v else g k :=
  match i with
  | 0 | 1 | 2 | 3 | 4 | 5 | 6 | 7 | 8 | 9 | 10 | 11 | 12 | 13 => rfl
  | n + 14 => by
    show ofFn g = _
    simp [ofFn]

theorem get_set (o : Options) (i j v : Nat) :
    (o.set i v).get j = if j = i ∧ j < nFields then v else o.get j := by
  have h : o.get j = if j < nFields then o.get j else 0 := get_ofFn o.get j
  show ((ofFn o.get).set i v).get j = _
  rw [set_ofFn, get_ofFn]
  by_cases hj : j < nFields
  · simp [hj]
  · rw [h]; simp [hj]

end Options

/-- the last value written to field `f`, if any -/
def lastWrite (f : Nat) : List (Nat × Nat) → Option Nat
  | [] => none
  | (g, x) :: ws =>
    match lastWrite f ws with
    | some y => some y
    | none => if g = f then some x else none

theorem lastWrite_cons (f g x : Nat) (ws : List (Nat × Nat)) :
    lastWrite f ((g, x) :: ws) =
      match lastWrite f ws with
      | some y => some y
      | none => if g = f then some x else none := rfl

theorem get_applyWrites (ws : List (Nat × Nat)) (o : Options) {f : Nat} (hf : f < nFields) :
    (applyWrites ws o).get f = (lastWrite f ws).getD (o.get f) := by
  induction ws generalizing o with
  | nil => rfl
  | cons w ws ih =>
    obtain ⟨g, x⟩ := w
    show (applyWrites ws (o.set g x)).get f = _
    rw [ih, lastWrite_cons, Options.get_set]
    cases lastWrite f ws with
    | some y => rfl
    | none =>
      by_cases hgf : f = g
      · subst hgf; simp [hf]
      · simp [hgf, Ne.symm hgf]

theorem lastWrite_none {f : Nat} {ws : List (Nat × Nat)} (h : f ∉ ws.map Prod.fst) : lastWrite f ws = none := by
  induction ws with
  | nil => rfl
  | cons w ws ih =>
    obtain ⟨g, x⟩ := w
    simp only [List.map_cons, List.mem_cons, not_or] at h
    rw [lastWrite_cons, ih h.2]
    simp [Ne.symm h.1]

def decode : GetRule → Nat → Int
  | .cast, x => x
  | .enum arms, x => (assoc x arms).getD illTyped

theorem readRule_eq (f : Nat) (g : GetRule) (c : Ctx) : readRule f g c = decode g (c.opts.get f) := by
  cases g <;> rfl

theorem getInt_of_arm {name : String} {g : Nat × GetRule} (h : assoc name getIntArms = some g) (c : Ctx) :
    getInt name c = decode g.2 (c.opts.get g.1) := by
  unfold getInt; rw [h]; exact readRule_eq _ _ c

theorem setInt_of_none {name : String} {v : Int} (c : Ctx) (h : setIntEffect name v = none) :
    setInt name v c = (c, ERROR) := by
  unfold setInt; rw [h]

theorem setInt_of_some {name : String} {v : Int} {ws : List (Nat × Nat)} {e : Option Nat} (c : Ctx)
    (h : setIntEffect name v = some (ws, e)) :
    setInt name v c = ({ c with opts := applyWrites ws c.opts, engine := e.getD c.engine }, OK) := by
  unfold setInt; rw [h]

theorem setIntEffect_eq (name : String) (v : Int) :
    setIntEffect name v =
      if v < 0 then none else (assoc name setIntArms).bind fun (f, rule) => ruleEffect f rule v := by
  rw [setIntEffect, show setIntRejectsNegative = true from rfl]
  simp only [Bool.true_and, decide_eq_true_eq]

/-- the integers of `[lo, hi]` as a list, so that the kernel can enumerate a documented range -/
def intRange (lo hi : Int) : List Int := (List.range (hi + 1 - lo).toNat).map fun (i : Nat) => lo + (i : Int)

theorem mem_intRange {lo hi v : Int} (h1 : lo ≤ v) (h2 : v ≤ hi) : v ∈ intRange lo hi := by
  unfold intRange
  refine List.mem_map.mpr ⟨(v - lo).toNat, List.mem_range.mpr ?_, ?_⟩ <;> omega

/-- every value `≥ 0` that the rule accepts lies in `[lo, hi]`, decided on the shape of the rule.  For a numeric
    rule: the values of `[0, lo)` are rejected one by one, those above `hi` by a test `> k` or `∉ [_, k]`
    with `k ≤ hi`. -/
def ruleWithin (lo hi : Int) : SetRule → Bool
  | .bool => decide (lo ≤ 0) && decide (1 ≤ hi)
  | .enum arms => arms.all fun a => decide (lo ≤ a.1) && decide (a.1 ≤ hi)
  | .engine arms => arms.all fun a => decide (lo ≤ a.1) && decide (a.1 ≤ hi)
  | .num rej => (intRange 0 (lo - 1)).all (fun v => rej.any (Rej.holds v)) &&
      rej.any fun r => match r with
        | .gt k => decide (k ≤ hi)
        | .notIn _ k => decide (k ≤ hi)
        | _ => false

theorem ruleWithin_sound {lo hi : Int} {f : Nat} {rule : SetRule} (h : ruleWithin lo hi rule = true) {v : Int}
    (h0 : 0 ≤ v) (hv : ¬ (lo ≤ v ∧ v ≤ hi)) : ruleEffect f rule v = none := by
  have arms {β : Type} {l : List (Int × β)}
      (h : (l.all fun a => decide (lo ≤ a.1) && decide (a.1 ≤ hi)) = true) : assoc v l = none := by
    simp only [List.all_eq_true, Bool.and_eq_true, decide_eq_true_eq] at h
    cases ha : assoc v l with
    | none => rfl
    | some x => exact absurd (h _ (assoc_mem ha)) hv
  cases rule with
  | bool =>
    simp only [ruleWithin, Bool.and_eq_true, decide_eq_true_eq] at h
    simp only [ruleEffect]; rw [if_neg (by omega)]
  | «enum» l => simp only [ruleEffect, arms h, Option.map_none]
  | engine l => simp only [ruleEffect, arms h, Option.map_none]
  | num rej =>
    simp only [ruleWithin, Bool.and_eq_true, List.all_eq_true, List.any_eq_true] at h
    obtain ⟨hlow, r, hr, hup⟩ := h
    simp only [ruleEffect]
    rw [if_pos]
    by_cases hl : v < lo
    · exact List.any_eq_true.mpr (hlow v (mem_intRange h0 (by omega)))
    · refine List.any_eq_true.mpr ⟨r, hr, ?_⟩
      cases r with
      | gt k => simp only [decide_eq_true_eq] at hup; simp only [Rej.holds, decide_eq_true_eq]; omega
      | notIn a k => simp only [decide_eq_true_eq] at hup; simp [Rej.holds]; omega
      | _ => cases hup

/-- context-free check of one option — set arm `s`, get arm `g` (field and rule), documented range `r`: both
    arms use the same field, the setter accepts exactly `r`, and for each value of `r` the getter decodes
    what the setter wrote -/
def rowOK (s : Nat × SetRule) (g : Nat × GetRule) (r : Int × Int) : Bool :=
  g.1 == s.1 && decide (s.1 < nFields) && decide (0 ≤ r.1) && ruleWithin r.1 r.2 s.2 &&
  (intRange r.1 r.2).all fun v =>
    (ruleEffect s.1 s.2 v).any fun e => (lastWrite s.1 e.1).map (decode g.2) == some v

theorem rowOK_sound {name : String} {s : Nat × SetRule} {g : Nat × GetRule} {r : Int × Int}
    (hs : assoc name setIntArms = some s) (hg : assoc name getIntArms = some g) (h : rowOK s g r = true)
    (v : Int) (c : Ctx) :
    (r.1 ≤ v ∧ v ≤ r.2 → (setInt name v c).2 = OK ∧ getInt name (setInt name v c).1 = v) ∧
    (¬ (r.1 ≤ v ∧ v ≤ r.2) → setInt name v c = (c, ERROR)) := by
  simp only [rowOK, Bool.and_eq_true, beq_iff_eq, decide_eq_true_eq, List.all_eq_true] at h
  obtain ⟨⟨⟨⟨hf, hlt⟩, h0⟩, hin⟩, hrt⟩ := h
  have he : setIntEffect name v = if v < 0 then none else ruleEffect s.1 s.2 v := by
    rw [setIntEffect_eq, hs]; rfl
  refine ⟨fun hv => ?_, fun hv => ?_⟩
  · obtain ⟨⟨ws, e⟩, hr, hp⟩ := (Option.any_eq_true _ _).mp (hrt v (mem_intRange hv.1 hv.2))
    rw [if_neg (by omega), hr] at he
    rw [setInt_of_some c he, getInt_of_arm hg, hf]
    refine ⟨rfl, ?_⟩
    show decode g.2 ((applyWrites ws c.opts).get s.1) = v
    obtain ⟨x, hx, hd⟩ := Option.map_eq_some_iff.mp (beq_iff_eq.mp hp)
    rw [get_applyWrites ws c.opts hlt, hx]
    exact hd
  · apply setInt_of_none
    rw [he]
    split
    · rfl
    · exact ruleWithin_sound hin (by omega) hv

/-- an arm writes its own field and, for the engine option, `lookup_strategy` -/
theorem ruleEffect_fields {f : Nat} {rule : SetRule} {v : Int} {ws : List (Nat × Nat)} {e : Option Nat}
    (h : ruleEffect f rule v = some (ws, e)) : ∀ w ∈ ws, w.1 = f ∨ w.1 = lookupStrategyField := by
  cases rule <;> simp only [ruleEffect, Option.map_eq_some_iff, Prod.mk.injEq] at h
  · split at h <;> simp at h
    obtain ⟨rfl, _⟩ := h; simp
  · split at h <;> simp at h
    obtain ⟨rfl, _⟩ := h; simp
  · obtain ⟨_, _, rfl, _⟩ := h; simp
  · obtain ⟨_, _, rfl, _⟩ := h; simp

/-- `set_int name` leaves what `get_int name'` reports alone, provided the getter reads a field other than the
    one of the setter's arm and than `lookup_strategy` -/
theorem getInt_setInt_other {name name' : String}
    (h : ∀ s g, assoc name setIntArms = some s → assoc name' getIntArms = some g →
      g.1 < nFields ∧ g.1 ≠ s.1 ∧ g.1 ≠ lookupStrategyField) (v : Int) (c : Ctx) :
    getInt name' (setInt name v c).1 = getInt name' c := by
  cases he : setIntEffect name v with
  | none => rw [setInt_of_none c he]
  | some p =>
    obtain ⟨ws, e⟩ := p
    rw [setInt_of_some c he]
    cases hg : assoc name' getIntArms with
    | none => unfold getInt; rw [hg]
    | some g =>
      rw [getInt_of_arm hg, getInt_of_arm hg]
      show decode g.2 ((applyWrites ws c.opts).get g.1) = _
      rw [setIntEffect_eq] at he
      split at he
      · cases he
      · cases hs : assoc name setIntArms with
        | none => rw [hs] at he; cases he
        | some s =>
          rw [hs] at he
          obtain ⟨hlt, hf, hl⟩ := h s g hs hg
          have hnot : g.1 ∉ ws.map Prod.fst := fun hm => by
            obtain ⟨w, hw, hwf⟩ := List.mem_map.mp hm
            rcases ruleEffect_fields he w hw with h' | h' <;> rw [hwf] at h'
            · exact hf h'
            · exact hl h'
          rw [get_applyWrites ws _ hlt, lastWrite_none hnot]; rfl

/-- frame: `chewing_config_set_int` touches only `opts` and `engine` -/
theorem setInt_kbCompat (name : String) (v : Int) (c : Ctx) : (setInt name v c).1.kbCompat = c.kbCompat := by
  unfold setInt; split <;> rfl
theorem setInt_keyboard (name : String) (v : Int) (c : Ctx) : (setInt name v c).1.keyboard = c.keyboard := by
  unfold setInt; split <;> rfl
theorem setInt_syl (name : String) (v : Int) (c : Ctx) : (setInt name v c).1.syl = c.syl := by
  unfold setInt; split <;> rfl
theorem setInt_selKeys (name : String) (v : Int) (c : Ctx) : (setInt name v c).1.selKeys = c.selKeys := by
  unfold setInt; split <;> rfl

/-- what holds of a fresh context and is kept by the four primitive calls holds after every history: a
    legacy setter is a `chewing_config_set_int` or does nothing, and `chewing_Configure` is a sequence of
    legacy setters and `chewing_set_selKey` -/
theorem reachable_induction {P : Ctx → Prop} (h0 : P init)
    (hint : ∀ name v c, P c → P (setInt name v c).1) (hstr : ∀ name value c, P c → P (setStr name value c).1)
    (hkb : ∀ n c, P c → P (setKBType n c).1) (hsel : ∀ keys len c, P c → P (setSelKey keys len c))
    {c : Ctx} (h : Reachable c) : P c := by
  have hleg : ∀ fn v c, P c → P (legacySet fn v c) := fun fn v c hc => by
    unfold legacySet
    split
    · exact hint _ _ _ hc
    · exact hc
  have hstep : ∀ c op, P c → P (step c op) := fun c op hc => by
    cases op with
    | setInt name v => exact hint _ _ _ hc
    | setStr name value => exact hstr _ _ _ hc
    | legacySet fn v => exact hleg _ _ _ hc
    | setKBType n => exact hkb _ _ hc
    | setSelKey keys len => exact hsel _ _ _ hc
    | configure field selKey =>
      show P (configure field selKey c)
      unfold configure
      generalize configureCalls = l
      induction l generalizing c with
      | nil => exact hc
      | cons x xs ih =>
        apply ih
        show P (if x.1 = "chewing_set_selKey" then _ else _)
        split
        · exact hsel _ _ _ hc
        · exact hleg _ _ _ hc
  obtain ⟨ops, rfl⟩ := h
  unfold run
  generalize init = c at h0
  induction ops generalizing c with
  | nil => exact h0
  | cons op ops ih => exact ih _ (hstep c op h0)

theorem utf8Size_ascii (s : Text) (h : ∀ x ∈ s, x < 128) : utf8Size s = s.length := by
  induction s with
  | nil => rfl
  | cons x xs ih =>
    have hx : x < 128 := h x List.mem_cons_self
    have := ih fun y hy => h y (List.mem_cons_of_mem _ hy)
    unfold utf8Size at *
    simp only [List.map_cons, List.sum_cons, List.length_cons, this]
    unfold utf8Len
    rw [if_pos (by omega)]
    omega

theorem utf8Size_ge_length (s : Text) : s.length ≤ utf8Size s := by
  induction s with
  | nil => exact Nat.le_refl _
  | cons x xs ih =>
    unfold utf8Size at *
    simp only [List.map_cons, List.sum_cons, List.length_cons]
    have : 1 ≤ utf8Len x := by unfold utf8Len; split <;> (try split) <;> (try split) <;> omega
    omega

theorem padKeys_of_length (ks : List Int) (h : ks.length = maxSelKey) : padKeys ks = ks := by
  unfold padKeys
  rw [List.take_append_of_le_length (by omega), List.take_of_length_le (by omega)]

theorem selKeysText_ofNat (s : Text) (h : ∀ x ∈ s, x < 128) :
    (s.map Int.ofNat).map (fun k => (k % 256).toNat) = s := by
  induction s with
  | nil => rfl
  | cons x xs ih =>
    have hx : x < 128 := h x List.mem_cons_self
    simp only [List.map_cons]
    rw [ih fun y hy => h y (List.mem_cons_of_mem _ hy)]
    congr 1
    show ((x : Int) % 256).toNat = x
    omega

end Chewing.Config
