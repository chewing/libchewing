import Chewing.Model.SqliteDict
import Chewing.Proofs.TrieBufAbs
import Chewing.Proofs.ListBasics
/-!
Refinement proof for the relational model of `SqliteDictionary`: invariant (primary key, user ids
unique, fresh row ids, every `userphrase_id` points to an existing user row and no two rows share one),
the step lemma `abs (apply s op) = SMap.apply (abs s) op`, and the answers (`lookup`, `entries`).
-/
namespace Chewing.SqliteDict
open MapSpec

structure Inv (s : State) : Prop where
  keys : s.dict.Pairwise (fun a b => a.key ≠ b.key)
  ids : s.user.Pairwise (fun a b => a.1 ≠ b.1)
  refs : ∀ r ∈ s.dict, ∀ id, r.upid = some id → ∃ u ∈ s.user, u.1 = id
  uniq : s.dict.Pairwise (fun a b => ∀ id, a.upid = some id → b.upid ≠ some id)

/-! ### finite-map lemmas -/

theorem rowGet_replace (d : List Row) (r : Row) (key : PKey) :
    (replaceRow d r).find? (fun x => x.key == key) = if key = r.key then some r else d.find? (fun x => x.key == key) := by
  rw [replaceRow, List.find?_cons, find_filter_key_ne (f := Row.key) d r.key key]
  by_cases e : key = r.key
  · subst e; simp
  · have hb : (r.key == key) = false := by simpa using fun c : r.key = key => e c.symm
    simp [hb, e]

theorem keys_replace {d : List Row} (h : d.Pairwise (fun a b => a.key ≠ b.key)) (r : Row) :
    (replaceRow d r).Pairwise (fun a b => a.key ≠ b.key) := by
  refine List.pairwise_cons.mpr ⟨fun x hx c => ?_, List.Pairwise.filter _ h⟩
  simpa [c] using (List.mem_filter.mp hx).2

theorem lt_nextId {s : State} {u : Nat × (Nat × Nat)} (h : u ∈ s.user) : u.1 < nextId s := by
  unfold nextId
  have key : ∀ (l : List Nat) (a x : Nat), (x ∈ l ∨ x ≤ a) → x ≤ l.foldl max a := by
    intro l
    induction l with
    | nil => intro a x hx; rcases hx with hx | hx; · simp at hx
             · exact hx
    | cons y l ih =>
      intro a x hx
      simp only [List.foldl]
      apply ih
      simp only [List.mem_cons] at hx
      rcases hx with (rfl | hx) | hx
      · exact Or.inr (Nat.le_max_right _ _)
      · exact Or.inl hx
      · exact Or.inr (Nat.le_trans hx (Nat.le_max_left _ _))
  have := key (s.user.map (·.1)) 0 u.1 (Or.inl (List.mem_map.mpr ⟨u, h, rfl⟩))
  omega

/-- lookup in the user relation, on the bare list -/
def ufind (l : List (Nat × (Nat × Nat))) (id : Nat) : Option (Nat × Nat) := (l.find? (fun u => u.1 == id)).map (·.2)

theorem userGet_eq (s : State) (id : Nat) : userGet s id = ufind s.user id := rfl

theorem ufind_iff {l : List (Nat × (Nat × Nat))} (h : l.Pairwise (fun a b => a.1 ≠ b.1)) {id : Nat} {v : Nat × Nat} :
    ufind l id = some v ↔ (id, v) ∈ l :=
  find_key_snd_iff h

theorem ufind_append_fresh {l : List (Nat × (Nat × Nat))} {id : Nat} (hf : ∀ u ∈ l, u.1 ≠ id) (v : Nat × Nat) (id' : Nat) :
    ufind (l ++ [(id, v)]) id' = if id' = id then some v else ufind l id' := by
  unfold ufind
  rw [List.find?_append]
  by_cases e : id' = id
  · subst e
    have : l.find? (fun u => u.1 == id') = none := by
      rw [List.find?_eq_none]; intro u hu; simp only [beq_iff_eq]; exact hf u hu
    simp [this]
  · have hb : (id == id') = false := by simp only [beq_eq_false_iff_ne, ne_eq]; exact fun c => e c.symm
    simp only [e, if_false]
    cases l.find? (fun u => u.1 == id') with
    | none => simp [hb]
    | some u => simp

theorem ufind_map (l : List (Nat × (Nat × Nat))) (id uf : Nat) (id' : Nat) :
    ufind (l.map (fun u => if u.1 == id then (u.1, (uf, u.2.2)) else u)) id'
      = if id' = id then (ufind l id').map (fun v => (uf, v.2)) else ufind l id' := by
  unfold ufind
  have hg : ((fun u : Nat × (Nat × Nat) => u.1 == id') ∘ fun u => if u.1 == id then (u.1, (uf, u.2.2)) else u) =
      fun u => u.1 == id' := funext fun u => by simp only [Function.comp]; split <;> rfl
  rw [List.find?_map, hg]
  cases hf : l.find? (fun u => u.1 == id') with
  | none => simp
  | some u =>
    have : u.1 = id' := by simpa using List.find?_some hf
    subst this
    by_cases c : u.1 = id <;> simp [c]

/-! ### the denoted map, step by step -/

/-- the denoted map on the bare relations -/
def absOf (d : List Row) (usr : List (Nat × (Nat × Nat))) (key : PKey) : Option SVal :=
  (d.find? (fun r => r.key == key)).map (fun r => (r.freq, r.upid.bind (ufind usr)))

theorem abs_eq (s : State) : abs s = absOf s.dict s.user := rfl

theorem abs_def (s : State) (key : PKey) :
    abs s key = (s.dict.find? (fun r => r.key == key)).map (fun r => (r.freq, r.upid.bind (userGet s))) := rfl

theorem absOf_replace (d : List Row) (usr : List (Nat × (Nat × Nat))) (r : Row) (key : PKey) :
    absOf (replaceRow d r) usr key = if key = r.key then some (r.freq, r.upid.bind (ufind usr)) else absOf d usr key := by
  unfold absOf
  rw [rowGet_replace]
  split <;> rfl

theorem absOf_remove (d : List Row) (usr : List (Nat × (Nat × Nat))) (k key : PKey) :
    absOf (d.filter (fun x => x.key != k)) usr key = if key = k then none else absOf d usr key := by
  unfold absOf
  rw [find_filter_key_ne (f := Row.key) d k key]
  split <;> rfl

/-- changing user rows no dictionary row of `key` points to does not change the value of `key` -/
theorem absOf_user_congr {d : List Row} {usr usr' : List (Nat × (Nat × Nat))} {key : PKey}
    (h : ∀ r ∈ d, r.key = key → ∀ id, r.upid = some id → ufind usr' id = ufind usr id) :
    absOf d usr' key = absOf d usr key := by
  unfold absOf
  cases hf : d.find? (fun r => r.key == key) with
  | none => rfl
  | some r =>
    have hr := List.mem_of_find?_eq_some hf
    have hk : r.key = key := by simpa using List.find?_some hf
    simp only [Option.map_some, Option.some.injEq, Prod.mk.injEq, true_and]
    cases hu : r.upid with
    | none => rfl
    | some id => simp only [Option.bind_some]; exact h r hr hk id hu

theorem apply_update_none {s : State} {k : Key} {t : Text} (orig uf tm : Nat)
    (hb : (rowGet s (k, t)).bind (·.upid) = none) :
    apply s (.update k t orig uf tm) =
      { dict := replaceRow s.dict { key := (k, t), freq := orig, sortId := none, upid := some (nextId s) },
        user := s.user ++ [(nextId s, (uf, tm))] } := by
  simp [apply, hb]

theorem apply_update_some {s : State} {k : Key} {t : Text} (orig uf tm : Nat) {id : Nat}
    (hb : (rowGet s (k, t)).bind (·.upid) = some id) :
    apply s (.update k t orig uf tm) =
      { s with user := s.user.map (fun u => if u.1 == id then (u.1, (uf, u.2.2)) else u) } := by
  simp [apply, hb]

namespace SMap

theorem set_same (m : SMap) (k : PKey) (v : Option SVal) : m.set k v k = v := by simp [set]
theorem set_other (m : SMap) {k k' : PKey} (v : Option SVal) (h : k' ≠ k) : m.set k v k' = m k' := by simp [set, h]

theorem apply_update_learned {m : SMap} {k : Key} {t : Text} {o u0 t0 : Nat} (h : m (k, t) = some (o, some (u0, t0)))
    (orig uf tm : Nat) : m.apply (.update k t orig uf tm) = m.set (k, t) (some (o, some (uf, t0))) := by
  simp [apply, h]

theorem apply_update_new {m : SMap} {k : Key} {t : Text} (h : ∀ o u0 t0, m (k, t) ≠ some (o, some (u0, t0)))
    (orig uf tm : Nat) : m.apply (.update k t orig uf tm) = m.set (k, t) (some (orig, some (uf, tm))) := by
  cases hm : m (k, t) with
  | none => simp [apply, hm]
  | some v =>
    obtain ⟨o, x⟩ := v
    cases x with
    | none => simp [apply, hm]
    | some y => obtain ⟨u0, t0⟩ := y; exact absurd hm (h o u0 t0)

end SMap

theorem abs_add {s : State} (k : Key) (t : Text) (f : Nat) :
    abs (apply s (.add k t f)) = (abs s).set (k, t) (some (f, none)) := by
  funext key
  show absOf (replaceRow s.dict _) s.user key = _
  rw [absOf_replace]
  by_cases e : key = (k, t)
  · simp [e, SMap.set]
  · simp [e, SMap.set, abs_eq]

theorem abs_remove {s : State} (k : Key) (t : Text) :
    abs (apply s (.remove k t)) = (abs s).set (k, t) none := by
  funext key
  show absOf (s.dict.filter _) s.user key = _
  rw [absOf_remove]
  by_cases e : key = (k, t)
  · simp [e, SMap.set]
  · simp [e, SMap.set, abs_eq]

/-- two rows with the same `userphrase_id` are the same row -/
theorem uniq_rows {d : List Row} (h : d.Pairwise (fun a b => ∀ id, a.upid = some id → b.upid ≠ some id))
    {a b : Row} (ha : a ∈ d) (hb : b ∈ d) {id : Nat} (hua : a.upid = some id) (hub : b.upid = some id) : a = b := by
  induction h with
  | nil => cases ha
  | cons hx _ ih =>
    rcases List.mem_cons.mp ha with rfl | ha' <;> rcases List.mem_cons.mp hb with rfl | hb'
    · rfl
    · exact absurd hub (hx b hb' id hua)
    · exact absurd hua (hx a ha' id hub)
    · exact ih ha' hb'

theorem abs_apply {s : State} (hs : Inv s) (op : Op) : abs (apply s op) = (abs s).apply op := by
  cases op with
  | add k t f => exact abs_add k t f
  | remove k t => exact abs_remove k t
  | flush => rfl
  | reopen => rfl
  | update k t orig uf tm =>
    have hfresh : ∀ u ∈ s.user, u.1 ≠ nextId s := fun u hu => by have := lt_nextId hu; omega
    cases hb : (rowGet s (k, t)).bind (·.upid) with
    | none =>
      -- not learned yet: a fresh user row and a new dictionary row
      have hnew : ∀ o u0 t0, abs s (k, t) ≠ some (o, some (u0, t0)) := by
        intro o u0 t0 c
        obtain ⟨r, hf, hr⟩ := Option.map_eq_some_iff.mp c
        have hu : r.upid = none := by simpa [hf] using hb
        rw [hu] at hr
        cases hr
      rw [apply_update_none orig uf tm hb, SMap.apply_update_new hnew]
      funext key
      show absOf (replaceRow s.dict _) (s.user ++ [(nextId s, (uf, tm))]) key = _
      rw [absOf_replace]
      by_cases e : key = (k, t)
      · simp only [e, if_true, Option.bind_some, SMap.set_same]
        rw [ufind_append_fresh hfresh]; simp
      · simp only [e, if_false]
        rw [SMap.set_other _ _ e, abs_eq]
        apply absOf_user_congr
        intro r hr _ id hid
        rw [ufind_append_fresh hfresh]
        obtain ⟨u, hu, hid'⟩ := hs.refs r hr id hid
        have : id ≠ nextId s := by rw [← hid']; exact hfresh u hu
        simp [this]
    | some id =>
      -- learned before: only the user frequency changes
      obtain ⟨r, hf, hr⟩ := Option.bind_eq_some_iff.mp hb
      replace hf : s.dict.find? (fun r => r.key == (k, t)) = some r := hf
      have hrm := (find_key_iff hs.keys).mp hf
      obtain ⟨u, hu, hid⟩ := hs.refs r hrm.1 id hr
      have hug : ufind s.user id = some u.2 := (ufind_iff hs.ids).mpr (by rw [← hid]; exact hu)
      have habs : abs s (k, t) = some (r.freq, some (u.2.1, u.2.2)) := by
        rw [abs_def, hf]; simp [hr, userGet_eq, hug]
      rw [apply_update_some orig uf tm hb, SMap.apply_update_learned habs]
      funext key
      show absOf s.dict (s.user.map _) key = _
      by_cases e : key = (k, t)
      · subst e
        rw [SMap.set_same]
        unfold absOf
        rw [hf]
        simp only [Option.map_some, hr, Option.bind_some, ufind_map, if_true, hug]
      · rw [SMap.set_other _ _ e, abs_eq]
        apply absOf_user_congr
        intro r' hr' hk' id' hid'
        rw [ufind_map]
        have : id' ≠ id := by
          rintro rfl
          rw [uniq_rows hs.uniq hr' hrm.1 hid' hr, hrm.2] at hk'
          exact e hk'.symm
        simp [this]

/-- `INSERT OR REPLACE` of a row whose `userphrase_id`, if any, names an existing user row that no
    dictionary row points to yet; the user relation may have grown -/
theorem inv_replace {s : State} (hs : Inv s) (r : Row) {usr : List (Nat × (Nat × Nat))}
    (hsub : ∀ u ∈ s.user, u ∈ usr) (hids : usr.Pairwise (fun a b => a.1 ≠ b.1))
    (hr : ∀ id, r.upid = some id → (∃ u ∈ usr, u.1 = id) ∧ ∀ x ∈ s.dict, x.upid ≠ some id) :
    Inv { dict := replaceRow s.dict r, user := usr } := by
  refine ⟨keys_replace hs.keys r, hids, ?_, List.pairwise_cons.mpr ⟨?_, List.Pairwise.filter _ hs.uniq⟩⟩
  · intro x hx id hid
    rcases List.mem_cons.mp hx with rfl | hx
    · exact (hr id hid).1
    · obtain ⟨u, hu, e⟩ := hs.refs x (List.mem_filter.mp hx).1 id hid
      exact ⟨u, hsub u hu, e⟩
  · exact fun x hx id hid => (hr id hid).2 x (List.mem_filter.mp hx).1

theorem inv_apply {s : State} (hs : Inv s) (op : Op) : Inv (apply s op) := by
  cases op with
  | flush => exact hs
  | reopen => exact hs
  | add k t f => exact inv_replace hs _ (fun _ hu => hu) hs.ids (fun _ hid => nomatch hid)
  | remove k t =>
    exact ⟨List.Pairwise.filter _ hs.keys, hs.ids, fun r hr => hs.refs r (List.mem_filter.mp hr).1,
      List.Pairwise.filter _ hs.uniq⟩
  | update k t orig uf tm =>
    cases hb : (rowGet s (k, t)).bind (·.upid) with
    | some id =>
      simp only [apply, hb]
      have hfst : ∀ u : Nat × (Nat × Nat), (if u.1 == id then (u.1, (uf, u.2.2)) else u).1 = u.1 :=
        fun u => by split <;> rfl
      refine ⟨hs.keys, List.pairwise_map.mpr (hs.ids.imp fun hab => by rwa [hfst, hfst]), ?_, hs.uniq⟩
      intro r hr id' hid
      obtain ⟨u, hu, e⟩ := hs.refs r hr id' hid
      exact ⟨_, List.mem_map_of_mem hu, (hfst u).trans e⟩
    | none =>
      simp only [apply, hb]
      have hfresh : ∀ u ∈ s.user, u.1 ≠ nextId s := fun u hu => by have := lt_nextId hu; omega
      refine inv_replace hs _ (fun u hu => by simp [hu]) ?_ ?_
      · exact List.pairwise_append.mpr ⟨hs.ids, by simp, fun a ha b hb' => by
          rw [List.mem_singleton.mp hb']; exact hfresh a ha⟩
      · intro id hid
        obtain rfl : nextId s = id := Option.some.inj hid
        refine ⟨⟨(nextId s, (uf, tm)), by simp, rfl⟩, fun x hx c => ?_⟩
        obtain ⟨u, hu, e⟩ := hs.refs x hx _ c
        exact hfresh u hu e

theorem run_refines {s : State} (hs : Inv s) (ops : List Op) :
    Inv (run s ops) ∧ abs (run s ops) = (abs s).run ops :=
  foldl_refines (fun op hs => ⟨inv_apply hs op, abs_apply hs op⟩) ops hs

theorem inv_init : Inv init := ⟨List.Pairwise.nil, List.Pairwise.nil, by simp [init], List.Pairwise.nil⟩

/-- content written by the builder: no user rows -/
theorem inv_build (es : List Entry) : Inv (build es) := by
  unfold build
  suffices ∀ acc : State × Nat, Inv acc.1 → Inv (es.foldl buildStep acc).1 from this (init, 0) inv_init
  induction es with
  | nil => exact fun _ h => h
  | cons e es ih =>
    exact fun acc h => ih _ (inv_replace h _ (fun _ hu => hu) h.ids (fun _ hid => nomatch hid))

/-! ### answers -/

theorem reported_eq (s : State) (r : Row) : reported s r = report (r.freq, r.upid.bind (userGet s)) := by
  unfold reported report
  cases r.upid.bind (userGet s) with
  | none => rfl
  | some v => rfl

theorem entries_agrees {s : State} (hs : Inv s) : IsEntries (abs s) (entries s) := by
  refine ⟨?_, ?_, ?_⟩
  · unfold entries
    rw [List.map_map]
    unfold List.Nodup
    rw [List.pairwise_map]
    refine List.Pairwise.imp ?_ hs.keys
    intro a b hab e
    simp only [Function.comp, toPhrase, Prod.mk.injEq] at e
    exact hab (Prod.ext e.1 e.2)
  · intro e he
    simp only [entries, List.mem_map] at he
    obtain ⟨r, hr, rfl⟩ := he
    refine ⟨(r.freq, r.upid.bind (userGet s)), ?_, ?_⟩
    · have : (r.key.1, (toPhrase s r).text) = r.key := rfl
      simp only
      rw [this, abs_def, (find_key_iff hs.keys).mpr ⟨hr, rfl⟩]
      rfl
    · rw [← reported_eq]; rfl
  · intro k t v hv
    rw [abs_def] at hv
    cases hf : s.dict.find? (fun r => r.key == (k, t)) with
    | none => rw [hf] at hv; simp at hv
    | some r =>
      obtain ⟨hr, e⟩ := (find_key_iff hs.keys).mp hf
      refine ⟨(r.key.1, toPhrase s r), by simp only [entries, List.mem_map]; exact ⟨r, hr, rfl⟩, ?_, ?_⟩
      · simp only [e]
      · simp only [toPhrase, e]

theorem mem_lookupAll {s : State} {k : Key} {p : Phrase} :
    p ∈ lookupAll s k ↔ ∃ r ∈ s.dict, r.key.1 = k ∧ p = toPhrase s r := by
  unfold lookupAll
  simp only [List.mem_map, mem_isort, List.mem_filter, beq_iff_eq]
  constructor
  · rintro ⟨r, ⟨hr, e⟩, rfl⟩; exact ⟨r, hr, e, rfl⟩
  · rintro ⟨r, hr, e, rfl⟩; exact ⟨r, ⟨hr, e⟩, rfl⟩

/-- from the enumeration to the lookup: the entries of one key of a correct enumeration, in any order, are
    a correct answer for that key -/
theorem lookup_of_entries {m : SMap} {es : List Entry} (h : IsEntries m es) (k : Key) {l : List Phrase}
    (hl : l.Perm ((es.filter (fun e => e.1 == k)).map (·.2))) : IsLookup m k l := by
  refine ⟨(hl.map _).nodup_iff.mpr (TrieBuf.nodup_texts_of_key h.1 k), fun p hp => ?_, fun t v hv => ?_⟩
  · obtain ⟨key, hk, he⟩ := (TrieBuf.mem_match_entries (mt := fun a b => a == b)).mp (hl.mem_iff.mp hp)
    rw [← beq_iff_eq.mp hk]
    exact h.2.1 _ he
  · obtain ⟨e, he, rfl, rfl⟩ := h.2.2 k t v hv
    exact ⟨e.2, hl.mem_iff.mpr ((TrieBuf.mem_match_entries (mt := fun a b => a == b)).mpr ⟨e.1, by simp, he⟩), rfl⟩

theorem lookup_agrees {s : State} (hs : Inv s) (k : Key) : IsLookup (abs s) k (lookupAll s k) := by
  refine lookup_of_entries (entries_agrees hs) k ?_
  have : ((entries s).filter (fun e => e.1 == k)).map (·.2) = (s.dict.filter (fun r => r.key.1 == k)).map (toPhrase s) := by
    rw [entries, List.filter_map, List.map_map]; rfl
  rw [this]
  exact (isort_perm _ _).map _

/-! ### specification facts -/

namespace SMap

def writes (key : PKey) : Op → Bool
  | .add k t _ => (k, t) == key
  | .update k t _ _ _ => (k, t) == key
  | _ => false

theorem apply_absent {m : SMap} {key : PKey} (h : m key = none) (op : Op) (hw : writes key op = false) :
    m.apply op key = none := by
  cases op with
  | add k t f =>
    simp only [writes, beq_eq_false_iff_ne, ne_eq] at hw
    simp only [apply]
    rw [set_other _ _ (fun e => hw e.symm)]; exact h
  | update k t o uf tm =>
    simp only [writes, beq_eq_false_iff_ne, ne_eq] at hw
    have hne : key ≠ (k, t) := fun e => hw e.symm
    by_cases hl : ∃ o u0 t0, m (k, t) = some (o, some (u0, t0))
    · obtain ⟨o', u0, t0, hl⟩ := hl
      rw [apply_update_learned hl, set_other _ _ hne]; exact h
    · have hl' : ∀ o u0 t0, m (k, t) ≠ some (o, some (u0, t0)) := fun o u0 t0 c => hl ⟨o, u0, t0, c⟩
      rw [apply_update_new hl', set_other _ _ hne]; exact h
  | remove k t =>
    simp only [apply]
    by_cases e : key = (k, t)
    · rw [e, set_same]
    · rw [set_other _ _ e]; exact h
  | flush => exact h
  | reopen => exact h

theorem run_absent {m : SMap} {key : PKey} (h : m key = none) (ops : List Op) (hw : ∀ op ∈ ops, writes key op = false) :
    m.run ops key = none :=
  List.foldlRecOn (motive := fun m => m key = none) ops apply h fun _ hm op ho => apply_absent hm op (hw op ho)

end SMap

end Chewing.SqliteDict
