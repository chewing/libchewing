import Chewing.Proofs.C01PhraseSel
/-!
C01, part 4: the arms of `Entering::next`, `EnteringSyllable::next` and `Highlighting::next`, and the
functions that open a candidate list: none panics, none runs out of fuel, each re-establishes the
invariant (and the selector invariant when a list opens).
-/
namespace Chewing.C01
open Chewing.C04 Chewing.C05

variable {D L : Type} {env : Env D L} {G : D → Prop} {w : Prop}

/-- a state's `next` returned, the shared invariant holds again, and a state it switches to satisfies
    its invariant -/
def StepOK (env : Env D L) (G : D → Prop) (w : Prop) (r : StepRes D L) : Prop :=
  OkAnd (fun x => ShInv env G w x.1 ∧ ∀ s, x.2 = .toState s → StInv env w x.1 s) r

theorem stepOK_spin {sh : Shared D L} {b : KB} (h : ShInv env G w sh) : StepOK env G w (.ok (sh, .spin b)) :=
  ⟨_, rfl, h, fun _ hs => nomatch hs⟩

theorem stepOK_to {sh : Shared D L} {st : St} (h : ShInv env G w sh) (hs : StInv env w sh st) :
    StepOK env G w (.ok (sh, .toState st)) :=
  ⟨_, rfl, h, fun s hh => by cases hh; exact hs⟩

theorem stepOK_withCom_absorb {sh : Shared D L} (h : ShInv env G w sh) {r : Outcome CompEditor}
    (hr : OkAnd (CedPostC sh.com) r) : StepOK env G w (withCom sh r fun sh => .ok (sh, .spin .absorb)) := by
  obtain ⟨c, rfl, hp⟩ := hr
  exact stepOK_spin (h.setComC hp)

/-- … for an edit that puts in no symbol, or a character -/
theorem stepOK_withCom_post {sh : Shared D L} (h : ShInv env G w sh) {r : Outcome CompEditor} {x : Option Sym}
    (hr : OkAnd (CedPost sh.com x) r) (hx : ∀ s, x = some s → s.isSyl = false) :
    StepOK env G w (withCom sh r fun sh => .ok (sh, .spin .absorb)) :=
  stepOK_withCom_absorb h (hr.mono fun _ hp => hp.toC hx)

theorem insertChr_ok {e : CompEditor} (hi : CedInv e) (ch : Nat) : OkAnd (CedPostC e) (e.insert (.chr ch)) :=
  (ced_insert hi (.chr ch)).mono fun _ hp => hp.toC (fun s hs => by cases hs; rfl)

theorem insertChars_ok (cs : List Nat) : ∀ {e : CompEditor}, CedInv e → OkAnd (CedPostC e) (insertChars e cs) := by
  induction cs with
  | nil => intro e hi; exact .ok ⟨hi, fun s hs => .inl hs⟩
  | cons c cs ih =>
    intro e hi
    obtain ⟨e1, h1, hp1⟩ := insertChr_ok hi c
    simp only [insertChars]
    rw [h1]
    obtain ⟨e2, h2, hp2⟩ := ih hp1.1
    exact ⟨e2, h2, hp2.1, fun s hs => (hp2.2 s hs).elim (fun hh => hp1.2 s hh) .inr⟩

/-! ## characters -/

theorem commitOrInsert_ok {sh : Shared D L} (h : ShInv env G w sh) (ch : Nat) : StepOK env G w (commitOrInsert sh ch) :=
  .ite (fun _ => stepOK_spin (h.congr rfl)) fun _ => stepOK_withCom_absorb h (insertChr_ok h.ced ch)

theorem inputChar_ok {sh : Shared D L} (h : ShInv env G w sh) (ev : KeyEvent) : StepOK env G w (inputChar sh ev) := by
  unfold inputChar fullOrBell
  split
  · exact commitOrInsert_ok h _
  · split
    · exact commitOrInsert_ok h _
    · exact stepOK_spin h

theorem chineseFallback_ok {sh : Shared D L} (h : ShInv env G w sh) (ev : KeyEvent) :
    StepOK env G w (chineseFallback sh ev) := by
  unfold chineseFallback
  split
  · exact stepOK_withCom_absorb h (insertChr_ok h.ced _)
  · exact .ite (fun _ => inputChar_ok h ev) fun _ => stepOK_spin h

/-! ## opening a candidate list -/

/-- the menu of a well-formed symbol selector answers (the open category is an existing table) -/
theorem symMenu_ok {y : SymSel} (hy : SymWF y) : ∃ l, y.menu = .ok l := by
  unfold SymSel.menu
  split
  · next c hc =>
    rw [List.getElem?_eq_getElem (hy.cur c hc)]
    exact ⟨_, rfl⟩
  · exact ⟨_, rfl⟩

/-- `open_symbol` (FX1 repair): the symbol table opened, or — an empty table — the request ignored -/
theorem openSymbol_ok {sh : Shared D L} (h : ShInv env G w sh) : StepOK env G w (openSymbol env sh) := by
  obtain ⟨l, hl⟩ := symMenu_ok h.symOK
  have hc : Selecting.candidates env (newSymbol sh) sh = .ok l := hl
  unfold openSymbol
  rw [hc]
  cases l with
  | nil => exact stepOK_spin h
  | cons a l => exact stepOK_to h ⟨h.symOK, nofun⟩

theorem forSelect_clamp {e : CompEditor} {sym : Sym} (h : e.symbolForSelect = some sym) :
    e.pushCursor.clampCursor.inner = e.inner ∧
    e.pushCursor.clampCursor.cursor < e.inner.symbols.length ∧
    e.inner.symbols[e.pushCursor.clampCursor.cursor]? = some sym := by
  unfold CompEditor.symbolForSelect at h
  obtain ⟨h1, h2⟩ := symbol?_some h
  simp only [CompEditor.isEob, Composition.len, beq_iff_eq] at h1 h2
  by_cases hc : e.inner.symbols.length = e.cursor
  · rw [if_pos hc] at h1 h2
    have : e.pushCursor.clampCursor = { e.pushCursor with cursor := e.cursor - 1 } := by
      unfold CompEditor.clampCursor
      rw [if_pos (show e.pushCursor.cursor = e.pushCursor.inner.len from hc.symm)]
      rfl
    rw [this]
    exact ⟨rfl, h1, h2⟩
  · rw [if_neg hc] at h1 h2
    have : e.pushCursor.clampCursor = e.pushCursor := by
      unfold CompEditor.clampCursor
      rw [if_neg (show ¬ e.pushCursor.cursor = e.pushCursor.inner.len from fun hh => hc hh.symm)]
    rw [this]
    exact ⟨rfl, h1, h2⟩

/-- a list opens on the symbol `symbol_for_select` answers with: the cursor is saved and clamped onto that symbol,
    and closing the list again (`cancel_selecting`) restores the state -/
theorem forSelect_open {sh : Shared D L} (h : ShInv env G w sh) {sym : Sym} (hs : sh.com.symbolForSelect = some sym) :
    ShInv env G w { sh with com := sh.com.pushCursor.clampCursor } ∧
    Shared.cancelSelecting { sh with com := sh.com.pushCursor.clampCursor } = sh :=
  ⟨h.setComSame (ced_clampCursor (ced_pushCursor h.ced)) (by rw [(forSelect_clamp hs).1]), cancel_push_clamp hs⟩

/-- the selector `init` / `init_single_word` returns on the editor's buffer satisfies the selector invariant -/
theorem phraseOK_of_init {sh : Shared D L} (h : ShInv env G w sh) {p : PhraseSel} (p1 : p.com = sh.com.inner)
    (p2 : p.strategy = sh.options.lookupStrategy) (p3 : p.begin_ < p.end_) (p4 : p.end_ ≤ sh.com.inner.symbols.length)
    (p5 : AllSyl sh.com.inner p.begin_ p.end_) (p6 : Anchor p) : PhraseOK env w sh p :=
  ⟨p1, p3, p1 ▸ p4, p1 ▸ p5, fun hw c hc => by rw [p2]; exact (h.word hw c (p1 ▸ hc)).2, p6⟩

/-- what `new_phrase` returns on a syllable: the saved + clamped cursor and a phrase selector satisfying its invariant -/
theorem newPhrase_eq {sh : Shared D L} (h : ShInv env G w sh) {k : Nat} (hs : sh.com.symbolForSelect = some (.syl k)) :
    ∃ p, newPhrase env sh = .ok ({ sh with com := sh.com.pushCursor.clampCursor },
        .toState (.selecting { pageNo := 0, action := .replace, sel := .phrase p })) ∧
      PhraseOK env w { sh with com := sh.com.pushCursor.clampCursor } p := by
  obtain ⟨c1, c2, c3⟩ := forSelect_clamp hs
  unfold newPhrase
  dsimp only
  obtain ⟨p, hq, p1, p2, p3, p4, p5, p6, _, _⟩ := init_ok (env := env) (!sh.options.phraseChoiceRearward) sh.options.lookupStrategy
    sh.com.pushCursor.clampCursor.inner sh.com.pushCursor.clampCursor.cursor sh.dict
    (by rw [c1]; exact c2) ⟨k, by rw [c1]; exact c3⟩
  rw [hq]
  exact ⟨p, rfl, phraseOK_of_init (forSelect_open h hs).1 p1 p2 p3 p4 p5 p6⟩

theorem newPhrase_ok {sh : Shared D L} (h : ShInv env G w sh) {k : Nat} (hs : sh.com.symbolForSelect = some (.syl k)) :
    StepOK env G w (newPhrase env sh) := by
  obtain ⟨p, hq, hp⟩ := newPhrase_eq h hs
  rw [hq]
  exact stepOK_to (forSelect_open h hs).1 ⟨hp, fun _ => .inl ⟨p, rfl⟩⟩

/-- the candidate query of a phrase selector satisfying its invariant answers (the `unwrap()`s on the symbol
    under a one-symbol range find a syllable) -/
theorem phraseCandidates_returns {sh : Shared D L} {p : PhraseSel} (hp : PhraseOK env w sh p) :
    ∃ cs, PhraseSel.candidates env p sh.dict sh.syl = .ok cs := by
  unfold PhraseSel.candidates
  rw [sliceSyms_ok (Nat.le_of_lt hp.lt) hp.le]
  dsimp only
  split
  · obtain ⟨k, hk⟩ := hp.syl p.begin_ (Nat.le_refl _) hp.lt
    rw [symbol?_lt (Nat.lt_of_lt_of_le hp.lt hp.le), hk]
    exact ⟨_, rfl⟩
  · exact ⟨_, rfl⟩

/-- `open_phrase`: the list `new_phrase` built, or — without candidates — the saved cursor restored and the
    request ignored -/
theorem openPhrase_ok {sh : Shared D L} (h : ShInv env G w sh) {k : Nat} (hs : sh.com.symbolForSelect = some (.syl k)) :
    StepOK env G w (openPhrase env sh) := by
  obtain ⟨p, hq, hp⟩ := newPhrase_eq h hs
  obtain ⟨cs, hc⟩ := phraseCandidates_returns hp
  obtain ⟨hi, hback⟩ := forSelect_open h hs
  unfold openPhrase
  rw [hq]
  dsimp only
  unfold Selecting.candidates
  dsimp only
  rw [hc]
  cases cs with
  | nil => dsimp only; rw [hback]; exact stepOK_spin h
  | cons a l => exact stepOK_to hi ⟨hp, fun _ => .inl ⟨p, rfl⟩⟩

theorem specialMenu_chr (ch : Nat) : ∃ l, specialMenu (.chr ch) = .ok l := by
  unfold specialMenu specialFindCategory
  dsimp only
  split
  · exact ⟨_, rfl⟩
  · exact ⟨_, rfl⟩
  · next hh => cases hh
  · next hh => cases hh

/-- `open_special_symbol` (FX1 repair): the list `new_special_symbol` built (the character's special symbols, or
    the symbol table when it has none), or — without candidates — the saved cursor restored and the request
    ignored -/
theorem openSpecialSymbol_ok {sh : Shared D L} (h : ShInv env G w sh) {ch : Nat}
    (hs : sh.com.symbolForSelect = some (.chr ch)) : StepOK env G w (openSpecialSymbol env sh (.chr ch)) := by
  obtain ⟨c1, _, c3⟩ := forSelect_clamp hs
  obtain ⟨hi, hback⟩ := forSelect_open h hs
  have hrepl : ∃ x, ({ sh with com := sh.com.pushCursor.clampCursor } : Shared D L).com.inner.symbols[
      ({ sh with com := sh.com.pushCursor.clampCursor } : Shared D L).com.cursor]? = some (Sym.chr x) :=
    ⟨ch, by show sh.com.pushCursor.clampCursor.inner.symbols[_]? = _; rw [c1]; exact c3⟩
  obtain ⟨l, hl⟩ := specialMenu_chr ch
  unfold openSpecialSymbol newSpecialSymbol
  dsimp only
  rw [hl]
  cases l with
  | nil =>
    dsimp only
    obtain ⟨m, hm⟩ := symMenu_ok h.symOK
    unfold Selecting.candidates
    dsimp only [newSymbol]
    rw [hm]
    cases m with
    | nil => dsimp only; rw [hback]; exact stepOK_spin h
    | cons a m => exact stepOK_to hi ⟨h.symOK, fun _ => .inr hrepl⟩
  | cons a l =>
    dsimp only
    unfold Selecting.candidates
    dsimp only
    rw [hl]
    exact stepOK_to hi ⟨rfl, fun _ => .inr hrepl⟩

theorem startSelecting_ok {sh : Shared D L} (h : ShInv env G w sh) : StepOK env G w (startSelecting env sh) := by
  unfold startSelecting
  split
  · next sym hs =>
    cases sym with
    | syl k => exact openPhrase_ok h hs
    | chr ch => exact openSpecialSymbol_ok h hs
  · exact stepOK_spin h

theorem startSelectingOrInputSpace_ok {sh : Shared D L} (h : ShInv env G w sh) :
    StepOK env G w (startSelectingOrInputSpace env sh) := by
  unfold startSelectingOrInputSpace
  split
  · next sym hs =>
    cases sym with
    | syl k => exact openPhrase_ok h hs
    | chr ch => exact openSpecialSymbol_ok h hs
  · exact .ite (fun _ => stepOK_spin (h.congr rfl)) fun _ => stepOK_spin h

/-! ## `Entering` -/

theorem enteringDefault_ok {sh : Shared D L} (h : ShInv env G w sh) (ev : KeyEvent) :
    StepOK env G w (enteringDefault env sh ev) := by
  have hsyl : ∀ l : L, ShInv env G w { sh with syl := l } := fun l => h.congr rfl
  unfold enteringDefault
  split
  · refine .ite (fun _ => openSymbol_ok h) fun _ => .ite (fun _ => inputChar_ok h ev) fun _ =>
      .ite (fun _ => ?_) fun _ => ?_
    · split
      · exact stepOK_withCom_absorb h (insertChars_ok _ h.ced)
      · split
        · exact stepOK_withCom_absorb h (insertChr_ok h.ced _)
        · exact .ite (fun _ => .ite (fun _ => stepOK_to (hsyl _) trivial) fun _ => stepOK_spin (hsyl _))
            fun _ => stepOK_spin h
    · exact .ite (fun _ => .ite (fun _ => stepOK_to (hsyl _) trivial) fun _ => chineseFallback_ok (hsyl _) ev)
        fun _ => chineseFallback_ok h ev
  · exact inputChar_ok h ev

theorem learnTrans_ok {sh : Shared D L} {r : Outcome (Shared D L × Bool)}
    (hr : OkAnd (fun x => ShInv env G w x.1 ∧ Keeps env sh x.1) r) : StepOK env G w (learnTrans r) := by
  obtain ⟨⟨sh', b⟩, rfl, hi, _⟩ := hr
  exact stepOK_spin hi

theorem enteringCtrlDigit_ok (hE : EnvOK env G) {sh : Shared D L} (h : ShInv env G w sh) (c : Nat) :
    StepOK env G w (enteringCtrlDigit env sh c) := by
  unfold enteringCtrlDigit
  refine .ite (fun _ => openSymbol_ok h) fun _ => ?_
  dsimp only
  split
  · exact learnTrans_ok (learnInRangeNotify_ok hE h _ _ (Nat.le_add_right _ _))
  · exact .ite (fun _ => learnTrans_ok (learnInRangeNotify_ok hE h _ _ (Nat.sub_le _ _))) fun _ =>
      stepOK_spin (h.congr rfl)

theorem enteringTabInside_ok (hE : EnvOK env G) {sh : Shared D L} (h : ShInv env G w sh) :
    StepOK env G w (enteringTabInside env sh) := by
  obtain ⟨ivs, hq, _⟩ := conversion_ok hE h
  unfold enteringTabInside
  rw [hq]
  exact .ite (fun _ => stepOK_withCom_post h (ced_insertGap h.ced .glue (by decide) (.inl rfl)) nofun)
    fun _ => stepOK_withCom_post h (ced_insertGap h.ced .brk (by decide) (.inr rfl)) nofun

theorem enteringEnter_ok (hE : EnvOK env G) {sh : Shared D L} (h : ShInv env G w sh) :
    StepOK env G w (enteringEnter env sh) := by
  obtain ⟨sh', hq, hi, _⟩ := commit_ok hE h
  unfold enteringEnter
  rw [hq]
  exact stepOK_spin hi

/-- **`Entering::next`**: every arm returns and re-establishes the invariant -/
theorem enteringNext_ok (hE : EnvOK env G) {sh : Shared D L} (h : ShInv env G w sh) (ev : KeyEvent) :
    StepOK env G w (enteringNext env sh ev) := by
  have move : ∀ {c : CompEditor}, CedInv c → c.inner.symbols = sh.com.inner.symbols →
      StepOK env G w (.ok ({ sh with com := c }, .spin .absorb)) := fun hc hs => stepOK_spin (h.setComSame hc hs)
  have del : ¬ sh.com.isEob = true → sh.com.cursor < sh.com.inner.symbols.length := fun he => by
    have := h.ced.cur
    simp only [CompEditor.isEob, Composition.len, beq_iff_eq] at he
    omega
  unfold enteringNext
  exact .ite (fun _ => .ite (fun _ => stepOK_spin h) fun _ => stepOK_withCom_post h (ced_removeBefore h.ced) nofun) fun _ =>
    .ite (fun _ => stepOK_spin (h.congr rfl)) fun _ => .ite (fun _ => enteringCtrlDigit_ok hE h _) fun _ =>
    .ite (fun _ => stepOK_spin h) fun _ => .ite (fun _ => stepOK_spin (h.congr rfl)) fun _ =>
    .ite (fun _ => enteringTabInside_ok hE h) fun _ =>
    .ite (fun _ => .ite (fun _ => stepOK_spin h) fun he =>
      stepOK_withCom_post h (ced_removeAfter h.ced (del he)) nofun) fun _ =>
    .ite (fun _ => move (ced_moveToBeginning h.ced) rfl) fun _ =>
    .ite (fun _ => .ite (fun _ => stepOK_spin h) fun _ => stepOK_to h trivial) fun _ =>
    .ite (fun _ => .ite (fun _ => stepOK_spin h) fun _ => stepOK_to h trivial) fun _ =>
    .ite (fun _ => move (ced_moveLeft h.ced) rfl) fun _ => .ite (fun _ => move (ced_moveRight h.ced) rfl) fun _ =>
    .ite (fun _ => stepOK_spin h) fun _ => .ite (fun _ => stepOK_spin (h.congr rfl)) fun _ =>
    .ite (fun _ => startSelectingOrInputSpace_ok h) fun _ => .ite (fun _ => startSelecting_ok h) fun _ =>
    .ite (fun _ => move (ced_moveToEnd h.ced) rfl) fun _ => .ite (fun _ => enteringEnter_ok hE h) fun _ =>
    .ite (fun _ => .ite (fun _ => stepOK_spin h.clearCom) fun _ => stepOK_spin h) fun _ =>
    .ite (fun _ => commitOrInsert_ok h _) fun _ => enteringDefault_ok h ev

/-! ## `EnteringSyllable` -/

/-- a syllable that has a word under the editor's lookup strategy has one under the engine's strategy -/
theorem word_both (hE : EnvOK env G) {sh : Shared D L} (h : ShInv env G w sh) (hw0 : w) {k : Nat}
    (hw : env.hasPhrase sh.dict [k] sh.options.lookupStrategy = true) :
    env.hasPhrase sh.dict [k] (engStrategy sh.engine) = true ∧ env.hasPhrase sh.dict [k] sh.options.lookupStrategy = true := by
  refine ⟨?_, hw⟩
  cases hl : sh.options.lookupStrategy with
  | fuzzyPartialPrefix => rw [h.coupled hw0 hl, ← hl]; exact hw
  | standard =>
    rw [hl] at hw
    cases he : engStrategy sh.engine with
    | standard => exact hw
    | fuzzyPartialPrefix => exact hE.std_fuzzy _ _ h.good hw

theorem insertSyl_ok {sh : Shared D L} (h : ShInv env G w sh) {k : Nat}
    (hw : w → env.hasPhrase sh.dict [k] (engStrategy sh.engine) = true ∧ env.hasPhrase sh.dict [k] sh.options.lookupStrategy = true) :
    OkAnd (fun c => ShInv env G w { sh with com := c } ∧ 0 < c.cursor ∧ c.inner.symbols[c.cursor - 1]? = some (Sym.syl k))
      (sh.com.insert (.syl k)) := by
  obtain ⟨c, hq, hp⟩ := ced_insert h.ced (.syl k)
  refine ⟨c, hq, h.setComIns hp fun hw' _ e => by cases e; exact hw hw', ?_⟩
  have hf := insert_at_cursor sh.com (.syl k) c hq
  simp only [CompEditor.symbols] at hf
  obtain ⟨f1, f2, _, f4⟩ := hf
  refine ⟨by omega, ?_⟩
  rw [f1, f2, Nat.add_sub_cancel]
  have : (List.take sh.com.cursor sh.com.inner.symbols).length = sh.com.cursor := by
    rw [List.length_take]; omega
  rw [List.append_assoc, List.getElem?_append_right (by omega), this, Nat.sub_self]
  rfl

theorem newPhraseSimple_ok {sh : Shared D L} (h : ShInv env G w sh) {k : Nat} (h0 : 0 < sh.com.cursor)
    (hs : sh.com.inner.symbols[sh.com.cursor - 1]? = some (Sym.syl k)) : StepOK env G w (newPhraseSimple sh) := by
  unfold newPhraseSimple
  dsimp only
  obtain ⟨p, hq, p1, p2, p3, p4, p5, p6⟩ := initSingleWord_ok sh.options.lookupStrategy sh.com.pushCursor.inner
    sh.com.pushCursor.cursor h0 h.ced.cur ⟨k, hs⟩
  rw [hq]
  have hi := h.setComSame (ced_pushCursor h.ced) rfl
  exact stepOK_to hi ⟨phraseOK_of_init hi p1 p2 p3 p4 p5 p6, fun _ => .inl ⟨p, rfl⟩⟩

theorem syllableAnswer_ok (hE : EnvOK env G) {sh : Shared D L} (h : ShInv env G w sh) (beh : LayoutBeh) :
    StepOK env G w (syllableAnswer env sh beh) := by
  unfold syllableAnswer
  split
  · exact .ite (fun _ => stepOK_to h trivial) fun _ => stepOK_spin h
  · refine .ite (fun hw => ?_) fun _ => stepOK_spin h
    obtain ⟨c, hq, hi, _⟩ := insertSyl_ok h fun hw0 => word_both hE h hw0 hw
    unfold withCom
    rw [hq]
    exact stepOK_spin hi
  · refine .ite (fun hw => ?_) fun _ => stepOK_to (h.congr rfl) trivial
    obtain ⟨c, hq, hi, c0, c1⟩ := insertSyl_ok h fun hw0 => word_both hE h hw0 hw
    unfold withCom
    rw [hq]
    exact .ite (fun _ => newPhraseSimple_ok (sh := { sh with com := c, syl := env.clearSyl (env.clearSyl sh.syl) })
      (hi.congr rfl) c0 c1) fun _ => stepOK_to (hi.congr rfl) trivial
  · exact stepOK_spin h

theorem enteringSyllableNext_ok (hE : EnvOK env G) {sh : Shared D L} (h : ShInv env G w sh) (ev : KeyEvent) :
    StepOK env G w (enteringSyllableNext env sh ev) := by
  have hsyl : ∀ l : L, ShInv env G w { sh with syl := l } := fun l => h.congr rfl
  unfold enteringSyllableNext
  refine .ite (fun _ => .ite (fun _ => stepOK_spin (hsyl _)) fun _ => stepOK_to (hsyl _) trivial) fun _ =>
    .ite (fun _ => stepOK_to (h.congr rfl) trivial) fun _ =>
    .ite (fun _ => .ite (fun _ => stepOK_to (h.clearCom.congr rfl) trivial) fun _ => stepOK_to (hsyl _) trivial) fun _ => ?_
  split
  · exact syllableAnswer_ok hE (hsyl _) _
  · exact syllableAnswer_ok hE (hsyl _) _

/-! ## `Highlighting` -/

theorem highlightingNext_ok (hE : EnvOK env G) (m : Nat) {sh : Shared D L} (h : ShInv env G w sh) (ev : KeyEvent) :
    OkAnd (fun x => ShInv env G w x.1 ∧ ∀ s, x.2.2 = .toState s → StInv env w x.1 s) (highlightingNext env m sh ev) := by
  have leave : ∀ {sh' : Shared D L}, ShInv env G w sh' →
      OkAnd (fun x => ShInv env G w x.1 ∧ ∀ s, x.2.2 = .toState s → StInv env w x.1 s)
        (.ok (sh', m, Trans.toState .entering)) := fun h' => .ok ⟨h', fun s hs => by cases hs; trivial⟩
  unfold highlightingNext
  dsimp only
  refine .ite (fun _ => leave (h.congr rfl)) fun _ => .ite (fun _ => .ok ⟨h, nofun⟩) fun _ =>
    .ite (fun _ => .ok ⟨h, nofun⟩) fun _ => .ite (fun _ => ?_) fun _ => leave h
  obtain ⟨⟨sh', b⟩, hq, hi, _⟩ := learnInRangeNotify_ok hE (h.setComSame (ced_moveCursor h.ced m) rfl)
    (min m sh.com.cursor) (max m sh.com.cursor) (Nat.le_trans (Nat.min_le_left ..) (Nat.le_max_left ..))
  rw [hq]
  exact leave hi

end Chewing.C01
