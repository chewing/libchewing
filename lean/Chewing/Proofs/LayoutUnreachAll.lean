import Chewing.Proofs.LayoutUnreach_pinyin
import Chewing.Proofs.LayoutUnreach
import Chewing.Proofs.LayoutPinyinSound
/-!
The refutations of completeness (known finding F21) for the Pinyin variants: the lift from the kernel-evaluated table
check `pinyinNeverB` to "no key list commits a listed reading" (`pinyin_never_enters`); and that the listed readings
are readings (`gaps_are_readings`).  The refutations for Hsu, ET26 and DaChen26 are in `LayoutUnreach26`;
`Props/C14` imports both.
-/
namespace Chewing
open Gen

theorem commitsIn_false {gaps : List Nat} {res : Option (Behavior × PinyinState)} {st' : PinyinState}
    (h : (!commitsIn gaps res) = true) (hr : res = some (.commit, st')) : st'.syl ∉ gaps := by
  subst hr
  simpa [commitsIn] using h

/-- the end-key branch never commits a reading of `gaps` -/
theorem pinyinCommit_not_gap {v : Nat} {gaps : List Nat} (hn : pinyinNeverB v gaps = true) {st st' : PinyinState}
    {code : Nat} (h : pinyinCommit v st code = some (.commit, st')) : st'.syl ∉ gaps := by
  have hn (tone : Option Nat) (hto : tone ∈ pinyinToneOpts) := by
    have := List.all_eq_true.mp hn tone hto
    simp only [Bool.and_eq_true, List.all_eq_true] at this
    exact this
  revert h
  refine pinyinCommit_cases (P := fun r => r = some (.commit, st') → st'.syl ∉ gaps) (fun tone hto tbl htbl row hrow h => ?_)
    nofun fun tone hto i hi f hf h => commitsIn_false ((hn tone hto).2 i hi f hf) h
  rcases List.mem_cons.mp htbl with rfl | htbl
  · exact commitsIn_false ((hn tone hto).1.1 row hrow) h
  · exact commitsIn_false ((hn tone hto).1.2 row (List.mem_singleton.mp htbl ▸ hrow)) h

theorem pinyinPress_not_gap {v : Nat} {gaps : List Nat} (hn : pinyinNeverB v gaps = true) {st st' : PinyinState}
    {k : KeyEv} (h : pinyinPress v st k = some (.commit, st')) : st'.syl ∉ gaps := by
  unfold pinyinPress at h
  split at h
  · cases h
  · split at h
    · split at h
      · cases h
      · split at h
        · cases h
        · cases h
    · exact pinyinCommit_not_gap hn h

/-- whatever letters were typed and deleted before, the committing key never commits a listed reading -/
theorem pinyinEnter_not_gap {v : Nat} {gaps : List Nat} (hn : pinyinNeverB v gaps = true) :
    ∀ (ks : List KeyEv) (st : PinyinState) (r : Nat), pinyinEnter v st ks = some r → r ∉ gaps := by
  intro ks
  induction ks with
  | nil => intro st r h; simp [pinyinEnter] at h
  | cons k ks ih =>
    intro st r h
    cases ks with
    | nil =>
      unfold pinyinEnter at h
      split at h
      · rename_i st' hp
        cases h
        exact pinyinPress_not_gap hn hp
      · cases h
    | cons k2 ks' =>
      unfold pinyinEnter at h
      split at h
      · exact ih _ _ h
      · split at h
        · exact ih _ _ h
        · cases h

theorem pinyin_never_enters {v : Nat} {gaps : List Nat} (hn : pinyinNeverB v gaps = true) {r : Nat} (hr : r ∈ gaps)
    (keys : List Nat) : entersPinyinB v keys r = false := by
  cases hb : entersPinyinB v keys r with
  | false => rfl
  | true =>
    exfalso
    unfold entersPinyinB at hb
    simp only [beq_iff_eq] at hb
    exact pinyinEnter_not_gap hn _ _ _ hb hr

theorem pinyin_unreach (v : Nat) (hv : v < 3) : pinyinNeverB v (pinyinGaps v) = true :=
  List.all_eq_true.mp unreach_pinyin v (List.mem_range.mpr hv)

/-- the listed gaps are readings of `data/word.src` -/
theorem gaps_are_readings :
    ∀ r ∈ hsuGaps ++ et26Gaps ++ dc26Gaps ++ pinyinGaps 0 ++ pinyinGaps 1 ++ pinyinGaps 2, r ∈ readingCodes := by
  decide +kernel

end Chewing
