import Chewing.Model.Cli
import Chewing.Model.UhashTextEnc
/-!
`BufRead::lines` of Rust's standard library is transcribed twice, by the compiler model (`Cli.readLines`,
`Model/Cli.lean`) and by the legacy-store model (`Uhash.lines`, `Model/Uhash.lean`).  The two are the same function
(`readLines_eq`), and what the reader does to a written file is proved once, for both line ends and with or without an
unterminated last line (`lines_enc_last`).
-/
namespace Chewing.Uhash

theorem readLines_go_eq : ∀ s acc : List Nat, Cli.readLines.go s acc = linesAux s acc
  | [], _ => rfl
  | c :: cs, acc => by
    unfold Cli.readLines.go linesAux Cli.finishLine
    rw [readLines_go_eq cs, readLines_go_eq cs]
    -- the two `match`es on `acc` differ only in how the second arm names it
    congr 2
    split <;> simp [*]

theorem readLines_eq (s : List Nat) : Cli.readLines s = lines s := readLines_go_eq s []

theorem linesAux_append : ∀ (l rest cur : List Nat), (∀ b ∈ l, b ≠ 10) →
    linesAux (l ++ rest) cur = linesAux rest (l.reverse ++ cur)
  | [], _, _, _ => by simp
  | b :: l, rest, cur, h => by
    have hb : (b == 10) = false := by simpa using h b List.mem_cons_self
    simp only [List.cons_append, linesAux, hb, Bool.false_eq_true, ↓reduceIte]
    rw [linesAux_append l rest (b :: cur) (fun x hx => h x (List.mem_cons_of_mem _ hx))]
    simp

/-- a line `lines` gives back unchanged: no `\n` inside, and (for `\n` termination) not ending in `\r` -/
def LineOk (crlf : Bool) (l : List Nat) : Prop := (∀ b ∈ l, b ≠ 10) ∧ (crlf = false → l.getLast? ≠ some 13)

theorem linesAux_line (crlf : Bool) (l rest : List Nat) (h : LineOk crlf l) :
    linesAux (l ++ (eol crlf ++ rest)) [] = l :: linesAux rest [] := by
  rw [linesAux_append l _ [] h.1, List.append_nil]
  cases crlf with
  | true => simp [eol, linesAux]
  | false =>
    have := h.2 rfl
    rw [← List.head?_reverse] at this
    simp only [eol, Bool.false_eq_true, ↓reduceIte, List.singleton_append, linesAux, beq_self_eq_true]
    split
    · exact absurd (by simp [*]) this
    · rw [List.reverse_reverse]

theorem lines_enc_last (crlf : Bool) (last : List Nat) (hl : ∀ b ∈ last, b ≠ 10) :
    ∀ (ls : List (List Nat)), (∀ l ∈ ls, LineOk crlf l) →
      lines (ls.flatMap (fun l => l ++ eol crlf) ++ last) = ls ++ if last.isEmpty then [] else [last]
  | [], _ => by simpa [lines, linesAux] using linesAux_append last [] [] hl
  | l :: ls, h => by
    have ih := lines_enc_last crlf last hl ls (fun x hx => h x (List.mem_cons_of_mem _ hx))
    unfold lines at *
    rw [List.flatMap_cons, List.append_assoc, List.append_assoc, linesAux_line crlf l _ (h l List.mem_cons_self), ih]
    rfl

theorem lines_enc (crlf : Bool) (ls : List (List Nat)) (h : ∀ l ∈ ls, LineOk crlf l) :
    lines (ls.flatMap (fun l => l ++ eol crlf)) = ls := by
  simpa using lines_enc_last crlf [] (by simp) ls h

end Chewing.Uhash
