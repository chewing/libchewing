import Chewing.Proofs.ConvBasic
/-!
The displayed string of a tiling whose intervals have one character per symbol: every interval's text
sits over its own symbols.
-/
namespace Chewing.Conv

theorem display_cons (x : Interval) (r : List Interval) : display (x :: r) = x.text ++ display r := by
  simp [display]

theorem display_length {a b : Nat} {l : List Interval} (h : IvChain a b l)
    (hl : ∀ iv ∈ l, iv.text.length = iv.stop - iv.start) : (display l).length = b - a := by
  induction l generalizing a with
  | nil => cases h; simp [display]
  | cons x r ih =>
    obtain ⟨h1, h2, h3⟩ := h
    rw [display_cons, List.length_append, ih h3 (fun iv hm => hl iv (List.mem_cons_of_mem _ hm)),
      hl x (List.mem_cons_self ..)]
    have := h3.le
    omega

theorem display_at {a b : Nat} {l : List Interval} (h : IvChain a b l)
    (hl : ∀ iv ∈ l, iv.text.length = iv.stop - iv.start) {iv : Interval} (hm : iv ∈ l) :
    ((display l).drop (iv.start - a)).take (iv.stop - iv.start) = iv.text := by
  induction l generalizing a with
  | nil => cases hm
  | cons x r ih =>
    obtain ⟨h1, h2, h3⟩ := h
    have hx := hl x (List.mem_cons_self ..)
    rw [display_cons]
    rcases List.mem_cons.mp hm with rfl | hm
    · rw [h1, Nat.sub_self, List.drop_zero, ← h1, ← hx, List.take_left']
      rfl
    · have hb := h3.mem_bounds hm
      rw [List.drop_append, List.drop_eq_nil_of_le (by omega), List.nil_append, hx,
        show iv.start - a - (x.stop - x.start) = iv.start - x.stop by omega]
      exact ih h3 (fun iv hm => hl iv (List.mem_cons_of_mem _ hm)) hm

theorem textAt_sub {n : Nat} {l : List Interval} (h : IvChain 0 n l)
    (hl : ∀ iv ∈ l, iv.text.length = iv.stop - iv.start) {iv : Interval} (hm : iv ∈ l) {k m : Nat}
    (hkm : k + m ≤ iv.stop - iv.start) :
    textAt l (iv.start + k) (iv.start + k + m) = (iv.text.drop k).take m := by
  have hat := display_at h hl hm
  rw [Nat.sub_zero] at hat
  unfold textAt
  rw [show iv.start + k + m - (iv.start + k) = m by omega, ← List.drop_drop, List.take_drop, ← hat,
    List.take_drop (i := m) (j := k), List.take_take, Nat.min_eq_left hkm]

theorem textAt_interval {n : Nat} {l : List Interval} (h : IvChain 0 n l)
    (hl : ∀ iv ∈ l, iv.text.length = iv.stop - iv.start) {iv : Interval} (hm : iv ∈ l) :
    textAt l iv.start iv.stop = iv.text := by
  have := textAt_sub h hl hm (k := 0) (m := iv.stop - iv.start) (by omega)
  have hb := h.mem_bounds hm
  rw [Nat.add_zero, show iv.start + (iv.stop - iv.start) = iv.stop by omega, List.drop_zero, ← hl iv hm,
    List.take_length] at this
  exact this

end Chewing.Conv
