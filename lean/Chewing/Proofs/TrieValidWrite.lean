import Chewing.Model.TrieCodec
import Chewing.Proofs.TrieLookup
import Chewing.Proofs.TrieDoc
import Chewing.Proofs.TrieValidate
/-!
The index `TrieBuilder::write` produces passes `validate_index` (`validate_buffers`, `validIndex_write`; together
`C11.validate_write` of `Props/C11.lean`), so the validation `Trie::new` performs since the repair of F16 / F17 never
rejects a written file (`write_laid`).

The scan of `validate_index` runs along the very order in which the BFS of `write` emits the records,
and its `next` is the writer's `child_begin` counter (`writeLoop_scan`: both start at 1, both advance by
the number of children of each node record and skip leaf records).  The syllable fields inside a child
range are those of the node's sorted children (non-zero), the node's leaf being the first record.

Since the repair of C13's finding F47 `validate_index` also requires the syllable field of every node record
other than the root to be a value `Syllable::try_from` accepts (`TrieValidate.sylsOk`).  The syllable field of a
node record is the syllable of the forest node it was written for (`writeLoop_syls`), a `Syllable` value handed to
`insert`, hence a valid code by `Forest.WF` / `Item.WF`; leaf records and the root carry 0.
-/
namespace Chewing.TrieCodec
open Chewing.Der Chewing.TrieValidate

/-- A property `R` of records holds of every record a run appends, if it holds of the record written for any
    queued item with the property `I`, and `I` passes from a node to what it queues. -/
theorem writeLoop_recs {I : Item → Prop} {R : Rec → Prop}
    (kids : ∀ s l sub, I (.node s l sub) → ∀ it ∈ kidsOf l sub, I it)
    (node : ∀ s l sub a, I (.node s l sub) → (kidsOf l sub).length < 65536 → R (a % 4294967296, (kidsOf l sub).length, s))
    (leaf : ∀ ps a, I (.leaf ps) → (encPhrases (sortLeaf ps)).length < 65536 →
      R (a % 4294967296, (encPhrases (sortLeaf ps)).length, 0))
    {fuel : Nat} {q : List Item} {cb : Nat} {dict : List Rec} {data : Bytes} {recs' : List Rec} {data' : Bytes}
    (h : writeLoop fuel q cb dict data = some (recs', data')) (hq : ∀ it ∈ q, I it) :
    ∃ r2, recs' = dict ++ r2 ∧ ∀ r ∈ r2, R r := by
  refine writeLoop_induct (out := (recs', data'))
    (P := fun q _ dict _ => (∀ it ∈ q, I it) → ∃ r2, recs' = dict ++ r2 ∧ ∀ r ∈ r2, R r) ?_ ?_ ?_ fuel q cb dict data h hq
  · exact fun _ _ => ⟨[], (List.append_nil _).symm, fun _ hr => nomatch hr⟩
  · intro s l sub q cb dict data hk _ ih hq
    have hn := hq _ List.mem_cons_self
    obtain ⟨r2, hr2, hR⟩ := ih (List.forall_mem_append.mpr ⟨fun it hit => hq it (List.mem_cons_of_mem _ hit), kids s l sub hn⟩)
    exact ⟨_ :: r2, by rw [hr2, List.append_assoc]; rfl, List.forall_mem_cons.mpr ⟨node s l sub cb hn hk, hR⟩⟩
  · intro ps q cb dict data hk _ ih hq
    obtain ⟨r2, hr2, hR⟩ := ih (fun it hit => hq it (List.mem_cons_of_mem _ hit))
    exact ⟨_ :: r2, by rw [hr2, List.append_assoc]; rfl,
      List.forall_mem_cons.mpr ⟨leaf ps data.length (hq _ List.mem_cons_self) hk, hR⟩⟩

/-- what `write` appends: records with fields in range, whole valid phrase records -/
theorem writeLoop_shape (fuel : Nat) (q : List Item) (cb : Nat) (dict : List Rec) (data : Bytes) (recs' : List Rec)
    (data' : Bytes) (h : writeLoop fuel q cb dict data = some (recs', data')) (hpre : ∀ it ∈ q, it.Pre) :
    (∃ r2, recs' = dict ++ r2 ∧ ∀ r ∈ r2, r.1 < 4294967296 ∧ r.2.1 < 65536 ∧ r.2.2 < 65536) ∧
    (∃ pl, data' = data ++ encPhrases pl ∧ ∀ p ∈ pl, ValidPhrase p) := by
  refine ⟨writeLoop_recs (I := Item.Pre) (fun _ _ _ hn it hit => (hn.kids it hit).pre)
    (fun _ _ _ _ hn hk => ⟨Nat.mod_lt _ (by decide), hk, hn.1⟩)
    (fun _ _ _ hk => ⟨Nat.mod_lt _ (by decide), hk, Nat.zero_lt_succ _⟩) h hpre, ?_⟩
  refine writeLoop_induct (out := (recs', data'))
    (P := fun q _ _ data => (∀ it ∈ q, it.Pre) → ∃ pl, data' = data ++ encPhrases pl ∧ ∀ p ∈ pl, ValidPhrase p)
    ?_ ?_ ?_ fuel q cb dict data h hpre
  · exact fun _ _ => ⟨[], (List.append_nil _).symm, fun _ hp => nomatch hp⟩
  · exact fun s l sub q cb dict data _ _ ih hpre => ih (Item.Pre.step hpre)
  · intro ps q cb dict data _ _ ih hpre
    obtain ⟨pl, hpl, hplv⟩ := ih (fun it hit => hpre it (List.mem_cons_of_mem _ hit))
    refine ⟨sortLeaf ps ++ pl, by rw [hpl, List.append_assoc, encPhrases, encPhrases, encPhrases, List.flatMap_append],
      List.forall_mem_append.mpr ⟨sortLeaf_valid (hpre _ List.mem_cons_self).2, hplv⟩⟩

/-- what `write` appends, syllable fields: 0 (leaf records, the root) or the valid code of a forest node -/
theorem writeLoop_syls (fuel : Nat) :
    ∀ (q : List Item) (cb : Nat) (dict : List Rec) (data : Bytes) (recs' : List Rec) (data' : Bytes),
      writeLoop fuel q cb dict data = some (recs', data') →
      (∀ it ∈ q, it.Pre ∧ (it.syl ≠ 0 → validCode it.syl = true)) →
      ∃ r2, recs' = dict ++ r2 ∧ ∀ r ∈ r2, r.2.2 ≠ 0 → validCode r.2.2 = true :=
  fun _ _ _ _ _ _ h hq => writeLoop_recs (I := fun it => it.Pre ∧ (it.syl ≠ 0 → validCode it.syl = true))
    (fun _ _ _ hn it hit => ⟨(hn.1.kids it hit).pre, (hn.1.kids it hit).syl_valid⟩)
    (fun _ _ _ _ hn _ => hn.2) (fun _ _ _ _ hz => absurd rfl hz) h hq

theorem sylAt_of_get {recs : List Rec} {j : Nat} {r : Rec} (h : recs[j]? = some r) : sylAt recs j = r.2.2 := by
  unfold sylAt
  simp [List.getD_eq_getElem?_getD, h]

/-- the queue of `write`: the root alone before the first record, later only non-root items -/
def QueueOK (dict : List Rec) (q : List Item) : Prop :=
  (1 ≤ dict.length ∧ ∀ it ∈ q, it.WF) ∨
  (dict = [] ∧ ∃ l sub, q = [Item.node 0 l sub] ∧ (Item.node 0 l sub).Pre)

theorem QueueOK.pre {dict : List Rec} {q : List Item} (h : QueueOK dict q) : ∀ it ∈ q, it.Pre := by
  rcases h with ⟨_, h⟩ | ⟨_, l, sub, rfl, hp⟩
  · exact fun it hit => (h it hit).pre
  · exact List.forall_mem_singleton.mpr hp

theorem QueueOK.tail_wf {dict : List Rec} {it : Item} {q : List Item} (h : QueueOK dict (it :: q)) :
    ∀ it' ∈ q, it'.WF := by
  rcases h with ⟨_, h⟩ | ⟨_, _, _, hq, _⟩
  · exact fun it' hit => h it' (List.mem_cons_of_mem _ hit)
  · cases (List.cons.inj hq).2
    exact fun _ hit => nomatch hit

/-- the head of the queue is a node record for the scan: the root, or a non-zero syllable -/
theorem QueueOK.head_node {dict : List Rec} {s : Nat} {l : Option (List Phrase)} {sub : Forest} {q : List Item}
    (h : QueueOK dict (.node s l sub :: q)) (a b : Nat) : IsNode dict.length (a, b, s) := by
  rcases h with ⟨_, h⟩ | ⟨hd0, _⟩
  · exact Or.inr (Nat.ne_of_gt (h _ List.mem_cons_self).1)
  · exact Or.inl (hd0 ▸ rfl)

theorem QueueOK.head_leaf {dict : List Rec} {ps : List Phrase} {q : List Item}
    (h : QueueOK dict (.leaf ps :: q)) (a b : Nat) : ¬ IsNode dict.length (a, b, 0) := by
  rcases h with h | ⟨_, _, _, hq, _⟩
  · exact fun hn => hn.elim (Nat.ne_of_gt h.1) (fun h0 => h0 rfl)
  · cases (List.cons.inj hq).1

theorem QueueOK.snoc {dict : List Rec} {q : List Item} (r : Rec) (h : ∀ it ∈ q, it.WF) : QueueOK (dict ++ [r]) q :=
  Or.inl ⟨by rw [List.length_append]; exact Nat.le_add_left .., h⟩

/-- the loop invariant: the scan of `validate_index`, started at the next record to be written with
    `next` = the writer's `child_begin`, accepts the rest of the final index -/
theorem writeLoop_scan (fuel : Nat) (q : List Item) (cb : Nat) (dict : List Rec) (data : Bytes) (recs' : List Rec)
    (data' : Bytes) (h : writeLoop fuel q cb dict data = some (recs', data'))
    (hcb : cb = dict.length + q.length) (hq : QueueOK dict q)
    (hr : recs'.length < 4294967296) (hd : data'.length < 4294967296) :
    ∀ r2, recs' = dict ++ r2 → scan recs' data'.length r2 dict.length cb = true := by
  refine writeLoop_induct (out := (recs', data'))
    (P := fun q cb dict _ => cb = dict.length + q.length → QueueOK dict q →
      ∀ r2, recs' = dict ++ r2 → scan recs' data'.length r2 dict.length cb = true)
    ?_ ?_ ?_ fuel q cb dict data h hcb hq
  · intro _ _ _ r2 hr2
    cases List.append_cancel_left ((List.append_nil _).trans hr2)
    rfl
  · intro s l sub q cb dict data _ ⟨fuel, h⟩ ih hcb hq r2' hr2'
    have hnode : (Item.node s l sub).Pre := hq.pre _ List.mem_cons_self
    have hwf' : ∀ it ∈ q ++ kidsOf l sub, it.WF := List.forall_mem_append.mpr ⟨hq.tail_wf, hnode.kids⟩
    have hcb' := cb_node hcb (cb % 4294967296, (kidsOf l sub).length, s) (kidsOf l sub)
    obtain ⟨⟨r2, hr2⟩, _, hlen, hlaid⟩ := writeLoop_laid fuel _ _ _ _ _ _ h hcb' (fun it hit => (hwf' it hit).pre) hr hd
    have hscan := ih hcb' (.snoc _ hwf') r2 hr2
    rw [← hcb'] at hlen
    rw [Nat.mod_eq_of_lt (Nat.lt_of_le_of_lt (Nat.le_of_add_right_le hlen) hr)] at hr2 hscan
    rw [List.append_assoc, List.singleton_append] at hr2
    rw [List.length_append] at hscan
    cases List.append_cancel_left (hr2'.symm.trans hr2)
    refine (scan_cons_node (hq.head_node _ _)).mpr
      ⟨Nat.le_refl _, hcb ▸ Nat.lt_add_of_pos_right (Nat.zero_lt_succ _), hlen, ?_, hscan⟩
    -- the records of the child range are those of the queued children: the leaf first, then non-zero syllables
    refine zeroInside_eq_false.mpr fun j hj1 hj2 => ?_
    obtain ⟨j, rfl⟩ := Nat.exists_eq_add_of_lt hj1
    obtain ⟨k, hk⟩ : ∃ k, (kidsOf l sub)[j + 1]? = some k :=
      ⟨_, List.getElem?_eq_getElem (Nat.lt_of_add_lt_add_left hj2)⟩
    obtain ⟨r, hrget, _, _, _, hsyl⟩ :=
      laid_rec (laid_kids hcb _ hlaid _ k hk) (hnode.kids k (List.mem_of_getElem? hk)).pre
    show sylAt recs' (cb + (j + 1)) ≠ 0
    rw [sylAt_of_get hrget, hsyl]
    obtain ⟨k1, ks, hks⟩ := List.exists_cons_of_ne_nil (List.ne_nil_of_length_pos (Nat.zero_lt_of_lt (List.getElem?_eq_some_iff.mp hk).1))
    rw [hks] at hk
    exact kids_tail_syl_ne_zero hnode.2.2 hks k (List.mem_of_getElem? hk)
  · intro ps q cb dict data _ ⟨fuel, h⟩ ih hcb hq r2' hr2'
    obtain ⟨⟨r2, hr2⟩, d2, hd2⟩ := writeLoop_prefix h
    have hscan := ih (cb_leaf hcb _) (.snoc _ hq.tail_wf) r2 hr2
    have hdl : data.length + (encPhrases (sortLeaf ps)).length ≤ data'.length := by
      rw [hd2, List.length_append, List.length_append]; exact Nat.le_add_right ..
    rw [Nat.mod_eq_of_lt (Nat.lt_of_le_of_lt (Nat.le_of_add_right_le hdl) hd)] at hr2 hscan
    rw [List.append_assoc, List.singleton_append] at hr2
    rw [List.length_append] at hscan
    cases List.append_cancel_left (hr2'.symm.trans hr2)
    exact (scan_cons_leaf (hq.head_leaf _ _)).mpr ⟨hdl, hscan⟩

/-- `C11.validate_write`, on the record list: the index of `write` passes `validate_index` -/
theorem validate_buffers (b : Builder) (hb : b.WF) (recs : List Rec) (data : Bytes)
    (h : b.buffers = some (recs, data)) (hr : recs.length < 4294967296) (hd : data.length < 4294967296) :
    validate recs data.length = true := by
  have := writeLoop_scan b.root.size [b.root] 1 [] [] recs data h rfl
    (Or.inr ⟨rfl, b.leaf, b.kids, rfl, root_pre b hb⟩) hr hd recs rfl
  obtain ⟨r2, hr2, hsyl⟩ := writeLoop_syls b.root.size [b.root] 1 [] [] recs data h
    (by intro it hit; simp only [List.mem_singleton] at hit; subst hit
        exact ⟨root_pre b hb, fun hz => absurd rfl hz⟩)
  refine validate_intro this ?_
  intro r hr
  rw [hr2, List.nil_append] at hr
  exact hsyl r (List.mem_of_mem_drop hr)

/-- the reader's record view of a flattened index is the record list -/
theorem parseRecs_flatMap (recs : List Rec) (h : ∀ r ∈ recs, r.1 < 4294967296 ∧ r.2.1 < 65536 ∧ r.2.2 < 65536) :
    parseRecs (recs.flatMap recBytes) = recs := by
  unfold parseRecs
  rw [flatMap_recBytes_length, Nat.mul_div_cancel _ (by decide : 0 < 8)]
  apply List.ext_getElem
  · simp
  · intro i h1 h2
    simp only [List.getElem_map, List.getElem_range]
    have hm := h recs[i] (List.getElem_mem h2)
    exact viewAt_recs recs i recs[i] (List.getElem?_eq_getElem h2) hm.1 hm.2.1 hm.2.2

/-- `C11.validate_write`, on the bytes: `validate_index` accepts the index bytes `write` produces -/
theorem validIndex_write (b : Builder) (hb : b.WF) (recs : List Rec) (data : Bytes)
    (h : b.buffers = some (recs, data)) (hr : recs.length < 4294967296) (hd : data.length < 4294967296) :
    validIndex (recs.flatMap recBytes) data = true := by
  obtain ⟨⟨r2, hr2, hb2⟩, _⟩ := writeLoop_shape b.root.size [b.root] 1 [] [] recs data h
    (by intro it hit; simp at hit; subst hit; exact root_pre b hb)
  simp only [List.nil_append] at hr2
  subst hr2
  unfold validIndex
  rw [parseRecs_flatMap _ hb2]
  exact validate_buffers b hb _ data h hr hd

/-- **a written file, as the reader sees it**: `Trie::new` accepts it (the validation never rejects a written
    index) and returns the metadata and the two buffers of `write`; the index is the layout of the builder tree,
    one record per node -/
theorem write_laid (b : Builder) (hb : b.WF) (hi : ValidInfo b.info) (bytes : Bytes) (hw : b.write = some bytes) :
    ∃ recs data, b.buffers = some (recs, data) ∧
      bytes = encSeq (docBody b.info (recs.flatMap recBytes) data) ∧
      openTrie bytes = some { info := b.info, index := recs.flatMap recBytes, data := data } ∧
      Laid recs data 0 b.root ∧ recs.length = b.root.size ∧ validate recs data.length = true := by
  obtain ⟨recs, data, hbuf, hbytes, hopen, hr, hd⟩ := openTrie_write b hi bytes hw (validIndex_write b hb)
  refine ⟨recs, data, hbuf, hbytes, hopen, bfs_layout b hb recs data hbuf hr hd, ?_, validate_buffers b hb recs data hbuf hr hd⟩
  simpa [qsize] using writeLoop_count _ _ _ _ _ _ _ hbuf

end Chewing.TrieCodec
