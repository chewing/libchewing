import Chewing.Model.Editor
import Chewing.Proofs.Enum
/-!
C18, the table part: `full_width_symbol_input` (`FULL_WIDTH_SYMBOLS` with the fall-back to
`SPECIAL_SYMBOLS`, `src/conversion/symbol.rs`) on the 95 printable ASCII characters, by kernel
evaluation over the tables regenerated from the source on every run (`Gen/SymbolTables.lean`).
-/
namespace Chewing

/-- the `i`-th printable ASCII character, `i < 95` -/
def asciiAt (i : Nat) : Nat := i + 32

/-- the printable character a full-width replacement stands for.  Most replacements are the character moved
    into the block U+FF00 … U+FF5E; the few that lie elsewhere are looked up among the 95. -/
def narrow (w : Nat) : Nat :=
  if 65280 ≤ w ∧ w ≤ 65374 then w - 65248
  else asciiAt (((List.range 95).find? fun i => fullWidthSymbolInput (asciiAt i) == some w).getD 0)

/-- total, never an ASCII character again (so the replacement is visible), and `narrow` leads back to the
    character (so distinct characters stay distinct) -/
theorem fullwidth_tab :
    allLt 95 (fun i => match fullWidthSymbolInput (asciiAt i) with
      | some w => decide (126 < w) && narrow w == asciiAt i
      | none => false) = true := by decide +kernel

/-- `special_symbol_input` never answers for a letter, a digit or the space (so in Chinese mode these
    keys reach the phonetic layout / the character branch) -/
theorem special_not_alnum_tab : ∀ c < 127, (48 ≤ c ∧ c ≤ 57 ∨ 65 ≤ c ∧ c ≤ 90 ∨ 97 ≤ c ∧ c ≤ 122 ∨ c = 32) →
    specialSymbolInput c = none := by
  decide +kernel

end Chewing
