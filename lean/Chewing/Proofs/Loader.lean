import Chewing.Model.Loader
import Chewing.Proofs.Uhash
/-!
Lemmas about the importer of `Model/Loader.lean`: the map operations, the import loop
(`update_phrase` per record: the last record of a key wins, nothing else appears), and `load`.
-/
namespace Chewing.Loader
open Chewing.Uhash

theorem find_cons (e : Key × Val) (m : UMap) (k' : Key) :
    find? (e :: m) k' = if e.1 = k' then some e.2 else find? m k' := by
  unfold find?
  rw [List.find?_cons]
  by_cases h : e.1 = k'
  · rw [if_pos h, beq_iff_eq.mpr h]; rfl
  · rw [if_neg h, beq_eq_false_iff_ne.mpr h]

/-- `BTreeMap::insert` as seen by a lookup -/
theorem find_insert (m : UMap) (k k' : Key) (v : Val) :
    find? (insert m k v) k' = if k = k' then some v else find? m k' := by
  induction m with
  | nil => exact find_cons (k, v) [] k'
  | cons e rest ih =>
    obtain ⟨k0, v0⟩ := e
    unfold insert
    split
    · rename_i heq
      cases beq_iff_eq.mp heq
      rw [find_cons, find_cons]
      split <;> rfl
    · split
      · exact find_cons (k, v) _ k'
      · rename_i hne _
        rw [find_cons, find_cons, ih]
        split
        · rename_i h0
          rw [if_neg fun h => hne (beq_iff_eq.mpr (h.trans h0.symm))]
        · rfl
theorem mem_insert (m : UMap) (k : Key) (v : Val) (e : Key × Val) (h : e ∈ insert m k v) :
    e = (k, v) ∨ e ∈ m := by
  induction m with
  | nil =>
    simp only [insert, List.mem_singleton] at h
    exact Or.inl h
  | cons e0 rest ih =>
    obtain ⟨k0, v0⟩ := e0
    unfold insert at h
    split at h
    · rcases List.mem_cons.mp h with h | h
      · exact Or.inl h
      · exact Or.inr (List.mem_cons_of_mem _ h)
    · split at h
      · rcases List.mem_cons.mp h with h | h
        · exact Or.inl h
        · exact Or.inr h
      · rcases List.mem_cons.mp h with h | h
        · exact Or.inr (by rw [h]; exact List.mem_cons_self)
        · rcases ih h with h | h
          · exact Or.inl h
          · exact Or.inr (List.mem_cons_of_mem _ h)

/-- the value the import loop leaves under `k`: that of the LAST record with key `k`, else what
    the map held before -/
def lastVal (k : Key) (rs : List Rec) (init : Option Val) : Option Val :=
  rs.foldl (fun acc r => if keyOf r == k then some (valOf r) else acc) init

theorem find_importRecs (k : Key) : ∀ (rs : List Rec) (m : UMap),
    find? (importRecs m rs) k = lastVal k rs (find? m k)
  | [], m => rfl
  | r :: rs, m => by
    have ih := find_importRecs k rs (insert m (keyOf r) (valOf r))
    rw [find_insert] at ih
    simp only [importRecs, lastVal, List.foldl_cons, beq_iff_eq] at ih ⊢
    exact ih

theorem lastVal_of_not_mem (k : Key) : ∀ (rs : List Rec) (init : Option Val),
    (∀ r ∈ rs, keyOf r ≠ k) → lastVal k rs init = init
  | [], _, _ => rfl
  | r :: rs, init, h => by
    simp only [lastVal, List.foldl_cons]
    have hr : (keyOf r == k) = false := by simpa using h r List.mem_cons_self
    simp only [hr, Bool.false_eq_true, if_false]
    exact lastVal_of_not_mem k rs init (fun r' hr' => h r' (List.mem_cons_of_mem _ hr'))

/-- records with pairwise distinct keys: each one's value is what the import leaves under its key -/
theorem lastVal_of_pairwise : ∀ (rs : List Rec) (init : Option Val),
    rs.Pairwise (fun a b => keyOf a ≠ keyOf b) → ∀ r ∈ rs, lastVal (keyOf r) rs init = some (valOf r)
  | [], _, _, r, hr => by cases hr
  | x :: rs, init, hp, r, hr => by
    rw [List.pairwise_cons] at hp
    simp only [lastVal, List.foldl_cons]
    rcases List.mem_cons.mp hr with rfl | hmem
    · simp only [beq_self_eq_true, if_true]
      exact lastVal_of_not_mem (keyOf r) rs _ (fun r' hr' => fun h => hp.1 r' hr' h.symm)
    · exact lastVal_of_pairwise rs _ hp.2 r hmem

/-- nothing but imported records (or what was there before) is in the result -/
theorem mem_importRecs : ∀ (rs : List Rec) (m : UMap) (e : Key × Val), e ∈ importRecs m rs →
    e ∈ m ∨ ∃ r ∈ rs, e = (keyOf r, valOf r)
  | [], m, e, h => Or.inl h
  | r :: rs, m, e, h => by
    simp only [importRecs, List.foldl_cons] at h
    rcases mem_importRecs rs (insert m (keyOf r) (valOf r)) e h with h | ⟨r', hr', he⟩
    · rcases mem_insert m _ _ e h with h | h
      · exact Or.inr ⟨r, List.mem_cons_self, h⟩
      · exact Or.inl h
    · exact Or.inr ⟨r', List.mem_cons_of_mem _ hr', he⟩

theorem find_some_mem {m : UMap} {k : Key} {v : Val} (h : find? m k = some v) : (k, v) ∈ m := by
  unfold find? at h
  cases hf : m.find? (fun e => e.1 == k) with
  | none => rw [hf] at h; cases h
  | some e =>
    rw [hf] at h
    simp only [Option.map_some, Option.some.injEq] at h
    have hm := List.mem_of_find?_eq_some hf
    have hk := List.find?_some hf
    have : e.1 = k := by simpa using hk
    obtain ⟨ek, ev⟩ := e
    simp only at this h
    subst this h
    exact hm

/-- every start returns, changes at most the current-format file, and a dictionary it produced is what that file
    then holds -/
theorem load_spec (feat : Bool) (d : UserDir) :
    ∃ dict dat, load feat d = .ok { dict, dir := { d with chewingDat := dat } } ∧
      ∀ m, dict = .ok m → dat = some (.valid m) := by
  obtain ⟨c, u, s⟩ := d
  unfold load
  split
  · rename_i h; cases h
    exact ⟨_, _, rfl, fun _ hm => by cases hm; rfl⟩
  · rename_i h; cases h
    exact ⟨_, _, rfl, nofun⟩
  · dsimp only
    split
    · split
      · exact ⟨_, _, rfl, fun _ hm => by cases hm; rfl⟩
      · exact ⟨_, _, rfl, nofun⟩
    · split
      · exact ⟨_, _, rfl, fun _ hm => by cases hm; rfl⟩
      · rename_i b _
        obtain ⟨r, hr⟩ := loadUhash_returns b
        rw [hr]
        cases r <;> exact ⟨_, _, rfl, fun _ hm => by cases hm; rfl⟩

theorem load_returns (feat : Bool) (d : UserDir) : Returns (load feat d) :=
  let ⟨_, _, h, _⟩ := load_spec feat d
  ⟨_, h⟩

end Chewing.Loader
