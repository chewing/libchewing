import Chewing.Model.TrieCodec
import Chewing.Proofs.TrieBuilder
import Chewing.Proofs.TrieSort
/-!
`bfs_layout`: the BFS of `write` lays the tree out so that the record of a node holds the index
range of exactly its leaf and its sorted children.

Loop invariant: `written ++ queue = enqueued` and `child_begin = |enqueued|`, i.e.
`cb = dict.length + q.length`; the j-th queued item will be record `dict.length + j`.
-/
namespace Chewing.TrieCodec
open Chewing.Der

/-- a queued non-root item of a well-formed builder -/
def Item.WF : Item → Prop
  | .node s l sub => 0 < s ∧ s < 65536 ∧ validCode s = true ∧ LeafOK l ∧ (l.isSome = true ∨ sub ≠ .nil) ∧ sub.WF
  | .leaf ps => ps ≠ [] ∧ ∀ p ∈ ps, ValidPhrase p

/-- what `write` needs of any queued item (root included) -/
def Item.Pre : Item → Prop
  | .node s l sub => s < 65536 ∧ LeafOK l ∧ sub.WF
  | .leaf ps => ps ≠ [] ∧ ∀ p ∈ ps, ValidPhrase p

theorem Item.WF.pre {it : Item} (h : it.WF) : it.Pre := by
  cases it with
  | node s l sub => exact ⟨h.2.1, h.2.2.2.1, h.2.2.2.2.2⟩
  | leaf ps => exact h

/-- the syllable of a queued non-root node is the code of a `Syllable` (leaf entries carry 0) -/
theorem Item.WF.syl_valid {it : Item} (h : it.WF) : it.syl ≠ 0 → validCode it.syl = true := by
  cases it with
  | node s l sub => exact fun _ => h.2.2.1
  | leaf ps => exact fun hz => absurd rfl hz

/-- `Q` holds of the queued items of a sibling list with an invariant `R` that gives `Q` of the first node and `R` of
    the rest -/
theorem forall_mem_toItems {R : Forest → Prop} {Q : Item → Prop}
    (h : ∀ {s l sub next}, R (.cons s l sub next) → Q (.node s l sub) ∧ R next) {f : Forest} (hf : R f) :
    ∀ it ∈ f.toItems, Q it := by
  induction f with
  | nil => nofun
  | cons s l sub next _ ih => exact List.forall_mem_cons.mpr ⟨(h hf).1, ih (h hf).2⟩

theorem toItems_WF {f : Forest} : f.WF → ∀ it ∈ f.toItems, it.WF :=
  forall_mem_toItems (R := Forest.WF) fun h =>
    ⟨⟨h.1, h.2.1, h.2.2.1, h.2.2.2.2.1, h.2.2.2.2.2.1, h.2.2.2.2.2.2.1⟩, h.2.2.2.2.2.2.2⟩

def sylLt (a b : Item) : Bool := decide (a.syl < b.syl)

/-- the children sorted by syllable are strictly ascending (for every `Good` forest) -/
theorem sorted_kids_ascending' {f : Forest} (hf : f.Good) :
    (sortBy sylLt f.toItems).Pairwise (fun a b => a.syl < b.syl) := by
  have hs : (sortBy sylLt f.toItems).Pairwise (fun a b => sylLt b a = false) :=
    sortBy_sorted (S := fun _ => True)
      ⟨fun a b _ _ h => by simp only [sylLt, decide_eq_false_iff_not, decide_eq_true_eq] at *; omega,
        fun a b c _ _ _ h1 h2 => by simp only [sylLt, decide_eq_false_iff_not] at *; omega⟩
      f.toItems fun _ _ => trivial
  have hn : (sortBy sylLt f.toItems).Pairwise (fun a b => a.syl ≠ b.syl) := by
    have : ((sortBy sylLt f.toItems).map Item.syl).Nodup :=
      ((sortBy_perm sylLt f.toItems).map Item.syl).nodup_iff.mpr (toItems_syl_nodup hf)
    exact List.pairwise_map.mp this
  refine (hs.and hn).imp ?_
  intro a b h
  have h1 := h.1
  simp only [sylLt, decide_eq_false_iff_not] at h1
  have h2 := h.2
  omega

theorem kidsOf_eq (l : Option (List Phrase)) (sub : Forest) :
    kidsOf l sub = leafItem l ++ sortBy sylLt sub.toItems := rfl

theorem kidsOf_eq_nil {l : Option (List Phrase)} {sub : Forest} (h : kidsOf l sub = []) : l = none ∧ sub.toItems = [] := by
  obtain ⟨h1, h2⟩ := List.append_eq_nil_iff.mp (kidsOf_eq l sub ▸ h)
  refine ⟨?_, List.eq_nil_of_length_eq_zero (by rw [← sortBy_length sylLt, h2]; rfl)⟩
  cases l with
  | none => rfl
  | some ps => cases h1

theorem forall_mem_kidsOf {Q : Item → Prop} {l : Option (List Phrase)} {sub : Forest}
    (hl : ∀ ps, l = some ps → Q (.leaf ps)) (hs : ∀ it ∈ sub.toItems, Q it) : ∀ it ∈ kidsOf l sub, Q it := by
  intro it h
  rcases List.mem_append.mp h with h | h
  · cases l with
    | none => cases h
    | some ps => cases List.mem_singleton.mp h; exact hl ps rfl
  · exact hs it (mem_sortBy.mp h)

theorem Item.Pre.kids {s : Nat} {l : Option (List Phrase)} {sub : Forest} (h : (Item.node s l sub).Pre) :
    ∀ it ∈ kidsOf l sub, it.WF := forall_mem_kidsOf h.2.1 (toItems_WF h.2.2)

/-- `Laid recs data pos it`: record `pos` of the index describes `it`, and recursively its children
    sit at the consecutive positions the record names; a leaf's slice of `data` is its sorted,
    encoded phrase vector.  Stored fields are the true values (no truncation happened). -/
inductive Laid (recs : List Rec) (data : Bytes) : Nat → Item → Prop
  | leaf {pos : Nat} {ps : List Phrase} {db : Nat} :
      recs[pos]? = some (db, (encPhrases (sortLeaf ps)).length, 0) →
      db < 4294967296 → (encPhrases (sortLeaf ps)).length < 65536 →
      (data.drop db).take (encPhrases (sortLeaf ps)).length = encPhrases (sortLeaf ps) →
      db + (encPhrases (sortLeaf ps)).length ≤ data.length →
      Laid recs data pos (.leaf ps)
  | node {pos s : Nat} {l : Option (List Phrase)} {sub : Forest} {cb : Nat} :
      recs[pos]? = some (cb, (kidsOf l sub).length, s) →
      cb < 4294967296 → (kidsOf l sub).length < 65536 →
      cb + (kidsOf l sub).length ≤ recs.length →
      (∀ j it, (kidsOf l sub)[j]? = some it → Laid recs data (cb + j) it) →
      Laid recs data pos (.node s l sub)

theorem writeLoop_nil (fuel cb : Nat) (dict : List Rec) (data : Bytes) :
    writeLoop fuel [] cb dict data = some (dict, data) := by
  cases fuel <;> rfl

/-- Induction along a successful run of the loop, from its result `out` backwards: a property of loop states
    that holds at the end (empty queue, the buffers are `out`) and is carried back over a node step and over a
    leaf step holds of every state from which the run reaches `out`.  (The step cases also say that the rest of
    the run succeeds, for invariants that lean on others.) -/
theorem writeLoop_induct {out : List Rec × Bytes} {P : List Item → Nat → List Rec → Bytes → Prop}
    (done : ∀ cb, P [] cb out.1 out.2)
    (node : ∀ s l sub q cb dict data, (kidsOf l sub).length < 65536 →
      (∃ fuel, writeLoop fuel (q ++ kidsOf l sub) (cb + (kidsOf l sub).length)
        (dict ++ [(cb % 4294967296, (kidsOf l sub).length, s)]) data = some out) →
      P (q ++ kidsOf l sub) (cb + (kidsOf l sub).length) (dict ++ [(cb % 4294967296, (kidsOf l sub).length, s)]) data →
      P (.node s l sub :: q) cb dict data)
    (leaf : ∀ ps q cb dict data, (encPhrases (sortLeaf ps)).length < 65536 →
      (∃ fuel, writeLoop fuel q cb (dict ++ [(data.length % 4294967296, (encPhrases (sortLeaf ps)).length, 0)])
        (data ++ encPhrases (sortLeaf ps)) = some out) →
      P q cb (dict ++ [(data.length % 4294967296, (encPhrases (sortLeaf ps)).length, 0)])
        (data ++ encPhrases (sortLeaf ps)) →
      P (.leaf ps :: q) cb dict data) :
    ∀ fuel q cb dict data, writeLoop fuel q cb dict data = some out → P q cb dict data := by
  intro fuel
  induction fuel with
  | zero =>
    intro q cb dict data h
    cases q with
    | nil => cases h; exact done cb
    | cons it q => cases h
  | succ fuel ih =>
    intro q cb dict data h
    cases q with
    | nil => cases h; exact done cb
    | cons it q =>
      cases it with
      | node s l sub =>
        simp only [writeLoop] at h
        split at h
        · cases h
        · exact node s l sub q cb dict data (by omega) ⟨fuel, h⟩ (ih _ _ _ _ h)
      | leaf ps =>
        simp only [writeLoop] at h
        split at h
        · cases h
        · exact leaf ps q cb dict data (by omega) ⟨fuel, h⟩ (ih _ _ _ _ h)

/-- a run only appends to the two buffers -/
theorem writeLoop_prefix {fuel : Nat} {q : List Item} {cb : Nat} {dict : List Rec} {data : Bytes} {recs' : List Rec}
    {data' : Bytes} (h : writeLoop fuel q cb dict data = some (recs', data')) :
    (∃ r2, recs' = dict ++ r2) ∧ ∃ d2, data' = data ++ d2 := by
  refine writeLoop_induct (out := (recs', data'))
    (P := fun _ _ dict data => (∃ r2, recs' = dict ++ r2) ∧ ∃ d2, data' = data ++ d2) ?_ ?_ ?_ fuel q cb dict data h
  · exact fun _ => ⟨⟨[], (List.append_nil _).symm⟩, [], (List.append_nil _).symm⟩
  · rintro s l sub q cb dict data _ _ ⟨⟨r2, hr⟩, hd⟩
    exact ⟨⟨_ :: r2, by rw [hr, List.append_assoc]; rfl⟩, hd⟩
  · rintro ps q cb dict data _ _ ⟨⟨r2, hr⟩, d2, hd⟩
    exact ⟨⟨_ :: r2, by rw [hr, List.append_assoc]; rfl⟩, encPhrases (sortLeaf ps) ++ d2, by rw [hd, List.append_assoc]⟩

theorem Item.Pre.step {s : Nat} {l : Option (List Phrase)} {sub : Forest} {q : List Item}
    (h : ∀ it ∈ Item.node s l sub :: q, it.Pre) : ∀ it ∈ q ++ kidsOf l sub, it.Pre :=
  List.forall_mem_append.mpr ⟨fun it hit => h it (List.mem_cons_of_mem _ hit),
    fun it hit => ((h _ List.mem_cons_self).kids it hit).pre⟩

/-! After a step that wrote the record `r` of the head and queued `kids`: -/
section counter
variable {cb : Nat} {dict : List Rec} {it : Item} {q : List Item} (h : cb = dict.length + (it :: q).length) (r : Rec)
include h

theorem cb_node (kids : List Item) : cb + kids.length = (dict ++ [r]).length + (q ++ kids).length := by
  simp only [List.length_append, List.length_cons, List.length_nil] at h ⊢; omega

theorem cb_leaf : cb = (dict ++ [r]).length + q.length := by
  simp only [List.length_append, List.length_cons, List.length_nil] at h ⊢; omega

/-- the queued children of the head will be the records from `cb` on -/
theorem laid_kids {recs : List Rec} {data : Bytes} {kids : List Item}
    (hl : ∀ j k, (q ++ kids)[j]? = some k → Laid recs data ((dict ++ [r]).length + j) k) :
    ∀ j k, kids[j]? = some k → Laid recs data (cb + j) k := by
  intro j k hj
  have e : (dict ++ [r]).length + (q.length + j) = cb + j := by
    simp only [List.length_append, List.length_cons, List.length_nil] at h ⊢; omega
  rw [← e]
  exact hl _ k (by rw [List.getElem?_append_right (Nat.le_add_right ..), Nat.add_sub_cancel_left]; exact hj)

end counter

theorem length_snoc_add {α : Type} (dict : List α) (r : α) (j : Nat) : (dict ++ [r]).length + j = dict.length + (j + 1) := by
  rw [List.length_append, List.length_singleton]; omega

/-- the loop invariant: the `j`-th queued item is laid out at record `dict.length + j` of the final buffers -/
theorem writeLoop_laid (fuel : Nat) :
    ∀ (q : List Item) (cb : Nat) (dict : List Rec) (data : Bytes) (recs' : List Rec) (data' : Bytes),
      writeLoop fuel q cb dict data = some (recs', data') →
      cb = dict.length + q.length →
      (∀ it ∈ q, it.Pre) →
      recs'.length < 4294967296 → data'.length < 4294967296 →
      (∃ r2, recs' = dict ++ r2) ∧ (∃ d2, data' = data ++ d2) ∧ dict.length + q.length ≤ recs'.length ∧
      ∀ j it, q[j]? = some it → Laid recs' data' (dict.length + j) it := by
  intro q cb dict data recs' data' h hcb hpre hr hd
  refine ⟨(writeLoop_prefix h).1, (writeLoop_prefix h).2, ?_⟩
  refine writeLoop_induct (out := (recs', data'))
    (P := fun q cb dict data => cb = dict.length + q.length → (∀ it ∈ q, it.Pre) →
      dict.length + q.length ≤ recs'.length ∧ ∀ j it, q[j]? = some it → Laid recs' data' (dict.length + j) it)
    ?_ ?_ ?_ fuel q cb dict data h hcb hpre
  · exact fun _ _ _ => ⟨Nat.le_refl _, fun j it hj => nomatch hj⟩
  · intro s l sub q cb dict data hk ⟨_, hrest⟩ ih hcb hpre
    obtain ⟨hlen, hl⟩ := ih (cb_node hcb _ _) (Item.Pre.step hpre)
    obtain ⟨⟨r2, hr2⟩, _⟩ := writeLoop_prefix hrest
    rw [← cb_node hcb] at hlen
    have hcb32 : cb < 4294967296 := Nat.lt_of_le_of_lt (Nat.le_of_add_right_le hlen) hr
    refine ⟨hcb ▸ Nat.le_of_add_right_le hlen, fun j it hj => ?_⟩
    cases j with
    | zero =>
      cases Option.some.inj hj
      exact .node (cb := cb) (by rw [hr2, Nat.mod_eq_of_lt hcb32]; simp) hcb32 hk hlen (laid_kids hcb _ hl)
    | succ j =>
      have hj : q[j]? = some it := hj
      rw [← length_snoc_add]
      exact hl j it (by rw [List.getElem?_append_left (List.getElem?_eq_some_iff.mp hj).1]; exact hj)
  · intro ps q cb dict data hk ⟨_, hrest⟩ ih hcb hpre
    obtain ⟨hlen, hl⟩ := ih (cb_leaf hcb _) (fun it hit => hpre it (List.mem_cons_of_mem _ hit))
    obtain ⟨⟨r2, hr2⟩, d2, hd2⟩ := writeLoop_prefix hrest
    have hdl : data.length + (encPhrases (sortLeaf ps)).length ≤ data'.length := by
      rw [hd2, List.length_append, List.length_append]; exact Nat.le_add_right ..
    have hd32 : data.length < 4294967296 := Nat.lt_of_le_of_lt (Nat.le_of_add_right_le hdl) hd
    rw [← cb_leaf hcb, hcb] at hlen
    refine ⟨hlen, fun j it hj => ?_⟩
    cases j with
    | zero =>
      cases Option.some.inj hj
      exact .leaf (db := data.length) (by rw [hr2, Nat.mod_eq_of_lt hd32]; simp) hd32 hk (by rw [hd2]; simp) hdl
    | succ j =>
      rw [← length_snoc_add]
      exact hl j it hj

theorem root_pre (b : Builder) (hb : b.WF) : b.root.Pre := ⟨by decide, hb.1, hb.2⟩

/-- **bfs_layout**: in the buffers `write` produces the root is laid out at record 0 -/
theorem bfs_layout (b : Builder) (hb : b.WF) (recs : List Rec) (data : Bytes)
    (h : b.buffers = some (recs, data)) (hr : recs.length < 4294967296) (hd : data.length < 4294967296) :
    Laid recs data 0 b.root := by
  have := writeLoop_laid b.root.size [b.root] 1 [] [] recs data h rfl
    (by intro it hit; simp at hit; subst hit; exact root_pre b hb) hr hd
  have := this.2.2.2 0 b.root rfl
  simpa using this

/-! ### the fuel of `write` suffices; within the limits `write` succeeds -/

def qsize (q : List Item) : Nat := (q.map Item.size).sum

theorem qsize_toItems (f : Forest) : qsize f.toItems = f.size := by
  induction f with
  | nil => rfl
  | cons s l sub next _ ih =>
    simp only [Forest.toItems, qsize, List.map_cons, List.sum_cons, Item.size, Forest.size] at ih ⊢
    omega

theorem item_size_pos (it : Item) : 1 ≤ it.size := by
  cases it <;> simp [Item.size] <;> omega

theorem qsize_sorted_kids (sub : Forest) : qsize (sortBy sylLt sub.toItems) = sub.size := by
  rw [← qsize_toItems]
  exact ((sortBy_perm sylLt sub.toItems).map Item.size).sum_nat

theorem qsize_kidsOf (l : Option (List Phrase)) (sub : Forest) :
    qsize (kidsOf l sub) = (if l.isSome then 1 else 0) + sub.size := by
  rw [kidsOf_eq]
  have hp := qsize_sorted_kids sub
  cases l with
  | none => simpa [qsize, leafItem] using hp
  | some ps =>
    simp only [qsize, List.map_append, List.sum_append] at hp ⊢
    simp [leafItem, Item.size, hp]

theorem qsize_append (a b : List Item) : qsize (a ++ b) = qsize a + qsize b := by
  simp [qsize]

theorem qsize_cons (k : Item) (ks : List Item) : qsize (k :: ks) = k.size + qsize ks := by
  simp [qsize]

/-- number of records = number of nodes -/
theorem writeLoop_count (fuel : Nat) (q : List Item) (cb : Nat) (dict : List Rec) (data : Bytes) (recs' : List Rec)
    (data' : Bytes) (h : writeLoop fuel q cb dict data = some (recs', data')) : recs'.length = dict.length + qsize q := by
  refine writeLoop_induct (out := (recs', data')) (P := fun q _ dict _ => recs'.length = dict.length + qsize q)
    ?_ ?_ ?_ fuel q cb dict data h
  · exact fun _ => rfl
  · intro s l sub q cb dict data _ _ ih
    rw [ih, qsize_append, qsize_kidsOf, qsize_cons]
    simp [Item.size]
    omega
  · intro ps q cb dict data _ _ ih
    rw [ih, qsize_cons]
    simp [Item.size]
    omega

/-! the format's per-node limits on a queued item and everything below it -/

def LeafFits (l : Option (List Phrase)) : Prop := ∀ ps, l = some ps → (encPhrases (sortLeaf ps)).length < 65536

def Forest.Fits : Forest → Prop
  | .nil => True
  | .cons _ l sub next => LeafFits l ∧ (kidsOf l sub).length < 65536 ∧ sub.Fits ∧ next.Fits

def Item.Fits : Item → Prop
  | .node _ l sub => LeafFits l ∧ (kidsOf l sub).length < 65536 ∧ sub.Fits
  | .leaf ps => (encPhrases (sortLeaf ps)).length < 65536

theorem toItems_Fits {f : Forest} : f.Fits → ∀ it ∈ f.toItems, it.Fits :=
  forall_mem_toItems (R := Forest.Fits) fun h => ⟨⟨h.1, h.2.1, h.2.2.1⟩, h.2.2.2⟩

/-- with enough fuel the loop fails only on a limit -/
theorem writeLoop_isSome (fuel : Nat) :
    ∀ (q : List Item) (cb : Nat) (dict : List Rec) (data : Bytes),
      qsize q ≤ fuel → (∀ it ∈ q, it.Fits) → (writeLoop fuel q cb dict data).isSome = true := by
  induction fuel with
  | zero =>
    intro q cb dict data hq _
    cases q with
    | nil => rfl
    | cons it q =>
      exfalso
      have := item_size_pos it
      simp [qsize] at hq
      omega
  | succ fuel ih =>
    intro q cb dict data hq hf
    cases q with
    | nil => rfl
    | cons it q =>
      cases it with
      | node s l sub =>
        have hn : (Item.node s l sub).Fits := hf _ (by simp)
        simp only [writeLoop]
        rw [if_neg (by have := hn.2.1; omega)]
        refine ih _ _ _ _ ?_ ?_
        · rw [qsize_append, qsize_kidsOf]
          simp only [qsize, List.map_cons, List.sum_cons, Item.size] at hq ⊢
          omega
        · intro it hit
          rw [List.mem_append] at hit
          rcases hit with hit | hit
          · exact hf it (by simp [hit])
          · exact forall_mem_kidsOf (Q := Item.Fits) hn.1 (toItems_Fits hn.2.2) it hit
      | leaf ps =>
        have hn : (Item.leaf ps).Fits := hf _ (by simp)
        simp only [writeLoop]
        rw [if_neg (by unfold Item.Fits at hn; omega)]
        refine ih _ _ _ _ ?_ (fun it hit => hf it (by simp [hit]))
        simp only [qsize, List.map_cons, List.sum_cons, Item.size] at hq ⊢
        omega

/-- the limits of the format on a builder: every leaf's encoded phrases < 2¹⁶ bytes, every node
    < 2¹⁶ children (its leaf counted), and the document within `Length::MAX` of the `der` crate -/
def Builder.Fits (b : Builder) : Prop :=
  b.root.Fits ∧
  ∀ recs data, b.buffers = some (recs, data) →
    (encSeq (docBody b.info (recs.flatMap recBytes) data)).length ≤ maxLen

/-- within the limits `write` does not fail (in particular its fuel suffices) -/
theorem write_isSome (b : Builder) (hf : b.Fits) : b.write.isSome = true := by
  have h := writeLoop_isSome b.root.size [b.root] 1 [] [] (by simp [qsize])
    (by intro it hit; simp at hit; subst hit; exact hf.1)
  unfold Builder.write
  cases hb : b.buffers with
  | none => unfold Builder.buffers at hb; rw [hb] at h; cases h
  | some rd =>
    obtain ⟨recs, data⟩ := rd
    simp only
    rw [if_pos (hf.2 recs data hb)]
    rfl

end Chewing.TrieCodec
