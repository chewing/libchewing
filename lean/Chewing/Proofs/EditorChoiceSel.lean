import Chewing.Proofs.EditorChoice
/-!
# C04 at the editor level, part 3: the states `Selecting` and `Highlighting`

Which kinds of edit (`Kind`, `Did` of `Proofs/EditorChoice.lean`) every arm of `Selecting::next` and
`Highlighting::next` can perform on the composition editor.
-/
namespace Chewing.C04

variable {D L : Type} (env : Env D L)

/-! ## `Selecting::select` -/

/-- the kinds of edit that choosing a candidate of the list `s` can make -/
def selectKinds (s : Selecting) : List Kind :=
  match s.sel with
  | .phrase p => [.none, .sel p.begin_ p.end_]
  | _ => match s.action with
    | .insert => [.none, .ins]
    | .replace => [.none, .repl]

theorem none_mem_selectKinds (s : Selecting) : Kind.none ∈ selectKinds s := by
  unfold selectKinds
  split
  · exact .head _
  · split <;> exact .head _

theorem did_none_select {s : Selecting} {c0 c' : CompEditor} (h : c'.inner = c0.inner) : Did (selectKinds s) c0 c' :=
  (did_none (ks := []) h).mono fun _ hk => List.mem_singleton.mp hk ▸ none_mem_selectKinds s

/-- `Selecting::select`: a phrase list pushes a choice for its range; a symbol list inserts / replaces one
    symbol at the cursor; or nothing happens (bell, sub-menu) -/
theorem select_did (s : Selecting) (sh : Shared D L) (n : Nat) :
    ResAll (fun x => Did (selectKinds s) sh.com x.2.1.com) (Selecting.select env s sh n) :=
  select_all env (fun _ _ _ => did_none_select rfl)
    (fun p _ _ com hp _ _ hq => by
      have hd : Did (selectKinds s) sh.com com := by
        unfold selectKinds; rw [hp]
        exact did_select (.tail _ (.head _)) hq
      refine hd.inner ?_
      dsimp only
      split <;> exact C01.popCursor_inner _)
    (fun _ sym com ho hq => by
      -- a symbol list inserts or replaces, according to its `action`
      have hks : selectKinds s = match s.action with | .insert => [.none, .ins] | .replace => [.none, .repl] := by
        unfold selectKinds
        obtain ⟨_, _, h, _⟩ | ⟨_, h, _⟩ := ho <;> rw [h]
      rw [hks]
      refine Did.inner ?_ (C01.popCursor_inner com)
      cases ha : s.action <;> rw [ha] at hq
      · exact did_insert (.tail _ (.head _)) hq
      · exact did_replace (.tail _ (.head _)) hq)
    (fun _ _ _ _ _ _ _ => did_none_select rfl)
    (fun _ _ _ _ _ => did_none_select (C01.popCursor_inner _))
    fun _ _ _ => did_none_select rfl

/-! ## the arms of `Selecting::next` -/

/-- `j` / `k`: the cursor moves, the list is re-targeted, and an empty list is closed (the saved cursor restored) -/
theorem esel_selMove (s : Selecting) (sh : Shared D L) (isJ : Bool) : ESel [.none] sh.com (selMove env s sh isJ) :=
  selMove_all env (fun _ => did_none rfl) fun c _ hc _ =>
    have hi : c.inner = sh.com.inner := by
      rcases hc with rfl | rfl
      · rfl
      · exact C01.clampCursor_inner _
    closeIfEmpty_all env (fun _ => did_none ((C01.popCursor_inner _).trans hi)) fun _ _ _ => did_none hi

/-- the kinds of edit a key can make in the state `Selecting`: the MIRROR of the `if` chain of `selectingNext` -/
def selectingKinds (s : Selecting) (ev : KeyEvent) : List Kind :=
  if ev.mods.ctrl || ev.mods.shift then [.none]
  else if ev.code == KC.backspace then [.none]
  else if ev.code == KC.unknown && ev.mods.capslock then [.none]
  else if ev.code == KC.up then [.none]
  else if ev.code == KC.down || ev.code == KC.space then [.none]
  else if ev.code == KC.j then [.none]
  else if ev.code == KC.k then [.none]
  else if ev.code == KC.left || ev.code == KC.pageUp then [.none]
  else if ev.code == KC.right || ev.code == KC.pageDown then [.none]
  else if isDigitCode ev.code then selectKinds s
  else if ev.code == KC.esc then [.none]
  else if ev.code == KC.del then [.none]
  else [.none]

/-- `Selecting::next`: only a digit key edits the composition (`selectKinds`).  Arm by arm, in the order of the
    two `if` chains. -/
theorem esel_selectingNext (s : Selecting) (sh : Shared D L) (ev : KeyEvent) :
    ESel (selectingKinds s ev) sh.com (selectingNext env s sh ev) := by
  unfold selectingNext selectingKinds
  exact
    esel_ite2 (esel_none rfl) <|
    esel_ite2 (esel_none (C01.popCursor_inner _)) <|
    esel_ite2 (esel_none (C01.popCursor_inner _)) <|
    esel_ite2 (esel_none (C01.popCursor_inner _)) <|
    esel_ite2 (selDownSpace_all env (fun _ _ _ => did_none rfl) (fun _ _ _ _ _ _ => did_none rfl) fun _ _ => did_none rfl) <|
    esel_ite2 (esel_selMove env s sh _) <|
    esel_ite2 (esel_selMove env s sh _) <|
    esel_ite2 (selPrevPage_all env (fun _ => did_none rfl) fun _ _ _ => did_none rfl) <|
    esel_ite2 (selNextPage_all env (fun _ _ _ => did_none rfl) fun _ _ _ => did_none rfl) <|
    esel_ite2 (selDigit_all env (select_did env s sh _)) <|
    esel_ite2 (esel_none ((C01.popCursor_inner _).trans (C01.popCursor_inner _))) <|
    esel_ite2 (esel_none rfl) (esel_none rfl)

/-! ## `Highlighting::next` -/

theorem highlighting_did (m : Nat) (sh : Shared D L) (ev : KeyEvent) :
    ResAll (fun x => Did [.none] sh.com x.1.com) (highlightingNext env m sh ev) :=
  highlightingNext_all env (fun _ => did_none rfl) (fun _ => did_none rfl)
    (fun _ _ e => did_none (congrArg (·.inner) (learnInRangeNotify_com env _ _ _ _ e))) (did_none rfl)

end Chewing.C04
