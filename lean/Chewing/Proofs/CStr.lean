import Chewing.Proofs.Utf8
/-!
# Lemmas about UTF-8 and `copy_cstr` (C15)

* `decode_encode`            — `utf8Decode (utf8Encode cs) = some cs` for every list of scalar values;
* `floorBoundary_encode`     — stepping back to a character boundary inside `utf8Encode cs` always lands
                               on the end of a whole-character prefix `cs.take k`, the longest that fits;
* `copyLen_encode`           — … so `copy_cstr` copies exactly that prefix;
* `cText_append_zeros`       — reading a buffer `t ++ 0…0` (at least one NUL, no NUL in `t`) gives `t`.
-/
namespace Chewing.CStr

theorem encChar_nonzero (c : Nat) (h0 : c ≠ 0) : ∀ b ∈ encChar c, b ≠ 0 := by
  rcases encChar_cases c with ⟨-, e⟩ | ⟨a, b, e, -⟩ | ⟨a, b, d, e, -⟩ | ⟨a, b, d, f, e, -⟩ <;> rw [e] <;> simp [h0]

theorem encChar_length_pos (c : Nat) : 0 < (encChar c).length :=
  List.length_pos_iff.2 (encChar_ne_nil c)

theorem utf8Encode_append (a b : List Nat) : utf8Encode (a ++ b) = utf8Encode a ++ utf8Encode b := by
  induction a with
  | nil => rfl
  | cons c cs ih => simp [utf8Encode, ih]

theorem utf8Encode_nonzero (cs : List Nat) (h : ∀ c ∈ cs, c ≠ 0) : ∀ b ∈ utf8Encode cs, b ≠ 0 := by
  induction cs with
  | nil => intro b hb; simp [utf8Encode] at hb
  | cons c cs ih =>
    intro b hb
    simp only [utf8Encode, List.mem_append] at hb
    rcases hb with hb | hb
    · exact encChar_nonzero c (h c (by simp)) b hb
    · exact ih (fun x hx => h x (by simp [hx])) b hb

theorem decode_encChar_append (c : Nat) (hc : IsScalar c) (rest : List Nat) :
    utf8Decode (encChar c ++ rest) = (utf8Decode rest).map (c :: ·) := by
  rcases encChar_cases c with ⟨h, e⟩ | ⟨a, b, e, rfl, hb, ha⟩ | ⟨a, b, d, e, rfl, hb, hd, ha, h⟩ |
    ⟨a, b, d, f, e, rfl, hb, hd, hf, h, ha⟩ <;> rw [e, utf8Decode.eq_def] <;>
    simp only [List.cons_append, List.nil_append, Nat.add_sub_cancel_left, lead_ge, Nat.reduceLeDiff, ↓reduceIte]
  · rw [if_pos h]
  · rw [if_neg ha.1, if_pos ha.2, if_pos (isCont_digit hb)]
  · rw [if_pos ha, if_pos ⟨isCont_digit hb, isCont_digit hd, h, Or.imp_right And.left hc⟩]
  · rw [if_pos (ha hc.lt), if_pos ⟨isCont_digit hb, isCont_digit hd, isCont_digit hf, h, hc.lt⟩]

/-- **round trip**: decoding the encoding of any list of scalar values gives the list back -/
theorem decode_encode (cs : List Nat) (h : ∀ c ∈ cs, IsScalar c) : utf8Decode (utf8Encode cs) = some cs := by
  induction cs with
  | nil => rfl
  | cons c cs ih =>
    rw [utf8Encode, decode_encChar_append c (h c (by simp)), ih (fun x hx => h x (by simp [hx]))]
    rfl

theorem valid_encode (cs : List Nat) (h : ∀ c ∈ cs, IsScalar c) : ValidUtf8 (utf8Encode cs) := by
  unfold ValidUtf8; rw [decode_encode cs h]; rfl

/-- a byte string that is empty or starts with a non-continuation byte -/
def StartsClean (s : List Nat) : Prop := ∀ b, s.head? = some b → ¬ IsCont b

theorem startsClean_encode (cs : List Nat) : StartsClean (utf8Encode cs) := by
  cases cs with
  | nil => intro b hb; simp [utf8Encode] at hb
  | cons c cs =>
    obtain ⟨b0, tl, e, hb0, -⟩ := encChar_head_tail c
    intro b hb
    simp [utf8Encode, e] at hb
    subst hb; exact hb0

theorem floorBoundary_le (s : List Nat) (n : Nat) : floorBoundary s n ≤ n := by
  induction n with
  | zero => simp [floorBoundary]
  | succ n ih => unfold floorBoundary; split <;> omega

theorem floorBoundary_of_boundary {s : List Nat} {n : Nat} (h : isBoundary s n = true) : floorBoundary s n = n := by
  cases n with
  | zero => rfl
  | succ n => rw [floorBoundary, if_pos h]

/-- inside the first character the search goes back to 0 -/
theorem floorBoundary_in_first (b0 : Nat) (tl s' : List Nat) (htl : ∀ b ∈ tl, IsCont b) (n : Nat)
    (hn : n ≤ tl.length) : floorBoundary (b0 :: tl ++ s') n = 0 := by
  induction n with
  | zero => rfl
  | succ n ih =>
    have hc : IsCont tl[n] := htl _ (List.getElem_mem hn)
    rw [floorBoundary, if_neg, ih (Nat.le_of_succ_le hn)]
    unfold isBoundary
    rw [if_neg (Nat.succ_ne_zero n), List.cons_append, List.getElem?_cons_succ, List.getElem?_append_left hn,
      List.getElem?_eq_getElem hn]
    simp [hc]

/-- the end of a prefix `p` is a boundary of `p ++ s'` when `s'` starts a character (or is empty) -/
theorem isBoundary_prefix_end (p s' : List Nat) (hs : StartsClean s') : isBoundary (p ++ s') p.length = true := by
  unfold isBoundary
  split
  · rfl
  · rw [List.getElem?_append_right (Nat.le_refl _), Nat.sub_self]
    cases s' with
    | nil => simp
    | cons b r => simpa using hs b rfl

/-- behind a prefix the boundaries are those of the rest -/
theorem isBoundary_behind_prefix (p s' : List Nat) (k : Nat) :
    isBoundary (p ++ s') (p.length + (k + 1)) = isBoundary s' (k + 1) := by
  unfold isBoundary
  rw [if_neg (by omega), if_neg (by omega), List.getElem?_append_right (Nat.le_add_right _ _),
    Nat.add_sub_cancel_left, List.length_append]
  cases s'[k + 1]? with
  | none => rw [Bool.eq_iff_iff, beq_iff_eq, beq_iff_eq, Nat.add_left_cancel_iff]
  | some b => rfl

/-- so behind a complete prefix the search is the search in the rest, shifted -/
theorem floorBoundary_shift (p s' : List Nat) (hs : StartsClean s') (m : Nat) :
    floorBoundary (p ++ s') (p.length + m) = p.length + floorBoundary s' m := by
  induction m with
  | zero => exact floorBoundary_of_boundary (isBoundary_prefix_end p s' hs)
  | succ m ih =>
    rw [← Nat.add_assoc, floorBoundary, Nat.add_assoc, isBoundary_behind_prefix, floorBoundary]
    split
    · rfl
    · exact ih

theorem floorBoundary_length (s : List Nat) : floorBoundary s s.length = s.length := by
  simpa using floorBoundary_of_boundary (isBoundary_prefix_end s [] nofun)

/-- **Landing on a whole-character prefix.**  In the encoding of `cs`, stepping back from any `n ≤ len` to a
character boundary lands exactly at the end of the longest whole-character prefix `cs.take k` of at most `n` bytes. -/
theorem floorBoundary_encode (cs : List Nat) (n : Nat)
    (hn : n ≤ (utf8Encode cs).length) :
    ∃ k, k ≤ cs.length ∧ floorBoundary (utf8Encode cs) n = (utf8Encode (cs.take k)).length ∧
      (k = cs.length ∨ n < (utf8Encode (cs.take (k + 1))).length) := by
  induction cs generalizing n with
  | nil =>
    simp [utf8Encode] at hn; subst hn
    exact ⟨0, by simp, rfl, Or.inl rfl⟩
  | cons c cs ih =>
    obtain ⟨b0, tl, e, -, htl⟩ := encChar_head_tail c
    by_cases hlt : n ≤ tl.length
    · refine ⟨0, by simp, ?_, Or.inr ?_⟩
      · simp only [utf8Encode, e, List.take_zero, List.length_nil]
        exact floorBoundary_in_first b0 tl _ htl n hlt
      · simp [utf8Encode, e]; omega
    · have hplen : (encChar c).length = tl.length + 1 := by rw [e]; simp
      obtain ⟨m, hm⟩ : ∃ m, n = (encChar c).length + m := ⟨n - (encChar c).length, by omega⟩
      have hm' : m ≤ (utf8Encode cs).length := by
        simp only [utf8Encode, List.length_append] at hn; omega
      obtain ⟨k, hk, hfl, hmax⟩ := ih m hm'
      refine ⟨k + 1, by simp; omega, ?_, ?_⟩
      · simp only [utf8Encode, List.take_succ_cons, List.length_append]
        rw [hm, floorBoundary_shift _ _ (startsClean_encode cs), hfl]
      · rcases hmax with hmax | hmax
        · left; simp [hmax]
        · right
          simp only [utf8Encode, List.take_succ_cons, List.length_append]
          omega

theorem take_encode_prefix (cs : List Nat) (k : Nat) :
    (utf8Encode cs).take (utf8Encode (cs.take k)).length = utf8Encode (cs.take k) := by
  conv => lhs; rw [← List.take_append_drop k cs, utf8Encode_append]
  simp

theorem utf8Len_take_le (cs : List Nat) (k : Nat) : utf8Len (cs.take k) ≤ utf8Len cs := by
  conv => rhs; rw [← List.take_append_drop k cs, utf8Len, utf8Encode_append, List.length_append]
  exact Nat.le_add_right _ _

theorem copyLen_le (cap : Nat) (s : List Nat) : copyLen cap s ≤ cap - 1 :=
  Nat.le_trans (floorBoundary_le _ _) (Nat.min_le_left _ _)

/-- **what `copy_cstr` copies**: the encoding of the longest whole-character prefix `cs.take k` that fits in `cap - 1`
bytes — the whole text when it fits -/
theorem copyLen_encode (cs : List Nat) (cap : Nat) :
    ∃ k, k ≤ cs.length ∧ copyLen cap (utf8Encode cs) = utf8Len (cs.take k) ∧ utf8Len (cs.take k) ≤ cap - 1 ∧
      (k = cs.length ∨ cap - 1 < utf8Len (cs.take (k + 1))) ∧ (utf8Len cs < cap → k = cs.length) := by
  obtain ⟨k, hk, hfl, hmax⟩ := floorBoundary_encode cs _ (Nat.min_le_right (cap - 1) _)
  change copyLen cap (utf8Encode cs) = utf8Len (cs.take k) at hfl
  have hk1 : (utf8Encode (cs.take (k + 1))).length ≤ (utf8Encode cs).length := utf8Len_take_le cs (k + 1)
  -- were the whole text no longer than `cap - 1`, the prefix of `k + 1` characters would be longer than the text
  have hmax : k = cs.length ∨ cap - 1 < utf8Len (cs.take (k + 1)) := hmax.imp_right fun h => by unfold utf8Len; omega
  exact ⟨k, hk, hfl, hfl ▸ copyLen_le cap (utf8Encode cs), hmax, fun hfit =>
    hmax.resolve_right fun h => by unfold utf8Len at *; omega⟩

/-- a reader stops at the first NUL whatever follows it -/
theorem cText_append_zero_cons (t : List Nat) (ht : ∀ b ∈ t, b ≠ 0) (rest : List Nat) :
    cText (t ++ 0 :: rest) = some t := by
  induction t with
  | nil => simp [cText]
  | cons b r ih =>
    have hb : b ≠ 0 := ht b (by simp)
    simp only [List.cons_append, cText, if_neg hb]
    rw [ih (fun x hx => ht x (by simp [hx]))]; rfl

theorem cText_append_zeros (t : List Nat) (ht : ∀ b ∈ t, b ≠ 0) {n : Nat} (hn : 0 < n) :
    cText (t ++ List.replicate n 0) = some t := by
  obtain ⟨m, rfl⟩ : ∃ m, n = m + 1 := ⟨n - 1, by omega⟩
  exact cText_append_zero_cons t ht _

theorem cText_none_of_nonzero (t : List Nat) (ht : ∀ b ∈ t, b ≠ 0) : cText t = none := by
  induction t with
  | nil => rfl
  | cons b r ih =>
    simp only [cText, if_neg (ht b (by simp))]
    rw [ih (fun x hx => ht x (by simp [hx]))]; rfl

theorem heapCstr_text (s : List Nat) (hs : ∀ b ∈ s, b ≠ 0) :
    ∃ buf, heapCstr s = some buf ∧ cText buf = some s := by
  refine ⟨s ++ [0], ?_, ?_⟩
  · unfold heapCstr; rw [if_neg]; intro h0; exact hs 0 h0 rfl
  · exact cText_append_zero_cons s hs []

end Chewing.CStr
