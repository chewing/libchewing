import Chewing.Proofs.EditorSelect
import Chewing.Proofs.C01PhraseSel
/-!
Specification lemmas about the pure phrase-selector functions (`PhraseSel.*` of `Model/Editor.lean`):
WHICH range they answer with — one for which the dictionary has a phrase, or the range they started
from — and that the range stays between the break points around the position `orig` the list was opened
at.  Pure program facts: no dictionary hypothesis, proved by induction on the fuel following the code.
-/
namespace Chewing

variable {D L : Type} (env : Env D L)

/-- the range lies between the break points around the position the list was opened at -/
def PhraseSel.Within (p : PhraseSel) : Prop :=
  (p.forward = true → p.end_ ≤ p.nextBreakPoint p.orig) ∧
  (p.forward = false → p.afterPreviousBreakPoint p.orig ≤ p.begin_)

/-! ## same buffer ⇒ same break points / range queries -/

theorem nextBreakPoint_go_congr {p q : PhraseSel} (h : q.com = p.com) :
    ∀ fuel c, PhraseSel.nextBreakPoint.go q fuel c = PhraseSel.nextBreakPoint.go p fuel c := by
  intro fuel
  induction fuel with
  | zero => intro c; rfl
  | succ f ih => intro c; simp only [PhraseSel.nextBreakPoint.go, h, ih]

theorem nextBreakPoint_congr {p q : PhraseSel} (h : q.com = p.com) (c : Nat) :
    q.nextBreakPoint c = p.nextBreakPoint c := by
  unfold PhraseSel.nextBreakPoint
  rw [nextBreakPoint_go_congr h, h]

theorem afterPreviousBreakPoint_go_congr {p q : PhraseSel} (h : q.com = p.com) :
    ∀ fuel c, PhraseSel.afterPreviousBreakPoint.go q fuel c = PhraseSel.afterPreviousBreakPoint.go p fuel c := by
  intro fuel
  induction fuel with
  | zero => intro c; rfl
  | succ f ih => intro c; simp only [PhraseSel.afterPreviousBreakPoint.go, h, ih]

theorem afterPreviousBreakPoint_congr {p q : PhraseSel} (h : q.com = p.com) (c : Nat) :
    q.afterPreviousBreakPoint c = p.afterPreviousBreakPoint c := by
  unfold PhraseSel.afterPreviousBreakPoint
  rw [afterPreviousBreakPoint_go_congr h]

theorem rangeHasPhrase_congr {p q : PhraseSel} (h1 : q.com = p.com) (h2 : q.strategy = p.strategy) (d : D) (b e : Nat) :
    PhraseSel.rangeHasPhrase env q d b e = PhraseSel.rangeHasPhrase env p d b e := by
  unfold PhraseSel.rangeHasPhrase
  rw [h1, h2]

theorem phraseCandidates_congr {p q : PhraseSel} (h1 : q.com = p.com) (h2 : q.strategy = p.strategy)
    (h3 : q.begin_ = p.begin_) (h4 : q.end_ = p.end_) (d : D) (l : L) :
    PhraseSel.candidates env q d l = PhraseSel.candidates env p d l := by
  unfold PhraseSel.candidates
  rw [h1, h2, h3, h4]

/-- `Within` reads direction, origin, buffer and range only -/
theorem within_congr {p q : PhraseSel} (hc : q.com = p.com) (hf : q.forward = p.forward) (ho : q.orig = p.orig)
    (he : p.forward = true → q.end_ ≤ p.end_) (hb : p.forward = false → p.begin_ ≤ q.begin_)
    (h : p.Within) : q.Within := by
  refine ⟨fun hh => ?_, fun hh => ?_⟩
  · rw [hf] at hh
    rw [nextBreakPoint_congr hc, ho]
    exact Nat.le_trans (he hh) (h.1 hh)
  · rw [hf] at hh
    rw [afterPreviousBreakPoint_congr hc, ho]
    exact Nat.le_trans (h.2 hh) (hb hh)

/-! ## `init` -/

theorem initLoop_within (d : D) : ∀ fuel (s s' : PhraseSel), PhraseSel.initLoop env s d fuel = .ok s' →
    s.begin_ ≤ s'.begin_ ∧ s'.end_ ≤ s.end_ :=
  initLoop_induct env (fun _ _ _ _ => ⟨Nat.le_refl _, Nat.le_refl _⟩)
    (fun _ _ _ _ _ ih => ⟨ih.1, Nat.le_trans ih.2 (Nat.sub_le _ _)⟩)
    fun _ _ _ _ _ ih => ⟨Nat.le_trans (Nat.le_succ _) ih.1, ih.2⟩

/-- `init` returns a selector anchored at the cursor, inside the break points around it -/
theorem init_within {fw : Bool} {st : Strategy} {com : Composition} {cur : Nat} {d : D} {p : PhraseSel}
    (h : PhraseSel.init env fw st com cur d = .ok p) :
    p.forward = fw ∧ p.orig = cur ∧ p.strategy = st ∧ p.com = com ∧ p.Within := by
  obtain ⟨s0, hl, hcom, hstr, hfo, hor, hf, hr⟩ := init_loop env h
  obtain ⟨_, _, c, d', e, f, _⟩ := _root_.Chewing.initLoop_ok env d _ _ _ hl
  obtain ⟨hb, he⟩ := initLoop_within env d _ _ _ hl
  have hcom' : p.com = com := c.trans hcom
  have hor' : p.orig = cur := f.trans hor
  refine ⟨e.trans hfo, hor', d'.trans hstr, hcom', fun hh => ?_, fun hh => ?_⟩
  · rw [nextBreakPoint_congr (p := ⟨0, com.len, fw, cur, st, com⟩) hcom', hor', ← (hf (hfo ▸ e ▸ hh)).2]
    exact he
  · rw [afterPreviousBreakPoint_congr (p := ⟨0, com.len, fw, cur, st, com⟩) hcom', hor', ← (hr (hfo ▸ e ▸ hh)).2]
    exact hb

/-! ## `next_selection_point` / `prev_selection_point` -/

theorem nsp_go_has (s : PhraseSel) (d : D) : ∀ (fuel b e b' e' : Nat),
    PhraseSel.nextSelectionPoint.go env s d fuel b e = .ok (some (b', e')) →
    PhraseSel.rangeHasPhrase env s d b' e' = .ok true ∧ b ≤ b' ∧ e' ≤ e := by
  intro fuel
  induction fuel with
  | zero => intro b e b' e' h; simp [PhraseSel.nextSelectionPoint.go] at h
  | succ fuel ih =>
    intro b e b' e' h
    simp only [PhraseSel.nextSelectionPoint.go] at h
    by_cases hf : s.forward = true
    · rw [if_pos hf] at h
      split at h
      · cases h
      · split at h
        · cases h
        · split at h
          · rename_i hp
            cases h
            exact ⟨hp, Nat.le_refl _, by omega⟩
          · obtain ⟨a1, a2, a3⟩ := ih _ _ _ _ h
            exact ⟨a1, a2, by omega⟩
          · cases h
          · cases h
    · rw [if_neg hf] at h
      split at h
      · cases h
      · split at h
        · rename_i hp
          cases h
          exact ⟨hp, by omega, Nat.le_refl _⟩
        · obtain ⟨a1, a2, a3⟩ := ih _ _ _ _ h
          exact ⟨a1, by omega, a3⟩
        · cases h
        · cases h

/-- `next_selection_point` only answers with a range that has a phrase, inside the current one -/
theorem nextSelectionPoint_has {s : PhraseSel} {d : D} {b e : Nat}
    (h : PhraseSel.nextSelectionPoint env s d = .ok (some (b, e))) :
    PhraseSel.rangeHasPhrase env s d b e = .ok true ∧ s.begin_ ≤ b ∧ e ≤ s.end_ := by
  unfold PhraseSel.nextSelectionPoint at h
  exact nsp_go_has env s d _ _ _ _ _ h

theorem psp_go_has (s : PhraseSel) (d : D) : ∀ (fuel b e b' e' : Nat),
    PhraseSel.prevSelectionPoint.go env s d fuel b e = .ok (some (b', e')) →
    PhraseSel.rangeHasPhrase env s d b' e' = .ok true ∧
    (s.forward = true → b' = b ∧ e' ≤ s.nextBreakPoint s.orig) ∧
    (s.forward = false → e' = e ∧ s.afterPreviousBreakPoint s.orig ≤ b') := by
  intro fuel
  induction fuel with
  | zero => intro b e b' e' h; simp [PhraseSel.prevSelectionPoint.go] at h
  | succ fuel ih =>
    intro b e b' e' h
    simp only [PhraseSel.prevSelectionPoint.go] at h
    by_cases hf : s.forward = true
    · rw [if_pos hf] at h
      split at h
      · cases h
      · split at h
        · cases h
        · rename_i hnb
          split at h
          · rename_i hp
            cases h
            exact ⟨hp, (fun _ => ⟨rfl, by omega⟩), (fun hh => by rw [hf] at hh; cases hh)⟩
          · obtain ⟨a1, a2, _⟩ := ih _ _ _ _ h
            exact ⟨a1, a2, (fun hh => by rw [hf] at hh; cases hh)⟩
          · cases h
          · cases h
    · rw [if_neg hf] at h
      split at h
      · cases h
      · split at h
        · cases h
        · rename_i hnb
          split at h
          · rename_i hp
            cases h
            exact ⟨hp, (fun hh => absurd hh hf), (fun _ => ⟨rfl, by omega⟩)⟩
          · obtain ⟨a1, _, a3⟩ := ih _ _ _ _ h
            exact ⟨a1, (fun hh => absurd hh hf), a3⟩
          · cases h
          · cases h

/-- `prev_selection_point` only answers with a range that has a phrase, keeps the anchored end and does not
    pass the break points around `orig` -/
theorem prevSelectionPoint_has {s : PhraseSel} {d : D} {b e : Nat}
    (h : PhraseSel.prevSelectionPoint env s d = .ok (some (b, e))) :
    PhraseSel.rangeHasPhrase env s d b e = .ok true ∧
    (s.forward = true → b = s.begin_ ∧ e ≤ s.nextBreakPoint s.orig) ∧
    (s.forward = false → e = s.end_ ∧ s.afterPreviousBreakPoint s.orig ≤ b) := by
  unfold PhraseSel.prevSelectionPoint at h
  exact psp_go_has env s d _ _ _ _ _ h

/-! ## `jump_to_last_selection_point` -/

theorem jumpToLast_go_has (d : D) : ∀ (fuel : Nat) (s s' : PhraseSel), PhraseSel.jumpToLast.go env d fuel s = .ok s' →
    s'.com = s.com ∧ s'.strategy = s.strategy ∧ s'.forward = s.forward ∧ s'.orig = s.orig ∧
    s.begin_ ≤ s'.begin_ ∧ s'.end_ ≤ s.end_ ∧
    (PhraseSel.rangeHasPhrase env s' d s'.begin_ s'.end_ = .ok true ∨ (s'.begin_ = s.begin_ ∧ s'.end_ = s.end_)) := by
  intro fuel
  induction fuel with
  | zero => intro s s' h; simp [PhraseSel.jumpToLast.go] at h
  | succ fuel ih =>
    intro s s' h
    simp only [PhraseSel.jumpToLast.go] at h
    split at h
    · rename_i b e hq
      obtain ⟨n1, n2, n3⟩ := nextSelectionPoint_has env hq
      obtain ⟨a1, a2, a3, a4, a5, a6, a7⟩ := ih _ _ h
      have a1' : s'.com = s.com := a1
      have a2' : s'.strategy = s.strategy := a2
      have a5' : b ≤ s'.begin_ := a5
      have a6' : s'.end_ ≤ e := a6
      refine ⟨a1, a2, a3, a4, by omega, by omega, Or.inl ?_⟩
      rcases a7 with a7 | ⟨a7, a8⟩
      · exact a7
      · have a7' : s'.begin_ = b := a7
        have a8' : s'.end_ = e := a8
        rw [rangeHasPhrase_congr env a1' a2', a7', a8']
        exact n1
    · cases h
      exact ⟨rfl, rfl, rfl, rfl, Nat.le_refl _, Nat.le_refl _, Or.inr ⟨rfl, rfl⟩⟩
    · cases h
    · cases h

/-- `jump_to_last_selection_point`: the range it stops on has a phrase, or it never moved; it only shrinks -/
theorem jumpToLast_has {s s' : PhraseSel} {d : D} (h : PhraseSel.jumpToLast env s d = .ok s') :
    s'.com = s.com ∧ s'.strategy = s.strategy ∧ s'.forward = s.forward ∧ s'.orig = s.orig ∧
    s.begin_ ≤ s'.begin_ ∧ s'.end_ ≤ s.end_ ∧
    (PhraseSel.rangeHasPhrase env s' d s'.begin_ s'.end_ = .ok true ∨ (s'.begin_ = s.begin_ ∧ s'.end_ = s.end_)) := by
  unfold PhraseSel.jumpToLast at h
  exact jumpToLast_go_has env d _ _ _ h

/-! ## `PhraseSelector::next` -/

/-- what every round of `next` keeps of the selector `s` it started from -/
structure NextInv (s t : PhraseSel) : Prop where
  com : t.com = s.com
  strategy : t.strategy = s.strategy
  forward : t.forward = s.forward
  orig : t.orig = s.orig
  fwb : s.forward = true → t.begin_ = s.begin_
  rwe : s.forward = false → t.end_ = s.end_

theorem next_go_has (d : D) (s : PhraseSel) : ∀ (fuel : Nat) (t s' : PhraseSel), NextInv s t →
    PhraseSel.next.go env s d fuel t = .ok s' →
    NextInv s s' ∧
    (PhraseSel.rangeHasPhrase env s' d s'.begin_ s'.end_ = .ok true ∨ (s'.begin_ = s.begin_ ∧ s'.end_ = s.end_)) ∧
    (C01.Anchor s → s.Within → t.Within → s'.Within) := by
  intro fuel
  induction fuel with
  | zero =>
    intro t s' hi h
    simp only [PhraseSel.next.go] at h
    cases h
    refine ⟨⟨hi.com, hi.strategy, hi.forward, hi.orig, (fun _ => rfl), (fun _ => rfl)⟩, Or.inr ⟨rfl, rfl⟩, ?_⟩
    intro _ hw _
    exact within_congr (p := s) (q := { t with begin_ := s.begin_, end_ := s.end_ }) hi.com hi.forward hi.orig
      (fun _ => Nat.le_refl _) (fun _ => Nat.le_refl _) hw
  | succ fuel ih =>
    intro t s' hi h
    -- the range tried in this round
    have step : ∀ t' : PhraseSel, NextInv s t' → (C01.Anchor s → s.Within → t.Within → t'.Within) →
        (match PhraseSel.rangeHasPhrase env t' d t'.begin_ t'.end_ with
          | .ok true => .ok t'
          | .ok false => PhraseSel.next.go env s d fuel t'
          | .panic p => .panic p
          | .outOfFuel => .outOfFuel : Outcome PhraseSel) = .ok s' →
        NextInv s s' ∧
        (PhraseSel.rangeHasPhrase env s' d s'.begin_ s'.end_ = .ok true ∨ (s'.begin_ = s.begin_ ∧ s'.end_ = s.end_)) ∧
        (C01.Anchor s → s.Within → t.Within → s'.Within) := by
      intro t' hi' hw' h
      split at h
      · rename_i hp
        cases h
        exact ⟨hi', Or.inl hp, hw'⟩
      · obtain ⟨a1, a2, a3⟩ := ih _ _ hi' h
        exact ⟨a1, a2, fun ha hs ht => a3 ha hs (hw' ha hs ht)⟩
      · cases h
      · cases h
    simp only [PhraseSel.next.go] at h
    by_cases hf : t.forward = true
    · have hsf : s.forward = true := by rw [← hi.forward]; exact hf
      rw [if_pos hf] at h
      split at h
      · cases h
      · by_cases hwrap : t.begin_ = t.end_ - 1
        · rw [if_pos (by simp only [beq_iff_eq]; exact hwrap)] at h
          refine step { t with end_ := t.nextBreakPoint t.begin_ }
            ⟨hi.com, hi.strategy, hi.forward, hi.orig, hi.fwb, (fun hh => by rw [hsf] at hh; cases hh)⟩ ?_ h
          intro ha _ _
          refine ⟨fun _ => ?_, fun hh => ?_⟩
          · show t.nextBreakPoint t.begin_ ≤ PhraseSel.nextBreakPoint { t with end_ := t.nextBreakPoint t.begin_ } t.orig
            rw [nextBreakPoint_congr (p := t) (q := { t with end_ := t.nextBreakPoint t.begin_ }) rfl,
              hi.fwb hsf, ha.fw hsf, hi.orig]
            exact Nat.le_refl _
          · have : t.forward = false := hh
            rw [hf] at this; cases this
        · rw [if_neg (by simp only [beq_iff_eq]; exact hwrap)] at h
          refine step { t with end_ := t.end_ - 1 }
            ⟨hi.com, hi.strategy, hi.forward, hi.orig, hi.fwb, (fun hh => by rw [hsf] at hh; cases hh)⟩ ?_ h
          intro _ _ ht
          exact within_congr (p := t) (q := { t with end_ := t.end_ - 1 }) rfl rfl rfl
            (fun _ => Nat.sub_le _ _) (fun _ => Nat.le_refl _) ht
    · have hff : t.forward = false := Bool.eq_false_iff.2 hf
      have hsf : s.forward = false := by rw [← hi.forward]; exact hff
      rw [if_neg hf] at h
      by_cases hwrap : t.begin_ + 1 = t.end_
      · rw [if_pos (by simp only [beq_iff_eq]; exact hwrap)] at h
        refine step { t with begin_ := t.afterPreviousBreakPoint (t.begin_ + 1 - 1) }
          ⟨hi.com, hi.strategy, hi.forward, hi.orig, (fun hh => by rw [hsf] at hh; cases hh), hi.rwe⟩ ?_ h
        intro ha _ _
        refine ⟨fun hh => ?_, fun _ => ?_⟩
        · have : t.forward = true := hh
          rw [hff] at this; cases this
        · show PhraseSel.afterPreviousBreakPoint { t with begin_ := t.afterPreviousBreakPoint (t.begin_ + 1 - 1) } t.orig ≤
            t.afterPreviousBreakPoint (t.begin_ + 1 - 1)
          have h1 : t.begin_ + 1 - 1 = t.orig := by
            have := hi.rwe hsf
            have := ha.rw hsf
            have := hi.orig
            omega
          rw [afterPreviousBreakPoint_congr (p := t)
            (q := { t with begin_ := t.afterPreviousBreakPoint (t.begin_ + 1 - 1) }) rfl, h1]
          exact Nat.le_refl _
      · rw [if_neg (by simp only [beq_iff_eq]; exact hwrap)] at h
        refine step { t with begin_ := t.begin_ + 1 }
          ⟨hi.com, hi.strategy, hi.forward, hi.orig, (fun hh => by rw [hsf] at hh; cases hh), hi.rwe⟩ ?_ h
        intro _ _ ht
        exact within_congr (p := t) (q := { t with begin_ := t.begin_ + 1 }) rfl rfl rfl
          (fun _ => Nat.le_refl _) (fun _ => Nat.le_succ _) ht

/-- `PhraseSelector::next` (Down / Space on the last page): the range it stops on has a phrase, or it is the
    range it started from; an anchored range inside the break points stays inside them -/
theorem next_has {s s' : PhraseSel} {d : D} (h : PhraseSel.next env s d = .ok s') :
    s'.com = s.com ∧ s'.strategy = s.strategy ∧ s'.forward = s.forward ∧ s'.orig = s.orig ∧
    (PhraseSel.rangeHasPhrase env s' d s'.begin_ s'.end_ = .ok true ∨ (s'.begin_ = s.begin_ ∧ s'.end_ = s.end_)) ∧
    (C01.Anchor s → s.begin_ < s.end_ → s.Within → s'.Within) := by
  unfold PhraseSel.next at h
  obtain ⟨a1, a2, a3⟩ := next_go_has env d s _ s s' ⟨rfl, rfl, rfl, rfl, (fun _ => rfl), (fun _ => rfl)⟩ h
  exact ⟨a1.com, a1.strategy, a1.forward, a1.orig, a2, fun ha _ hw => a3 ha hw hw⟩

theorem next_keeps_anchor {s s' : PhraseSel} {d : D} (h : PhraseSel.next env s d = .ok s') :
    (s.forward = true → s'.begin_ = s.begin_) ∧ (s.forward = false → s'.end_ = s.end_) := by
  unfold PhraseSel.next at h
  obtain ⟨a1, _, _⟩ := next_go_has env d s _ s s' ⟨rfl, rfl, rfl, rfl, (fun _ => rfl), (fun _ => rfl)⟩ h
  exact ⟨a1.fwb, a1.rwe⟩

end Chewing
