import Chewing.Proofs.Syllable
/-! The prefix relation `starts_with` on composable syllables. -/
namespace Chewing
open Gen

theorem forall_le_succ {P : Nat → Prop} (n : Nat) : (∀ k, k ≤ n + 1 → P k) ↔ (∀ k, k ≤ n → P k) ∧ P (n + 1) :=
  ⟨fun h => ⟨fun k hk => h k (Nat.le_succ_of_le hk), h _ (Nat.le_refl _)⟩,
   fun ⟨h, h1⟩ k hk => (Nat.le_succ_iff.mp hk).elim (h k) fun e => e ▸ h1⟩

/-- index (0 initial … 3 tone) of the last component present -/
def lastPresent (c : Nat) : Nat :=
  if (tone c).isSome then 3 else if (rime c).isSome then 2 else if (medial c).isSome then 1 else 0

theorem tupleComp_eq {i m r t : Nat} (h : Tup 5 i m r t) :
    tupleComp 0 i m r t = (if i = 0 then none else some (i - 1)) ∧
    tupleComp 1 i m r t = (if m = 0 then none else some (20 + m)) ∧
    tupleComp 2 i m r t = (if r = 0 then none else some (23 + r)) ∧
    tupleComp 3 i m r t = (if t = 0 then none else some (36 + t)) := by
  obtain ⟨h0, h1, h2, h3⟩ := h
  obtain ⟨s0, s1, s2, s3⟩ := syms_tbl
  have present {x : Nat} {a b : Option Nat} (hx : x ≠ 0 → a = b) :
      (if x = 0 then none else a) = if x = 0 then none else b := by
    split
    · rfl
    · exact hx ‹_›
  exact ⟨present fun hx => (s0 i h0 hx).1, present fun hx => (s1 m h1 hx).1, present fun hx => (s2 r h2 hx).1,
    present fun hx => (s3 t h3 hx).1⟩

theorem comp_eq_iff {i m r t i' m' r' t' : Nat} (h : Tup 5 i m r t) (h' : Tup 5 i' m' r' t') :
    (comp 0 (encode i m r t) = comp 0 (encode i' m' r' t') ↔ i = i') ∧
    (comp 1 (encode i m r t) = comp 1 (encode i' m' r' t') ↔ m = m') ∧
    (comp 2 (encode i m r t) = comp 2 (encode i' m' r' t') ↔ r = r') ∧
    (comp 3 (encode i m r t) = comp 3 (encode i' m' r' t') ↔ t = t') := by
  obtain ⟨a0, a1, a2, a3⟩ := tupleComp_eq h
  obtain ⟨b0, b1, b2, b3⟩ := tupleComp_eq h'
  simp only [comp_encode (tup5_to6 h), comp_encode (tup5_to6 h'), a0, a1, a2, a3, b0, b1, b2, b3]
  refine ⟨?_, ?_, ?_, ?_⟩ <;> (split <;> split <;> simp <;> omega)

/-- the halving loop counts trailing zero bits: at least `j` more of them (within the fuel) iff `2 ^ j` divides -/
theorem tz_go (fuel : Nat) : ∀ c acc j, j ≤ fuel → (acc + j ≤ trailingZeros16.go fuel c acc ↔ c % 2 ^ j = 0) := by
  induction fuel with
  | zero => intro c acc j hj; cases Nat.le_zero.mp hj; simp [trailingZeros16.go, Nat.mod_one]
  | succ n ih =>
    intro c acc j hj
    unfold trailingZeros16.go
    cases j with
    | zero =>
      simp only [Nat.add_zero, Nat.pow_zero, Nat.mod_one, iff_true]
      split
      · exact Nat.le_refl _
      · exact Nat.le_trans (Nat.le_succ _) ((ih _ _ 0 (Nat.zero_le _)).mpr (Nat.mod_one _))
    | succ j =>
      rw [Nat.pow_succ, Nat.mul_comm, Nat.mod_mul]
      split
      · next h => simp only [beq_iff_eq] at h; omega
      · next h =>
        simp only [beq_iff_eq] at h
        rw [show acc + (j + 1) = acc + 1 + j by omega, ih (c / 2) (acc + 1) j (by omega)]
        omega

theorem tz_ge {c j : Nat} (hj : j ≤ 16) : j ≤ trailingZeros16 c ↔ c % 2 ^ j = 0 := by
  unfold trailingZeros16; simpa using tz_go 16 c 0 j hj

/-- the last component present in a composable syllable and the shift `starts_with` selects for it as a prefix:
    both are decided by which trailing digits are zero -/
theorem prefix_cases {i m r t : Nat} (h : Tup 5 i m r t) :
    ∃ n k, lastPresent (encode i m r t) = n ∧ startsWithShift (encode i m r t) = k ∧
      ((t ≠ 0 ∧ n = 3 ∧ k = 0) ∨ (t = 0 ∧ r ≠ 0 ∧ n = 2 ∧ k = 3) ∨ (t = 0 ∧ r = 0 ∧ m ≠ 0 ∧ n = 1 ∧ k = 7) ∨
        (t = 0 ∧ r = 0 ∧ m = 0 ∧ n = 0 ∧ k = 9)) := by
  refine ⟨_, _, rfl, rfl, ?_⟩
  obtain ⟨-, a1, a2, a3⟩ := tupleComp_eq h
  have c1 := comp_encode (tup5_to6 h) 1
  have c2 := comp_encode (tup5_to6 h) 2
  have c3 := comp_encode (tup5_to6 h) 3
  simp only [comp] at c1 c2 c3
  obtain ⟨-, dm, dr, dt⟩ := encode_digits (tup5_to6 h)
  have h3 : encode i m r t % 2 ^ 3 = 0 ↔ t = 0 := by rw [show 2 ^ 3 = 8 from rfl, dt]
  have h7 : encode i m r t % 2 ^ 7 = 0 ↔ r = 0 ∧ t = 0 := (mod_eq_zero_iff 8 16 (by decide) dr).trans (and_congr_right' h3)
  have h9 : encode i m r t % 2 ^ 9 = 0 ↔ m = 0 ∧ r = 0 ∧ t = 0 :=
    (mod_eq_zero_iff 128 4 (by decide) dm).trans (and_congr_right' h7)
  simp only [lastPresent, c1, c2, c3, a1, a2, a3, startsWithShift, startsWithSteps, startsWithDefault, List.find?_cons,
    List.find?_nil, ge_iff_le, tz_ge (by decide : 9 ≤ 16), tz_ge (by decide : 7 ≤ 16), tz_ge (by decide : 3 ≤ 16), h9, h7, h3]
  by_cases ht : t = 0 <;> by_cases hr : r = 0 <;> by_cases hm : m = 0 <;> simp [ht, hr, hm]

theorem startsWith_encode {i m r t i' m' r' t' : Nat} (hs : Tup 5 i m r t) (hp : Tup 5 i' m' r' t')
    (hne : ¬ (i' = 0 ∧ m' = 0 ∧ r' = 0 ∧ t' = 0)) :
    startsWith (encode i m r t) (encode i' m' r' t') = true ↔
      ∀ k, k ≤ lastPresent (encode i' m' r' t') →
        comp k (encode i m r t) = comp k (encode i' m' r' t') := by
  obtain ⟨e0, e1, e2, e3⟩ := comp_eq_iff hs hp
  obtain ⟨si, sm, sr, st⟩ := encode_digits (tup5_to6 hs)
  obtain ⟨pi, pm, pr, pt⟩ := encode_digits (tup5_to6 hp)
  -- the codes shifted by 9 are the leading digits; `s` has the out-of-range one if it is empty
  have c0 : encode i m r t / 2 ^ 9 = encode i' m' r' t' / 2 ^ 9 ↔ ¬ (i = 0 ∧ m = 0 ∧ r = 0 ∧ t = 0) ∧ i = i' := by
    rw [show 2 ^ 9 = 512 from rfl, si, pi, if_neg hne]
    split
    · next h => exact ⟨fun e => absurd (e ▸ hp.1) (by decide), fun e => absurd h e.1⟩
    · next h => exact (and_iff_right h).symm
  -- each smaller shift compares one more digit
  have c1 : encode i m r t / 2 ^ 7 = encode i' m' r' t' / 2 ^ 7 ↔ _ ∧ m = m' := div_eq_iff 128 4 sm pm
  have c2 : encode i m r t / 2 ^ 3 = encode i' m' r' t' / 2 ^ 3 ↔ _ ∧ r = r' := div_eq_iff 8 16 sr pr
  have c3 : encode i m r t = encode i' m' r' t' ↔ _ ∧ t = t' := eq_iff_digit 8 st pt
  have f0 : (∀ k, k ≤ 0 → comp k (encode i m r t) = comp k (encode i' m' r' t')) ↔ i = i' :=
    ⟨fun h => e0.mp (h 0 (Nat.le_refl _)), fun h k hk => Nat.le_zero.mp hk ▸ e0.mpr h⟩
  unfold startsWith
  simp only [beq_iff_eq, Nat.shiftRight_eq_div_pow]
  -- in each case `s` is not empty if it agrees with `p` on the last component present in `p`
  obtain ⟨n, k, hN, hK, h⟩ := prefix_cases hp
  rw [hN, hK]
  rcases h with ⟨ht, rfl, rfl⟩ | ⟨ht, hr, rfl, rfl⟩ | ⟨ht, hr, hm, rfl, rfl⟩ | ⟨ht, hr, hm, rfl, rfl⟩
  · simp only [Nat.pow_zero, Nat.div_one, c3, c2, c1, c0, forall_le_succ, f0, e1, e2, e3, and_assoc]
    exact and_iff_right_of_imp fun a z => ht (a.2.2.2.symm.trans z.2.2.2)
  · simp only [c2, c1, c0, forall_le_succ, f0, e1, e2, and_assoc]
    exact and_iff_right_of_imp fun a z => hr (a.2.2.symm.trans z.2.2.1)
  · rw [c1, c0, forall_le_succ, f0, e1, and_assoc]
    exact and_iff_right_of_imp fun a z => hm (a.2.symm.trans z.2.1)
  · rw [c0, f0]
    exact and_iff_right_of_imp fun a z => hne ⟨a.symm.trans z.1, hm, hr, ht⟩

end Chewing
