import Chewing.Model.Keyboard
/-!
What the keyboard matrices have in common, evaluated once per matrix, and what `generic_map_keycode` then does, by
argument: `KEYCODE_INDEX` is a permutation of the 63 key codes, the two character maps are as long, `INDEX_MAP` is the
identity.  So the key at matrix position `i` is mapped to position `i` (`KbWF.genericMap_get`), every key code has a
position (`KbWF.exists_pos`), and every key code is mapped on every keyboard under every modifier set
(`mapWithMod_total`).
-/
namespace Chewing
open Gen

/-- the members of a list of numbers as a bit mask, `none` if one occurs twice.  One pass decides that the list has no
    repetition and which numbers it holds: 63 steps per matrix, each a `testBit`, `|||`, `<<<` of the kernel's built-in
    arithmetic on one 63-bit number.  `Nodup` and membership by `decide` compare every pair, some 2,000 list steps per
    matrix. -/
def maskOf : List Nat → Nat → Option Nat
  | [], m => some m
  | c :: r, m => if m.testBit c then none else maskOf r (m ||| 1 <<< c)

theorem maskOf_spec : ∀ (l : List Nat) (m m' : Nat), maskOf l m = some m' →
    l.Nodup ∧ (∀ c ∈ l, m.testBit c = false) ∧ ∀ c, m'.testBit c = (m.testBit c || decide (c ∈ l))
  | [], m, m', h => by cases h; simp
  | a :: r, m, m', h => by
    unfold maskOf at h
    split at h
    · cases h
    · next ha =>
      obtain ⟨hn, hfresh, hbits⟩ := maskOf_spec r _ m' h
      have hbit : ∀ c, (m ||| 1 <<< a).testBit c = (m.testBit c || decide (a = c)) := fun c => by
        rw [Nat.testBit_or, Nat.one_shiftLeft, Nat.testBit_two_pow]
      refine ⟨List.nodup_cons.mpr ⟨fun har => ?_, hn⟩, fun c hc => ?_, fun c => ?_⟩
      · have := hfresh a har; rw [hbit] at this; simp at this
      · rcases List.mem_cons.mp hc with rfl | hc
        · simpa using ha
        · have := hfresh c hc; rw [hbit] at this; simp at this; exact this.1
      · rw [hbits, hbit]; simp [Bool.or_assoc, eq_comm]

/-- `KEYCODE_INDEX` is a permutation of the 63 key codes, and the two character maps have a character for every position -/
def KbWF (kb : KbTables) : Bool :=
  kb.1.length == 63 && kb.2.1.length == 63 && kb.2.2.length == 63 && maskOf kb.1 0 == some (2 ^ 63 - 1)

theorem tables_wf : (genericKeyboards.all fun kb => KbWF kb.2) = true ∧ indexMap = List.range 63 := by decide +kernel

variable {kb : KbTables} {i : Nat}

theorem getD_eq_getElem {l : List Nat} (h : i < l.length) : l.getD i 0 = l[i] := by
  simp [List.getD_eq_getElem?_getD, h]

theorem getD_map {l : List Nat} (f : Nat → Nat) (h : i < l.length) : (l.map f).getD i 0 = f (l.getD i 0) := by
  simp [List.getD_eq_getElem?_getD, h]

theorem indexMap_get (hi : i < 63) : indexMap[i]? = some i := by
  rw [tables_wf.2, List.getElem?_eq_getElem (by rw [List.length_range]; exact hi), List.getElem_range]

theorem qwerty_wf : KbWF qwertyKb = true := List.all_eq_true.mp tables_wf.1 ("qwerty", qwertyKb) List.mem_cons_self

/-- on Qwerty the matrix position of a key is its `KeyCode` -/
theorem qwerty_getD (hi : i < 63) : qwertyKb.1.getD i 0 = i := by
  have : qwertyKb.1 = List.range 63 := by decide
  rw [this, getD_eq_getElem (by rw [List.length_range]; exact hi), List.getElem_range]

namespace KbWF

theorem spec (h : KbWF kb = true) :
    kb.1.length = 63 ∧ kb.2.1.length = 63 ∧ kb.2.2.length = 63 ∧ kb.1.Nodup ∧ ∀ c, c ∈ kb.1 ↔ c < 63 := by
  simp only [KbWF, Bool.and_eq_true, beq_iff_eq] at h
  obtain ⟨⟨⟨h1, h2⟩, h3⟩, h4⟩ := h
  obtain ⟨hn, _, hbits⟩ := maskOf_spec kb.1 0 _ h4
  refine ⟨h1, h2, h3, hn, fun c => ?_⟩
  have := hbits c
  rw [Nat.testBit_two_pow_sub_one, Nat.zero_testBit, Bool.false_or] at this
  exact (decide_eq_decide.mp this).symm

theorem code_lt (h : KbWF kb = true) (hi : i < 63) : kb.1.getD i 0 < 63 := by
  obtain ⟨h1, _, _, _, hmem⟩ := KbWF.spec h
  rw [getD_eq_getElem (h1 ▸ hi)]
  exact (hmem _).mp (List.getElem_mem _)

/-- every key code has a matrix position -/
theorem exists_pos (h : KbWF kb = true) {code : Nat} (hc : code < 63) : ∃ i, i < 63 ∧ kb.1.getD i 0 = code := by
  obtain ⟨h1, _, _, _, hmem⟩ := KbWF.spec h
  obtain ⟨i, hlt, rfl⟩ := List.mem_iff_getElem.mp ((hmem code).mpr hc)
  exact ⟨i, h1 ▸ hlt, getD_eq_getElem hlt⟩

/-- the code at position `i` is found at `i` -/
theorem findIdx_get (h : KbWF kb = true) (hi : i < 63) : kb.1.findIdx? (· == kb.1.getD i 0) = some i := by
  obtain ⟨h1, _, _, hn, _⟩ := KbWF.spec h
  have hlt : i < kb.1.length := h1 ▸ hi
  rw [getD_eq_getElem hlt]
  refine List.findIdx?_eq_some_iff_getElem.mpr ⟨hlt, beq_self_eq_true _, fun j hj hb => ?_⟩
  exact List.pairwise_iff_getElem.mp hn j i (Nat.lt_trans hj hlt) hlt hj (eq_of_beq hb)

/-- the character of position `i` under the modifiers `mods`, as both mapping functions select it -/
theorem char_get (h : KbWF kb = true) (hi : i < 63) (mods : Nat) :
    (if modCaps mods || modShift mods then kb.2.2[i]? else kb.2.1[i]?) =
      some ((if modCaps mods || modShift mods then kb.2.2 else kb.2.1).getD i 0) := by
  obtain ⟨_, h2, h3, _, _⟩ := KbWF.spec h
  split
  · rw [getD_eq_getElem (h3 ▸ hi), List.getElem?_eq_getElem]
  · rw [getD_eq_getElem (h2 ▸ hi), List.getElem?_eq_getElem]

/-- **`generic_map_keycode` in closed form**: the key at matrix position `i` becomes the event with key index `i`
    (`INDEX_MAP` is the identity), its own code and the character of that position -/
theorem genericMap_get (h : KbWF kb = true) (hi : i < 63) (mods : Nat) :
    genericMap kb (kb.1.getD i 0) mods = some
      { index := i, code := kb.1.getD i 0, mods := mods
        unicode := (if modCaps mods || modShift mods then kb.2.2 else kb.2.1).getD i 0 } := by
  unfold genericMap
  rw [KbWF.findIdx_get h hi]
  simp only [KbWF.char_get h hi, indexMap_get hi]

/-- only key codes are mapped -/
theorem code_lt_of_map (h : KbWF kb = true) {code mods : Nat} {e : KeyEv} (he : genericMap kb code mods = some e) :
    code < 63 := by
  unfold genericMap at he
  split at he
  · cases he
  · next i hi =>
    obtain ⟨hlt, hb, _⟩ := List.findIdx?_eq_some_iff_getElem.mp hi
    exact ((spec h).2.2.2.2 _).mp (eq_of_beq hb ▸ List.getElem_mem hlt)

/-- conversely, an event of `generic_map_keycode` is that of a matrix position -/
theorem genericMap_inv (h : KbWF kb = true) {code mods : Nat} {e : KeyEv} (he : genericMap kb code mods = some e) :
    ∃ i, i < 63 ∧ kb.1.getD i 0 = code ∧ e =
      { index := i, code := code, mods := mods
        unicode := (if modCaps mods || modShift mods then kb.2.2 else kb.2.1).getD i 0 } := by
  obtain ⟨i, hi, rfl⟩ := exists_pos h (code_lt_of_map h he)
  exact ⟨i, hi, rfl, Option.some.inj ((genericMap_get h hi mods).symm.trans he).symm⟩

/-- **`DvorakOnQwerty::map_with_mod` in closed form**: the position of the key on Qwerty's matrix, code and character
    of that position on Dvorak's -/
theorem dvorakOnQwertyMap_get {q d : KbTables} (hq : KbWF q = true) (hd : KbWF d = true) (hi : i < 63)
    (mods : Nat) :
    dvorakOnQwertyMap q d (q.1.getD i 0) mods = some
      { index := i, code := d.1.getD i 0, mods := mods
        unicode := (if modCaps mods || modShift mods then d.2.2 else d.2.1).getD i 0 } := by
  unfold dvorakOnQwertyMap
  rw [KbWF.findIdx_get hq hi]
  simp only [KbWF.char_get hd hi, indexMap_get hi, getD_eq_getElem ((KbWF.spec hd).1 ▸ hi),
    List.getElem?_eq_getElem ((KbWF.spec hd).1 ▸ hi)]

end KbWF

/-- a keyboard found by name is one of the generic keyboards, so its matrices are well formed -/
theorem kbTables_wf {name : String} (h : name ∈ genericKeyboards.map (·.1)) :
    ∃ kb, kbTables name = some kb ∧ KbWF kb = true := by
  obtain ⟨p, hp, rfl⟩ := List.mem_map.mp h
  unfold kbTables
  cases hf : genericKeyboards.find? (·.1 == p.1) with
  | none => exact absurd (beq_self_eq_true _) (List.find?_eq_none.mp hf p hp)
  | some q => exact ⟨q.2, rfl, List.all_eq_true.mp tables_wf.1 q (List.mem_of_find?_eq_some hf)⟩

theorem mapWithMod_dvorakOnQwerty : ∃ q d, KbWF q = true ∧ KbWF d = true ∧
    ∀ code mods, mapWithMod "dvorak_on_qwerty" code mods = dvorakOnQwertyMap q d code mods := by
  obtain ⟨q, hq, hqw⟩ := kbTables_wf (name := "qwerty") (by decide)
  obtain ⟨d, hd, hdw⟩ := kbTables_wf (name := "dvorak") (by decide)
  exact ⟨q, d, hqw, hdw, fun _ _ => by unfold mapWithMod; rw [if_pos (by decide), hq, hd]⟩

/-- **every key code is on every keyboard**: `map_with_mod` answers for every key code and every modifier set, on
    Dvorak-on-Qwerty and on each generic keyboard — `.expect("invalid keycode")` cannot fire -/
theorem mapWithMod_total {name : String} (hn : name = "dvorak_on_qwerty" ∨ name ∈ genericKeyboards.map (·.1))
    {code : Nat} (hc : code < 63) (mods : Nat) : ∃ e, mapWithMod name code mods = some e := by
  by_cases hd : name = "dvorak_on_qwerty"
  · obtain ⟨q, d, hq, hd', hm⟩ := mapWithMod_dvorakOnQwerty
    obtain ⟨i, hi, rfl⟩ := KbWF.exists_pos hq hc
    exact ⟨_, by rw [hd, hm, KbWF.dvorakOnQwertyMap_get hq hd' hi]⟩
  · obtain ⟨kb, hk, hw⟩ := kbTables_wf (hn.resolve_left hd)
    obtain ⟨i, hi, rfl⟩ := KbWF.exists_pos hw hc
    unfold mapWithMod
    rw [if_neg (by simpa using hd), hk]
    exact ⟨_, KbWF.genericMap_get hw hi mods⟩

end Chewing
