import Chewing.Proofs.TrieLink
import Chewing.Proofs.Utf8Order
import Chewing.Proofs.CliTrie
/-!
# C20's entry-list model of the trie back end is C11's byte-level file

C20 (`Model/Cli.lean`) models the trie file the compiler builds at the level of entry lists:
`trieBuild` (insert = replace the same (key, text) in place, else append), `trieLookup` (the leaf,
stably sorted by the comparator of `write`), `trieEntries`.  Here these are derived from C11's
byte-level model for the **concrete file** `TrieBuilder::write` produces:

* `lookup_trieBuild` — C20's builder holds, for every key, the phrase vector of C11's reference map
  `TrieCodec.refFind` (last record per (syllables, phrase) wins, in place), by induction over the records;
* `phraseLess_ofPhrase` — C20's transcription of the comparator (code points, `Gen.trieMixedCmp` arm)
  is C11's (UTF-8 bytes) (`Utf8Order.lexLt_utf8Enc`);
* `phraseSort_map` — C20's leaf sort is C11's `sortLeaf`; `tp_phraseLess` (for `C20.leaf_sort_stable_unique`) — the
  comparator is a total preorder on Rust strings, so **every** stable sort returns the model's leaf, also
  on mixed leaves: nothing is assumed about the algorithm of `slice::sort_by` beyond stability;
The concrete file itself — it opens, the real reader's exact lookup is C20's `dictLookup .trie`, its `entries()` is,
as a list, C20's `entries .trie` — is `trie_file_is_model` in `Proofs/CliTrieOrder.lean`.
-/
namespace Chewing.CliTrieLink
open Chewing.Cli Chewing.StableSort

/-- a compiler record as a `TrieBuilder::insert` call (`Phrase::new(phrase, freq)`: no timestamp) -/
def toEntry (r : Cli.Rec) : Entry := (r.syls, { text := r.phrase, freq := r.freq })
/-- what C20's model keeps of a phrase -/
def ofPhrase (p : Phrase) : PF := (p.text, p.freq)
def toPhrase (pf : PF) : Phrase := { text := pf.1, freq := pf.2 }
/-- an enumerated entry as the record `dump` prints -/
def ofEntry (e : Entry) : Cli.Rec := { phrase := e.2.text, freq := e.2.freq, syls := e.1 }

/-- a record as the Rust types constrain it: `Syllable`s — non-zero `u16` codes that `Syllable::try_from` accepts
    (`validCode`: the invariant of the type since the repair of C13's finding F47, required by C11's `ValidEntry`;
    the compiler obtains its syllables from the spelling parser, which yields such codes only) —, a `String`,
    a `u32` -/
def ValidRec (r : Cli.Rec) : Prop :=
  (∀ s ∈ r.syls, 0 < s ∧ s < 65536 ∧ validCode s = true) ∧ (∀ c ∈ r.phrase, Der.IsScalar c) ∧ r.freq < 2 ^ 32

theorem validEntry_toEntry {r : Cli.Rec} (h : ValidRec r) : TrieCodec.ValidEntry (toEntry r) :=
  ⟨h.1, h.2.1, h.2.2, fun _ e => by cases e⟩

theorem upsert_map (ps : List Phrase) (p : Phrase) :
    (TrieCodec.upsert ps p).map ofPhrase = Cli.upsert (ps.map ofPhrase) p.text p.freq := by
  rw [TrieCodec.upsert_eq, Cli.upsert_eq]
  exact upsertBy_map (g := ofPhrase) (f' := (·.1)) (fun _ => rfl) p ps

/-- C20's builder holds for every key the phrase vector of C11's reference map
    (`C11.builder_is_map`) -/
theorem lookup_trieBuild (rs : List Cli.Rec) (k : Key) :
    Cli.lookup (trieBuild rs) k = ((TrieCodec.refFind (rs.map toEntry) k).getD []).map ofPhrase := by
  unfold trieBuild TrieCodec.refFind
  have key : ∀ (rs : List Cli.Rec) (m : TrieM) (acc : Option (List Phrase)),
      Cli.lookup m k = (acc.getD []).map ofPhrase →
      Cli.lookup (rs.foldl trieInsert m) k =
        (((rs.map toEntry).foldl (fun acc e => if e.1 = k then some (TrieCodec.upsert (acc.getD []) e.2) else acc) acc).getD []).map ofPhrase := by
    intro rs
    induction rs with
    | nil => intro m acc h; exact h
    | cons r rs ih =>
      intro m acc h
      simp only [List.foldl_cons, List.map_cons]
      apply ih
      rw [lookup_trieInsert]
      by_cases e : k = r.syls
      · have e' : (toEntry r).1 = k := e.symm
        rw [if_pos e, if_pos e', h]
        simp only [Option.getD_some]
        rw [upsert_map]
        rfl
      · have e' : ¬ (toEntry r).1 = k := fun c => e c.symm
        rw [if_neg e, if_neg e', h]
  exact key rs [] none rfl

theorem textLt_eq_lexLt (a b : Text) : Cli.textLt a b = TrieCodec.lexLt (Der.utf8Enc a) (Der.utf8Enc b) :=
  (Utf8Order.lexLt_utf8Enc a b).symm

/-- C20's transcription of the comparator of `TrieBuilder::write` (with the arm regenerated from the
    source, `Gen.trieMixedCmp`) is C11's -/
theorem phraseLess_ofPhrase (a b : Phrase) :
    phraseLess (ofPhrase a) (ofPhrase b) = TrieCodec.phraseLt a b := by
  unfold phraseLess phraseLessM TrieCodec.phraseLt ofPhrase
  have hm : (Gen.trieMixedCmp == 0) = false := by decide
  by_cases h1 : a.text.length = 1 <;> by_cases h2 : b.text.length = 1
  · simp [h1, h2]
  · simp [h1, h2, hm]
  · simp [h1, h2, hm]
  · have e1 : (a.text.length == 1) = false := by simpa using h1
    have e2 : (b.text.length == 1) = false := by simpa using h2
    simp only [e1, e2, Bool.and_self, Bool.or_self, Bool.false_eq_true, if_false, h1, h2, false_and]
    by_cases hf : a.freq = b.freq
    · have e3 : (a.freq == b.freq) = true := by simpa using hf
      rw [if_pos hf]
      simp only [e3, if_true]
      exact textLt_eq_lexLt _ _
    · have e3 : (a.freq == b.freq) = false := by simpa using hf
      rw [if_neg hf]
      simp only [e3, Bool.false_eq_true, if_false]

theorem phraseSort_map (ps : List Phrase) :
    phraseSort (ps.map ofPhrase) = (TrieCodec.sortLeaf ps).map ofPhrase := by
  unfold phraseSort TrieCodec.sortLeaf
  rw [stableSort_eq_sortBy]
  exact sortBy_map TrieCodec.phraseLt phraseLess ofPhrase ps
    (fun a _ b _ => phraseLess_ofPhrase a b)

/-- phrases that are Rust strings -/
def ValidPF (pf : PF) : Prop := ∀ c ∈ pf.1, Der.IsScalar c

/-- the comparator of C20's model is a total preorder on Rust strings (pulled back from C11's
    `comparator_total_preorder`) -/
theorem tp_phraseLess : TPOn phraseLess ValidPF :=
  TPOn.pullback TrieCodec.tp_phraseLt phraseLess ValidPF toPhrase (fun _ _ => trivial)
    (fun a b _ _ => phraseLess_ofPhrase (toPhrase a) (toPhrase b))

end Chewing.CliTrieLink
