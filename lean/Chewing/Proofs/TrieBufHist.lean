import Chewing.Proofs.TrieBufObs
import Chewing.Proofs.ListBasics
/-!
Lifting to histories (induction over the operation list), the in-memory special case, the
"removed stays absent" invariant of the specification, and `Trie`'s early-exit collection loop.
-/
namespace Chewing
open MapSpec

namespace TrieBuf

theorem run_nil (s : State) : run s [] = s := rfl
theorem run_cons (s : State) (op : Op) (ops : List Op) : run s (op :: ops) = run (apply s op) ops := rfl

theorem run_append (s : State) (a b : List Op) : run s (a ++ b) = run (run s a) b := by
  unfold run; rw [List.foldl_append]

/-- invariant and refinement along any history -/
theorem run_refines {s : State} (hs : Inv s) (ops : List Op) :
    Inv (run s ops) ∧ abs (run s ops) = (abs s).run ops :=
  foldl_refines (fun op hs => ⟨inv_apply hs op, abs_apply hs op⟩) ops hs

theorem abs_initMem : abs initMem = Map.empty := by
  funext k; simp [abs, absOver, initMem, btGet, baseGet, Map.empty]

theorem abs_initFile : abs initFile = Map.empty := by
  funext k; simp [abs, absOver, initFile, initMem, btGet, baseGet, Map.empty]

/-! ### in-memory dictionaries have no persisted layer -/

/-- `trie: None` stays `None` -/
def MemInv (s : State) : Prop := s.fileBacked = false ∧ s.snap = [] ∧ s.inflight = none

theorem memInv_apply {s : State} (h : MemInv s) (op : Op) : MemInv (apply s op) := by
  refine apply_cases MemInv s op h (fun _ _ => h) (fun _ => h) ?_ ?_ ?_
  · rw [checkpoint_skip (Or.inr (Or.inl h.1))]; exact h
  · exact sync_cases MemInv s (fun t hi => by rw [h.2.2] at hi; cases hi) (fun t hi => by rw [h.2.2] at hi; cases hi)
      (fun _ hf => by rw [h.1] at hf; cases hf) (fun _ _ => h)
  · rw [closeOpen_mem h.1]; exact h

theorem memInv_run {s : State} (h : MemInv s) (ops : List Op) : MemInv (run s ops) :=
  List.foldlRecOn ops apply h fun _ hs op _ => memInv_apply hs op

end TrieBuf

namespace MapSpec
namespace Map

/-- does the operation write (add / update) the key? -/
def writes (key : PKey) : Op → Bool
  | .add k t _ _ => (k, t) == key
  | .update k t _ _ => (k, t) == key
  | _ => false

theorem apply_absent {m : Map} {key : PKey} (h : m key = none) (op : Op) (hw : writes key op = false) :
    m.apply op key = none := by
  cases op with
  | add k t f tm =>
    simp only [writes, beq_eq_false_iff_ne, ne_eq] at hw
    simp only [apply]
    split
    · rw [set_other _ _ (fun e => hw e.symm)]; exact h
    · exact h
  | update k t f tm =>
    simp only [writes, beq_eq_false_iff_ne, ne_eq] at hw
    simp only [apply]
    rw [set_other _ _ (fun e => hw e.symm)]; exact h
  | remove k t =>
    simp only [apply]
    by_cases e : key = (k, t)
    · rw [e, set_same]
    · rw [set_other _ _ e]; exact h
  | flush => exact h
  | reopen => exact h
  | closeOpen => exact h

/-- an absent key stays absent as long as it is not added or updated -/
theorem run_absent {m : Map} {key : PKey} (h : m key = none) (ops : List Op) (hw : ∀ op ∈ ops, writes key op = false) :
    m.run ops key = none :=
  List.foldlRecOn (motive := fun m => m key = none) ops apply h fun _ hm op ho => apply_absent hm op (hw op ho)

theorem apply_remove_absent (m : Map) (k : Key) (t : Text) : m.apply (.remove k t) (k, t) = none := by
  simp [apply]

theorem apply_add_absent {m : Map} {k : Key} {t : Text} (h : m (k, t) = none) (f : Nat) (tm : Option Nat) :
    m.apply (.add k t f tm) (k, t) = some (f, tm.getD 0) := by
  simp [apply, addOk, h]

theorem apply_update (m : Map) (k : Key) (t : Text) (f tm : Nat) : m.apply (.update k t f tm) (k, t) = some (f, tm) := by
  simp [apply]

end Map
end MapSpec

namespace Trie

/-- the early `break` of `Trie::lookup_first_n_phrases` never loses one of the first `n` phrases -/
theorem take_collect (n : Nat) (leaves : List (List Phrase)) (acc : List Phrase) :
    (collect n leaves acc).take n = (acc ++ leaves.flatten).take n := by
  induction leaves generalizing acc with
  | nil => simp [collect]
  | cons leaf rest ih =>
    simp only [collect, List.flatten_cons]
    split
    · rename_i h
      rw [← List.append_assoc]
      exact (List.take_append_of_le_length (l₂ := rest.flatten) (Nat.le_of_lt h)).symm
    · rw [ih, List.append_assoc]

/-- with the final `truncate` of fix c70c911 (F11) the first `n` results are the first `n` of the full result -/
theorem lookupFirstN_eq_take (t : List Leaf) (q : Key) (n : Nat) (st : Strategy) :
    lookupFirstN t q n st = (lookupAll t q st).take n := by
  rw [lookupFirstN, take_collect]; rfl

end Trie

end Chewing
