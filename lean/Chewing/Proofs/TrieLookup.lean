import Chewing.Model.TrieCodec
import Chewing.Proofs.TrieLayout
import Chewing.Proofs.TrieBytes
/-!
The reader on a laid-out index refines a walk over the builder tree (`tLookup`), for both
strategies: threads of record views correspond one to one, in order, to tree nodes.
-/
namespace Chewing.TrieCodec
open Chewing.Der

def Item.kids : Item → List Item
  | .node _ l sub => kidsOf l sub
  | .leaf _ => []

/-- what a thread ending at this node contributes -/
def Item.leafPhrases : Item → List Phrase
  | .node _ (some ps) _ => sortLeaf ps
  | _ => []

def tStep (st : Strategy) (syl : Nat) (items : List Item) : List Item :=
  items.flatMap fun it => it.kids.filter fun k => matchSyl st k.syl syl

def tWalk (st : Strategy) : List Nat → List Item → List Item
  | [], th => th
  | s :: rest, th => tWalk st rest (tStep st s th)

/-- lookup on the tree: the nodes reached by the key, their leaves concatenated -/
def tLookup (st : Strategy) (key : List Nat) (root : Item) : List Phrase :=
  (tWalk st key [root]).flatMap Item.leafPhrases

theorem tWalk_nil (st : Strategy) (key : List Nat) : tWalk st key [] = [] := by
  induction key with
  | nil => rfl
  | cons s rest ih => simpa [tWalk, tStep] using ih

inductive Forall₂ {α β : Type} (R : α → β → Prop) : List α → List β → Prop
  | nil : Forall₂ R [] []
  | cons {a : α} {b : β} {l₁ : List α} {l₂ : List β} : R a b → Forall₂ R l₁ l₂ → Forall₂ R (a :: l₁) (b :: l₂)

section
variable {α β : Type} {R R' : α → β → Prop}

theorem forall₂_of_getElem? : ∀ (l₁ : List α) (l₂ : List β), l₁.length = l₂.length →
    (∀ (j : Nat) (a : α) (b : β), l₁[j]? = some a → l₂[j]? = some b → R a b) → Forall₂ R l₁ l₂ := by
  intro l₁
  induction l₁ with
  | nil => intro l₂ hl _; cases l₂ with
    | nil => exact .nil
    | cons _ _ => simp at hl
  | cons a l₁ ih =>
    intro l₂ hl h
    cases l₂ with
    | nil => simp at hl
    | cons b l₂ =>
      refine .cons (h 0 a b rfl rfl) (ih l₂ (by simpa using hl) ?_)
      intro j a' b' ha hb
      exact h (j + 1) a' b' (by simpa using ha) (by simpa using hb)

theorem forall₂_filter {p : α → Bool} {q : β → Bool} {l₁ : List α} {l₂ : List β}
    (h : Forall₂ R l₁ l₂) (hpq : ∀ a b, R a b → p a = q b) :
    Forall₂ R (l₁.filter p) (l₂.filter q) := by
  induction h with
  | nil => exact .nil
  | @cons a b l₁ l₂ hab _ ih =>
    simp only [List.filter_cons]
    rw [hpq a b hab]
    split
    · exact .cons hab ih
    · exact ih

theorem forall₂_imp_mem {l₁ : List α} {l₂ : List β} (h : Forall₂ R l₁ l₂)
    (himp : ∀ a b, R a b → b ∈ l₂ → R' a b) : Forall₂ R' l₁ l₂ := by
  induction h with
  | nil => exact .nil
  | @cons a b l₁ l₂ hab _ ih =>
    exact .cons (himp a b hab (by simp)) (ih (fun a' b' h' hm => himp a' b' h' (by simp [hm])))

theorem forall₂_append {l₁ l₃ : List α} {l₂ l₄ : List β} (h : Forall₂ R l₁ l₂)
    (h' : Forall₂ R l₃ l₄) : Forall₂ R (l₁ ++ l₃) (l₂ ++ l₄) := by
  induction h with
  | nil => exact h'
  | cons hab _ ih => exact .cons hab ih

theorem forall₂_nil_left {l₂ : List β} (h : Forall₂ R [] l₂) : l₂ = [] := by
  cases h; rfl

end

/-- the record at a laid-out item's position: fields in range, syllable field = the item's -/
theorem laid_rec {recs : List Rec} {data : Bytes} {pos : Nat} {it : Item}
    (h : Laid recs data pos it) (hp : it.Pre) :
    ∃ r, recs[pos]? = some r ∧ r.1 < 4294967296 ∧ r.2.1 < 65536 ∧ r.2.2 < 65536 ∧ r.2.2 = it.syl := by
  cases h with
  | leaf h1 h2 h3 _ _ => exact ⟨_, h1, h2, h3, by simp, rfl⟩
  | node h1 h2 h3 _ _ => exact ⟨_, h1, h2, h3, hp.1, rfl⟩

theorem toItems_syl_pos {f : Forest} : f.WF → ∀ it ∈ f.toItems, 0 < it.syl :=
  forall_mem_toItems (R := Forest.WF) (Q := fun it => 0 < it.syl) fun h => ⟨h.1, h.2.2.2.2.2.2.2⟩

/-- every queue entry of a node after the first is a child node: non-zero syllable -/
theorem kids_tail_syl_ne_zero {l : Option (List Phrase)} {sub : Forest} (hs : sub.WF) {k1 : Item} {ks : List Item}
    (h : kidsOf l sub = k1 :: ks) : ∀ k ∈ ks, k.syl ≠ 0 := by
  intro k hk
  have hm : k ∈ sortBy sylLt sub.toItems := by
    rw [kidsOf_eq] at h
    cases l with
    | none => rw [leafItem, List.nil_append] at h; rw [h]; exact List.mem_cons_of_mem _ hk
    | some ps =>
      have e : sortBy sylLt sub.toItems = ks := (List.cons.inj h).2
      rw [e]; exact hk
  have := toItems_syl_pos hs k (mem_sortBy.mp hm)
  omega

/-- a record view `w` stands for the queued item `k` -/
def KidRep (recs : List Rec) (data : Bytes) (w : Rec) (k : Item) : Prop :=
  ∃ pos, recs[pos]? = some w ∧ Laid recs data pos k ∧ k.WF ∧ w.2.2 = k.syl

/-- a thread `v` stands for the tree node `it` (a node with at least one record below it) -/
def Rep (recs : List Rec) (data : Bytes) (v : Rec) (it : Item) : Prop :=
  ∃ pos, recs[pos]? = some v ∧ Laid recs data pos it ∧ it.Pre ∧ it.kids ≠ []

theorem Item.WF.kids_ne_nil {s : Nat} {l : Option (List Phrase)} {sub : Forest} (h : (Item.node s l sub).WF) :
    (Item.node s l sub).kids ≠ [] := by
  obtain ⟨_, _, _, _, h4, _⟩ := h
  simp only [Item.kids, kidsOf_eq]
  rcases h4 with h4 | h4
  · cases l with
    | none => simp at h4
    | some ps => simp [leafItem]
  · cases sub with
    | nil => exact absurd rfl h4
    | cons t l' sub' next =>
      intro hnil
      have hlen := congrArg List.length hnil
      simp only [List.length_append, sortBy_length, Forest.toItems, List.length_cons, List.length_nil] at hlen
      omega

theorem KidRep.wf {recs : List Rec} {data : Bytes} {w : Rec} {k : Item} (h : KidRep recs data w k) : k.WF :=
  h.choose_spec.2.2.1

theorem KidRep.syl_eq {recs : List Rec} {data : Bytes} {w : Rec} {k : Item} (h : KidRep recs data w k) :
    w.2.2 = k.syl := h.choose_spec.2.2.2

theorem KidRep.rep {recs : List Rec} {data : Bytes} {w : Rec} {k : Item} (h : KidRep recs data w k)
    (hs : k.syl ≠ 0) : Rep recs data w k := by
  obtain ⟨pos, h1, h2, h3, _⟩ := h
  cases k with
  | leaf ps => exact absurd rfl hs
  | node s l sub => exact ⟨pos, h1, h2, h3.pre, h3.kids_ne_nil⟩

theorem matchSyl_ne_zero {st : Strategy} {n syl : Nat} (hsyl : syl ≠ 0) (h : matchSyl st n syl = true) : n ≠ 0 := by
  cases st with
  | standard => simp [matchSyl] at h; omega
  | fuzzyPartialPrefix => simp [matchSyl] at h; exact h.1.1

/-- the children of a thread: in bounds, and the views are the records of the node's queue entries -/
theorem rep_children {recs : List Rec} {data : Bytes} {v : Rec} {s : Nat} {l : Option (List Phrase)} {sub : Forest}
    (h : Rep recs data v (.node s l sub)) :
    oob (cbOf v) (ceOf v) (recs.flatMap recBytes).length = false ∧
    v.1 + 1 ≤ recs.length ∧
    Forall₂ (KidRep recs data) (childViews (recs.flatMap recBytes) v) (kidsOf l sub) := by
  obtain ⟨pos, h1, h2, h3, h4⟩ := h
  cases h2 with
  | node hr hcb hn hle hk =>
    rename_i cb
    rw [h1] at hr
    cases hr
    have hpos : 0 < (kidsOf l sub).length := List.length_pos_iff.mpr h4
    refine ⟨?_, by simp only; omega, ?_⟩
    · have e1 : cbOf (cb, (kidsOf l sub).length, s) = cb * 8 := rfl
      have e2 : ceOf (cb, (kidsOf l sub).length, s) = (cb + (kidsOf l sub).length) * 8 := rfl
      simp only [oob, e1, e2, flatMap_recBytes_length, Bool.or_eq_false_iff, decide_eq_false_iff_not]
      constructor <;> omega
    · refine forall₂_of_getElem? _ _ (by simp [childViews]) ?_
      intro j w k hw hkj
      have hj : j < (kidsOf l sub).length := by
        rcases Nat.lt_or_ge j (kidsOf l sub).length with h' | h'
        · exact h'
        · rw [List.getElem?_eq_none h'] at hkj; cases hkj
      have hlk := hk j k hkj
      have hwf : k.WF := h3.kids k (List.mem_of_getElem? hkj)
      obtain ⟨r, hr1, hr2, hr3, hr4, hr5⟩ := laid_rec hlk hwf.pre
      simp only [childViews, List.getElem?_map, List.getElem?_range hj, Option.map_some, Option.some.injEq] at hw
      rw [viewAt_recs recs (cb + j) r hr1 hr2 hr3 hr4] at hw
      subst hw
      exact ⟨cb + j, hr1, hlk, hwf, hr5⟩

theorem stepThreads_rep {recs : List Rec} {data : Bytes} {st : Strategy} {syl : Nat} (hsyl : syl ≠ 0)
    {views : List Rec} {items : List Item} (h : Forall₂ (Rep recs data) views items) :
    ∃ views', stepThreads (recs.flatMap recBytes) st syl views = some views' ∧
      Forall₂ (Rep recs data) views' (tStep st syl items) := by
  induction h with
  | nil => exact ⟨[], rfl, .nil⟩
  | @cons v it views items hab _ ih =>
    obtain ⟨views', hv', hf'⟩ := ih
    cases it with
    | leaf ps => obtain ⟨_, _, _, _, hk⟩ := hab; exact absurd rfl hk
    | node s l sub =>
      obtain ⟨hoob, _, hkids⟩ := rep_children hab
      refine ⟨_, by simp only [stepThreads, hoob, hv']; rfl, ?_⟩
      simp only [tStep, List.flatMap_cons]
      refine forall₂_append ?_ hf'
      have hfil := forall₂_filter (p := fun n => matchSyl st n.2.2 syl) (q := fun k => matchSyl st k.syl syl) hkids
        (fun a b hab => by rw [hab.syl_eq])
      refine forall₂_imp_mem hfil ?_
      intro w k hwk hmem
      simp only [Item.kids, List.mem_filter] at hmem
      exact hwk.rep (matchSyl_ne_zero hsyl hmem.2)

theorem walk_rep {recs : List Rec} {data : Bytes} {st : Strategy} (key : List Nat) (hkey : ∀ s ∈ key, s ≠ 0) :
    ∀ {views : List Rec} {items : List Item}, Forall₂ (Rep recs data) views items →
    match walk (recs.flatMap recBytes) st key views with
    | none => tWalk st key items = []
    | some views' => Forall₂ (Rep recs data) views' (tWalk st key items) := by
  induction key with
  | nil => intro views items h; exact h
  | cons s rest ih =>
    intro views items h
    obtain ⟨views', hv', hf'⟩ := stepThreads_rep (st := st) (hkey s (by simp)) h
    simp only [walk, hv', tWalk]
    cases views' with
    | nil =>
      simp only [List.isEmpty_nil, if_true]
      rw [forall₂_nil_left hf', tWalk_nil]
    | cons w ws =>
      simp only [List.isEmpty_cons]
      exact ih (fun t ht => hkey t (by simp [ht])) hf'

theorem sortLeaf_perm (ps : List Phrase) : (sortLeaf ps).Perm ps := sortBy_perm _ _

theorem sortLeaf_valid {ps : List Phrase} (h : ∀ p ∈ ps, ValidPhrase p) : ∀ p ∈ sortLeaf ps, ValidPhrase p :=
  fun p hp => h p ((sortLeaf_perm ps).mem_iff.mp hp)

/-- the leaf slice decodes to the sorted phrase vector -/
theorem decPhrases_sortLeaf {ps : List Phrase} (hv : ∀ p ∈ ps, ValidPhrase p)
    (hl : (encPhrases (sortLeaf ps)).length < 65536) :
    decPhrases (encPhrases (sortLeaf ps)) = sortLeaf ps := by
  refine decPhrases_encPhrases _ (fun p hp => ⟨sortLeaf_valid hv p hp, ?_⟩)
  have := encPhrase_le_encPhrases hp
  unfold maxLen
  omega

/-- the record of a leaf: reserved field zero, slice in bounds, decoding to the sorted vector -/
theorem kidrep_leaf {recs : List Rec} {data : Bytes} {w : Rec} {ps : List Phrase}
    (h : KidRep recs data w (.leaf ps)) :
    w.2.2 = 0 ∧ oob w.1 (w.1 + w.2.1) data.length = false ∧ decPhrases (dataSlice data w) = sortLeaf ps := by
  obtain ⟨pos, h1, h2, h3, h4⟩ := h
  cases h2 with
  | leaf hr hdb hln hsl hle =>
    rename_i db
    rw [h1] at hr
    cases hr
    have hne' : 0 < (encPhrases (sortLeaf ps)).length := by
      have e1 := encPhrases_length_ge (sortLeaf ps)
      have e2 := (sortLeaf_perm ps).length_eq
      have e3 : 0 < ps.length := List.length_pos_iff.mpr h3.1
      omega
    refine ⟨rfl, ?_, ?_⟩
    · simp only [oob, Bool.or_eq_false_iff, decide_eq_false_iff_not]
      constructor <;> omega
    · simp only [dataSlice, hsl]
      exact decPhrases_sortLeaf h3.2 hln

theorem childViews_head {dict : Bytes} {v w : Rec} {ws : List Rec} (h : childViews dict v = w :: ws) :
    viewAt dict (cbOf v) = w := by
  unfold childViews at h
  cases hn : v.2.1 with
  | zero => simp [hn] at h
  | succ n =>
    rw [hn, List.range_succ_eq_map] at h
    simpa [cbOf] using (List.cons.inj h).1

/-- what the collecting loops of the reader see of a thread: the two bounds checks pass, and the first child record
    is either a child node (non-zero syllable field; the node has no leaf) or the node's leaf, whose slice of the
    phrase data is in bounds and decodes to the leaf as written -/
theorem rep_leaf {recs : List Rec} {data : Bytes} {v : Rec} {it : Item} (h : Rep recs data v it) :
    oob (cbOf v) (ceOf v) (recs.flatMap recBytes).length = false ∧
    oob 0 8 ((recs.flatMap recBytes).length - cbOf v) = false ∧
    if (viewAt (recs.flatMap recBytes) (cbOf v)).2.2 ≠ 0 then it.leafPhrases = []
    else oob (viewAt (recs.flatMap recBytes) (cbOf v)).1
        ((viewAt (recs.flatMap recBytes) (cbOf v)).1 + (viewAt (recs.flatMap recBytes) (cbOf v)).2.1) data.length = false ∧
      decPhrases (dataSlice data (viewAt (recs.flatMap recBytes) (cbOf v))) = it.leafPhrases := by
  cases it with
  | leaf ps => exact absurd rfl h.choose_spec.2.2.2
  | node s l sub =>
    obtain ⟨hoob, hlen, hkids⟩ := rep_children h
    obtain ⟨pos, _, _, hpre, hne⟩ := h
    refine ⟨hoob, ?_, ?_⟩
    · simp only [oob, cbOf, flatMap_recBytes_length, Bool.or_eq_false_iff, decide_eq_false_iff_not]
      constructor <;> omega
    · cases hkl : kidsOf l sub with
      | nil => exact absurd hkl hne
      | cons k ks =>
        rw [hkl] at hkids
        cases hcv : childViews (recs.flatMap recBytes) v with
        | nil => rw [hcv] at hkids; cases hkids
        | cons w ws =>
          rw [hcv] at hkids
          cases hkids with
          | cons hwk _ =>
            rw [childViews_head hcv]
            cases l with
            | some ps =>
              -- the first queue entry is the leaf
              cases (List.cons.inj hkl).1
              obtain ⟨hz, ho, hdec⟩ := kidrep_leaf hwk
              rw [if_neg (by simp [hz])]
              exact ⟨ho, hdec⟩
            | none =>
              -- the first queue entry is a child node: its syllable field is not zero
              have hkm : k ∈ sortBy sylLt sub.toItems := by
                rw [kidsOf_eq, leafItem, List.nil_append] at hkl
                rw [hkl]; exact List.mem_cons_self
              have := toItems_syl_pos hpre.2.2 k (mem_sortBy.mp hkm)
              rw [if_pos (by rw [hwk.syl_eq]; omega)]
              rfl

theorem collect_rep {recs : List Rec} {data : Bytes} {views : List Rec} {items : List Item}
    (h : Forall₂ (Rep recs data) views items) :
    ∀ acc, collect (recs.flatMap recBytes) data views acc = acc ++ items.flatMap Item.leafPhrases := by
  induction h with
  | nil => intro acc; simp [collect]
  | @cons v it views items hab _ ih =>
    intro acc
    obtain ⟨h1, h2, h3⟩ := rep_leaf hab
    simp only [collect, h1, h2, Bool.false_eq_true, if_false]
    split at h3
    · rw [if_pos (by assumption), ih, List.flatMap_cons, h3, List.nil_append]
    · rw [if_neg (by assumption), h3.1, if_neg Bool.false_ne_true, h3.2, ih, List.flatMap_cons, List.append_assoc]

theorem tLookup_no_kids {st : Strategy} {key : List Nat} {s : Nat} {l : Option (List Phrase)} {sub : Forest}
    (h : kidsOf l sub = []) : tLookup st key (.node s l sub) = [] := by
  have hl := (kidsOf_eq_nil h).1
  cases key with
  | nil => simp [tLookup, tWalk, Item.leafPhrases, hl]
  | cons t rest => simp [tLookup, tWalk, tStep, Item.kids, h, tWalk_nil]

/-- the reader's first steps on a laid-out tree: the root record is in bounds and holds the root's child range,
    and unless that range is empty the root view is a thread standing for the root -/
theorem root_rep {recs : List Rec} {data : Bytes} {l : Option (List Phrase)} {sub : Forest}
    (hl : Laid recs data 0 (.node 0 l sub)) (hp : (Item.node 0 l sub).Pre) :
    ∃ cb, viewAt (recs.flatMap recBytes) 0 = (cb, (kidsOf l sub).length, 0) ∧ 1 ≤ recs.length ∧
      oob 0 8 (recs.flatMap recBytes).length = false ∧
      (kidsOf l sub ≠ [] → Rep recs data (cb, (kidsOf l sub).length, 0) (.node 0 l sub)) := by
  obtain ⟨r, hr1, hr2, hr3, hr4, _⟩ := laid_rec hl hp
  have hlen : 1 ≤ recs.length := (List.getElem?_eq_some_iff.mp hr1).1
  cases hl with
  | node hr hcb hn hle hk =>
    rename_i cb
    cases hr1.symm.trans hr
    refine ⟨cb, by simpa using viewAt_recs recs 0 _ hr hr2 hr3 hr4, hlen, ?_, fun hkids => ⟨0, hr, .node hr hcb hn hle hk, hp, hkids⟩⟩
    simp only [oob, flatMap_recBytes_length, Bool.or_eq_false_iff, decide_eq_false_iff_not]
    constructor <;> omega

/-- **the reader refines the tree walk** (both strategies) -/
theorem lookupAll_eq_tLookup {recs : List Rec} {data : Bytes} {info : Info} {l : Option (List Phrase)} {sub : Forest}
    (hl : Laid recs data 0 (.node 0 l sub)) (hp : (Item.node 0 l sub).Pre)
    (st : Strategy) (key : List Nat) (hkey : ∀ s ∈ key, s ≠ 0) :
    lookupAll { info := info, index := recs.flatMap recBytes, data := data } key st = tLookup st key (.node 0 l sub) := by
  obtain ⟨cb, hv, _, hoob, hrep⟩ := root_rep hl hp
  simp only [lookupAll, hoob, Bool.false_eq_true, if_false, hv]
  by_cases hkids : kidsOf l sub = []
  · rw [tLookup_no_kids hkids]
    simp [cbOf, ceOf, hkids]
  · rw [if_neg (by have := List.length_pos_iff.mpr hkids; simp only [cbOf, ceOf]; omega)]
    have hw := walk_rep (st := st) key hkey (.cons (hrep hkids) .nil)
    cases hwalk : walk (recs.flatMap recBytes) st key [(cb, (kidsOf l sub).length, 0)] with
    | none =>
      rw [hwalk] at hw
      simp [tLookup, show tWalk st key [Item.node 0 l sub] = [] from hw]
    | some views' =>
      rw [hwalk] at hw
      simp [collect_rep hw, tLookup]

end Chewing.TrieCodec
