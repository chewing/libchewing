import Chewing.Proofs.EditorLinkMeta
import Chewing.Proofs.EditorKey
/-!
Frame proof for C17, second part: `process_keyevent` and the API entry points.  For every environment
in which time stamps and flushing are unobservable (`MetaBlindEnv`), editors that are equal up to the
estimator clock and the pending flush level (`EdMetaEq`) answer every one of the 14 operations alike:
same return value and related successors, or the same panic (`applyR_rel`, `applyR_metaEq`).
-/
namespace Chewing
open Chewing.C06

variable {D L : Type} (env : Env D L)

/-- editors equal up to the clock and the flush level -/
def EdMetaEq (e₁ e₂ : Editor D L) : Prop := e₁.state = e₂.state ∧ MetaEq e₁.shared e₂.shared

theorem EdMetaEq.refl (e : Editor D L) : EdMetaEq e e := ⟨rfl, MetaEq.refl _⟩

theorem EdMetaEq.symm {e₁ e₂ : Editor D L} (h : EdMetaEq e₁ e₂) : EdMetaEq e₂ e₁ := ⟨h.1.symm, h.2.symm⟩

theorem EdMetaEq.trans {e₁ e₂ e₃ : Editor D L} (h1 : EdMetaEq e₁ e₂) (h2 : EdMetaEq e₂ e₃) : EdMetaEq e₁ e₃ :=
  ⟨h1.1.trans h2.1, h1.2.trans h2.2⟩

/-- `e` with another clock and flush level -/
def Editor.sm (e : Editor D L) (t k : Nat) : Editor D L := { e with shared := Chewing.sm e.shared t k }

theorem EdMetaEq.of_sm (e : Editor D L) (t k : Nat) : EdMetaEq e (e.sm t k) := ⟨rfl, rfl⟩

theorem EdMetaEq.out {e₁ e₂ : Editor D L} (h : EdMetaEq e₁ e₂) : ∃ t k, e₂ = e₁.sm t k := by
  obtain ⟨a, st⟩ := e₁
  obtain ⟨b, _⟩ := e₂
  obtain ⟨rfl, hm⟩ := h
  obtain ⟨t, k, rfl⟩ := MetaEq.out hm
  exact ⟨t, k, rfl⟩

/-- related editors, equal return values -/
def ERel {β : Type} (x y : Editor D L × β) : Prop := EdMetaEq x.1 y.1 ∧ x.2 = y.2

theorem MetaEq.last_eq {a b : Shared D L} (h : MetaEq a b) : b.last = a.last := by
  obtain ⟨t, k, rfl⟩ := h.out; rfl

variable {env}

/-! ### `process_keyevent` -/

theorem applyTrans_rel {x y : Shared D L} (h : MetaEq x y) (st : St) (tr : Trans) :
    PRel (applyTrans x st tr) (applyTrans y st tr) := by
  obtain ⟨t, k, rfl⟩ := h.out
  cases tr <;> exact ⟨rfl, rfl⟩

theorem dispatch_sm (hE : MetaBlindEnv env) {e : Editor D L} {t k : Nat} {ev : KeyEvent} :
    ORel PRel (dispatch env e ev) (dispatch env (e.sm t k) ev) := by
  obtain ⟨a, st⟩ := e
  -- the preamble only advances the clock and empties the two buffers
  have hp : preamble (sm a t k) = sm (preamble a) (t + 1) k := rfl
  unfold dispatch
  dsimp only [Editor.sm]
  rw [hp]
  cases st with
  | entering => exact orel_map (enteringNext_sm hE) fun (_, _) (_, _) ⟨hm, hv⟩ => hv ▸ applyTrans_rel hm _ _
  | enteringSyllable => exact orel_map enteringSyllableNext_sm fun (_, _) (_, _) ⟨hm, hv⟩ => hv ▸ applyTrans_rel hm _ _
  | selecting s => exact orel_map selectingNext_sm fun ⟨_, _, _⟩ ⟨_, _, _⟩ ⟨hm, hs, hv⟩ => hs ▸ hv ▸ applyTrans_rel hm _ _
  | highlighting m =>
    exact orel_map highlightingNext_sm fun (_, _, _) (_, _, _) ⟨hm, hv⟩ => by
      cases hv; exact applyTrans_rel hm _ _

/-- the auto-commit after a step that ends in an editing state with the key absorbed -/
theorem autoCommit_rel {a b : Shared D L} (h : MetaEq a b) (st : St) : ORel MetaEq
    (if ((st == .entering || st == .enteringSyllable) && a.last == .absorb) = true then Shared.tryAutoCommit env a else .ok a)
    (if ((st == .entering || st == .enteringSyllable) && b.last == .absorb) = true then Shared.tryAutoCommit env b else .ok b) := by
  rw [h.last_eq]
  exact orel_ite (fun _ => tryAutoCommit_rel h) fun _ => h

/-- the dictionary flush at the end of a key: invisible when `reopen` + `flush` is the identity -/
theorem flush_meta (hE : MetaBlindEnv env) (sh : Shared D L) :
    MetaEq sh (if sh.dirty > 0 then { sh with dict := env.reopenFlush sh.dict, dirty := 0 } else sh) := by
  split
  · rw [hE.flush_id]; cases sh; rfl
  · exact MetaEq.refl _

theorem tail_rel (hE : MetaBlindEnv env) {a b : Shared D L} (h : MetaEq a b) (st : St) :
    ORel ERel (tail env a st) (tail env b st) := by
  unfold tail
  obtain ⟨x, y, h1, h2, hm⟩ | ⟨p, h1, h2⟩ | ⟨h1, h2⟩ := (autoCommit_rel h st).cases <;> rw [h1, h2]
  · have hf := ((flush_meta hE x).symm.trans hm).trans (flush_meta hE y)
    exact ⟨⟨rfl, hf⟩, hf.last_eq.symm⟩
  · rfl
  · trivial

theorem processKey_sm (hE : MetaBlindEnv env) {e : Editor D L} {t k : Nat} {ev : KeyEvent} :
    ORel ERel (e.processKey env ev) ((e.sm t k).processKey env ev) := by
  rw [processKey_eq, processKey_eq]
  obtain ⟨⟨x, s1⟩, ⟨y, _⟩, h1, h2, hm, rfl⟩ | ⟨p, h1, h2⟩ | ⟨h1, h2⟩ := (dispatch_sm hE (e := e) (t := t) (k := k) (ev := ev)).cases <;>
    rw [h1, h2]
  · exact tail_rel hE hm _
  · rfl
  · trivial

/-! ### the API entry points

The calls that neither read nor write the clock and the flush level commute with setting them. -/

theorem leaveIfEmpty_sm (e : Editor D L) (t k : Nat) : (e.sm t k).leaveIfEmpty env = (e.leaveIfEmpty env).sm t k := by
  unfold Editor.leaveIfEmpty
  show (if (env.sylIsEmpty e.shared.syl && e.state == .enteringSyllable) = true then _ else _) = _
  split <;> rfl

theorem leaveIfEmpty_rel {e₁ e₂ : Editor D L} (h : EdMetaEq e₁ e₂) :
    EdMetaEq (e₁.leaveIfEmpty env) (e₂.leaveIfEmpty env) := by
  obtain ⟨t, k, rfl⟩ := h.out
  rw [leaveIfEmpty_sm]
  exact .of_sm _ t k

theorem setOptions_sm (e : Editor D L) (t k : Nat) (o : Options) :
    (e.sm t k).setOptions env o = (e.setOptions env o).sm t k := by
  unfold Editor.setOptions
  rw [← leaveIfEmpty_sm]
  congr 1
  by_cases h : (e.shared.options.languageMode != o.languageMode) = true <;> simp only [Editor.sm, sm_options, h] <;> rfl

/-- `Editor::revalidate_selecting` (F32 repair, the last step of the option / layout / dictionary calls):
    the page count it reads depends on neither the clock nor the flush level -/
theorem revalidate_sm (e : Editor D L) (t k : Nat) : (e.sm t k).revalidate env = (e.revalidate env).map (·.sm t k) := by
  obtain ⟨a, st⟩ := e
  cases st with
  | selecting s =>
    simp only [Editor.revalidate, Editor.sm, totalPage_sm]
    cases Selecting.totalPage env s a with
    | ok tp =>
      dsimp only
      split
      · rfl
      · split <;> rfl
    | panic q => rfl
    | outOfFuel => rfl
  | _ => rfl

theorem orel_map_same {α β : Type} {S : β → β → Prop} {f g : α → β} (h : ∀ a, S (f a) (g a)) (r : Outcome α) :
    ORel S (r.map f) (r.map g) :=
  orel_map (orel_eq (R := Eq) (fun _ => rfl) r) fun a _ e => e ▸ h a

/-- … with the call's return value attached -/
theorem revalidate_rel {e₁ e₂ : Editor D L} (h : EdMetaEq e₁ e₂) (v : Value) :
    ORel ERel ((e₁.revalidate env).map fun e' => (e', v)) ((e₂.revalidate env).map fun e' => (e', v)) := by
  obtain ⟨t, k, rfl⟩ := h.out
  rw [revalidate_sm, Outcome.map_map]
  exact orel_map_same (fun e' => ⟨.of_sm e' t k, rfl⟩) _

variable (env) in
/-- the part of `Editor::select` after `Selecting::select` -/
def afterSelect (p : Shared D L × St) : Outcome (Editor D L × Bool) :=
  match (if (p.2 == .entering || p.2 == .enteringSyllable) && p.1.last == .absorb then Shared.tryAutoCommit env p.1 else .ok p.1) with
  | .ok sh => .ok ({ shared := sh, state := p.2 }, sh.last != .bell)
  | .panic q => .panic q
  | .outOfFuel => .outOfFuel

theorem afterSelect_rel {p q : Shared D L × St} (h : PRel p q) : ORel ERel (afterSelect env p) (afterSelect env q) := by
  obtain ⟨a, st⟩ := p
  obtain ⟨b, _⟩ := q
  obtain ⟨hm, rfl⟩ := h
  unfold afterSelect
  obtain ⟨x, y, h1, h2, hxy⟩ | ⟨p, h1, h2⟩ | ⟨h1, h2⟩ := (autoCommit_rel (env := env) hm st).cases <;> dsimp only <;> rw [h1, h2]
  · exact ⟨⟨rfl, hxy⟩, by dsimp only; rw [hxy.last_eq]⟩
  · rfl
  · trivial

theorem editorSelect_sm {e : Editor D L} {t k n : Nat} : ORel ERel (e.select env n) ((e.sm t k).select env n) := by
  obtain ⟨a, st⟩ := e
  cases st with
  | selecting s =>
    show ORel ERel
      (match Selecting.select env s a n with
        | .ok (s', sh, t) => afterSelect env (applyTrans sh (.selecting s') t)
        | .panic p => .panic p
        | .outOfFuel => .outOfFuel)
      (match Selecting.select env s (sm a t k) n with
        | .ok (s', sh, t) => afterSelect env (applyTrans sh (.selecting s') t)
        | .panic p => .panic p
        | .outOfFuel => .outOfFuel)
    obtain ⟨⟨s1, x, u⟩, ⟨_, y, _⟩, h1, h2, rfl, hm, rfl⟩ | ⟨p, h1, h2⟩ | ⟨h1, h2⟩ :=
      (select_sm (env := env) (a := a) (t := t) (k := k) (s := s) (n := n)).cases <;> rw [h1, h2]
    · exact afterSelect_rel (applyTrans_rel hm _ _)
    · rfl
    · trivial
  | _ => exact ⟨.of_sm _ t k, rfl⟩

theorem editorCommit_sm (hE : MetaBlindEnv env) {e : Editor D L} {t k : Nat} :
    ORel ERel (e.commit env) ((e.sm t k).commit env) := by
  unfold Editor.commit
  refine orel_ite (fun _ => ⟨.of_sm e t k, rfl⟩) fun _ => ?_
  obtain ⟨x, y, h1, h2, hm⟩ | ⟨p, h1, h2⟩ | ⟨h1, h2⟩ := (commit_rel hE (.of_sm e.shared t k)).cases <;>
    dsimp only [Editor.sm] <;> rw [h1, h2]
  · exact ⟨⟨rfl, hm⟩, rfl⟩
  · rfl
  · trivial

variable (env) in
/-- the part of `Editor::start_selecting` after the state's `start_selecting` -/
def afterStart (st : St) (r : StepRes D L) : Outcome (Editor D L × Bool) :=
  match r with
  | .ok (sh, t) =>
    let e' := Editor.leaveIfEmpty env { shared := (applyTrans sh st t).1, state := (applyTrans sh st t).2 }
    .ok (e', match e'.state with
      | .selecting _ => true
      | _ => false)
  | .panic p => .panic p
  | .outOfFuel => .outOfFuel

theorem afterStart_rel (st : St) {r₁ r₂ : StepRes D L} (h : StepRel r₁ r₂) :
    ORel ERel (afterStart env st r₁) (afterStart env st r₂) := by
  obtain ⟨⟨x, u⟩, ⟨y, _⟩, rfl, rfl, hm, rfl⟩ | ⟨p, rfl, rfl⟩ | ⟨rfl, rfl⟩ := h.cases
  · have ha := applyTrans_rel hm st u
    have hl := leaveIfEmpty_rel (env := env)
      (e₁ := { shared := (applyTrans x st u).1, state := (applyTrans x st u).2 })
      (e₂ := { shared := (applyTrans y st u).1, state := (applyTrans y st u).2 }) ⟨ha.2, ha.1⟩
    exact ⟨hl, by dsimp only [afterStart]; rw [hl.1]⟩
  · rfl
  · trivial

theorem editorStartSelecting_sm {e : Editor D L} {t k : Nat} :
    ORel ERel (e.startSelecting env) ((e.sm t k).startSelecting env) := by
  obtain ⟨a, st⟩ := e
  refine afterStart_rel st ?_
  cases st with
  | entering => exact startSelecting_sm
  | enteringSyllable => exact startSelecting_sm
  | _ => exact ⟨rfl, rfl⟩

/-- `Editor::jump_to_{first,last,next,prev}_selection_point`: reads the dictionary only -/
theorem jump_sm (e : Editor D L) (t k w : Nat) :
    (e.sm t k).jump env w = (e.jump env w).map fun r => (r.1.sm t k, r.2) := by
  obtain ⟨a, st⟩ := e
  unfold Editor.jump
  dsimp only [Editor.sm, sm_dict]
  split
  · split
    · split
      · split <;> rfl
      · split <;> rfl
      · split <;> rfl
      · split <;> rfl
    · rfl
  · rfl

/-! ### every operation -/

/-- **the step property**: related editors answer every operation alike -/
theorem applyR_rel (hE : MetaBlindEnv env) {e₁ e₂ : Editor D L} (h : EdMetaEq e₁ e₂) (o : Op L) :
    ORel ERel (e₁.applyR env o) (e₂.applyR env o) := by
  have hval : ∀ {β : Type} (f : β → Value) {r₁ r₂ : Outcome (Editor D L × β)}, ORel ERel r₁ r₂ →
      ORel ERel (r₁.map fun r => (r.1, f r.2)) (r₂.map fun r => (r.1, f r.2)) :=
    fun f _ _ hr => orel_map hr fun _ _ ⟨hm, hv⟩ => ⟨hm, congrArg f hv⟩
  obtain ⟨t, k, rfl⟩ := h.out
  cases o with
  | key ev => exact hval .kb (processKey_sm hE)
  | select n => exact hval .bool editorSelect_sm
  | startSelecting => exact hval .bool editorStartSelecting_sm
  | cancelSelecting =>
    obtain ⟨a, st⟩ := e₁
    cases st <;> exact ⟨.of_sm _ t k, rfl⟩
  | commit => exact hval .bool (editorCommit_sm hE)
  | clear => exact ⟨.of_sm _ t k, rfl⟩
  | ack => exact ⟨.of_sm _ t k, rfl⟩
  | clearSyl => exact ⟨leaveIfEmpty_rel (.of_sm _ t k), rfl⟩
  | setOptions o => exact revalidate_rel (setOptions_sm e₁ t k o ▸ .of_sm _ t k) _
  | setLayout l => exact revalidate_rel (leaveIfEmpty_rel (.of_sm _ t k)) _
  | setEngine g => exact ⟨.of_sm _ t k, rfl⟩
  | learn ks p =>
    simp only [Editor.applyR]
    obtain ⟨⟨x, u⟩, ⟨y, _⟩, h1, h2, hm, rfl⟩ | ⟨q, h1, h2⟩ | ⟨h1, h2⟩ :=
      (learnPhrase_rel hE (.of_sm e₁.shared t k) ks p).cases <;> dsimp only [Editor.sm] <;> rw [h1, h2]
    · exact revalidate_rel (e₁ := { e₁ with shared := x }) (e₂ := { e₁ with shared := y }) ⟨rfl, hm⟩ _
    · rfl
    · trivial
  | unlearn ks p =>
    exact revalidate_rel (e₁ := { e₁ with shared := Shared.unlearnPhrase env e₁.shared ks p })
      (e₂ := { e₁ with shared := Shared.unlearnPhrase env (sm e₁.shared t k) ks p })
      ⟨rfl, unlearnPhrase_rel (.of_sm _ t k) ks p⟩ _
  | jump w =>
    simp only [Editor.applyR, jump_sm, Outcome.map_map]
    exact orel_map_same (fun r => ⟨.of_sm r.1 t k, rfl⟩) _

variable (env) in
/-- the step property in the form `ResetFreshModuloClock` (Props/C17) asks for, all 14 operations -/
theorem applyR_metaEq (hE : MetaBlindEnv env) : ∀ (e₁ e₂ : Editor D L) (o : Op L), EdMetaEq e₁ e₂ →
    match e₁.applyR env o, e₂.applyR env o with
    | .ok (a₁, v₁), .ok (a₂, v₂) => EdMetaEq a₁ a₂ ∧ v₁ = v₂
    | .panic p, .panic q => p = q
    | .outOfFuel, .outOfFuel => True
    | _, _ => False := by
  intro e₁ e₂ o h
  rcases (applyR_rel hE h o).cases with ⟨⟨a₁, v₁⟩, ⟨a₂, v₂⟩, h1, h2, hr⟩ | ⟨p, h1, h2⟩ | ⟨h1, h2⟩ <;> rw [h1, h2]
  · exact hr
  · trivial

end Chewing
