import Chewing.Proofs.TrieOrderIndep
/-!
Which rearrangements of an insert sequence keep the map key ↦ phrase vector (`refFind`):

* `SameKeyOrder es es'` — for every key the inserts with that key form the same list (a decidable statement per key);
* `KeySwap es es'` — generated by swapping two ADJACENT inserts with DIFFERENT keys (reflexive, transitive);
* `KeySwap ↔ SameKeyOrder` (`keySwap_iff`): the adjacent swaps reach exactly the rearrangements that keep the
  relative order of the inserts of every key;
* both preserve `refFind` (`refFind_sameKeyOrder`).
-/
namespace Chewing.TrieCodec

/-- the inserts with key `k`, in order -/
def keyInserts (es : List Entry) (k : List Nat) : List Entry := es.filter (fun e => e.1 == k)

/-- for every key, the same inserts in the same order -/
def SameKeyOrder (es es' : List Entry) : Prop := ∀ k, keyInserts es k = keyInserts es' k

/-- rearrangements generated by swapping two adjacent inserts with different keys -/
inductive KeySwap : List Entry → List Entry → Prop
  | refl (es : List Entry) : KeySwap es es
  | swap (l r : List Entry) (e1 e2 : Entry) : e1.1 ≠ e2.1 → KeySwap (l ++ e1 :: e2 :: r) (l ++ e2 :: e1 :: r)
  | trans {a b c : List Entry} : KeySwap a b → KeySwap b c → KeySwap a c

theorem keyInserts_cons (e : Entry) (es : List Entry) (k : List Nat) :
    keyInserts (e :: es) k = if e.1 = k then e :: keyInserts es k else keyInserts es k := by
  simp only [keyInserts, List.filter_cons, beq_iff_eq]

theorem keyInserts_append (a b : List Entry) (k : List Nat) : keyInserts (a ++ b) k = keyInserts a k ++ keyInserts b k :=
  List.filter_append ..

theorem keyInserts_eq_nil {l : List Entry} {k : List Nat} (h : ∀ x ∈ l, x.1 ≠ k) : keyInserts l k = [] :=
  List.filter_eq_nil_iff.mpr fun x hx => by simpa using h x hx

/-- the map depends on the inserts of the key only -/
theorem refFind_filter (es : List Entry) (k : List Nat) : refFind es k = refFind (keyInserts es k) k := by
  unfold refFind
  generalize (none : Option (List Phrase)) = acc
  induction es generalizing acc with
  | nil => rfl
  | cons e es ih =>
    rw [keyInserts_cons, List.foldl_cons, ih]
    split
    · next h => rw [List.foldl_cons, if_pos h]
    · rfl

theorem refFind_sameKeyOrder {es es' : List Entry} (h : SameKeyOrder es es') (k : List Nat) :
    refFind es k = refFind es' k := by
  rw [refFind_filter es k, refFind_filter es' k, h k]

namespace KeySwap

theorem sameKeyOrder {es es' : List Entry} (h : KeySwap es es') : SameKeyOrder es es' := by
  induction h with
  | refl es => exact fun _ => rfl
  | swap l r e1 e2 hne =>
    intro k
    simp only [keyInserts_append, keyInserts_cons]
    by_cases h1 : e1.1 = k
    · have h2 : ¬e2.1 = k := fun h2 => hne (h1.trans h2.symm)
      simp only [if_pos h1, if_neg h2]
    · simp only [if_neg h1]
  | trans _ _ ih1 ih2 => exact fun k => (ih1 k).trans (ih2 k)

theorem cons (e : Entry) {a b : List Entry} (h : KeySwap a b) : KeySwap (e :: a) (e :: b) := by
  induction h with
  | refl es => exact .refl _
  | swap l r e1 e2 hne => exact .swap (e :: l) r e1 e2 hne
  | trans _ _ ih1 ih2 => exact .trans ih1 ih2

/-- an insert moves to the front across inserts of other keys -/
theorem bubble (e : Entry) (l r : List Entry) (hl : ∀ x ∈ l, x.1 ≠ e.1) : KeySwap (e :: (l ++ r)) (l ++ e :: r) := by
  induction l with
  | nil => exact .refl _
  | cons x l ih =>
    exact .trans (.swap [] (l ++ r) e x fun h => hl x List.mem_cons_self h.symm)
      (.cons x (ih fun y hy => hl y (List.mem_cons_of_mem _ hy)))

theorem perm {es es' : List Entry} (h : KeySwap es es') : es.Perm es' := by
  induction h with
  | refl es => exact .refl _
  | swap l r e1 e2 _ => exact .append_left l (.swap e2 e1 r)
  | trans _ _ ih1 ih2 => exact ih1.trans ih2

end KeySwap

/-- the first insert of `es` is, in `es'`, preceded by inserts of other keys only -/
theorem split_first (e : Entry) :
    ∀ (es' : List Entry), (keyInserts es' e.1).head? = some e →
      ∃ l r, es' = l ++ e :: r ∧ ∀ x ∈ l, x.1 ≠ e.1
  | [], h => nomatch h
  | x :: es', h => by
    rw [keyInserts_cons] at h
    split at h
    · cases h
      exact ⟨[], es', rfl, nofun⟩
    · next hx =>
      obtain ⟨l, r, rfl, hl⟩ := split_first e es' h
      exact ⟨x :: l, r, rfl, List.forall_mem_cons.mpr ⟨hx, hl⟩⟩

theorem keySwap_of_sameKeyOrder : ∀ (es es' : List Entry), SameKeyOrder es es' → KeySwap es es'
  | [], [], _ => .refl _
  | [], x :: es', h => by
    have := h x.1
    rw [keyInserts_cons, if_pos rfl] at this
    cases this
  | e :: es, es', h => by
    obtain ⟨l, r, rfl, hl⟩ := split_first e es' (by rw [← h e.1, keyInserts_cons, if_pos rfl]; rfl)
    refine .trans (.cons e (keySwap_of_sameKeyOrder es (l ++ r) fun k => ?_)) (.bubble e l r hl)
    have := h k
    rw [keyInserts_cons, keyInserts_append, keyInserts_cons] at this
    rw [keyInserts_append]
    by_cases hk : e.1 = k
    · subst hk
      rw [if_pos rfl, if_pos rfl, keyInserts_eq_nil hl] at this
      rw [keyInserts_eq_nil hl]
      exact (List.cons.inj this).2
    · rwa [if_neg hk, if_neg hk] at this

/-- adjacent swaps of inserts with different keys reach exactly the rearrangements that keep every key's inserts
    in their order -/
theorem keySwap_iff (es es' : List Entry) : KeySwap es es' ↔ SameKeyOrder es es' :=
  ⟨KeySwap.sameKeyOrder, keySwap_of_sameKeyOrder es es'⟩

end Chewing.TrieCodec
