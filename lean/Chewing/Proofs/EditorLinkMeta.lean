import Chewing.Proofs.EditorPure
/-!
Frame proof for C17: the estimator clock (`Shared.time`) and the pending flush level (`Shared.dirty`)
are unobservable, for environments in which time stamps and flushing are unobservable (`MetaBlindEnv`).

`MetaEq a b`: the shared states `a` and `b` agree on every field except (possibly) `time` and `dirty`.
`ORel R`: two outcomes are both `ok` with `R`-related values, or the same panic, or both out of fuel.
One lemma per function of the editor state machine (`Model/Editor.lean`): run from `a` and from
`sm a t k` (`a` with another clock and flush level) it gives related results; the learning functions, after
which the flush levels differ by more than the input's, are stated for any two related states.  This file:
the shared-state level and the four states' `next`; `EditorLinkMeta2.lean`: `processKey` and the API entry
points.
-/
namespace Chewing

variable {D L : Type} (env : Env D L)

/-- environments in which time stamps and flushing are unobservable -/
structure MetaBlindEnv (env : Env D L) : Prop where
  estimate_clock : ∀ t t' f m, env.estimate t f m = env.estimate t' f m
  update_clock : ∀ d k p f t t', env.updatePhrase d k p f t = env.updatePhrase d k p f t'
  flush_id : ∀ d, env.reopenFlush d = d

/-- set the clock and the flush level -/
def sm (sh : Shared D L) (t k : Nat) : Shared D L := { sh with time := t, dirty := k }

/-- equal up to the clock and the flush level -/
def MetaEq (a b : Shared D L) : Prop := b = { a with time := b.time, dirty := b.dirty }

theorem MetaEq.out {a b : Shared D L} (h : MetaEq a b) : ∃ t k, b = sm a t k := ⟨b.time, b.dirty, h⟩

theorem MetaEq.of_sm (a : Shared D L) (t k : Nat) : MetaEq a (sm a t k) := rfl

theorem MetaEq.refl (a : Shared D L) : MetaEq a a := by cases a; rfl

theorem MetaEq.symm {a b : Shared D L} (h : MetaEq a b) : MetaEq b a := by
  obtain ⟨t, k, rfl⟩ := h.out; cases a; rfl

theorem MetaEq.trans {a b c : Shared D L} (h1 : MetaEq a b) (h2 : MetaEq b c) : MetaEq a c := by
  obtain ⟨t, k, rfl⟩ := h1.out; obtain ⟨t', k', rfl⟩ := h2.out; rfl

section proj
variable (sh : Shared D L) (t k : Nat)
theorem sm_com : (sm sh t k).com = sh.com := rfl
theorem sm_syl : (sm sh t k).syl = sh.syl := rfl
theorem sm_engine : (sm sh t k).engine = sh.engine := rfl
theorem sm_dict : (sm sh t k).dict = sh.dict := rfl
theorem sm_abbr : (sm sh t k).abbr = sh.abbr := rfl
theorem sm_symSel : (sm sh t k).symSel = sh.symSel := rfl
theorem sm_time : (sm sh t k).time = t := rfl
theorem sm_options : (sm sh t k).options = sh.options := rfl
theorem sm_last : (sm sh t k).last = sh.last := rfl
theorem sm_dirty : (sm sh t k).dirty = k := rfl
theorem sm_nth : (sm sh t k).nth = sh.nth := rfl
theorem sm_commitBuf : (sm sh t k).commitBuf = sh.commitBuf := rfl
theorem sm_noticeBuf : (sm sh t k).noticeBuf = sh.noticeBuf := rfl
end proj

/-! ### readers: functions of fields other than the clock and the flush level -/

theorem conversion_sm (sh : Shared D L) (t k : Nat) : Shared.conversion env (sm sh t k) = Shared.conversion env sh := rfl
theorem display_sm (sh : Shared D L) (t k : Nat) : Shared.display env (sm sh t k) = Shared.display env sh := rfl
theorem candidates_sm (s : Selecting) (sh : Shared D L) (t k : Nat) :
    Selecting.candidates env s (sm sh t k) = Selecting.candidates env s sh := rfl
theorem totalPage_sm (s : Selecting) (sh : Shared D L) (t k : Nat) :
    Selecting.totalPage env s (sm sh t k) = Selecting.totalPage env s sh := rfl
theorem offset_sm (s : Selecting) (sh : Shared D L) (t k n : Nat) :
    Selecting.offset s (sm sh t k) n = Selecting.offset s sh n := rfl
theorem newSymbol_sm (sh : Shared D L) (t k : Nat) : newSymbol (sm sh t k) = newSymbol sh := rfl

/-- normalise the projections of `sm sh t k` (so that both sides test the same conditions) -/
macro "sm_norm" : tactic =>
  `(tactic| try dsimp only [sm_com, sm_syl, sm_engine, sm_dict, sm_abbr, sm_symSel, sm_time, sm_options, sm_last,
      sm_dirty, sm_nth, sm_commitBuf, sm_noticeBuf, conversion_sm, display_sm, candidates_sm, totalPage_sm,
      offset_sm, newSymbol_sm])

/-- both `ok` with related values, or the same panic, or both out of fuel -/
def ORel {α : Type} (R : α → α → Prop) : Outcome α → Outcome α → Prop
  | .ok a, .ok b => R a b
  | .panic p, .panic q => p = q
  | .outOfFuel, .outOfFuel => True
  | _, _ => False

theorem ORel.cases {α : Type} {R : α → α → Prop} {r₁ r₂ : Outcome α} (h : ORel R r₁ r₂) :
    (∃ a b, r₁ = .ok a ∧ r₂ = .ok b ∧ R a b) ∨ (∃ p, r₁ = .panic p ∧ r₂ = .panic p) ∨
      (r₁ = .outOfFuel ∧ r₂ = .outOfFuel) :=
  match r₁, r₂, h with
  | .ok a, .ok b, h => .inl ⟨a, b, rfl, rfl, h⟩
  | .panic p, .panic _, rfl => .inr (.inl ⟨p, rfl, rfl⟩)
  | .outOfFuel, .outOfFuel, _ => .inr (.inr ⟨rfl, rfl⟩)

theorem orel_ite {α : Type} {R : α → α → Prop} {c : Prop} [Decidable c] {a a' b b' : Outcome α}
    (h1 : c → ORel R a a') (h2 : ¬c → ORel R b b') : ORel R (if c then a else b) (if c then a' else b') := by
  split
  · exact h1 ‹_›
  · exact h2 ‹_›

theorem ORel.ok {α : Type} {R : α → α → Prop} {a b : α} (h : R a b) : ORel R (.ok a) (.ok b) := h

theorem orel_panic {α : Type} {R : α → α → Prop} (p : String) : ORel R (.panic p) (.panic p) := rfl
theorem orel_fuel {α : Type} {R : α → α → Prop} : ORel R (.outOfFuel : Outcome α) .outOfFuel := trivial

theorem orel_eq {α : Type} {R : α → α → Prop} (hR : ∀ a, R a a) (r : Outcome α) : ORel R r r := by
  cases r with
  | ok a => exact hR a
  | panic p => rfl
  | outOfFuel => trivial

/-- a strict continuation keeps outcomes related (the `match` on an outcome that passes a panic and an
    exhausted fuel on is `Outcome.bind`) -/
theorem orel_bind {α β : Type} {R : α → α → Prop} {S : β → β → Prop} {f g : α → Outcome β} :
    ∀ {r₁ r₂ : Outcome α}, ORel R r₁ r₂ → (∀ a b, R a b → ORel S (f a) (g b)) → ORel S (r₁.bind f) (r₂.bind g)
  | .ok a, .ok b, h, hf => hf a b h
  | .panic _, .panic _, h, _ => h
  | .outOfFuel, .outOfFuel, _, _ => trivial

theorem orel_map {α β : Type} {R : α → α → Prop} {S : β → β → Prop} {f g : α → β} {r₁ r₂ : Outcome α}
    (h : ORel R r₁ r₂) (hf : ∀ a b, R a b → S (f a) (g b)) : ORel S (r₁.map f) (r₂.map g) :=
  orel_bind (f := fun a => .ok (f a)) (g := fun b => .ok (g b)) h hf

/-- related shared states, equal second components -/
def PRel {β : Type} (x y : Shared D L × β) : Prop := MetaEq x.1 y.1 ∧ x.2 = y.2

/-- step results of `Entering` / `EnteringSyllable` -/
abbrev StepRel (r₁ r₂ : StepRes D L) : Prop := ORel PRel r₁ r₂

/-! ### the steps that neither read nor write the clock and the flush level

Each function is run from `a` and from `sm a t k`.  Both runs test the same conditions (`sm_norm`), so they
take the same arm, and where an arm builds its result itself the two results are `x` and `sm x t k` again:
the leaf `⟨rfl, rfl⟩`. -/

section steps
variable {env} {a : Shared D L} {t k : Nat}

theorem withCom_sm {r : Outcome CompEditor} {k₁ k₂ : Shared D L → StepRes D L}
    (hk : ∀ c, StepRel (k₁ { a with com := c }) (k₂ { sm a t k with com := c })) :
    StepRel (withCom a r k₁) (withCom (sm a t k) r k₂) := by
  cases r with
  | ok c => exact hk c
  | panic p => rfl
  | outOfFuel => trivial

theorem withCom_absorb_sm {r : Outcome CompEditor} :
    StepRel (withCom a r fun sh => .ok (sh, .spin .absorb)) (withCom (sm a t k) r fun sh => .ok (sh, .spin .absorb)) :=
  withCom_sm fun _ => ⟨rfl, rfl⟩

theorem commitOrInsert_sm {ch : Nat} : StepRel (commitOrInsert a ch) (commitOrInsert (sm a t k) ch) :=
  orel_ite (fun _ => ⟨rfl, rfl⟩) fun _ => withCom_absorb_sm

theorem inputChar_sm {ev : KeyEvent} : StepRel (inputChar a ev) (inputChar (sm a t k) ev) := by
  unfold inputChar fullOrBell
  sm_norm
  split
  · exact commitOrInsert_sm
  · split
    · exact commitOrInsert_sm
    · exact ⟨rfl, rfl⟩

theorem chineseFallback_sm {ev : KeyEvent} : StepRel (chineseFallback a ev) (chineseFallback (sm a t k) ev) := by
  unfold chineseFallback
  split
  · exact withCom_absorb_sm
  · exact orel_ite (fun _ => inputChar_sm) fun _ => ⟨rfl, rfl⟩

/-! ### opening a candidate list -/

theorem newPhrase_sm : StepRel (newPhrase env a) (newPhrase env (sm a t k)) := by
  unfold newPhrase
  sm_norm
  split
  · exact ⟨rfl, rfl⟩
  · rfl
  · trivial

theorem newPhraseSimple_sm : StepRel (newPhraseSimple a) (newPhraseSimple (sm a t k)) := by
  unfold newPhraseSimple
  sm_norm
  split
  · exact ⟨rfl, rfl⟩
  · rfl
  · trivial

theorem newSpecialSymbol_sm {sym : Sym} : StepRel (newSpecialSymbol a sym) (newSpecialSymbol (sm a t k) sym) := by
  unfold newSpecialSymbol
  sm_norm
  split
  · exact ⟨rfl, rfl⟩
  · exact ⟨rfl, rfl⟩
  · rfl
  · trivial

theorem openSymbol_sm : StepRel (openSymbol env a) (openSymbol env (sm a t k)) := by
  unfold openSymbol
  sm_norm
  split
  · exact ⟨rfl, rfl⟩
  · exact ⟨rfl, rfl⟩
  · rfl
  · trivial

variable (env) in
/-- what `openPhrase` and `openSpecialSymbol` do with the list just made: one without candidates is not opened
    (`openPhrase env sh = openIfAny env (newPhrase env sh)` by `rfl`, likewise `openSpecialSymbol`; the `_sm` lemmas below
    rely on it) -/
def openIfAny (r : StepRes D L) : StepRes D L :=
  match r with
  | .ok (sh', .toState (.selecting s)) =>
    match Selecting.candidates env s sh' with
    | .ok [] => .ok (Shared.cancelSelecting sh', .spin .ignore)
    | .ok _ => .ok (sh', .toState (.selecting s))
    | .panic p => .panic p
    | .outOfFuel => .outOfFuel
  | r => r

theorem openIfAny_rel {r₁ r₂ : StepRes D L} (h : StepRel r₁ r₂) : StepRel (openIfAny env r₁) (openIfAny env r₂) := by
  obtain ⟨⟨x, u⟩, ⟨_, _⟩, rfl, rfl, hm, rfl⟩ | ⟨p, rfl, rfl⟩ | ⟨rfl, rfl⟩ := h.cases
  · obtain ⟨t, k, rfl⟩ := MetaEq.out hm
    cases u with
    | spin b => exact ⟨rfl, rfl⟩
    | toState st =>
      cases st with
      | selecting s =>
        unfold openIfAny
        sm_norm
        split
        · exact ⟨rfl, rfl⟩
        · exact ⟨rfl, rfl⟩
        · rfl
        · trivial
      | _ => exact ⟨rfl, rfl⟩
  · rfl
  · trivial

theorem openPhrase_sm : StepRel (openPhrase env a) (openPhrase env (sm a t k)) :=
  openIfAny_rel newPhrase_sm

theorem openSpecialSymbol_sm {sym : Sym} :
    StepRel (openSpecialSymbol env a sym) (openSpecialSymbol env (sm a t k) sym) :=
  openIfAny_rel newSpecialSymbol_sm

theorem startSelecting_sm : StepRel (startSelecting env a) (startSelecting env (sm a t k)) := by
  unfold startSelecting
  sm_norm
  split
  · exact orel_ite (fun _ => openPhrase_sm) fun _ => openSpecialSymbol_sm
  · exact ⟨rfl, rfl⟩

theorem startSelectingOrInputSpace_sm :
    StepRel (startSelectingOrInputSpace env a) (startSelectingOrInputSpace env (sm a t k)) := by
  unfold startSelectingOrInputSpace
  sm_norm
  split
  · exact orel_ite (fun _ => openPhrase_sm) fun _ => openSpecialSymbol_sm
  · exact orel_ite (fun _ => ⟨rfl, rfl⟩) fun _ => ⟨rfl, rfl⟩

end steps

/-! ### learning: the only readers of the clock, the only writers of the flush level

After a phrase has been learned the two runs differ by another flush level than before, so these are
stated for any two related states. -/

section learning
variable {env} {a b : Shared D L}

/-- `learn_phrase`: the estimate does not depend on the clock, the stored time stamp is unobservable -/
theorem learnPhrase_rel (hE : MetaBlindEnv env) (h : MetaEq a b) (syls : List Nat) (phrase : Text) :
    ORel PRel (Shared.learnPhrase env a syls phrase) (Shared.learnPhrase env b syls phrase) := by
  obtain ⟨t, k, rfl⟩ := h.out
  unfold Shared.learnPhrase
  sm_norm
  refine orel_ite (fun _ => ⟨rfl, rfl⟩) fun _ => orel_ite (fun _ => ?_) fun _ => ?_
  · split <;> exact ⟨rfl, rfl⟩
  · rw [hE.estimate_clock t a.time]
    split
    · rw [hE.update_clock _ _ _ _ t a.time]; exact ⟨rfl, rfl⟩
    · rfl
    · trivial

theorem unlearnPhrase_rel (h : MetaEq a b) (syls : List Nat) (phrase : Text) :
    MetaEq (Shared.unlearnPhrase env a syls phrase) (Shared.unlearnPhrase env b syls phrase) := by
  obtain ⟨t, k, rfl⟩ := h.out
  rfl

theorem learnInRangeQuiet_rel (h : MetaEq a b) (start stop : Nat) :
    ORel PRel (Shared.learnInRangeQuiet env a start stop) (Shared.learnInRangeQuiet env b start stop) := by
  obtain ⟨t, k, rfl⟩ := h.out
  unfold Shared.learnInRangeQuiet
  sm_norm
  refine orel_ite (fun _ => ⟨rfl, rfl⟩) fun _ => ?_
  split
  · rfl
  · trivial
  · refine orel_ite (fun _ => ⟨rfl, rfl⟩) fun _ => ?_
    split
    · rfl
    · trivial
    · refine orel_ite (fun _ => ⟨rfl, rfl⟩) fun _ => ?_
      split <;> exact ⟨rfl, rfl⟩

theorem MetaEq.setNotice (h : MetaEq a b) (m : Text) :
    MetaEq { a with noticeBuf := m } { b with noticeBuf := m } := by
  obtain ⟨t, k, rfl⟩ := h.out; rfl

theorem learnInRangeNotify_rel (h : MetaEq a b) (start stop : Nat) :
    ORel PRel (Shared.learnInRangeNotify env a start stop) (Shared.learnInRangeNotify env b start stop) := by
  unfold Shared.learnInRangeNotify
  obtain ⟨⟨x, e⟩, ⟨y, _⟩, h1, h2, hm, rfl⟩ | ⟨p, h1, h2⟩ | ⟨h1, h2⟩ := (learnInRangeQuiet_rel h start stop).cases <;>
    rw [h1, h2]
  · cases e <;> exact ⟨hm.setNotice _, rfl⟩
  · rfl
  · trivial

theorem learnTrans_rel {r₁ r₂ : Outcome (Shared D L × Bool)} (h : ORel PRel r₁ r₂) :
    StepRel (learnTrans r₁) (learnTrans r₂) := by
  obtain ⟨⟨x, _⟩, ⟨y, _⟩, rfl, rfl, hm, rfl⟩ | ⟨p, rfl, rfl⟩ | ⟨rfl, rfl⟩ := h.cases
  · exact ⟨hm, rfl⟩
  · rfl
  · trivial

theorem autoLearn_flush_rel (hE : MetaBlindEnv env) (h : MetaEq a b) (pending : Text) (syls : List Sym) :
    ORel MetaEq (Shared.autoLearn.flush env a pending syls) (Shared.autoLearn.flush env b pending syls) := by
  unfold Shared.autoLearn.flush
  refine orel_ite (fun _ => h) fun _ => ?_
  obtain ⟨x, y, h1, h2, hm⟩ | ⟨p, h1, h2⟩ | ⟨h1, h2⟩ := (learnPhrase_rel hE h (sylPrefix syls) pending).cases <;>
    rw [h1, h2]
  · exact hm.1
  · rfl
  · trivial

theorem MetaEq.com_eq (h : MetaEq a b) : b.com = a.com := by
  obtain ⟨t, k, rfl⟩ := h.out; rfl

theorem autoLearn_go_rel (hE : MetaBlindEnv env) (ivs : List Interval) :
    ∀ {a b : Shared D L}, MetaEq a b → ∀ (pending : Text) (syls : List Sym),
      ORel MetaEq (Shared.autoLearn.go env a ivs pending syls) (Shared.autoLearn.go env b ivs pending syls) := by
  induction ivs with
  | nil => intro a b h pending syls; exact autoLearn_flush_rel hE h pending syls
  | cons iv rest ih =>
    intro a b h pending syls
    unfold Shared.autoLearn.go
    rw [h.com_eq]
    refine orel_ite (fun _ => rfl) fun _ => orel_ite (fun _ => ?_) fun _ => ?_
    · split
      · exact ih h _ _
      · rfl
      · trivial
    · obtain ⟨a1, b1, h1, h2, hm⟩ | ⟨p, h1, h2⟩ | ⟨h1, h2⟩ := (autoLearn_flush_rel hE h pending syls).cases <;>
        rw [h1, h2]
      · dsimp only
        rw [hm.com_eq]
        refine orel_ite (fun _ => ?_) fun _ => ih hm _ _
        split
        · next ss _ =>
          obtain ⟨a2, b2, h3, h4, hm2⟩ | ⟨p, h3, h4⟩ | ⟨h3, h4⟩ := (learnPhrase_rel hE hm (sylPrefix ss) iv.text).cases <;>
            rw [h3, h4]
          · exact ih hm2.1 _ _
          · rfl
          · trivial
        · rfl
        · trivial
      · rfl
      · trivial

theorem MetaEq.commitFields (h : MetaEq a b) (buf : Text) :
    MetaEq { a with commitBuf := buf, com := a.com.clear, nth := 0, last := .commit }
      { b with commitBuf := buf, com := b.com.clear, nth := 0, last := .commit } := by
  obtain ⟨t, k, rfl⟩ := h.out; rfl

theorem commit_rel (hE : MetaBlindEnv env) (h : MetaEq a b) : ORel MetaEq (Shared.commit env a) (Shared.commit env b) := by
  have hl : ∀ ivs, ORel MetaEq
      (if (!a.options.disableAutoLearnPhrase) = true then Shared.autoLearn env { a with commitBuf := [] } ivs
        else .ok { a with commitBuf := [] })
      (if (!b.options.disableAutoLearnPhrase) = true then Shared.autoLearn env { b with commitBuf := [] } ivs
        else .ok { b with commitBuf := [] }) := by
    obtain ⟨t, k, rfl⟩ := h.out
    exact fun ivs => orel_ite (fun _ => autoLearn_go_rel hE ivs (.of_sm { a with commitBuf := [] } t k) [] [])
      fun _ => .ok (.of_sm { a with commitBuf := [] } t k)
  unfold Shared.commit
  rw [show Shared.conversion env b = Shared.conversion env a by obtain ⟨t, k, rfl⟩ := h.out; rfl]
  split
  · rfl
  · trivial
  · next ivs _ =>
    obtain ⟨x, y, h1, h2, hm⟩ | ⟨p, h1, h2⟩ | ⟨h1, h2⟩ := (hl ivs).cases <;> dsimp only <;> rw [h1, h2]
    · exact hm.commitFields _
    · rfl
    · trivial

theorem tryAutoCommit_rel (h : MetaEq a b) : ORel MetaEq (Shared.tryAutoCommit env a) (Shared.tryAutoCommit env b) := by
  obtain ⟨t, k, rfl⟩ := h.out
  unfold Shared.tryAutoCommit
  sm_norm
  refine orel_ite (fun _ => rfl) fun _ => ?_
  split
  · rfl
  · trivial
  · split
    · split
      · exact .ok rfl
      · rfl
      · trivial
    · rfl
    · trivial

end learning

section steps
variable {env} {a : Shared D L} {t k : Nat}

/-! ### `Entering` -/

theorem enteringCtrlDigit_sm {c : Nat} : StepRel (enteringCtrlDigit env a c) (enteringCtrlDigit env (sm a t k) c) := by
  unfold enteringCtrlDigit
  refine orel_ite (fun _ => openSymbol_sm) fun _ => ?_
  sm_norm
  split
  · exact learnTrans_rel (learnInRangeNotify_rel (.of_sm a t k) _ _)
  · exact orel_ite (fun _ => learnTrans_rel (learnInRangeNotify_rel (.of_sm a t k) _ _)) fun _ => ⟨rfl, rfl⟩

theorem enteringDefault_sm {ev : KeyEvent} : StepRel (enteringDefault env a ev) (enteringDefault env (sm a t k) ev) := by
  unfold enteringDefault
  sm_norm
  split
  · refine orel_ite (fun _ => openSymbol_sm) fun _ => orel_ite (fun _ => inputChar_sm) fun _ =>
      orel_ite (fun _ => ?_) fun _ => ?_
    · split
      · exact withCom_absorb_sm
      · split
        · exact withCom_absorb_sm
        · exact orel_ite (fun _ => orel_ite (fun _ => ⟨rfl, rfl⟩) fun _ => ⟨rfl, rfl⟩) fun _ => ⟨rfl, rfl⟩
    · exact orel_ite (fun _ => orel_ite (fun _ => ⟨rfl, rfl⟩) fun _ => chineseFallback_sm) fun _ => chineseFallback_sm
  · exact inputChar_sm

theorem enteringTabInside_sm : StepRel (enteringTabInside env a) (enteringTabInside env (sm a t k)) := by
  unfold enteringTabInside
  sm_norm
  split
  · exact orel_ite (fun _ => withCom_absorb_sm) fun _ => withCom_absorb_sm
  · rfl
  · trivial

theorem enteringEnter_sm (hE : MetaBlindEnv env) : StepRel (enteringEnter env a) (enteringEnter env (sm a t k)) := by
  unfold enteringEnter
  obtain ⟨x, y, h1, h2, hm⟩ | ⟨p, h1, h2⟩ | ⟨h1, h2⟩ := (commit_rel hE (.of_sm a t k)).cases <;> rw [h1, h2]
  · exact ⟨hm, rfl⟩
  · rfl
  · trivial

theorem enteringNext_sm (hE : MetaBlindEnv env) {ev : KeyEvent} :
    StepRel (enteringNext env a ev) (enteringNext env (sm a t k) ev) :=
  orel_ite (fun _ => orel_ite (fun _ => ⟨rfl, rfl⟩) fun _ => withCom_absorb_sm) fun _ =>
  orel_ite (fun _ => ⟨rfl, rfl⟩) fun _ =>
  orel_ite (fun _ => enteringCtrlDigit_sm) fun _ =>
  orel_ite (fun _ => ⟨rfl, rfl⟩) fun _ =>
  orel_ite (fun _ => ⟨rfl, rfl⟩) fun _ =>
  orel_ite (fun _ => enteringTabInside_sm) fun _ =>
  orel_ite (fun _ => orel_ite (fun _ => ⟨rfl, rfl⟩) fun _ => withCom_absorb_sm) fun _ =>
  orel_ite (fun _ => ⟨rfl, rfl⟩) fun _ =>
  orel_ite (fun _ => orel_ite (fun _ => ⟨rfl, rfl⟩) fun _ => ⟨rfl, rfl⟩) fun _ =>
  orel_ite (fun _ => orel_ite (fun _ => ⟨rfl, rfl⟩) fun _ => ⟨rfl, rfl⟩) fun _ =>
  orel_ite (fun _ => ⟨rfl, rfl⟩) fun _ =>
  orel_ite (fun _ => ⟨rfl, rfl⟩) fun _ =>
  orel_ite (fun _ => ⟨rfl, rfl⟩) fun _ =>
  orel_ite (fun _ => ⟨rfl, rfl⟩) fun _ =>
  orel_ite (fun _ => startSelectingOrInputSpace_sm) fun _ =>
  orel_ite (fun _ => startSelecting_sm) fun _ =>
  orel_ite (fun _ => ⟨rfl, rfl⟩) fun _ =>
  orel_ite (fun _ => enteringEnter_sm hE) fun _ =>
  orel_ite (fun _ => orel_ite (fun _ => ⟨rfl, rfl⟩) fun _ => ⟨rfl, rfl⟩) fun _ =>
  orel_ite (fun _ => commitOrInsert_sm) fun _ => enteringDefault_sm

/-! ### `EnteringSyllable` -/

theorem syllableAnswer_sm {beh : LayoutBeh} : StepRel (syllableAnswer env a beh) (syllableAnswer env (sm a t k) beh) := by
  unfold syllableAnswer
  sm_norm
  split
  · exact orel_ite (fun _ => ⟨rfl, rfl⟩) fun _ => ⟨rfl, rfl⟩
  · exact orel_ite (fun _ => withCom_absorb_sm) fun _ => ⟨rfl, rfl⟩
  · exact orel_ite (fun _ => withCom_sm fun _ => orel_ite (fun _ => newPhraseSimple_sm) fun _ => ⟨rfl, rfl⟩)
      fun _ => ⟨rfl, rfl⟩
  · exact ⟨rfl, rfl⟩

theorem enteringSyllableNext_sm {ev : KeyEvent} :
    StepRel (enteringSyllableNext env a ev) (enteringSyllableNext env (sm a t k) ev) := by
  unfold enteringSyllableNext
  sm_norm
  refine orel_ite (fun _ => orel_ite (fun _ => ⟨rfl, rfl⟩) fun _ => ⟨rfl, rfl⟩) fun _ =>
    orel_ite (fun _ => ⟨rfl, rfl⟩) fun _ =>
    orel_ite (fun _ => orel_ite (fun _ => ⟨rfl, rfl⟩) fun _ => ⟨rfl, rfl⟩) fun _ => ?_
  split
  · exact syllableAnswer_sm
  · exact syllableAnswer_sm

/-! ### `Selecting` -/

/-- results of `Selecting::select` -/
def SSRel (x y : Selecting × Shared D L × Trans) : Prop := x.1 = y.1 ∧ MetaEq x.2.1 y.2.1 ∧ x.2.2 = y.2.2

/-- results of `Selecting::next` -/
def SelRel (x y : SelRes D L) : Prop := MetaEq x.shared y.shared ∧ x.sel = y.sel ∧ x.trans = y.trans

theorem select_sm {s : Selecting} {n : Nat} :
    ORel SSRel (Selecting.select env s a n) (Selecting.select env s (sm a t k) n) := by
  -- `finish`: what `insert` / `replace` hands back goes into the shared state with the saved cursor popped
  have hfin : ∀ r : Outcome CompEditor, ORel SSRel
      (match r with
        | .ok com => .ok (s, { a with com := com.popCursor }, Trans.toState .entering)
        | .panic p => .panic p
        | .outOfFuel => .outOfFuel)
      (match r with
        | .ok com => .ok (s, { sm a t k with com := com.popCursor }, Trans.toState .entering)
        | .panic p => .panic p
        | .outOfFuel => .outOfFuel) := by
    intro r; cases r
    · exact ⟨rfl, rfl, rfl⟩
    · rfl
    · trivial
  unfold Selecting.select
  sm_norm
  split
  · rfl
  · trivial
  · refine orel_ite (fun _ => ⟨rfl, rfl, rfl⟩) fun _ => ?_
    split
    · split
      · split
        · split
          · exact ⟨rfl, rfl, rfl⟩
          · rfl
          · trivial
        · exact ⟨rfl, rfl, rfl⟩
      · rfl
      · trivial
    · split
      · exact orel_map (hfin _) fun _ _ h => ⟨rfl, h.2⟩
      · split
        · exact ⟨rfl, rfl, rfl⟩
        · exact ⟨rfl, rfl, rfl⟩
        · rfl
        · trivial
      · rfl
      · trivial
    · split
      · exact hfin _
      · exact ⟨rfl, rfl, rfl⟩
      · rfl
      · trivial

theorem retarget_sm {s : Selecting} : StepRel (retarget env s a) (retarget env s (sm a t k)) := by
  unfold retarget
  sm_norm
  split
  · rfl
  · refine orel_ite (fun _ => ?_) fun _ => ?_
    · split
      · exact ⟨rfl, rfl⟩
      · rfl
      · trivial
    · split
      · exact ⟨rfl, rfl⟩
      · exact ⟨rfl, rfl⟩
      · rfl
      · trivial

theorem selDownSpace_sm {s : Selecting} : ORel SelRel (selDownSpace env s a) (selDownSpace env s (sm a t k)) := by
  unfold selDownSpace
  sm_norm
  split
  · refine orel_ite (fun _ => ⟨rfl, rfl, rfl⟩) fun _ => ?_
    split
    · split
      · exact ⟨rfl, rfl, rfl⟩
      · rfl
      · trivial
    · exact ⟨rfl, rfl, rfl⟩
  · rfl
  · trivial

theorem closeIfEmpty_sm {s : Selecting} {u : Trans} :
    ORel SelRel (closeIfEmpty env ⟨a, s, u⟩) (closeIfEmpty env ⟨sm a t k, s, u⟩) := by
  unfold closeIfEmpty
  sm_norm
  split
  · exact orel_ite (fun _ => ⟨rfl, rfl, rfl⟩) fun _ => ⟨rfl, rfl, rfl⟩
  · rfl
  · trivial

variable (env) in
/-- the part of `selMove` after `retarget` -/
def selMovePost (s : Selecting) (r : StepRes D L) : Outcome (SelRes D L) :=
  match r with
  | .ok (sh', .toState (.selecting s')) => closeIfEmpty env ⟨sh', s', .spin .absorb⟩
  | .ok (sh', _) => closeIfEmpty env ⟨sh', s, .spin .absorb⟩
  | .panic q => .panic q
  | .outOfFuel => .outOfFuel

theorem selMovePost_rel {s : Selecting} {r₁ r₂ : StepRes D L} (h : StepRel r₁ r₂) :
    ORel SelRel (selMovePost env s r₁) (selMovePost env s r₂) := by
  obtain ⟨⟨x, u⟩, ⟨_, _⟩, rfl, rfl, hm, rfl⟩ | ⟨p, rfl, rfl⟩ | ⟨rfl, rfl⟩ := h.cases
  · obtain ⟨t, k, rfl⟩ := MetaEq.out hm
    cases u with
    | spin b => exact closeIfEmpty_sm
    | toState st => cases st <;> exact closeIfEmpty_sm
  · rfl
  · trivial

theorem selMove_sm {s : Selecting} {isJ : Bool} : ORel SelRel (selMove env s a isJ) (selMove env s (sm a t k) isJ) :=
  orel_ite (fun _ => ⟨rfl, rfl, rfl⟩) fun _ => selMovePost_rel retarget_sm

theorem selPrevPage_sm {s : Selecting} : ORel SelRel (selPrevPage env s a) (selPrevPage env s (sm a t k)) := by
  unfold selPrevPage
  sm_norm
  refine orel_ite (fun _ => ⟨rfl, rfl, rfl⟩) fun _ => ?_
  split
  · exact ⟨rfl, rfl, rfl⟩
  · rfl
  · trivial

theorem selNextPage_sm {s : Selecting} : ORel SelRel (selNextPage env s a) (selNextPage env s (sm a t k)) := by
  unfold selNextPage
  sm_norm
  split
  · exact orel_ite (fun _ => ⟨rfl, rfl, rfl⟩) fun _ => ⟨rfl, rfl, rfl⟩
  · rfl
  · trivial

theorem selDigit_sm {s : Selecting} {c : Nat} : ORel SelRel (selDigit env s a c) (selDigit env s (sm a t k) c) := by
  unfold selDigit
  obtain ⟨x, y, h1, h2, hs, hm, hv⟩ | ⟨p, h1, h2⟩ | ⟨h1, h2⟩ := (select_sm (env := env) (a := a) (t := t) (k := k)).cases <;>
    rw [h1, h2]
  · exact ⟨hm, hs, hv⟩
  · rfl
  · trivial

theorem selectingNext_sm {s : Selecting} {ev : KeyEvent} :
    ORel SelRel (selectingNext env s a ev) (selectingNext env s (sm a t k) ev) :=
  orel_ite (fun _ => ⟨rfl, rfl, rfl⟩) fun _ =>
  orel_ite (fun _ => ⟨rfl, rfl, rfl⟩) fun _ =>
  orel_ite (fun _ => ⟨rfl, rfl, rfl⟩) fun _ =>
  orel_ite (fun _ => ⟨rfl, rfl, rfl⟩) fun _ =>
  orel_ite (fun _ => selDownSpace_sm) fun _ =>
  orel_ite (fun _ => selMove_sm) fun _ =>
  orel_ite (fun _ => selMove_sm) fun _ =>
  orel_ite (fun _ => selPrevPage_sm) fun _ =>
  orel_ite (fun _ => selNextPage_sm) fun _ =>
  orel_ite (fun _ => selDigit_sm) fun _ =>
  orel_ite (fun _ => ⟨rfl, rfl, rfl⟩) fun _ =>
  orel_ite (fun _ => ⟨rfl, rfl, rfl⟩) fun _ => ⟨rfl, rfl, rfl⟩

/-! ### `Highlighting` -/

theorem highlightingNext_sm {m : Nat} {ev : KeyEvent} :
    ORel PRel (highlightingNext env m a ev) (highlightingNext env m (sm a t k) ev) := by
  unfold highlightingNext
  sm_norm
  refine orel_ite (fun _ => ⟨rfl, rfl⟩) fun _ => orel_ite (fun _ => ⟨rfl, rfl⟩) fun _ =>
    orel_ite (fun _ => ⟨rfl, rfl⟩) fun _ => orel_ite (fun _ => ?_) fun _ => ⟨rfl, rfl⟩
  obtain ⟨x, y, h1, h2, hm⟩ | ⟨p, h1, h2⟩ | ⟨h1, h2⟩ :=
    (learnInRangeNotify_rel (env := env) (.of_sm { a with com := a.com.moveCursor m } t k)
      (min m a.com.cursor) (max m a.com.cursor)).cases <;> dsimp only [sm] at h2 <;> rw [h1, h2]
  · exact ⟨hm.1, rfl⟩
  · rfl
  · trivial

end steps

end Chewing
