import Chewing.Proofs.Utf8
/-!
Round trips of the DER shapes of the trie format: `decX (encX v ++ rest) = some (v, rest)`.
-/
namespace Chewing.Der

theorem fromBE_snoc (l : Bytes) (b : Nat) : fromBE (l ++ [b]) = fromBE l * 256 + b := by
  simp [fromBE, List.foldl_append]

theorem fromBE_beFixed (w v : Nat) : fromBE (beFixed w v) = v % 256 ^ w := by
  induction w generalizing v with
  | zero => simp [beFixed, fromBE, Nat.mod_one]
  | succ w ih =>
    rw [beFixed, fromBE_snoc, ih, Nat.pow_succ]
    have h1 : v % (256 ^ w * 256) = v % 256 + 256 * (v / 256 % 256 ^ w) := by
      rw [Nat.mul_comm (256 ^ w) 256, Nat.mod_mul]
    omega

theorem beFixed_length (w v : Nat) : (beFixed w v).length = w := by
  induction w generalizing v with
  | zero => rfl
  | succ w ih => simp [beFixed, ih]

theorem fromBE_cons_zero (l : Bytes) : fromBE (0 :: l) = fromBE l := by
  simp [fromBE]

theorem fromBE_stripZeros (l : Bytes) : fromBE (stripZeros l) = fromBE l := by
  induction l with
  | nil => rfl
  | cons a l ih =>
    cases l with
    | nil => cases a <;> rfl
    | cons b r =>
      cases a with
      | zero => rw [stripZeros, ih]; exact (fromBE_cons_zero _).symm
      | succ a => rfl

theorem stripZeros_length_le (l : Bytes) : (stripZeros l).length ≤ l.length := by
  induction l with
  | nil => simp [stripZeros]
  | cons a l ih =>
    cases l with
    | nil => cases a <;> simp [stripZeros]
    | cons b r =>
      cases a with
      | zero => rw [stripZeros]; simp at ih ⊢; omega
      | succ a => simp [stripZeros]

/-- a stripped non-empty string is `[0]` or starts with a non-zero byte -/
theorem stripZeros_form (l : Bytes) (h : l ≠ []) :
    ∃ b r, stripZeros l = b :: r ∧ (b = 0 → r = []) := by
  induction l with
  | nil => exact absurd rfl h
  | cons a l ih =>
    cases l with
    | nil => exact ⟨a, [], by cases a <;> rfl, fun _ => rfl⟩
    | cons b r =>
      cases a with
      | zero => rw [stripZeros]; exact ih (by simp)
      | succ a => exact ⟨a + 1, b :: r, rfl, fun h => by omega⟩

theorem takeN_append (a r : Bytes) : takeN a.length (a ++ r) = some (a, r) := by
  simp [takeN]

theorem decLen_long (b : Nat) (lb r : Bytes) (hb : 0x81 ≤ b ∧ b ≤ 0x84) (hl : lb.length = b - 0x80)
    (hv : fromBE lb ≤ maxLen) (hi : initialOctet (fromBE lb) = some b) :
    decLen (b :: (lb ++ r)) = some (fromBE lb, r) := by
  rw [decLen, if_neg (by omega), if_pos hb, ← hl, takeN_append]
  simp [hv, hi]

/-- the long form: `0x80 + k`, then the `k` big-endian bytes of the length, `k` minimal -/
theorem encLen_long {n : Nat} (h1 : ¬ n < 0x80) (h : n ≤ maxLen) :
    ∃ k, 1 ≤ k ∧ k ≤ 4 ∧ n < 256 ^ k ∧ encLen n = (0x80 + k) :: beFixed k n ∧ initialOctet n = some (0x80 + k) := by
  unfold encLen initialOctet
  rw [if_neg h1, if_neg h1]
  by_cases h2 : n < 0x100
  · exact ⟨1, by decide, by decide, h2, by simp [h2, beFixed, Nat.mod_eq_of_lt h2], by simp [h2]⟩
  by_cases h3 : n < 0x10000
  · exact ⟨2, by decide, by decide, h3,
      by simp [h2, h3, beFixed, Nat.mod_eq_of_lt (Nat.div_lt_of_lt_mul h3 : n / 256 < 256)], by simp [h2, h3]⟩
  by_cases h4 : n < 0x1000000
  · exact ⟨3, by decide, by decide, h4,
      by simp [h2, h3, h4, beFixed, Nat.div_div_eq_div_mul, Nat.mod_eq_of_lt (Nat.div_lt_of_lt_mul h4 : n / 65536 < 256)],
      by simp [h2, h3, h4]⟩
  · exact ⟨4, by decide, by decide, Nat.lt_of_le_of_lt h (by decide),
      by simp [h2, h3, h4, beFixed, Nat.div_div_eq_div_mul], by simp [h2, h3, h4, h]⟩

theorem decLen_encLen (n : Nat) (r : Bytes) (h : n ≤ maxLen) : decLen (encLen n ++ r) = some (n, r) := by
  by_cases h1 : n < 0x80
  · simp [encLen, decLen, h1]
  · obtain ⟨k, hk1, hk4, hn, he, hi⟩ := encLen_long h1 h
    have hv : fromBE (beFixed k n) = n := by rw [fromBE_beFixed, Nat.mod_eq_of_lt hn]
    have := decLen_long (0x80 + k) (beFixed k n) r (by omega) (by rw [beFixed_length]; omega) (by rw [hv]; exact h)
      (by rw [hv]; exact hi)
    rw [he, List.cons_append, this, hv]

theorem decHeader_tlv (tag : Nat) (c r : Bytes) (ht : validTag tag = true) (h : c.length ≤ maxLen) :
    decHeader (tlv tag c ++ r) = some (tag, c.length, c ++ r) := by
  simp [tlv, decHeader, ht, List.append_assoc, decLen_encLen _ _ h]

theorem decTlv_tlv (tag : Nat) (c r : Bytes) (ht : validTag tag = true) (h : c.length ≤ maxLen) :
    decTlv tag (tlv tag c ++ r) = some (c, r) := by
  simp [decTlv, decHeader_tlv tag c r ht h, takeN_append]

theorem tlv_length (tag : Nat) (c : Bytes) : (tlv tag c).length = 1 + (encLen c.length).length + c.length := by
  simp [tlv]; omega

theorem encLen_length_le (n : Nat) : 1 ≤ (encLen n).length ∧ (encLen n).length ≤ 5 := by
  unfold encLen; repeat' split
  all_goals simp

theorem nested_of {α : Type} (f : Bytes → Option (α × Bytes)) (body r : Bytes) (a : α)
    (hf : f body = some (a, [])) : nested body.length f (body ++ r) = some (a, r) := by
  simp [nested, takeN_append, hf]

theorem decSeq_encSeq {α : Type} (f : Bytes → Option (α × Bytes)) (body r : Bytes) (a : α)
    (hf : f body = some (a, [])) (h : body.length ≤ maxLen) :
    decSeq f (encSeq body ++ r) = some (a, r) := by
  simp [decSeq, encSeq, decHeader_tlv tagSequence body r (by decide) h, nested_of f body r a hf]

theorem isCont_digit {b : Nat} (h : b < 64) : isCont (0x80 + b) = true := by
  simp [isCont]; omega

/-- Where `CStr.utf8Decode` tests the code point, this decoder tests the second byte (Unicode table 3-7): after
    the lead bytes 0xE0 and 0xF0 it starts higher (no overlong form), after 0xED and 0xF4 it ends lower (no
    surrogate, nothing above U+10FFFF). -/
theorem utf8DecChar_enc (c : Nat) (r : Bytes) (h : IsScalar c) :
    utf8DecChar (utf8EncChar c ++ r) = some (c, r) := by
  have lt : c < 0x110000 := CStr.IsScalar.lt h
  rw [utf8EncChar_eq]
  rcases CStr.encChar_cases c with ⟨h1, e⟩ | ⟨a, b, e, rfl, hb, ha⟩ | ⟨a, b, d, e, rfl, hb, hd, ha, lo⟩ |
    ⟨a, b, d, f, e, rfl, hb, hd, hf, lo, ha⟩ <;> rw [e] <;>
    simp only [List.cons_append, List.nil_append, utf8DecChar, Nat.add_sub_cancel_left, CStr.lead_ge,
      Nat.reduceLeDiff, ↓reduceIte]
  · rw [if_pos h1]
  · rw [if_neg ha.1, if_pos ha.2, if_pos (isCont_digit hb)]
  · rw [if_pos ha, if_pos ⟨by split <;> omega, by unfold IsScalar at h; split <;> omega, isCont_digit hd⟩]
  · rw [if_pos (ha lt), if_pos ⟨by split <;> omega, by split <;> omega, isCont_digit hd, isCont_digit hf⟩]

theorem utf8Enc_cons (c : Nat) (t : Text) : utf8Enc (c :: t) = utf8EncChar c ++ utf8Enc t :=
  List.flatMap_cons

theorem utf8DecFuel_succ {f c : Nat} {s r : Bytes} (h : utf8DecChar s = some (c, r)) :
    utf8DecFuel (f + 1) s = (utf8DecFuel f r).map (c :: ·) := by
  cases s with
  | nil => cases h
  | cons b bs => rw [utf8DecFuel, h]; dsimp only; cases utf8DecFuel f r <;> rfl

theorem utf8DecFuel_enc (t : Text) (f : Nat) (hf : t.length ≤ f) (h : ∀ c ∈ t, IsScalar c) :
    utf8DecFuel f (utf8Enc t) = some t := by
  induction t generalizing f with
  | nil => cases f <;> rfl
  | cons c t ih =>
    cases f with
    | zero => cases hf
    | succ f =>
      rw [utf8Enc_cons, utf8DecFuel_succ (utf8DecChar_enc c _ (h c (by simp))),
        ih f (Nat.le_of_succ_le_succ hf) (fun c hc => h c (by simp [hc]))]
      rfl

theorem utf8Enc_length_ge (t : Text) : t.length ≤ (utf8Enc t).length := by
  induction t with
  | nil => exact Nat.zero_le _
  | cons c t ih =>
    have := List.length_pos_iff.2 (utf8EncChar_eq c ▸ CStr.encChar_ne_nil c)
    rw [utf8Enc_cons, List.length_append, List.length_cons]
    omega

theorem utf8Dec_enc (t : Text) (h : ∀ c ∈ t, IsScalar c) : utf8Dec (utf8Enc t) = some t :=
  utf8DecFuel_enc t _ (utf8Enc_length_ge t) h

theorem decUtf8_encUtf8 (t : Text) (r : Bytes) (h : ∀ c ∈ t, IsScalar c) (hl : (utf8Enc t).length ≤ maxLen) :
    decUtf8 (encUtf8 t ++ r) = some (t, r) := by
  simp [decUtf8, encUtf8, decTlv_tlv tagUtf8String _ r (by decide) hl, utf8Dec_enc t h]

theorem decOctets_encOctets (b r : Bytes) (hl : b.length ≤ maxLen) :
    decOctets (encOctets b ++ r) = some (b, r) := by
  simp [decOctets, encOctets, decTlv_tlv tagOctetString _ r (by decide) hl]

theorem uintContent_length_le (w v : Nat) : (uintContent w v).length ≤ w + 1 := by
  unfold uintContent
  have h1 := stripZeros_length_le (beFixed w v)
  rw [beFixed_length] at h1
  split
  · simp
  · rename_i b r heq
    rw [heq] at h1
    split <;> simp at h1 ⊢ <;> omega

/-- the leading zero byte that keeps the first content byte below `0x80` is taken off again -/
theorem decodeToSlice_pad {b : Nat} {s : Bytes} (hb : b = 0 → s = []) :
    decodeToSlice (if b ≥ 0x80 then 0 :: b :: s else b :: s) = some (b :: s) := by
  split
  · simp [decodeToSlice]
    omega
  · cases b with
    | zero => rw [hb rfl]; rfl
    | succ b => simp [decodeToSlice]; omega

theorem decUintValue_content (w v : Nat) (r : Bytes) (hw : 0 < w) (hv : v < 256 ^ w) :
    decUintValue w (uintContent w v).length (uintContent w v ++ r) = some (v, r) := by
  have hne : beFixed w v ≠ [] := by
    intro h
    have := beFixed_length w v
    rw [h] at this
    simp at this
    omega
  obtain ⟨b, s, hs, hb⟩ := stripZeros_form _ hne
  have hval : fromBE (b :: s) = v := by
    rw [← hs, fromBE_stripZeros, fromBE_beFixed, Nat.mod_eq_of_lt hv]
  have hlen : (b :: s).length ≤ w := by
    rw [← hs]
    have := stripZeros_length_le (beFixed w v)
    rwa [beFixed_length] at this
  have hcl := uintContent_length_le w v
  have hd : decodeToSlice (uintContent w v) = some (b :: s) := by
    unfold uintContent
    rw [hs]
    exact decodeToSlice_pad hb
  unfold decUintValue
  rw [if_neg (by omega), takeN_append]
  simp only [hd]
  rw [if_neg (by simp at hlen ⊢; omega)]
  simp [hval]

theorem decUint_encUint (w v : Nat) (r : Bytes) (hw : 0 < w) (hw' : w + 1 ≤ maxLen) (hv : v < 256 ^ w) :
    decUint w (encUint w v ++ r) = some (v, r) := by
  have hl : (uintContent w v).length ≤ maxLen := Nat.le_trans (uintContent_length_le w v) hw'
  simp [decUint, encUint, decHeader_tlv tagInteger _ r (by decide) hl, decUintValue_content w v r hw hv]

theorem decCtx0U64_enc_some (v : Nat) (r : Bytes) (hv : v < 256 ^ 8) :
    decCtx0U64 (encCtx0U64 (some v) ++ r) = some (some v, r) := by
  have hl : (uintContent 8 v).length ≤ maxLen :=
    Nat.le_trans (uintContent_length_le 8 v) (by decide)
  have h := decHeader_tlv tagCtx0 (uintContent 8 v) r (by decide) hl
  have hv' := decUintValue_content 8 v r (by decide) hv
  simp only [encCtx0U64]
  simp only [tlv, List.cons_append] at h ⊢
  rw [decCtx0U64]
  simp only [tagCtx0] at h ⊢
  rw [h]
  simp [hv', validTag]

theorem decCtx0U64_enc_none : decCtx0U64 (encCtx0U64 none) = some (none, []) := by
  simp [encCtx0U64, decCtx0U64]

/-- the optional timestamp at the end of a phrase record -/
theorem decCtx0U64_enc (o : Option Nat) (ho : ∀ v, o = some v → v < 256 ^ 8) :
    decCtx0U64 (encCtx0U64 o) = some (o, []) := by
  cases o with
  | none => exact decCtx0U64_enc_none
  | some v => simpa using decCtx0U64_enc_some v [] (ho v rfl)

/-! ### sizes (used for the `Length::MAX` guard) -/

theorem tlv_length_ge (tag : Nat) (c : Bytes) : c.length + 2 ≤ (tlv tag c).length := by
  have := (encLen_length_le c.length).1
  rw [tlv_length]; omega

end Chewing.Der
