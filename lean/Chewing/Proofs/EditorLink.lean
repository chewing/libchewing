import Chewing.Props.C01
import Chewing.Proofs.EditorCommitHistory
/-!
# Links between the editor-level properties

Several editor properties prove their theorems UNDER HYPOTHESES that other properties establish:

* C02 `history_ledger` assumes `TilesAlong` (the conversion answer tiles the buffer at every edited state
  of the history), C05 `bounded_after_key` assumes `TilingEnv`, C18's whole-key theorems assume "buffer within
  the threshold";
* C01 proves that `EditorInv` (C04's composition invariant, C05's cursor invariant, a word for every
  buffered syllable) is an invariant of every history outside the known class, for every environment
  satisfying `EnvOK` — whose clause `convert_ok` is C03's theorem about the engines (`engines_satisfy_convert_ok`).

This file connects them: `EditorInv` at the state a commit path runs in gives the tiling (`tilesAt_of_shInv`),
the states *inside* a step (`dispatch` result, `editPart`) satisfy the shared-state invariant
(`dispatch_shInv`, `editPart_shInv`), hence `TilesAlong` holds along every allowed history
(`tilesAlong_of_allowed`).  No new hypothesis: everything is derived from `EnvOK` and `EditorInv`.
-/
namespace Chewing.Link
open Chewing.C01 Chewing.C06

variable {D L : Type} {env : Env D L} {G : D → Prop} {w : Prop}

/-! ## the tiling hypotheses, from C01's invariant -/

/-- what C01's `PathOK` says is C02's `Tiles` -/
theorem tiles_of_pathOK {c : Composition} {p : List Interval} (h : PathOK c p) : C02.Tiles 0 c.symbols.length p :=
  C02.tiles_of_chain h.1 h.2

/-- **C02's `TilesAt` from C01's invariant**: at a shared state satisfying `ShInv` (valid composition, a word
    for every buffered syllable, well-formed dictionary) every alternative the engine returns tiles the
    buffer — by `EnvOK.convert_ok` (C03) alone -/
theorem tilesAt_of_shInv (hE : EnvOK env G) {sh : Shared D L} (h : ShInv env G True sh) : C02.TilesAt env sh := by
  intro paths hp p hm
  have hv := compValid_of_cinv h.ced.inner
  have hall := ((hE.convert_ok _ _ _ h.good hv).get hp).2
  exact tiles_of_pathOK ⟨(hall p hm).1, hE.convert_len _ _ _ _ h.good hv (fun x hx => (h.word trivial x hx).1) hp p hm⟩

/-- a tiling has well-formed intervals whose lengths sum to the covered range (C05's `TilesLen`) -/
theorem tilesLen_of_tiles {a n : Nat} {ivs : List Interval} (h : C02.Tiles a n ivs) :
    (∀ iv ∈ ivs, iv.start ≤ iv.stop) ∧ a + (ivs.map Interval.len).sum = n :=
  tilesLen_of_chain (C02.chain_of_tiles h)

/-! ## the states inside a step satisfy the shared-state invariant -/

theorem applyTrans_shInv {sh : Shared D L} (h : ShInv env G w sh) (st : St) (t : Trans) :
    ShInv env G w (applyTrans sh st t).1 := by
  cases t <;> exact h.congr rfl

/-- the state machine part of a key — in ALL four states — leaves a shared state satisfying the invariant -/
theorem dispatch_shInv (hE : EnvOK env G) {e : Editor D L} (hi : EditorInv env G w e) (ev : KeyEvent)
    {sh : Shared D L} {st : St} (hd : dispatch env e ev = .ok (sh, st)) : ShInv env G w sh :=
  (OkAnd.get (dispatch_ok hE hi ev) hd).1

/-- **the edited state of every operation** (C02's `editPart`: after the editing part, before a commit
    path) satisfies the shared-state invariant -/
theorem editPart_shInv (hE : EnvOK env G) {e : Editor D L} (hi : EditorInv env G w e) (op : Op L) (hv : OpValid op)
    (hk : w → ¬ Known env e op) {m : Shared D L} (hm : C02.editPart env e op = .ok m) :
    ShInv env G w m := by
  have other : ∀ {e' : Editor D L}, e.apply env op = .ok e' → ShInv env G w e'.shared := by
    intro e' he'
    exact (OkAnd.get (apply_ok hE hi op hv hk) he').sh
  have viaApply : ∀ {r : Outcome (Editor D L)}, r = e.apply env op → r.map (·.shared) = .ok m → ShInv env G w m := by
    intro r hr hmm
    obtain ⟨e', he', hs⟩ := Outcome.of_map_ok hmm
    rw [← hs]
    exact other (hr ▸ he')
  cases op with
  | key ev =>
    simp only [C02.editPart] at hm
    obtain ⟨r, hr, hs⟩ := Outcome.of_map_ok hm
    rw [← hs]
    split
    · exact preamble_inv hi.sh
    · exact dispatch_shInv hE hi ev (sh := r.1) (st := r.2) hr
  | select n =>
    simp only [C02.editPart] at hm
    split at hm
    · next s hst =>
      obtain ⟨x, hq, h1, _, _⟩ := select_ok hE hi.sh (hi.selInv hst) n
      rw [hq] at hm
      simp only [Outcome.map] at hm
      injection hm with hm
      rw [← hm]
      exact applyTrans_shInv h1 _ _
    · injection hm with hm; rw [← hm]; exact hi.sh
  | commit =>
    simp only [C02.editPart] at hm
    injection hm with hm; rw [← hm]; exact hi.sh
  | _ => exact viaApply rfl hm

/-- **`TilesAlong` is a theorem**: along every history that is allowed in C01's sense (valid arguments,
    outside the class `Known` of word-losing operations, F02/F03; the `jump_*` calls on an open phrase list are
    included) from a state satisfying `EditorInv`,
    the conversion answer tiles the buffer at every edited state -/
theorem tilesAlong_of_allowed (hE : EnvOK env G) (ops : List (Op L)) :
    ∀ e : Editor D L, EditorInv env G True e → Allowed env e ops → C02.TilesAlong env e ops := by
  induction ops with
  | nil => intro _ _ _; trivial
  | cons op ops ih =>
    intro e hi ha
    obtain ⟨hv, hk, hrest⟩ := ha
    refine ⟨fun m hm => tilesAt_of_shInv hE (editPart_shInv hE hi op hv (fun _ => hk) hm), fun e' he' => ?_⟩
    exact ih e' (OkAnd.get (apply_ok hE hi op hv (fun _ => hk)) he') (hrest e' he')

/-! ## C05's bound without the tiling premise -/

/-- **C05's `TilingAt` from C01's invariant** -/
theorem tilingAt_of_shInv (hE : EnvOK env G) {sh : Shared D L} (h : ShInv env G w sh) : C05.TilingAt env sh := by
  intro paths hp ivs hm
  have hall := ((hE.convert_ok _ _ _ h.good (compValid_of_cinv h.ced.inner)).get hp).2
  obtain ⟨h1, h2⟩ := tilesLen_of_chain (hall ivs hm).1
  exact ⟨h1, by rw [Nat.zero_add] at h2; exact h2⟩

/-- a key whose state-machine part ends in `Entering` without *absorb* was handled in `Entering`
    (every state switch is recorded as *absorb*) -/
theorem entering_of_not_absorb {e : Editor D L} {ev : KeyEvent} {sh : Shared D L} {st : St}
    (hd : dispatch env e ev = .ok (sh, st)) (hst : st = .entering) (hl : sh.last ≠ .absorb) :
    e.state = .entering := by
  -- outside `Entering` a transition either switches the state, recording *absorb*, or stays in it
  have stay : ∀ {sh' : Shared D L} {st0 : St} {t : Trans}, st0 ≠ .entering → (applyTrans sh' st0 t).2 = .entering →
      (applyTrans sh' st0 t).1.last ≠ .absorb → e.state = .entering := by
    intro sh' st0 t h0 h1 h2
    cases t with
    | toState s => exact absurd rfl h2
    | spin b => exact absurd h1 h0
  exact dispatch_all env (Q := fun x => x.2 = .entering → x.1.last ≠ .absorb → e.state = .entering)
    (fun hs _ _ _ _ _ => hs) (fun _ _ _ _ => stay nofun) (fun _ _ _ _ => stay nofun) (fun _ _ _ _ => stay nofun)
    _ hd hst hl

/-- **C05 `bounded_after_key`, linked**: for every environment satisfying C01's `EnvOK`, from every state
    satisfying C01's invariant, in ANY of the four states: a key that is answered *absorb* or *commit* and
    ends in `Entering` leaves the buffer within `auto_commit_threshold`.  No tiling premise. -/
theorem bounded_after_key_linked (hE : EnvOK env G) {e e' : Editor D L} (hi : EditorInv env G w e) {ev : KeyEvent}
    {b : KB} (h : e.processKey env ev = .ok (e', b)) (he : e'.state = .entering) (hb : b = .absorb ∨ b = .commit) :
    e'.shared.com.len ≤ e'.shared.options.autoCommitThreshold :=
  C05.bounded_after_key_any env (fun _ _ hd => tilingAt_of_shInv hE (dispatch_shInv hE hi ev hd)) h he hb

/-- the auto-commit is total at a state satisfying the invariant (C05 `tryAutoCommit_total`, linked) and
    re-establishes the bound -/
theorem tryAutoCommit_total_linked (hE : EnvOK env G) {sh : Shared D L} (h : ShInv env G w sh) :
    ∃ sh2, Shared.tryAutoCommit env sh = .ok sh2 ∧ sh2.com.len ≤ sh2.options.autoCommitThreshold := by
  obtain ⟨sh2, hq, _⟩ := tryAutoCommit_ok hE h
  exact ⟨sh2, hq, (C05.tryAutoCommit_bound_at env (tilingAt_of_shInv hE h) hq).1⟩

/-! ## the environment whose engine is C03's model

`EnvOK` bundles hypotheses on the dictionary, the estimator and the conversion engine.  The engine clause
`convert_ok` is discharged by C03's theorems for the engine model `Conv.convert` on buffers of at most 128
symbols (`ScoreBound`: the `i32` score arithmetic); beyond that length C03 proves nothing, and the clause
stays a hypothesis (`EngineIsC03.beyond`; the auto-commit keeps real buffers far below 128 symbols), as it does
for a buffer holding the syllable code 0 (empty spelling), which no keyboard layout produces. -/

/-- the dictionary- and estimator-side clauses of C01's `EnvOK` (everything except `convert_ok`) -/
structure DictOK (env : Env D L) (G : D → Prop) : Prop where
  wf : ∀ d, G d → ∀ k s, ∀ p ∈ env.lookupAll d k s, p.text.length = k.length
  std_fuzzy : ∀ d c, G d → env.hasPhrase d [c] .standard = true → env.hasPhrase d [c] .fuzzyPartialPrefix = true
  add_good : ∀ d k p d', G d → env.addPhrase d k p = some d' → p.text.length = k.length → G d'
  add_mono : ∀ d k p d', env.addPhrase d k p = some d' →
    ∀ c s, env.hasPhrase d [c] s = true → env.hasPhrase d' [c] s = true
  update_good : ∀ d k p f t, G d → p.text.length = k.length → G (env.updatePhrase d k p f t)
  update_mono : ∀ d k p f t c s, env.hasPhrase d [c] s = true → env.hasPhrase (env.updatePhrase d k p f t) [c] s = true
  flush_good : ∀ d, G d → G (env.reopenFlush d)
  flush_mono : ∀ d c s, env.hasPhrase d [c] s = true → env.hasPhrase (env.reopenFlush d) [c] s = true
  remove_good : ∀ d k t, G d → G (env.removePhrase d k t)
  estimate_ok : ∀ t f m, ∃ v, env.estimate t f m = .ok v

/-- **the engine component of `env` is C03's model of the three real engines** (tie-breaking oracle `pick`,
    dictionary states read as lookup functions by `view`) over dictionaries that satisfy C03's hypotheses -/
structure EngineIsC03 (env : Env D L) (G : D → Prop) (pick : Nat → List Conv.Path → Nat) (view : D → Dict) : Prop where
  pick_ok : Conv.PickInRange pick
  /-- `env.convert` IS `Conv.convert` wherever C03's theorems reach: at most 128 symbols (`ScoreBound`), no
      buffered syllable with the empty spelling (`spell 0 = []`; no keyboard layout produces the code 0) -/
  engine : ∀ k d c, c.symbols.length ≤ 128 → Conv.SpellNonempty c →
    env.convert k d c = Conv.convert pick (toEngine k) (view d) c
  /-- the editor's word test reads the same dictionary as the engine -/
  lookup : ∀ d x s, env.hasPhrase d [x] s = true → ((view d).lookup [x] s).head?.isSome = true
  wellFormed : ∀ d, G d → Conv.WellFormed (view d)
  freq : ∀ d, G d → ∀ strat key, ∀ p ∈ (view d).lookup key strat, p.freq ≤ 8388608
  /-- outside that reach the contract is assumed -/
  beyond : ∀ k d c, G d → Conv.CompValid c → (128 < c.symbols.length ∨ ¬ Conv.SpellNonempty c) →
    OkAnd (fun paths => paths ≠ [] ∧ ∀ p ∈ paths, PathW c p) (env.convert k d c)
  beyond_len : ∀ k d c paths, G d → Conv.CompValid c → (128 < c.symbols.length ∨ ¬ Conv.SpellNonempty c) →
    (∀ x, Sym.syl x ∈ c.symbols → env.hasPhrase d [x] (engStrategy k) = true) →
    env.convert k d c = .ok paths → ∀ p ∈ paths, ∀ iv ∈ p, iv.text.length = iv.stop - iv.start

/-- **C03 discharges `EnvOK.convert_ok` / `convert_len`** for such an environment: `EnvOK` from the dictionary
    clauses alone -/
theorem envOK_of_C03 {pick : Nat → List Conv.Path → Nat} {view : D → Dict} (hd : DictOK env G)
    (he : EngineIsC03 env G pick view) : EnvOK env G where
  wf := hd.wf
  std_fuzzy := hd.std_fuzzy
  add_good := hd.add_good
  add_mono := hd.add_mono
  update_good := hd.update_good
  update_mono := hd.update_mono
  flush_good := hd.flush_good
  flush_mono := hd.flush_mono
  remove_good := hd.remove_good
  estimate_ok := hd.estimate_ok
  convert_ok := by
    intro k d c hg hc
    by_cases hlen : c.symbols.length ≤ 128 ∧ Conv.SpellNonempty c
    · rw [he.engine k d c hlen.1 hlen.2]
      exact convert_ok_of_C03 he.pick_ok (he.wellFormed d hg) (he.freq d hg) k hc hlen.1 hlen.2
    · exact he.beyond k d c hg hc (by
        by_cases h1 : c.symbols.length ≤ 128
        · exact .inr (fun h2 => hlen ⟨h1, h2⟩)
        · exact .inl (by omega))
  convert_len := by
    intro k d c paths hg hc hw hq
    by_cases hlen : c.symbols.length ≤ 128 ∧ Conv.SpellNonempty c
    · rw [he.engine k d c hlen.1 hlen.2] at hq
      exact convert_len_of_C03 (he.wellFormed d hg) k hc (fun x hx => he.lookup d x _ (hw x hx)) hq
    · exact he.beyond_len k d c paths hg hc (by
        by_cases h1 : c.symbols.length ≤ 128
        · exact .inr (fun h2 => hlen ⟨h1, h2⟩)
        · exact .inl (by omega)) hw hq

end Chewing.Link
