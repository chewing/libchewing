import Chewing.Proofs.EditorSteps
/-!
What the pieces every family needs return, for every environment: a list request ignored for want of candidates
restores the saved cursor (`cancel_push_clamp`); what learning, `commit` and `try_auto_commit` return
(`C02.LearnFrame`: learning touches the dictionary only; `C02.commit_spec`; `tryAutoCommit_cases`); and that `Selecting`
answers *ignore* / *bell* with the shared state and the list it was given (`selectingNext_quiet`), `Highlighting` with
neither.  `EditorBell` has `Entering` and `EnteringSyllable`, where a bell may come with two named changes.
-/
namespace Chewing

variable {D L : Type} (env : Env D L)

/-- frame conditions on a step result: *ignore* returns exactly `sh0`, *bell* leaves `c0` -/
def Frame (sh0 : Shared D L) (c0 : CompEditor) (r : StepRes D L) : Prop :=
  ∀ sh' t, r = .ok (sh', t) →
    (t = .spin .ignore → sh' = sh0) ∧ (t = .spin .bell → sh'.com = c0)

theorem frame_newPhrase (sh0 sh : Shared D L) (c0 : CompEditor) : Frame sh0 c0 (newPhrase env sh) :=
  newPhrase_all env fun _ _ => ⟨nofun, nofun⟩

theorem frame_newSpecialSymbol (sh0 sh : Shared D L) (c0 : CompEditor) (sym : Sym) :
    Frame sh0 c0 (newSpecialSymbol sh sym) :=
  newSpecialSymbol_all fun _ _ _ => ⟨nofun, nofun⟩

/-! ### `open_phrase` (F02 / F03 repair): `new_phrase`, or — for a list without candidates — the saved
cursor restored and the request ignored -/

theorem C01.popCursor_inner (e : CompEditor) : e.popCursor.inner = e.inner := by
  unfold CompEditor.popCursor; split <;> rfl

theorem C01.clampCursor_inner (e : CompEditor) : e.clampCursor.inner = e.inner := by
  unfold CompEditor.clampCursor; split <;> rfl

/-- popping the cursor saved by `new_phrase` restores the composition editor (cursor inside the buffer) -/
theorem pop_push_clamp (c : CompEditor) (h : c.cursor ≤ c.inner.len) : c.pushCursor.clampCursor.popCursor = c := by
  unfold CompEditor.clampCursor CompEditor.pushCursor
  split <;>
  · unfold CompEditor.popCursor
    simp only [List.getLast?_append, List.getLast?_singleton, Option.some_or, List.dropLast_concat]
    rw [Nat.min_eq_left h]

/-- `symbol_for_select` answers only with the cursor inside the buffer -/
theorem cursor_le_of_symbolForSelect {c : CompEditor} {sym : Sym} (h : c.symbolForSelect = some sym) :
    c.cursor ≤ c.inner.len := by
  unfold CompEditor.symbolForSelect CompEditor.isEob at h
  split at h
  · next he => simp only [beq_iff_eq] at he; omega
  · unfold Composition.symbol? at h
    split at h
    · cases h
    · next hlt => exact Nat.le_of_lt (Nat.lt_of_not_ge hlt)

/-- … so a request made on a symbol and ignored for want of candidates returns the shared state untouched -/
theorem cancel_push_clamp {sh : Shared D L} {sym : Sym} (h : sh.com.symbolForSelect = some sym) :
    Shared.cancelSelecting { sh with com := sh.com.pushCursor.clampCursor } = sh := by
  unfold Shared.cancelSelecting
  simp only [pop_push_clamp _ (cursor_le_of_symbolForSelect h)]

/-! ### learning inside the buffer -/

/-- what `learn_phrase_in_range_quiet` hands back: the shared state untouched and one of the two messages, or
    the phrase it added to the dictionary -/
theorem learnInRangeQuiet_cases (sh : Shared D L) (a b : Nat) :
    ResAll (fun x =>
        (x.1 = sh ∧ ∃ msg, x.2 = .error msg ∧ (msg = Shared.msgFail ∨ ∃ p, msg = Shared.msgExists p)) ∨
        ∃ d p, x = ({ sh with dict := d, dirty := sh.dirty + 1 }, .ok p))
      (Shared.learnInRangeQuiet env sh a b) := by
  unfold Shared.learnInRangeQuiet
  refine .ite (fun _ => .ok (.inl ⟨rfl, _, rfl, .inl rfl⟩)) fun _ => ?_
  split
  · exact .panic _
  · exact .fuel
  · refine .ite (fun _ => .ok (.inl ⟨rfl, _, rfl, .inl rfl⟩)) fun _ => ?_
    split
    · exact .panic _
    · exact .fuel
    · refine .ite (fun _ => .ok (.inl ⟨rfl, _, rfl, .inr ⟨_, rfl⟩⟩)) fun _ => ?_
      split
      · exact .ok (.inr ⟨_, _, rfl⟩)
      · exact .ok (.inl ⟨rfl, _, rfl, .inl rfl⟩)

/-- `learn_phrase_in_range_notify`: a failure changes nothing but the notification, which is one of the two
    messages; a success also extends the dictionary -/
theorem learnInRangeNotify_cases (sh : Shared D L) (a b : Nat) :
    ResAll (fun x =>
        (x.2 = false ∧ ∃ msg, x.1 = { sh with noticeBuf := msg } ∧
          (msg = Shared.msgFail ∨ ∃ p, msg = Shared.msgExists p)) ∨
        (x.2 = true ∧ ∃ d p, x.1 = { sh with dict := d, dirty := sh.dirty + 1, noticeBuf := Shared.msgAdded p }))
      (Shared.learnInRangeNotify env sh a b) := by
  unfold Shared.learnInRangeNotify
  split
  · next hq =>
    obtain ⟨_, _, e, _⟩ | ⟨_, _, e⟩ := learnInRangeQuiet_cases env sh a b _ hq
    · cases e
    · cases e; exact .ok (.inr ⟨rfl, _, _, rfl⟩)
  · next hq =>
    obtain ⟨h, _, e, hm⟩ | ⟨_, _, e⟩ := learnInRangeQuiet_cases env sh a b _ hq
    · cases e; cases h; exact .ok (.inl ⟨rfl, _, rfl, hm⟩)
    · cases e
  · exact .panic _
  · exact .fuel

/-- learning inside the buffer leaves whatever `f` reads of the shared state without looking at the dictionary, the
    counter of unsaved changes and the notification -/
theorem learnInRangeNotify_keeps {α : Type} (f : Shared D L → α)
    (hf : ∀ sh d n m, f { sh with dict := d, dirty := n, noticeBuf := m } = f sh) (sh : Shared D L) (a b : Nat) :
    ResAll (fun x => f x.1 = f sh) (Shared.learnInRangeNotify env sh a b) := fun x e => by
  obtain ⟨_, _, h, _⟩ | ⟨_, _, _, h⟩ := learnInRangeNotify_cases env sh a b x e <;> rw [h]
  · exact hf sh sh.dict sh.dirty _
  · exact hf sh _ _ _

theorem learnInRangeNotify_com (sh : Shared D L) (a b : Nat) :
    ResAll (fun x => x.1.com = sh.com) (Shared.learnInRangeNotify env sh a b) :=
  learnInRangeNotify_keeps env (·.com) (fun _ _ _ _ => rfl) sh a b

/-! ### learning touches the dictionary only -/

namespace C02

/-- `sh'` is `sh` except (possibly) for the dictionary and the dirty counter -/
def LearnFrame (sh sh' : Shared D L) : Prop := sh' = { sh with dict := sh'.dict, dirty := sh'.dirty }

theorem LearnFrame.refl (sh : Shared D L) : LearnFrame sh sh := rfl

theorem LearnFrame.trans {a b c : Shared D L} (h1 : LearnFrame a b) (h2 : LearnFrame b c) : LearnFrame a c := by
  unfold LearnFrame at *
  rw [h2, h1]

theorem LearnFrame.fields {sh sh' : Shared D L} (h : LearnFrame sh sh') :
    sh'.com = sh.com ∧ sh'.nth = sh.nth ∧ sh'.engine = sh.engine ∧ sh'.options = sh.options ∧
    sh'.syl = sh.syl ∧ sh'.commitBuf = sh.commitBuf ∧ sh'.noticeBuf = sh.noticeBuf ∧ sh'.last = sh.last ∧
    sh'.time = sh.time ∧ sh'.abbr = sh.abbr ∧ sh'.symSel = sh.symSel := by
  unfold LearnFrame at h
  rw [h]
  exact ⟨rfl, rfl, rfl, rfl, rfl, rfl, rfl, rfl, rfl, rfl, rfl⟩

theorem learnPhrase_frame (sh : Shared D L) (k : List Nat) (p : Text) :
    ResAll (fun x => LearnFrame sh x.1) (Shared.learnPhrase env sh k p) := by
  unfold Shared.learnPhrase
  refine .ite (fun _ => .ok (.refl sh)) fun _ => .ite (fun _ => ?_) fun _ => ?_
  · split
    · exact .ok rfl
    · exact .ok (.refl sh)
  · dsimp only
    split
    · exact .ok rfl
    · exact .panic _
    · exact .fuel

theorem autoLearn_flush_frame (sh : Shared D L) (pending : Text) (syls : List Sym) :
    ResAll (LearnFrame sh) (Shared.autoLearn.flush env sh pending syls) := by
  unfold Shared.autoLearn.flush
  refine .ite (fun _ => .ok (.refl sh)) fun _ => ?_
  split
  · next h => exact .ok (learnPhrase_frame env sh _ _ _ h)
  · exact .panic _
  · exact .fuel

/-- stated from a state `sh0` fixed in advance, so that the induction hypothesis applies to the intermediate
    states as it stands -/
theorem autoLearn_go_frame (sh0 : Shared D L) (ivs : List Interval) : ∀ (sh : Shared D L) (pending : Text)
    (syls : List Sym), LearnFrame sh0 sh → ResAll (LearnFrame sh0) (Shared.autoLearn.go env sh ivs pending syls) := by
  induction ivs with
  | nil =>
    intro sh pending syls h
    unfold Shared.autoLearn.go
    exact fun x e => h.trans (autoLearn_flush_frame env sh pending syls x e)
  | cons iv rest ih =>
    intro sh pending syls h
    unfold Shared.autoLearn.go
    refine .ite (fun _ => .panic _) fun _ => .ite (fun _ => ?_) fun _ => ?_
    · split
      · exact ih sh _ _ h
      · exact .panic _
      · exact .fuel
    · split
      · next sh1 h1 =>
        have h1 := h.trans (autoLearn_flush_frame env sh pending syls _ h1)
        refine .ite (fun _ => ?_) fun _ => ih sh1 _ _ h1
        split
        · split
          · next h2 => exact ih _ _ _ (h1.trans (learnPhrase_frame env sh1 _ _ _ h2))
          · exact .panic _
          · exact .fuel
        · exact .panic _
        · exact .fuel
      · exact .panic _
      · exact .fuel

/-- **frame lemma**: auto-learning never touches the composition, the chosen alternative, the engine
    (nor anything but the dictionary and its dirty counter) -/
theorem autoLearn_frame (sh : Shared D L) (ivs : List Interval) :
    ResAll (LearnFrame sh) (Shared.autoLearn env sh ivs) :=
  autoLearn_go_frame env sh ivs sh [] [] (.refl sh)

/-! ### `SharedState::commit` -/

/-- what `SharedState::commit` does: the commit buffer becomes the concatenated conversion of the
    composition it was called with (same `nth`, dictionary *before* learning), the composition is
    cleared, `nth` reset; learning changed the dictionary only -/
theorem commit_spec {sh sh' : Shared D L} (h : Shared.commit env sh = .ok sh') :
    ∃ ivs sh1, Shared.conversion env sh = .ok ivs ∧ LearnFrame sh sh1 ∧
      sh' = { sh1 with commitBuf := ivs.flatMap (·.text), com := sh.com.clear, nth := 0, last := .commit } := by
  unfold Shared.commit at h
  split at h
  · cases h
  · cases h
  · next ivs hc =>
    dsimp only at h
    split at h
    · next sh1 hl =>
      cases h
      -- learning ran (or not) on `sh` with the commit buffer emptied
      have hf : LearnFrame { sh with commitBuf := [] } sh1 := by
        split at hl
        · exact autoLearn_frame env _ ivs _ hl
        · cases hl; exact .refl _
      refine ⟨ivs, { sh1 with commitBuf := sh.commitBuf }, hc, ?_, by rw [hf.fields.1]⟩
      unfold LearnFrame at *
      rw [hf]
    · cases h
    · cases h

end C02

theorem commit_com (sh : Shared D L) : ResAll (fun x => x.com = sh.com.clear) (Shared.commit env sh) := fun _ e => by
  obtain ⟨_, _, _, _, rfl⟩ := C02.commit_spec env e
  rfl

/-- `try_auto_commit` either does nothing or, the buffer being over the limit, calls `remove_front` with the count and
    writes the commit buffer with the text that `autoCommitTake` answers on the conversion of the buffer -/
theorem tryAutoCommit_cases (sh : Shared D L) :
    ResAll (fun x => (sh.com.len ≤ sh.options.autoCommitThreshold ∧ x = sh) ∨
        ∃ n com buf, sh.com.removeFront n = .ok com ∧ x = { sh with commitBuf := buf, com := com, last := .commit } ∧
          sh.options.autoCommitThreshold < sh.com.len ∧ ∃ ivs, Shared.conversion env sh = .ok ivs ∧
            Shared.autoCommitTake sh.com.len sh.options.autoCommitThreshold ivs [] 0 = .ok (buf, n))
      (Shared.tryAutoCommit env sh) := by
  unfold Shared.tryAutoCommit
  refine .ite (fun hle => .ok (.inl ⟨hle, rfl⟩)) fun hover => ?_
  split
  · exact .panic _
  · exact .fuel
  · next ivs hconv =>
    split
    · next buf n htake =>
      split
      · next h => exact .ok (.inr ⟨_, _, _, h, rfl, Nat.lt_of_not_le hover, ivs, hconv, htake⟩)
      · exact .panic _
      · exact .fuel
    · exact .panic _
    · exact .fuel

/-! ### Selecting -/

/-- what a list shows depends on the shared state only through the dictionary's lookup answers and the layout's
    alternative syllables -/
theorem candidates_of_lookups (s : Selecting) {sh sh' : Shared D L}
    (hd : ∀ k st, env.lookupAll sh'.dict k st = env.lookupAll sh.dict k st)
    (hsyl : ∀ c, env.altSyllables sh'.syl c = env.altSyllables sh.syl c) :
    Selecting.candidates env s sh' = Selecting.candidates env s sh := by
  unfold Selecting.candidates
  cases s.sel with
  | phrase p => simp only [PhraseSel.candidates, hd, hsyl]
  | symbol y => rfl
  | special sym => rfl

/-- `Selecting::select`: a choice answered with *ignore* or *bell* changes nothing at all -/
theorem select_quiet (s : Selecting) (sh : Shared D L) (n : Nat) :
    ResAll (fun x => x.2.2 = .spin .ignore ∨ x.2.2 = .spin .bell → x.2.1 = sh ∧ x.1 = s)
      (Selecting.select env s sh n) :=
  select_all env (fun _ _ _ _ => ⟨rfl, rfl⟩) (fun _ _ _ _ _ _ _ _ => nofun) (fun _ _ _ _ _ => nofun)
    (fun _ _ _ _ _ _ _ => nofun) (fun _ _ _ _ _ => nofun) fun _ _ _ => nofun

/-- **`Selecting`.**  *Ignore* (`j` / `k` on an empty buffer) and *bell* (Ctrl / Shift with any key, a digit
    without a candidate, any key without a function) change neither the shared state nor the list: same
    selector, same range, same page. -/
theorem selectingNext_quiet (s : Selecting) (sh : Shared D L) (ev : KeyEvent) :
    ResAll (fun x => x.trans = .spin .ignore ∨ x.trans = .spin .bell → x.shared = sh ∧ x.sel = s)
      (selectingNext env s sh ev) :=
  selectingNext_all env (fun _ => ⟨rfl, rfl⟩) nofun (fun _ _ => nofun)
    (selDownSpace_all env (fun _ _ _ => nofun) (fun _ _ _ _ _ _ => nofun) fun _ _ => nofun)
    (fun _ => selMove_all env (fun _ _ => ⟨rfl, rfl⟩) fun _ _ _ _ => closeIfEmpty_all env (fun _ => nofun) fun _ _ _ => nofun)
    (selPrevPage_all env (fun _ => nofun) fun _ _ _ => nofun)
    (selNextPage_all env (fun _ _ _ => nofun) fun _ _ _ => nofun)
    (selDigit_all env (select_quiet env s sh _)) nofun nofun

/-! ### Highlighting: never ignore, never bell -/

theorem highlighting_no_ignore_bell (m : Nat) (sh : Shared D L) (ev : KeyEvent) :
    ResAll (fun x => x.2.2 ≠ .spin .ignore ∧ x.2.2 ≠ .spin .bell) (highlightingNext env m sh ev) :=
  highlightingNext_all env (fun _ => ⟨nofun, nofun⟩) (fun _ => ⟨nofun, nofun⟩) (fun _ _ _ => ⟨nofun, nofun⟩)
    ⟨nofun, nofun⟩

end Chewing
