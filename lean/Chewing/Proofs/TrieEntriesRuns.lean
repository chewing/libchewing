import Chewing.Proofs.TrieEntriesOrder
import Chewing.Proofs.CliSort
/-!
# `entries()` order = sorted keys, prefix chains reversed

`Proofs/TrieEntriesOrder.lean` computes the enumeration of the explicit-stack walk as `ord`.  Here, for a
well-formed tree (children with pairwise different syllables, visited in ascending order; every node has a
leaf or a child):

* `pre_sorted` — the pre-order key list `pre` is sorted by `Cli.keyLe` (lexicographic by syllable code, a
  prefix first);
* `ord_eq_runs` — `ord` is that sorted list cut into its maximal runs "each key a prefix of the next"
  (`Cli.runs`: in pre-order, `x` is a prefix of its successor exactly when the successor is the first key
  below `x` — the descent chain) with every run reversed (`results.pop()` — deepest first);
* `ord_eq_trieOrder` — hence `ord [] root [] = Cli.trieOrder keys` for ANY list `keys` that is a permutation
  of the keys of the tree.
-/
namespace Chewing.TrieCodec
open Chewing.Der Chewing.Cli

/-- induction over the nodes of a well-formed tree -/
theorem nodeInv_induction {P : Item → Prop}
    (h : ∀ s l sub, LeafOK l → sub.WF → kidsOf l sub ≠ [] →
      (∀ k ∈ sortBy sylLt sub.toItems, NodeInv k ∧ P k) → P (.node s l sub)) :
    ∀ it, NodeInv it → P it := by
  have key : ∀ n : Nat, ∀ it : Item, it.size ≤ n → NodeInv it → P it := by
    intro n
    induction n with
    | zero => intro it hs; have := item_size_pos it; omega
    | succ n ih =>
      intro it hs hn
      obtain ⟨s, l, sub, rfl, hl, hw, hne⟩ := hn
      refine h s l sub hl hw hne (fun k hk => ?_)
      have hk' := sorted_kids_inv hw k hk
      have hni := WF_node_inv hk'.1 hk'.2
      have := sorted_kid_size hk
      simp only [Item.size] at hs
      exact ⟨hni, ih k (by omega) hni⟩
  exact fun it hn => key it.size it (Nat.le_refl _) hn

/-- every subtree holds a key, and all its keys extend the path of its root -/
theorem pre_props : ∀ it, NodeInv it → ∀ π, pre π it ≠ [] ∧ ∀ k ∈ pre π it, isPrefix π k = true := by
  refine nodeInv_induction (fun s l sub _ _ hne ih π => ?_)
  rw [pre_node]
  constructor
  · cases l with
    | some ps => simp [leafKey]
    | none =>
      cases hk : sortBy sylLt sub.toItems with
      | nil => exact absurd hk hne
      | cons k1 ks =>
        have := ((ih k1 (by rw [hk]; simp)).2 (π ++ [k1.syl])).1
        simp only [leafKey, List.nil_append, List.flatMap_cons]
        intro hc
        exact this (List.append_eq_nil_iff.mp hc).1
  · intro k hk
    rw [List.mem_append] at hk
    rcases hk with hk | hk
    · cases l with
      | some ps => simp only [leafKey, List.mem_singleton] at hk; rw [hk]; exact isPrefix_refl π
      | none => cases hk
    · obtain ⟨c, hc, hkc⟩ := List.mem_flatMap.mp hk
      exact isPrefix_trans (isPrefix_append_self π [c.syl]) (((ih c hc).2 _).2 k hkc)

/-- the pre-order key list is sorted: lexicographic by syllable code, a prefix first -/
theorem pre_sorted : ∀ it, NodeInv it → ∀ π, (pre π it).Pairwise (fun a b => keyLe a b = true) := by
  refine nodeInv_induction (fun s l sub _ hw _ ih π => ?_)
  rw [pre_node, List.pairwise_append]
  refine ⟨?_, ?_, ?_⟩
  · cases l <;> simp [leafKey]
  · rw [List.pairwise_flatMap]
    refine ⟨fun c hc => (ih c hc).2 _, ?_⟩
    refine (sorted_kids_ascending' hw.good).imp_of_mem ?_
    intro a b ha hb hlt x hx y hy
    exact keyLe_ext_lt ((pre_props a (ih a ha).1 _).2 x hx) ((pre_props b (ih b hb).1 _).2 y hy) hlt
  · intro a ha b hb
    cases l with
    | none => cases ha
    | some ps =>
      simp only [leafKey, List.mem_singleton] at ha
      subst ha
      obtain ⟨c, hc, hbc⟩ := List.mem_flatMap.mp hb
      exact keyLe_of_isPrefix (isPrefix_trans (isPrefix_append_self a [c.syl]) ((pre_props c (ih c hc).1 _).2 b hbc))

/-- the runs of a list that goes on into subtrees under pairwise different syllables: a new run starts between two
    subtrees -/
theorem runs_kids (π : Key) (P : Item → List Key) : ∀ (ks : List Item) (k : Item) (A : List Key),
    (k :: ks).Pairwise (fun x y => x.syl ≠ y.syl) →
    (∀ c ∈ k :: ks, P c ≠ [] ∧ ∀ x ∈ P c, isPrefix (π ++ [c.syl]) x = true) →
    runs (A ++ (k :: ks).flatMap P) = runs (A ++ P k) ++ ks.flatMap fun c => runs (P c) := by
  intro ks
  induction ks with
  | nil => intro k A _ _; simp
  | cons k' ks ih =>
    intro k A hpw hP
    obtain ⟨hk, hpw'⟩ := List.pairwise_cons.mp hpw
    obtain ⟨hne, hext⟩ := hP k List.mem_cons_self
    have h2 : runs (A ++ P k ++ P k') = runs (A ++ P k) ++ runs (P k') := by
      refine runs_append _ _ fun a ha b hb => ?_
      rw [List.getLast?_append, List.getLast?_eq_some_getLast hne, Option.some_or] at ha
      cases ha
      exact ext_not_prefix (hext _ (List.getLast_mem hne))
        ((hP k' (List.mem_cons_of_mem _ List.mem_cons_self)).2 b (List.mem_of_mem_head? hb)) (hk k' List.mem_cons_self)
    rw [List.flatMap_cons, ← List.append_assoc, ih k' _ hpw' fun c hc => hP c (List.mem_cons_of_mem _ hc), h2,
      List.flatMap_cons, List.append_assoc]

/-- the pending leaves of a descent: a chain of prefixes of the current path, deepest first -/
def ChainTo (pend : List Key) (π : Key) : Prop :=
  pend.reverse.Pairwise (fun a b => isPrefix a b = true) ∧ ∀ p ∈ pend, isPrefix p π = true

theorem chainTo_nil (π : Key) : ChainTo [] π := ⟨by simp, fun _ h => by cases h⟩

theorem chainTo_step {pend : List Key} {π : Key} (h : ChainTo pend π) (l : Option (List Phrase)) (s : Nat) :
    ChainTo (leafKey π l ++ pend) (π ++ [s]) := by
  cases l with
  | none =>
    exact ⟨h.1, fun p hp => isPrefix_trans (h.2 p hp) (isPrefix_append_self π [s])⟩
  | some ps =>
    simp only [leafKey, List.cons_append, List.nil_append]
    refine ⟨?_, ?_⟩
    · rw [List.reverse_cons, List.pairwise_append]
      refine ⟨h.1, by simp, ?_⟩
      intro a ha b hb
      simp only [List.mem_singleton] at hb
      subst hb
      exact h.2 a (List.mem_reverse.mp ha)
    · intro p hp
      simp only [List.mem_cons] at hp
      rcases hp with rfl | hp
      · exact isPrefix_append_self _ _
      · exact isPrefix_trans (h.2 p hp) (isPrefix_append_self π [s])

theorem leafKey_reverse (π : Key) (l : Option (List Phrase)) : (leafKey π l).reverse = leafKey π l := by
  cases l <;> rfl

/-- **the enumeration below a node is its sorted key list cut into prefix chains, each chain reversed** -/
theorem ord_eq_runs : ∀ it, NodeInv it → ∀ (π : Key) (pend : List Key), ChainTo pend π →
    ord π it pend = (runs (pend.reverse ++ pre π it)).flatMap List.reverse := by
  refine nodeInv_induction (fun s l sub _ hw hne ih π pend hch => ?_)
  rw [ord_node, pre_node]
  cases hk : sortBy sylLt sub.toItems with
  | nil =>
    cases l with
    | none => exact absurd hk hne
    | some ps =>
      simp only [ordKids, leafKey, List.flatMap_nil, List.append_nil, List.cons_append, List.nil_append]
      have hc := (chainTo_step hch (some ps) 0).1
      simp only [leafKey, List.cons_append, List.nil_append, List.reverse_cons] at hc
      rw [runs_chain _ (by simp) hc]
      simp
  | cons k1 ks =>
    have hasc := sorted_kids_ascending' hw.good
    rw [hk] at hasc ih
    have ih1 := ih k1 List.mem_cons_self
    simp only [ordKids]
    rw [ih1.2 (π ++ [k1.syl]) _ (chainTo_step hch l k1.syl)]
    have hks : ∀ k ∈ ks, ord (π ++ [k.syl]) k [] = (runs (pre (π ++ [k.syl]) k)).flatMap List.reverse := by
      intro k hk'
      have := (ih k (List.mem_cons_of_mem _ hk')).2 (π ++ [k.syl]) [] (chainTo_nil _)
      simpa using this
    rw [flatMap_congr' hks]
    have hrk := runs_kids π (fun k => pre (π ++ [k.syl]) k) ks k1 (leafKey π l ++ pend).reverse
      (hasc.imp Nat.ne_of_lt) (fun k hk' => pre_props k (ih k hk').1 _)
    rw [List.reverse_append, leafKey_reverse, List.append_assoc] at hrk
    rw [hrk, List.flatMap_append, List.flatMap_assoc]
    simp only [List.reverse_append, leafKey_reverse, List.append_assoc]

/-- **for every key list that is a permutation of the tree's keys, the enumeration is `Cli.trieOrder`** -/
theorem ord_eq_trieOrder {it : Item} (hn : NodeInv it) {keys : List Key} (hp : keys.Perm (ord [] it [])) :
    ord [] it [] = trieOrder keys := by
  have h1 := ord_eq_runs it hn [] [] (chainTo_nil _)
  simp only [List.reverse_nil, List.nil_append] at h1
  have hperm : keys.Perm (pre [] it) := by
    refine hp.trans ?_
    rw [h1]
    refine (flatMap_reverse_perm _).trans ?_
    rw [runs_flatten]
  unfold trieOrder
  rw [sortKeys_congr hperm, insSort_of_pairwise (pre_sorted it hn []), h1]

/-- **entries on a written file**: the reader's loop returns the groups of the tree, each once, the leaves as
    written, the keys in the order `ord` (nothing for a tree without nodes) -/
theorem entries_laid_out {recs : List Rec} {data : Bytes} {info : Info} {l : Option (List Phrase)} {sub : Forest}
    (hl : Laid recs data 0 (.node 0 l sub)) (hp : (Item.node 0 l sub).Pre)
    (hcount : recs.length = (Item.node 0 l sub).size) :
    ∃ out : List Group, out.Perm (nodeGroups (l, sub)) ∧
      (kidsOf l sub = [] → out = []) ∧
      (kidsOf l sub ≠ [] → out.map (·.1) = ord [] (.node 0 l sub) []) ∧
      entries { info := info, index := recs.flatMap recBytes, data := data } =
        .ok (out.flatMap fun g => (sortLeaf g.2).map fun p => (g.1, p)) := by
  obtain ⟨cb, hv, hlen, _, hrep⟩ := root_rep hl hp
  simp only [entries, flatMap_recBytes_length, hv]
  rw [if_neg (by omega)]
  by_cases hkids : kidsOf l sub = []
  · obtain ⟨hl', hsub⟩ := kidsOf_eq_nil hkids
    have hsub : forestGroups sub = [] := by rw [forestGroups_toItems, hsub]; rfl
    refine ⟨[], by simp [nodeGroups, hl', hsub, leafGroup], fun _ => rfl, fun h => absurd hkids h, ?_⟩
    simp [cbOf, ceOf, hkids]
  · rw [if_neg (by have := List.length_pos_iff.mpr hkids; simp only [cbOf, ceOf]; omega)]
    obtain ⟨out, hout, hperm⟩ := tLoop_spec (recs.length * 8 + 1) (recs.length * 8 + 1) (.node 0 l sub) [] []
      ⟨0, l, sub, rfl, hp.2.1, hp.2.2, hkids⟩ (by intro F hF; cases hF) (by intro s hs; cases hs)
      (by simp [fsize]; omega) (by simp [fsize]; omega)
    rw [entriesLoop_rep (recs.length * 8 + 1) _ _ [] [] [] (hrep hkids) .nil (by intro s hs; cases hs) out
      (by rw [flatMap_recBytes_length]; exact hout)]
    refine ⟨out, ?_, fun h => absurd h hkids, fun _ => ?_, ?_⟩
    · refine hperm.trans ?_
      simp [framesGroups, itemGroups]
    · simpa [framesOrd] using tLoop_ord _ _ _ _ _ _ hout
    · simp only [List.flatMap_map, sortG]

/-- **`entries()` of a written file, as a list**: for every duplicate-free list `keys` of the keys of the
    tree, the reader yields the keys in the order `Cli.trieOrder keys` and under each key its leaf as written -/
theorem entries_laid_order {recs : List Rec} {data : Bytes} {info : Info} {l : Option (List Phrase)} {sub : Forest}
    (hl : Laid recs data 0 (.node 0 l sub)) (hp : (Item.node 0 l sub).Pre)
    (hcount : recs.length = (Item.node 0 l sub).size)
    (keys : List Key) (hnd : keys.Nodup) (hkeys : ∀ k, k ∈ keys ↔ ∃ ps, findNode k (l, sub) = some ps) :
    entries { info := info, index := recs.flatMap recBytes, data := data } =
      .ok ((trieOrder keys).flatMap fun k => (sortLeaf ((findNode k (l, sub)).getD [])).map fun p => (k, p)) := by
  obtain ⟨out, hperm, hnil, hord, hent⟩ := entries_laid_out (info := info) hl hp hcount
  rw [hent]
  have hw : sub.WF := hp.2.2
  have hmem : ∀ g ∈ out, findNode g.1 (l, sub) = some g.2 := by
    intro g hg
    exact (mem_nodeGroups hw g.1 g.2).mp (hperm.mem_iff.mp hg)
  have hnd' : (out.map (·.1)).Nodup := (hperm.map (·.1)).nodup_iff.mpr (nodeGroups_keys_nodup hw)
  have hkp : keys.Perm (out.map (·.1)) := by
    rw [List.perm_ext_iff_of_nodup hnd hnd']
    intro k
    rw [hkeys k, List.mem_map]
    constructor
    · rintro ⟨ps, h⟩
      exact ⟨(k, ps), hperm.mem_iff.mpr ((mem_nodeGroups hw k ps).mpr h), rfl⟩
    · rintro ⟨g, hg, rfl⟩
      exact ⟨g.2, hmem g hg⟩
  have hto : out.map (·.1) = trieOrder keys := by
    by_cases hk : kidsOf l sub = []
    · have ho := hnil hk
      subst ho
      have : keys = [] := List.Perm.eq_nil (by simpa using hkp)
      rw [this]; rfl
    · rw [hord hk]
      refine ord_eq_trieOrder ⟨0, l, sub, rfl, hp.2.1, hw, hk⟩ ?_
      rw [← hord hk]; exact hkp
  rw [← hto, List.flatMap_map]
  congr 1
  refine flatMap_congr' (fun g hg => ?_)
  rw [hmem g hg]
  rfl

end Chewing.TrieCodec
