import Chewing.Model.TrieWalk
import Chewing.Proofs.TrieValidate
import Chewing.Proofs.TrieShape
/-!
A table that passed `validate_index` (`validate t = true`) is a forest laid out in index order:
children after their parent (`Forward`), no leaf record inside a child range (`NoZeroChild`), the child
ranges of node records ascending with the record index (`Mono`), hence pairwise disjoint
(`DisjointRanges`), every child range inside the table, every node syllable a valid code (`ValidSyls`).
-/
namespace Chewing.TrieWalk
open Chewing.TrieValidate

variable {P : Type}

theorem rec3_length (t : Tbl P) : t.rec3.length = t.n := by simp [Tbl.rec3, Tbl.n]

theorem rec3_get (t : Tbl P) {i : Nat} (hi : i < t.n) (h' : i < t.rec3.length) :
    t.rec3[i] = ((t.get i).a, (t.get i).b, (t.get i).s) := by
  unfold Tbl.n at hi
  simp [Tbl.rec3, Tbl.get, List.getD_eq_getElem?_getD, List.getElem?_eq_getElem hi]

theorem sylAt_rec3 (t : Tbl P) (j : Nat) : sylAt t.rec3 j = (t.get j).s := by
  unfold sylAt Tbl.rec3 Tbl.get
  rcases Nat.lt_or_ge j t.recs.length with h | h
  · simp [List.getD_eq_getElem?_getD, List.getElem?_eq_getElem h]
  · simp [List.getD_eq_getElem?_getD, List.getElem?_eq_none h]
    rfl

/-- the child ranges of node records ascend with the record index -/
def Mono (t : Tbl P) : Prop :=
  ∀ i j, i < j → j < t.n → NodeIsh t i → NodeIsh t j → (t.get i).a + (t.get i).b ≤ (t.get j).a

/-- every node record's child range (empty or not) lies after the record, inside the table -/
def AllInside (t : Tbl P) : Prop :=
  ∀ i, i < t.n → NodeIsh t i → i < (t.get i).a ∧ (t.get i).a + (t.get i).b ≤ t.n

theorem isNode_iff (t : Tbl P) {i : Nat} (hi : i < t.n) (h' : i < t.rec3.length) :
    IsNode (0 + i) t.rec3[i] ↔ NodeIsh t i := by
  rw [rec3_get t hi h']
  simp [IsNode, NodeIsh]

/-- everything `validate_index` has checked about node record `i` -/
theorem valid_node {t : Tbl P} (hv : validate t = true) {i : Nat} (hi : i < t.n) (hn : NodeIsh t i) :
    i < (t.get i).a ∧ (t.get i).a + (t.get i).b ≤ t.n ∧
    (∀ j, (t.get i).a < j → j < (t.get i).a + (t.get i).b → (t.get j).s ≠ 0) ∧
    ∀ i', i < i' → i' < t.n → NodeIsh t i' → (t.get i).a + (t.get i).b ≤ (t.get i').a := by
  have hl : i < t.rec3.length := by rw [rec3_length]; exact hi
  obtain ⟨h1, h2, h3, h4⟩ := scan_sound t.rec3 0 1 (validate_scan hv) i hl ((isNode_iff t hi hl).mpr hn)
  rw [rec3_get t hi hl] at h1 h2 h3 h4
  simp only [Nat.zero_add, rec3_length] at h1 h2
  refine ⟨h1, h2, ?_, ?_⟩
  · intro j hj1 hj2
    have := zeroInside_eq_false.mp h3 j hj1 hj2
    rwa [sylAt_rec3] at this
  · intro i' hlt hi' hn'
    have hl' : i' < t.rec3.length := by rw [rec3_length]; exact hi'
    have := h4 i' hl' hlt ((isNode_iff t hi' hl').mpr hn')
    rw [rec3_get t hi' hl'] at this
    exact this

/-- the syllable check of `validate_index` (since the repair of C13's F47): the syllable field of every node
    record other than the root is a value `Syllable::try_from` accepts -/
theorem valid_syl {t : Tbl P} (hv : validate t = true) {i : Nat} (h0 : 0 < i) (hi : i < t.n)
    (hs : (t.get i).s ≠ 0) : validCode (t.get i).s = true := by
  have := validate_syls hv i h0 (by rw [rec3_length]; exact hi) (by rw [sylAt_rec3]; exact hs)
  rwa [sylAt_rec3] at this

theorem valid_validSyls {t : Tbl P} (hv : validate t = true) : ValidSyls t := by
  intro i hi hn _ j h1 h2 hs
  obtain ⟨ha, hb, _, _⟩ := valid_node hv hi hn
  exact valid_syl hv (by omega) (by omega) hs

theorem valid_allInside {t : Tbl P} (hv : validate t = true) : AllInside t :=
  fun _ hi hn => ⟨(valid_node hv hi hn).1, (valid_node hv hi hn).2.1⟩

theorem valid_forward {t : Tbl P} (hv : validate t = true) : Forward t :=
  fun _ hi hn _ => (valid_node hv hi hn).1

theorem valid_noZeroChild {t : Tbl P} (hv : validate t = true) : NoZeroChild t :=
  fun _ hi hn _ j h1 h2 => (valid_node hv hi hn).2.2.1 j h1 h2

theorem valid_mono {t : Tbl P} (hv : validate t = true) : Mono t :=
  fun _ _ hlt hj hn hn' => (valid_node hv (Nat.lt_trans hlt hj) hn).2.2.2 _ hlt hj hn'

theorem Mono.disjoint {t : Tbl P} (hm : Mono t) : DisjointRanges t := by
  intro i j hi hj hne hn hn' _ _
  rcases Nat.lt_or_ge i j with h | h
  · exact Or.inl (hm i j h hj hn hn')
  · exact Or.inr (hm j i (by omega) hi hn' hn)

theorem valid_disjoint {t : Tbl P} (hv : validate t = true) : DisjointRanges t := (valid_mono hv).disjoint

/-- leaf records of a validated table point inside the phrase data -/
theorem valid_leaf {t : Tbl P} (hv : validate t = true) {i : Nat} (hi : i < t.n) (hn : ¬ NodeIsh t i) :
    (t.get i).a + (t.get i).b ≤ t.dataLen := by
  have hl : i < t.rec3.length := by rw [rec3_length]; exact hi
  have := scan_leaf t.rec3 0 1 (validate_scan hv) i hl (fun h => hn ((isNode_iff t hi hl).mp h))
  rw [rec3_get t hi hl] at this
  exact this

end Chewing.TrieWalk
