import Chewing.Proofs.Enum
import Chewing.Proofs.LayoutSound
import Chewing.Proofs.SyllablePrefix
import Chewing.Model.LayoutKeys
/-!
Completeness of the four table-driven layouts, for EVERY composable syllable but the empty one (not only the readings of
`data/word.src`): typing the keys of the present components in order and then the tone key — Space for the first
tone — commits exactly that syllable (`table_enters`).  What is read off the generated tables is one fact per table
(`tableInvB`: every symbol has a key, Space is the first tone); the rest follows the code of `key_press`
(`tablePress`) through `update` on encoded tuples.
-/
namespace Chewing
open Gen

/-- a table has, for each of the 41 symbols other than `ˉ`, a key (not Backspace) that stands for it and that the
    inverse lookup `keyOfSym` finds; Space stands for the first-tone mark -/
def tableInvB (tbl : List (Nat × Nat)) : Bool :=
  (allLt 41 fun b => match keyOfSym tbl b with
    | some k => tableLookup tbl k == some b && k != keyCodeBackspace
    | none => false) && tableLookup tbl keyCodeSpace == some Sym.TONE1

theorem tableInv_key {tbl : List (Nat × Nat)} (h : tableInvB tbl = true) {b : Nat} (hb : b < 41) :
    ∃ k, keyOfSym tbl b = some k ∧ tableLookup tbl k = some b ∧ (k == keyCodeBackspace) = false := by
  have := allLt_spec (Bool.and_eq_true_iff.mp h).1 b hb
  split at this
  · next k hk => exact ⟨k, hk, by simpa using this⟩
  · cases this

theorem enter_absorb (L : Layout) {c c' : Nat} {k : KeyEv} (k2 : KeyEv) (ks : List KeyEv)
    (hk : (k.code == keyCodeBackspace) = false) (hp : L.press c k = some (.absorb, c')) :
    L.enter c (k :: k2 :: ks) = L.enter c' (k2 :: ks) := by
  rw [Layout.enter, hk, hp]
  · rfl
  · intro h; cases h

theorem enter_commit (L : Layout) {c c' : Nat} {k : KeyEv} (hp : L.press c k = some (.commit, c')) :
    L.enter c [k] = some c' := by
  rw [Layout.enter, hp]

theorem removeTone_encode {i m r : Nat} (h : Tup 5 i m r 0) : removeTone (encode i m r 0) = encode i m r 0 :=
  remove_encode (tup5_to6 h) 3

/-- a key of a non-tone symbol on a toneless syllable: absorbed, the symbol written into its field -/
theorem tablePress_body {tbl : List (Nat × Nat)} {k b i m r : Nat} (hl : tableLookup tbl k = some b) (hb : b < 41)
    (hk : kindOf b ≠ 3) (h : Tup 5 i m r 0) :
    tablePress tbl (encode i m r 0) (qwertyKey k) = some (.absorb, enc4 (setAt (kindOf b) (indexOf b) i m r 0)) := by
  have h41 : (b == Sym.TONE1) = false := by simp [Sym.TONE1]; omega
  have h3 : (kindOf b == 3) = false := by simpa using hk
  simp only [tablePress, show (qwertyKey k).index = k from rfl, hl, h3, h41, removeTone_encode h,
    update_encode (tup5_to6 h) (Nat.lt_succ_of_lt hb), Bool.false_eq_true, if_false, Option.map_some]

theorem encode_ne_empty {i m r t : Nat} (h : Tup 5 i m r t) (hne : ¬ (i = 0 ∧ m = 0 ∧ r = 0 ∧ t = 0)) :
    isEmptySyl (encode i m r t) = false := by
  obtain ⟨h0, h1, h2, h3⟩ := h
  rw [encode_nz (by omega)]
  simp only [isEmptySyl, emptyPattern, beq_eq_false_iff_ne]
  omega

/-- a tone key on a non-empty toneless syllable commits it with that tone; Space commits it as it is -/
theorem tablePress_tone {tbl : List (Nat × Nat)} {k b i m r : Nat} (hl : tableLookup tbl k = some b) (hb : b < 41)
    (hk : kindOf b = 3) (h : Tup 5 i m r 0) (hne : ¬ (i = 0 ∧ m = 0 ∧ r = 0 ∧ 0 = 0)) :
    tablePress tbl (encode i m r 0) (qwertyKey k) = some (.commit, encode i m r (indexOf b)) := by
  have h41 : (b != Sym.TONE1) = true := by simp [Sym.TONE1]; omega
  simp only [tablePress, show (qwertyKey k).index = k from rfl, hl, hk, encode_ne_empty h hne, h41,
    update_encode (tup5_to6 h) (Nat.lt_succ_of_lt hb), beq_self_eq_true, Bool.not_false, if_true, Option.map_some]
  rfl

theorem tablePress_space {tbl : List (Nat × Nat)} {i m r t : Nat} (hl : tableLookup tbl keyCodeSpace = some Sym.TONE1)
    (h : Tup 5 i m r t) (hne : ¬ (i = 0 ∧ m = 0 ∧ r = 0 ∧ t = 0)) :
    tablePress tbl (encode i m r t) (qwertyKey keyCodeSpace) = some (.commit, encode i m r t) := by
  have hk : (kindOf Sym.TONE1 == 3) = true := by decide
  simp only [tablePress, show (qwertyKey keyCodeSpace).index = keyCodeSpace from rfl, hl, hk, encode_ne_empty h hne,
    bne_self_eq_false, Bool.not_false, if_true, Bool.false_eq_true, if_false]

/-- a tone key on the empty syllable is absorbed -/
theorem tablePress_tone_empty {tbl : List (Nat × Nat)} {k b : Nat} (hl : tableLookup tbl k = some b) (hb : b < 41)
    (hk : kindOf b = 3) :
    tablePress tbl (encode 0 0 0 0) (qwertyKey k) = some (.absorb, encode 0 0 0 (indexOf b)) := by
  have h41 : (b == Sym.TONE1) = false := by simp [Sym.TONE1]; omega
  have he : isEmptySyl (encode 0 0 0 0) = true := by decide
  simp only [tablePress, show (qwertyKey k).index = k from rfl, hl, hk, he, h41,
    update_encode (i := 0) (m := 0) (r := 0) (t := 0) (by unfold Tup; omega) (Nat.lt_succ_of_lt hb), beq_self_eq_true,
    Bool.not_true, Bool.false_eq_true, if_true, if_false, Option.map_some]
  rfl

/-- one optional non-tone component in front of further keys: absent, nothing is typed; present, its key is absorbed
    and the symbol written into the still empty field of its kind -/
theorem enter_opt {L : Layout} {tbl : List (Nat × Nat)} (hL : L.press = tablePress tbl) (hinv : tableInvB tbl = true)
    {i m r k x b : Nat} {o : Option Nat} (ht : Tup 5 i m r 0) (hg : Good i m r 0 k) (hk : k < 3)
    (ho : x ≠ 0 → b < 41 ∧ o = some b ∧ kindOf b = k ∧ indexOf b = x) {rest : List KeyEv} (hrest : rest ≠ []) :
    L.enter (encode i m r 0)
        (((if x = 0 then none else o).toList.filterMap (keyOfSym tbl)).map qwertyKey ++ rest) =
      L.enter (enc4 (setAt k x i m r 0)) rest := by
  obtain ⟨k2, ks, rfl⟩ := List.exists_cons_of_ne_nil hrest
  by_cases hx : x = 0
  · subst hx
    simp [setAt_zero hg (Nat.le_refl _) (Nat.lt_succ_of_lt hk), enc4]
  · obtain ⟨hb, rfl, hkb, hib⟩ := ho hx
    obtain ⟨kb, hkey, hl, hbs⟩ := tableInv_key hinv hb
    simp only [hx, if_false, Option.toList_some, List.filterMap_cons, hkey, List.filterMap_nil, List.map_cons, List.map_nil,
      List.cons_append, List.nil_append]
    rw [enter_absorb L k2 ks hbs (hL ▸ tablePress_body hl hb (by omega) ht), hkb, hib]

theorem filterMap_id3 {α : Type} (a b c : Option α) : [a, b, c].filterMap id = a.toList ++ b.toList ++ c.toList :=
  (filterMap_id4 a b c none).trans (List.append_nil _)

/-- the last key of a list for a syllable with a non-tone component: its tone key, or Space for the first tone -/
theorem enter_last {L : Layout} {tbl : List (Nat × Nat)} (hL : L.press = tablePress tbl) (hinv : tableInvB tbl = true)
    {i m r t : Nat} (h : Tup 5 i m r t) (hne : ¬ (i = 0 ∧ m = 0 ∧ r = 0 ∧ 0 = 0)) :
    ∃ kq, (if ((if t = 0 then none else some (36 + t)).bind (keyOfSym tbl)).toList.isEmpty = true then [keyCodeSpace]
        else ((if t = 0 then none else some (36 + t)).bind (keyOfSym tbl)).toList) = [kq] ∧
      L.enter (encode i m r 0) [qwertyKey kq] = some (encode i m r t) := by
  obtain ⟨h0, h1, h2, h3⟩ := h
  have hsp : tableLookup tbl keyCodeSpace = some Sym.TONE1 := by simpa using (Bool.and_eq_true_iff.mp hinv).2
  by_cases ht : t = 0
  · subst ht
    exact ⟨keyCodeSpace, by simp, enter_commit L (hL ▸ tablePress_space hsp ⟨h0, h1, h2, h3⟩ hne)⟩
  · have hs := syms_tbl.2.2.2 t h3 ht
    obtain ⟨kt, hkey, hl, -⟩ := tableInv_key hinv (b := 36 + t) (by omega)
    refine ⟨kt, by simp [ht, hkey], enter_commit L (hL ▸ ?_)⟩
    rw [tablePress_tone hl (by omega) hs.2.1 ⟨h0, h1, h2, by omega⟩ hne, hs.2.2]

theorem table_enters {L : Layout} {tbl : List (Nat × Nat)} (hL : L.press = tablePress tbl) (hinv : tableInvB tbl = true)
    {i m r t : Nat} (h : Tup 5 i m r t) (hne : ¬ (i = 0 ∧ m = 0 ∧ r = 0 ∧ t = 0)) :
    L.enter clearSyl ((tableKeysFor tbl (encode i m r t)).map qwertyKey) = some (encode i m r t) := by
  have h6 := tup5_to6 h
  obtain ⟨a0, a1, a2, a3⟩ := tupleComp_eq h
  have c0 : initial (encode i m r t) = _ := (comp_encode h6 0).trans a0
  have c1 : medial (encode i m r t) = _ := (comp_encode h6 1).trans a1
  have c2 : rime (encode i m r t) = _ := (comp_encode h6 2).trans a2
  have c3 : tone (encode i m r t) = _ := (comp_encode h6 3).trans a3
  obtain ⟨h0, h1, h2, h3⟩ := h
  obtain ⟨s0, s1, s2, s3⟩ := syms_tbl
  simp only [tableKeysFor, c0, c1, c2, c3, filterMap_id3, List.filterMap_append]
  by_cases hb : i = 0 ∧ m = 0 ∧ r = 0
  · -- only a tone mark: its key is absorbed on the empty buffer, Space commits
    obtain ⟨rfl, rfl, rfl⟩ := hb
    have ht : t ≠ 0 := fun e => hne ⟨rfl, rfl, rfl, e⟩
    have hs := s3 t h3 ht
    obtain ⟨kt, hkey, hl, hbs⟩ := tableInv_key hinv (b := 36 + t) (by omega)
    have hsp : tableLookup tbl keyCodeSpace = some Sym.TONE1 := by simpa using (Bool.and_eq_true_iff.mp hinv).2
    simp only [ht, hkey, if_true, if_false, Option.toList_none, List.filterMap_nil, List.append_nil, List.isEmpty_nil,
      Option.bind_some, Option.toList_some, List.cons_append, List.nil_append, List.map_cons, List.map_nil]
    rw [show clearSyl = encode 0 0 0 0 from rfl,
      enter_absorb L _ [] hbs (hL ▸ tablePress_tone_empty hl (by omega) hs.2.1), hs.2.2]
    exact enter_commit L (hL ▸ tablePress_space hsp ⟨by omega, by omega, by omega, h3⟩ (by omega))
  · obtain ⟨kq, hq, hlast⟩ := enter_last hL hinv ⟨h0, h1, h2, h3⟩ (by omega)
    -- a present component has a key, so the body of the key list is not empty
    have hkey : ∀ {x b : Nat}, x ≠ 0 → b < 41 →
        List.filterMap (keyOfSym tbl) (if x = 0 then none else some b).toList ≠ [] := fun hx hb41 => by
      obtain ⟨kb, hk, -⟩ := tableInv_key hinv hb41
      simp [hx, hk]
    rw [if_neg, hq]
    · rw [show clearSyl = encode 0 0 0 0 from rfl, List.map_append, List.map_append, List.map_append, List.append_assoc,
        List.append_assoc]
      exact (enter_opt hL hinv (k := 0) (b := i - 1) ⟨by omega, by omega, by omega, by omega⟩
          ⟨fun _ => rfl, fun _ => rfl, fun _ => rfl, fun _ => rfl⟩ (by omega)
          (fun hx => ⟨by omega, rfl, (s0 i h0 hx).2⟩) (by simp)).trans
        ((enter_opt hL hinv (i := i) (m := 0) (r := 0) (k := 1) (b := 20 + m) ⟨h0, by omega, by omega, by omega⟩
          ⟨by omega, fun _ => rfl, fun _ => rfl, fun _ => rfl⟩ (by omega)
          (fun hx => ⟨by omega, rfl, (s1 m h1 hx).2⟩) (by simp)).trans
        ((enter_opt hL hinv (i := i) (m := m) (r := 0) (k := 2) (b := 23 + r) ⟨h0, h1, by omega, by omega⟩
          ⟨by omega, by omega, fun _ => rfl, fun _ => rfl⟩ (by omega)
          (fun hx => ⟨by omega, rfl, (s2 r h2 hx).2⟩) (by simp)).trans hlast))
    · rw [List.isEmpty_iff]
      simp only [List.append_eq_nil_iff]
      rintro ⟨⟨ea, eb⟩, ec⟩
      rcases (show i ≠ 0 ∨ m ≠ 0 ∨ r ≠ 0 by omega) with hx | hx | hx
      · exact hkey hx (by omega) ea
      · exact hkey hx (by omega) eb
      · exact hkey hx (by omega) ec

theorem tables_inv : ∀ tbl ∈ [standardTable, etTable, ibmTable, ginyiehTable], tableInvB tbl = true := by decide +kernel

end Chewing
