import Chewing.Model.PersistSql
import Chewing.Proofs.Runs
/-!
# SQLite back end: the committed relations are the returned calls, whatever the point of death
-/
namespace Chewing.PersistSql

structure SInv (r0 : Rel) (w : World) : Prop where
  db : w.db = spec r0 w.returned
  open_ : ∀ t, w.tx = some t →
    w.entered = w.returned ++ [t.call] ∧ t.todo.foldl exec t.work = applyCall w.db t.call
  idle : w.tx = none → w.crashed = false → w.entered = w.returned
  dead : w.tx = none → w.crashed = true → w.entered = w.returned ∨ ∃ c, w.entered = w.returned ++ [c]

theorem sinv_init (r0 : Rel) : SInv r0 (init r0) :=
  ⟨rfl, (fun _ h => nomatch h), fun _ _ => rfl, (fun _ h => nomatch h)⟩

theorem spec_snoc (r0 : Rel) (cs : List Call) (c : Call) : spec r0 (cs ++ [c]) = applyCall (spec r0 cs) c := by
  simp [spec, List.foldl_append]

/-- The enabled transitions of a connection that has not died, one constructor per branch of `step`. -/
inductive Step (w : World) : Act → World → Prop
  | crash : Step w .crash { w with crashed := true, tx := none }
  | call (c : Call) : w.tx = none →
      Step w (.call c) { w with tx := some { work := w.db, todo := plan w.db c, call := c }, entered := w.entered ++ [c] }
  | stmt {t : Tx} {s : Stmt} {rest : List Stmt} : w.tx = some t → t.todo = s :: rest →
      Step w .stmt { w with tx := some { t with work := exec t.work s, todo := rest } }
  | commit {t : Tx} : w.tx = some t → t.todo = [] →
      Step w .commit { w with db := t.work, tx := none, returned := w.returned ++ [t.call] }

theorem step_some {w w' : World} {a : Act} (h : step w a = some w') : w.crashed = false ∧ Step w a w' := by
  by_cases hc : w.crashed = true
  · simp [step, hc] at h
  · refine ⟨Bool.eq_false_iff.mpr hc, ?_⟩
    unfold step at h
    rw [if_neg hc] at h
    cases a <;> simp only at h
    case crash => cases h; exact .crash
    case call c => split at h <;> cases h; exact .call c ‹_›
    case stmt =>
      split at h
      · split at h <;> cases h; exact .stmt ‹_› ‹_›
      · cases h
    case commit =>
      split at h
      · split at h <;> cases h; exact .commit ‹_› ‹_›
      · cases h

theorem sinv_step {r0 : Rel} {w w' : World} {a : Act} (hi : SInv r0 w) (hs : step w a = some w') : SInv r0 w' := by
  obtain ⟨hcr, h⟩ := step_some hs
  cases h with
  | crash =>
    refine ⟨hi.db, nofun, nofun, fun _ _ => ?_⟩
    cases ht : w.tx with
    | none => exact Or.inl (hi.idle ht hcr)
    | some t => exact Or.inr ⟨t.call, (hi.open_ t ht).1⟩
  | call c ht =>
    refine ⟨hi.db, fun t h => ?_, nofun, nofun⟩
    cases h
    exact ⟨by rw [hi.idle ht hcr], rfl⟩
  | stmt ht htd =>
    refine ⟨hi.db, fun t' h => ?_, nofun, nofun⟩
    cases h
    have h0 := hi.open_ _ ht
    rw [htd] at h0
    exact h0
  | commit ht htd =>
    -- the working copy has run the whole plan: it is the call applied to the committed relations
    have h0 := hi.open_ _ ht
    refine ⟨?_, nofun, fun _ _ => h0.1, fun _ _ => Or.inl h0.1⟩
    rw [spec_snoc, ← hi.db, ← h0.2, htd]
    rfl

theorem folds : Folds (· = some ·) step run :=
  ⟨by simp [run], fun w a _ => by rw [run]; cases step w a <;> simp⟩

theorem sinv_run {r0 : Rel} {acts : List Act} {w w' : World} (hi : SInv r0 w) (hr : run w acts = some w') :
    SInv r0 w' :=
  folds.always sinv_step acts hi hr

end Chewing.PersistSql
