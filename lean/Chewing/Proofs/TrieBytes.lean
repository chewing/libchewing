import Chewing.Model.TrieCodec
import Chewing.Proofs.Der
/-!
Index bytes ↔ records: the reader's `viewAt` on the flattened index returns the record written.
-/
namespace Chewing.TrieCodec
open Chewing.Der

theorem recBytes_length (r : Rec) : (recBytes r).length = 8 := rfl

theorem flatMap_recBytes_length (recs : List Rec) : (recs.flatMap recBytes).length = recs.length * 8 := by
  induction recs with
  | nil => rfl
  | cons r rs ih => simp only [List.flatMap_cons, List.length_append, recBytes_length, ih, List.length_cons]; omega

theorem drop_flatMap_recBytes (recs : List Rec) (i : Nat) :
    (recs.flatMap recBytes).drop (i * 8) = (recs.drop i).flatMap recBytes := by
  induction recs generalizing i with
  | nil => simp
  | cons r rs ih =>
    cases i with
    | zero => simp
    | succ i =>
      simp only [List.flatMap_cons, List.drop_succ_cons]
      rw [← ih i]
      have : (i + 1) * 8 = (recBytes r).length + i * 8 := by rw [recBytes_length]; omega
      rw [this, List.drop_append]
      simp

theorem u32be_eq (n : Nat) : u32be n = beFixed 4 n := by
  simp [u32be, beFixed, Nat.div_div_eq_div_mul]

theorem u16be_eq (n : Nat) : u16be n = beFixed 2 n := by
  simp [u16be, beFixed]

theorem viewAt_cons (r : Rec) (rest : Bytes) (h1 : r.1 < 4294967296) (h2 : r.2.1 < 65536) (h3 : r.2.2 < 65536) :
    viewAt (recBytes r ++ rest) 0 = r := by
  obtain ⟨a, b, c⟩ := r
  have e : viewAt (recBytes (a, b, c) ++ rest) 0 = (fromBE (u32be a), fromBE (u16be b), fromBE (u16be c)) := rfl
  rw [e, u32be_eq, u16be_eq, u16be_eq, fromBE_beFixed, fromBE_beFixed, fromBE_beFixed,
    Nat.mod_eq_of_lt h1, Nat.mod_eq_of_lt h2, Nat.mod_eq_of_lt h3]

theorem viewAt_recs (recs : List Rec) (i : Nat) (r : Rec) (h : recs[i]? = some r)
    (h1 : r.1 < 4294967296) (h2 : r.2.1 < 65536) (h3 : r.2.2 < 65536) :
    viewAt (recs.flatMap recBytes) (i * 8) = r := by
  have hi : i < recs.length := by
    rcases Nat.lt_or_ge i recs.length with h' | h'
    · exact h'
    · rw [List.getElem?_eq_none h'] at h; cases h
  have hr : recs[i] = r := by
    rw [List.getElem?_eq_getElem hi] at h
    exact Option.some.inj h
  have hd : recs.drop i = r :: recs.drop (i + 1) := by
    rw [← hr]; exact List.drop_eq_getElem_cons hi
  have := viewAt_cons r ((recs.drop (i + 1)).flatMap recBytes) h1 h2 h3
  unfold viewAt at this ⊢
  rw [drop_flatMap_recBytes, hd, List.flatMap_cons]
  simpa using this

end Chewing.TrieCodec
