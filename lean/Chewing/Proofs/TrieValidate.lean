import Chewing.Model.TrieValidate
/-!
What a successful `validate_index` scan establishes about the record list (`scan_sound`), in the
vocabulary of the scan itself.  `Proofs/WalkValid.lean` turns it into the structural predicates of
the traversal theorems, `Proofs/TrieValidWrite.lean` proves that the writer's output passes.
-/
namespace Chewing.TrieValidate

/-- record `i` is treated as a node: the root, or a non-zero syllable field -/
def IsNode (i : Nat) (r : Rec3) : Prop := i = 0 ∨ r.2.2 ≠ 0

theorem zeroInside_eq_false {recs : List Rec3} {a b : Nat} :
    zeroInside recs a b = false ↔ ∀ j, a < j → j < a + b → sylAt recs j ≠ 0 := by
  unfold zeroInside
  simp only [List.any_eq_false, List.mem_range'_1, beq_iff_eq]
  exact ⟨fun h j h1 h2 => h j ⟨h1, by omega⟩, fun h j hj => h j hj.1 (by omega)⟩

theorem isNode_iff_cond {i : Nat} {r : Rec3} : (i == 0 || r.2.2 != 0) = true ↔ IsNode i r := by
  simp [IsNode]

/-- the scan, one record at a time -/
theorem scan_cons_node {recs : List Rec3} {dl : Nat} {r : Rec3} {rest : List Rec3} {i next : Nat} (hn : IsNode i r) :
    scan recs dl (r :: rest) i next = true ↔
      next ≤ r.1 ∧ i < r.1 ∧ r.1 + r.2.1 ≤ recs.length ∧ zeroInside recs r.1 r.2.1 = false ∧
        scan recs dl rest (i + 1) (r.1 + r.2.1) = true := by
  obtain ⟨a, b, s⟩ := r
  rw [scan, if_pos (isNode_iff_cond.mpr hn)]
  simp only [Bool.or_eq_true, decide_eq_true_eq]
  constructor
  · intro h
    split at h
    · cases h
    · split at h
      · cases h
      · rename_i h1 h2
        exact ⟨by omega, by omega, by omega, by simpa using h2, h⟩
  · rintro ⟨h1, h2, h3, h4, h5⟩
    rw [if_neg (by omega), h4]
    exact h5

theorem scan_cons_leaf {recs : List Rec3} {dl : Nat} {r : Rec3} {rest : List Rec3} {i next : Nat} (hn : ¬ IsNode i r) :
    scan recs dl (r :: rest) i next = true ↔ r.1 + r.2.1 ≤ dl ∧ scan recs dl rest (i + 1) next = true := by
  obtain ⟨a, b, s⟩ := r
  rw [scan, if_neg (fun h => hn (isNode_iff_cond.mp h))]
  constructor
  · intro h
    split at h
    · cases h
    · exact ⟨Nat.not_lt.mp ‹_›, h⟩
  · rintro ⟨h1, h2⟩
    rw [if_neg (Nat.not_lt.mpr h1)]
    exact h2
instance (i : Nat) (r : Rec3) : Decidable (IsNode i r) := by unfold IsNode; exact inferInstance

/-- the scan of a suffix: it goes on `k` records later, with a `next` that has only grown -/
theorem scan_drop {recs : List Rec3} {dl : Nat} :
    ∀ (k : Nat) (rest : List Rec3) (i next : Nat), scan recs dl rest i next = true →
      ∃ nx, next ≤ nx ∧ scan recs dl (rest.drop k) (i + k) nx = true
  | 0, _, _, next, h => ⟨next, Nat.le_refl _, h⟩
  | _ + 1, [], _, next, _ => ⟨next, Nat.le_refl _, rfl⟩
  | k + 1, r :: rest, i, next, h => by
    rw [List.drop_succ_cons, ← Nat.succ_add_eq_add_succ]
    by_cases hr : IsNode i r
    · obtain ⟨h1, _, _, _, h5⟩ := (scan_cons_node hr).mp h
      obtain ⟨nx, hle, hs⟩ := scan_drop k rest (i + 1) _ h5
      exact ⟨nx, Nat.le_trans (Nat.le_trans h1 (Nat.le_add_right ..)) hle, hs⟩
    · exact scan_drop k rest (i + 1) _ ((scan_cons_leaf hr).mp h).2

/-- everything the scan has checked, for every node record of the scanned suffix -/
theorem scan_sound {recs : List Rec3} {dl : Nat} (rest : List Rec3) (i next : Nat)
    (h : scan recs dl rest i next = true) (k : Nat) (hk : k < rest.length) (hn : IsNode (i + k) rest[k]) :
    i + k < rest[k].1 ∧ rest[k].1 + rest[k].2.1 ≤ recs.length ∧
    zeroInside recs rest[k].1 rest[k].2.1 = false ∧
    ∀ k' (hk' : k' < rest.length), k < k' → IsNode (i + k') rest[k'] → rest[k].1 + rest[k].2.1 ≤ rest[k'].1 := by
  obtain ⟨nx, _, hs⟩ := scan_drop k rest i next h
  rw [List.drop_eq_getElem_cons hk] at hs
  obtain ⟨_, h2, h3, h4, h5⟩ := (scan_cons_node hn).mp hs
  refine ⟨h2, h3, h4, fun k' hk' hlt hn' => ?_⟩
  obtain ⟨d, rfl⟩ := Nat.exists_eq_add_of_lt hlt
  obtain ⟨nx', hle, hs'⟩ := scan_drop d _ _ _ h5
  rw [List.drop_drop, Nat.add_right_comm k 1 d, List.drop_eq_getElem_cons hk',
    show i + k + 1 + d = i + (k + d + 1) by omega] at hs'
  exact Nat.le_trans hle ((scan_cons_node hn').mp hs').1

/-- leaf records (not the root, zero syllable field) point inside the phrase data -/
theorem scan_leaf {recs : List Rec3} {dl : Nat} (rest : List Rec3) (i next : Nat)
    (h : scan recs dl rest i next = true) (k : Nat) (hk : k < rest.length) (hn : ¬ IsNode (i + k) rest[k]) :
    rest[k].1 + rest[k].2.1 ≤ dl := by
  obtain ⟨nx, _, hs⟩ := scan_drop k rest i next h
  rw [List.drop_eq_getElem_cons hk] at hs
  exact ((scan_cons_leaf hn).mp hs).1

theorem validate_scan {recs : List Rec3} {dl : Nat} (h : validate recs dl = true) : scan recs dl recs 0 1 = true := by
  unfold validate at h
  rw [Bool.and_eq_true] at h
  exact h.1

/-- the syllable field of every node record other than the root is a valid syllable code -/
theorem validate_syls {recs : List Rec3} {dl : Nat} (h : validate recs dl = true) :
    ∀ j, 0 < j → j < recs.length → sylAt recs j ≠ 0 → validCode (sylAt recs j) = true := by
  unfold validate at h
  rw [Bool.and_eq_true] at h
  have hs := h.2
  unfold sylsOk at hs
  rw [List.all_eq_true] at hs
  intro j hj hl hz
  have hm : recs[j] ∈ recs.drop 1 := by
    rw [List.mem_drop_iff_getElem]
    exact ⟨j - 1, by omega, by congr 1; omega⟩
  have := hs _ hm
  have e : sylAt recs j = recs[j].2.2 := by
    unfold sylAt
    simp [List.getD_eq_getElem?_getD, List.getElem?_eq_getElem hl]
  rw [e] at hz ⊢
  simpa [hz] using this

theorem validate_intro {recs : List Rec3} {dl : Nat} (h1 : scan recs dl recs 0 1 = true)
    (h2 : ∀ r ∈ recs.drop 1, r.2.2 ≠ 0 → validCode r.2.2 = true) : validate recs dl = true := by
  unfold validate sylsOk
  rw [Bool.and_eq_true, List.all_eq_true]
  refine ⟨h1, fun r hr => ?_⟩
  by_cases hz : r.2.2 = 0
  · simp [hz]
  · simp [h2 r hr hz]

end Chewing.TrieValidate
