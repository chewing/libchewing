import Chewing.Model.CStr
import Chewing.Model.Der
/-!
The bytes of one UTF-8 encoded code point, said once: `CStr.encChar_cases`.  The model has the encoder twice
(`CStr.encChar` for the C API, `Der.utf8EncChar` for the trie file) and decoders that check validity in
different ways; each round trip takes the bytes from here and never sees `/` or `%`.
-/
namespace Chewing.CStr

/-- A lead byte, then base-64 digits, most significant first, one to a continuation byte; the size of `c`
    decides how many, and the bounds say that no shorter form would do.  Nothing is assumed of `c`: beyond
    U+10FFFF the four-byte form goes on, with a lead byte from 0xF5. -/
theorem encChar_cases (c : Nat) :
    (c < 0x80 ∧ encChar c = [c]) ∨
    (∃ a b, encChar c = [0xC0 + a, 0x80 + b] ∧ c = a * 64 + b ∧ b < 64 ∧ ¬ 0xC0 + a < 0xC2 ∧ 0xC0 + a < 0xE0) ∨
    (∃ a b d, encChar c = [0xE0 + a, 0x80 + b, 0x80 + d] ∧ c = a * 4096 + b * 64 + d ∧
      b < 64 ∧ d < 64 ∧ 0xE0 + a < 0xF0 ∧ 0x800 ≤ c) ∨
    (∃ a b d e, encChar c = [0xF0 + a, 0x80 + b, 0x80 + d, 0x80 + e] ∧
      c = a * 262144 + b * 4096 + d * 64 + e ∧ b < 64 ∧ d < 64 ∧ e < 64 ∧ 0x10000 ≤ c ∧
      (c < 0x110000 → 0xF0 + a < 0xF5)) := by
  have m (x : Nat) : x % 64 < 64 := Nat.mod_lt x (by decide)
  have q1 := Nat.div_div_eq_div_mul c 64 64
  have q2 := Nat.div_div_eq_div_mul c 4096 64
  unfold encChar
  by_cases h1 : c < 0x80
  · exact .inl ⟨h1, if_pos h1⟩
  rw [if_neg h1]
  by_cases h2 : c < 0x800
  · have lo : 2 ≤ c / 64 := (Nat.le_div_iff_mul_le (by decide)).2 (Nat.le_of_not_lt h1)
    have hi : c / 64 < 32 := Nat.div_lt_of_lt_mul h2
    exact .inr (.inl ⟨_, _, if_pos h2, (Nat.div_add_mod' c 64).symm, m _,
      Nat.not_lt.2 (Nat.add_le_add_left lo _), Nat.add_lt_add_left hi _⟩)
  rw [if_neg h2]
  by_cases h3 : c < 0x10000
  · have hi : c / 4096 < 16 := Nat.div_lt_of_lt_mul h3
    exact .inr (.inr (.inl ⟨_, _, _, if_pos h3, by omega, m _, m _, Nat.add_lt_add_left hi _, Nat.le_of_not_lt h2⟩))
  · have hi (h : c < 0x110000) : c / 262144 < 5 := Nat.div_lt_of_lt_mul (Nat.lt_trans h (by decide))
    exact .inr (.inr (.inr ⟨_, _, _, _, if_neg h3, by omega, m _, m _, m _, Nat.le_of_not_lt h3,
      fun h => Nat.add_lt_add_left (hi h) _⟩))

theorem isCont_digit {b : Nat} (h : b < 64) : IsCont (0x80 + b) :=
  ⟨Nat.le_add_right _ _, Nat.add_lt_add_left h _⟩

/-- for `simp only`, with `Nat.reduceLeDiff` to compare the two numerals: a lead byte `L + a` passes every
    test `· < k` of a decoder with `k ≤ L` -/
theorem lead_ge {L k : Nat} (h : k ≤ L) (a : Nat) : ¬ L + a < k :=
  Nat.not_lt.2 (Nat.le_add_right_of_le h)

/-- self-synchronising: the first byte is no continuation byte, the others are -/
theorem encChar_head_tail (c : Nat) : ∃ b0 tl, encChar c = b0 :: tl ∧ ¬ IsCont b0 ∧ ∀ b ∈ tl, IsCont b := by
  rcases encChar_cases c with ⟨h, e⟩ | ⟨a, b, e, -, hb, -⟩ | ⟨a, b, d, e, -, hb, hd, -⟩ |
    ⟨a, b, d, f, e, -, hb, hd, hf, -⟩
  · exact ⟨_, _, e, fun h' => Nat.lt_irrefl _ (Nat.lt_of_le_of_lt h'.1 h), nofun⟩
  all_goals exact ⟨_, _, e, fun h' => lead_ge (by decide) a h'.2, by simp [isCont_digit, *]⟩

theorem encChar_ne_nil (c : Nat) : encChar c ≠ [] := by
  obtain ⟨_, _, e, -⟩ := encChar_head_tail c
  rw [e]; exact List.cons_ne_nil _ _

theorem IsScalar.lt {c : Nat} (h : IsScalar c) : c < 0x110000 :=
  Or.elim h (Nat.lt_trans · (by decide)) And.right

end Chewing.CStr

namespace Chewing.Der

theorem utf8EncChar_eq (c : Nat) : utf8EncChar c = CStr.encChar c := by
  unfold utf8EncChar CStr.encChar; rfl

end Chewing.Der
