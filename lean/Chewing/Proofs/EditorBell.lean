import Chewing.Proofs.EditorEffect
/-!
What a key answered with *ignore* or *bell* may change (C06, "key results are truthful"), for every environment.
*Ignore* returns the shared state it was given.  So does *bell* (`Truthful`, proved once for both answers), except that

* the arms that first hand the key to the phonetic layout (`Entering`: Chinese mode, no modifiers; every
  layout arm of `EnteringSyllable`) store the layout's state after the rejected key (`syl`), and
* a failed Ctrl-digit "add phrase" (`Entering`) writes its message into the notification buffer.

`Selecting` returns the shared state and the `Selecting` value themselves (`EditorFrame`); `Highlighting`
never bells.  `C06.dispatch_quiet` puts the four states together.
-/
namespace Chewing

variable {D L : Type} (env : Env D L)

/-! ### the arms that can bell, as decidable guards -/

/-- does the arm that can answer *bell* from this state hand the key to the phonetic layout first? -/
def bellAsksLayout (st : St) (sh : Shared D L) (ev : KeyEvent) : Bool :=
  match st with
  | .entering => ev.mods.isNone && sh.options.languageMode == .chinese
  | .enteringSyllable => true
  | _ => false

/-- the layout's answer (behaviour, new layout state) to the key in that arm -/
def layoutAnswer (st : St) (sh : Shared D L) (ev : KeyEvent) : LayoutBeh × L :=
  match st with
  | .enteringSyllable =>
    match sh.options.lookupStrategy with
    | .fuzzyPartialPrefix => env.fuzzyKeyPress sh.syl ev
    | .standard => env.keyPress sh.syl ev
  | _ => env.keyPress sh.syl ev

/-- the layout answers after which the editor goes on to reject the key: in `Entering` everything but
    *absorb*, in `EnteringSyllable` everything but *absorb*, *commit*, *fuzzy* -/
def rejected (st : St) (b : LayoutBeh) : Bool :=
  match st, b with
  | _, .absorb => false
  | .enteringSyllable, .commit => false
  | .enteringSyllable, .fuzzy _ => false
  | _, _ => true

/-- the only arm whose bell comes with a notification: Ctrl + digit in `Entering` (add a phrase) -/
def bellMayNotify (st : St) (ev : KeyEvent) : Bool :=
  st == .entering && isDigitCode ev.code && ev.mods.ctrl

/-- phonetic buffer `l` and notification `n` after a bell from state `st`, shared state `sh0`, key `ev` -/
def BellP (st : St) (sh0 : Shared D L) (ev : KeyEvent) (l : L) (n : Text) : Prop :=
  (l = sh0.syl ∨
    (bellAsksLayout st sh0 ev = true ∧ rejected st (layoutAnswer env st sh0 ev).1 = true ∧
     l = (layoutAnswer env st sh0 ev).2)) ∧
  (n = sh0.noticeBuf ∨
    (bellMayNotify st ev = true ∧ (n = Shared.msgFail ∨ ∃ p, n = Shared.msgExists p)))

/-- `sh` is `sh0` except possibly for the phonetic buffer and the notification, and those satisfy `P` -/
def Near (P : L → Text → Prop) (sh0 sh : Shared D L) : Prop :=
  sh = { sh0 with syl := sh.syl, noticeBuf := sh.noticeBuf } ∧ P sh.syl sh.noticeBuf

/-- bell frame of a step result -/
def BFrame (P : L → Text → Prop) (sh0 : Shared D L) (r : StepRes D L) : Prop :=
  ∀ sh' t, r = .ok (sh', t) → t = .spin .bell → Near P sh0 sh'

/-- the step never answers *bell* -/
def NoBell (r : StepRes D L) : Prop := ∀ sh' t, r = .ok (sh', t) → t ≠ .spin .bell

theorem noBell_ite {c : Prop} [Decidable c] {a b : StepRes D L}
    (h1 : NoBell a) (h2 : NoBell b) : NoBell (if c then a else b) :=
  ite_intro (fun _ => h1) fun _ => h2

/-- what the two answers promise of a step result: *ignore* returns exactly `sh0`, *bell* a state near it -/
def Truthful (P : L → Text → Prop) (sh0 : Shared D L) (r : StepRes D L) : Prop :=
  ∀ sh' t, r = .ok (sh', t) → (t = .spin .ignore → sh' = sh0) ∧ (t = .spin .bell → Near P sh0 sh')

variable {P : L → Text → Prop} {sh0 : Shared D L}

theorem Truthful.bell {r : StepRes D L} (h : Truthful P sh0 r) : BFrame P sh0 r := fun sh' t e => (h sh' t e).2

/-! ### `Entering` -/

theorem rejected_entering {b : LayoutBeh} (h : ¬ (b == LayoutBeh.absorb) = true) : rejected .entering b = true := by
  cases b <;> simp_all [rejected]

theorem near_self (st : St) (sh : Shared D L) (ev : KeyEvent) : Near (BellP env st sh ev) sh sh :=
  ⟨rfl, Or.inl rfl, Or.inl rfl⟩

/-- the layout was asked (`Entering`, Chinese mode, no modifiers) and did not absorb the key -/
theorem near_pressed (sh : Shared D L) (ev : KeyEvent) (hm : ev.mods.isNone = true)
    (hl : sh.options.languageMode = .chinese) (hna : ¬ ((env.keyPress sh.syl ev).1 == LayoutBeh.absorb) = true) :
    Near (BellP env .entering sh ev) sh { sh with syl := (env.keyPress sh.syl ev).2 } :=
  ⟨rfl, Or.inr ⟨by simp [bellAsksLayout, hm, hl], rejected_entering hna, rfl⟩, Or.inl rfl⟩

/-- **`Entering`.**  *Ignore* returns the shared state it was given; so does *bell*, up to the layout's state
    after a rejected key (Chinese mode, no modifiers) and the message of a failed Ctrl-digit "add phrase". -/
theorem truthful_enteringNext (sh : Shared D L) (ev : KeyEvent) :
    Truthful (BellP env .entering sh ev) sh (enteringNext env sh ev) := fun sh' t e => by
  cases enteringNext_eff env sh ev sh' t e with
  | ignore => exact ⟨fun _ => rfl, nofun⟩
  | char h =>
    cases h with
    | bell => exact ⟨nofun, fun _ => near_self env .entering sh ev⟩
    | _ => exact ⟨nofun, nofun⟩
  | rejected hl hm ha h =>
    cases h with
    | bell => exact ⟨nofun, fun _ => near_pressed env sh ev hm hl ha⟩
    | _ => exact ⟨nofun, nofun⟩
  | learnFail msg hk hm => exact ⟨nofun, fun _ => ⟨rfl, .inl rfl, .inr ⟨by simpa [bellMayNotify] using hk, hm⟩⟩⟩
  | _ => exact ⟨nofun, nofun⟩

theorem bframe_enteringNext (sh : Shared D L) (ev : KeyEvent) :
    BFrame (BellP env .entering sh ev) sh (enteringNext env sh ev) :=
  (truthful_enteringNext env sh ev).bell

/-! ### `EnteringSyllable` -/

theorem rejected_syllable {b : LayoutBeh} (h1 : b ≠ .absorb) (h2 : b ≠ .commit) (h3 : ∀ s, b ≠ .fuzzy s) :
    rejected .enteringSyllable b = true := by
  cases b <;> simp_all [rejected]

/-- the layout's answer is dealt with: only an answer other than absorb / commit / fuzzy ends in a bell, and the
    shared state is then the one handed in; no answer is ignored -/
theorem truthful_syllableAnswer (sh : Shared D L) (beh : LayoutBeh)
    (hn : rejected .enteringSyllable beh = true → Near P sh0 sh) : Truthful P sh0 (syllableAnswer env sh beh) :=
  syllableAnswer_all env (fun _ _ => ⟨nofun, nofun⟩) (fun _ _ => ⟨nofun, nofun⟩) (fun _ _ _ _ _ => ⟨nofun, nofun⟩)
    (fun _ _ _ => ⟨nofun, nofun⟩) (fun _ _ _ _ _ => newPhraseSimple_all fun _ => ⟨nofun, nofun⟩)
    (fun _ _ _ _ _ => ⟨nofun, nofun⟩) (fun _ _ => ⟨nofun, nofun⟩)
    fun h1 h2 h3 => ⟨nofun, fun _ => hn (rejected_syllable h1 h3 h2)⟩

/-- **`EnteringSyllable`.**  No key is ignored; a bell = the layout rejected the key, and the shared state is the
    one handed in with the layout's state after that key. -/
theorem truthful_enteringSyllableNext (sh : Shared D L) (ev : KeyEvent) :
    Truthful (BellP env .enteringSyllable sh ev) sh (enteringSyllableNext env sh ev) := by
  -- the layout arm, whichever of the two press functions the lookup strategy names
  have hans : ∀ a, layoutAnswer env .enteringSyllable sh ev = a →
      Truthful (BellP env .enteringSyllable sh ev) sh (syllableAnswer env { sh with syl := a.2 } a.1) :=
    fun a ha => truthful_syllableAnswer env _ _ fun hr => ⟨rfl, .inr ⟨rfl, ha ▸ hr, ha ▸ rfl⟩, .inl rfl⟩
  exact enteringSyllableNext_all env (fun _ => ⟨nofun, nofun⟩) (fun _ => ⟨nofun, nofun⟩) (fun _ => ⟨nofun, nofun⟩)
    ⟨nofun, nofun⟩ ⟨nofun, nofun⟩ fun a ha => hans a (by
      obtain ⟨hs, rfl⟩ | ⟨hs, rfl⟩ := ha <;> simp only [layoutAnswer, hs])

theorem bframe_enteringSyllableNext (sh : Shared D L) (ev : KeyEvent) :
    BFrame (BellP env .enteringSyllable sh ev) sh (enteringSyllableNext env sh ev) :=
  (truthful_enteringSyllableNext env sh ev).bell

/-- **`Selecting`.**  A bell changes neither the shared state nor the list: same selector, same range, same page. -/
theorem bsel_selectingNext (s : Selecting) (sh : Shared D L) (ev : KeyEvent) :
    ∀ x, selectingNext env s sh ev = .ok x → x.trans = .spin .bell → x.shared = sh ∧ x.sel = s :=
  fun x e hb => selectingNext_quiet env s sh ev x e (.inr hb)

end Chewing
