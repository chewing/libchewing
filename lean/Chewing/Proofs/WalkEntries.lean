import Chewing.Model.TrieWalk
import Chewing.Proofs.Returns
import Chewing.Proofs.TrieShape
import Chewing.Proofs.WalkLookup
import Chewing.Proofs.SyllableValid
/-!
`Trie::entries()` over an arbitrary index table (`Model/TrieWalk.lean`, the tick machine).  `tick_spec`: under
`NoZeroChild` and `ValidSyls` every loop iteration returns (no panic), keeps the invariant `EInv`, and for every
weight function `W : Weights t` decreases the potential `phi W`; so the walk never panics, and where weights exist it
finishes within `phi init = 8·W.w 0 + 2` iterations.

Potential: a node record `i` weighs `W.w i ≥ 2`; a pending child iterator `cur..end_` weighs the sum of
its members.  `Weights` asks that the children of a node record weigh at most `W.w i - 2` together:
descending strictly reduces the total weight; the bookkeeping iterations are ordered by a phase rank.
`Proofs/WalkLinear.lean` builds such weights (twice the subtree size, `W.w 0 ≤ 2·n`) for every table
that passed `validate_index`.
-/
namespace Chewing.TrieWalk

variable {P : Type}

/-! ### the invariant that excludes the two panic sites of `entries()` -/

/-- every syllable on the syllable stack, and every syllable a pending child iterator will still yield, is a value
    `Syllable::try_from` accepts (`validCode`, in particular not zero) -/
structure EInv (t : Tbl P) (st : ESt P) : Prop where
  syls : ∀ s ∈ st.syls, validCode s = true
  frames : ∀ f ∈ st.stack, f.cur ≤ f.end_ ∧ f.end_ ≤ t.n ∧ ∀ j, f.cur ≤ j → j < f.end_ → validCode (t.get j).s = true
  node : st.node < t.n ∧ NodeIsh t st.node

theorem EInv.enter {t : Tbl P} {st' : ESt P} {c e : Nat} {syls : List Nat} {stack : List Frame}
    (hs : ∀ s ∈ syls, validCode s = true)
    (hf : ∀ f ∈ stack, f.cur ≤ f.end_ ∧ f.end_ ≤ t.n ∧ ∀ j, f.cur ≤ j → j < f.end_ → validCode (t.get j).s = true)
    (hc : c < e) (he : e ≤ t.n) (hv : ∀ j, c ≤ j → j < e → validCode (t.get j).s = true)
    (h1 : st'.syls = (t.get c).s :: syls) (h2 : st'.stack = ⟨c + 1, e⟩ :: stack) (h3 : st'.node = c) : EInv t st' := by
  have hcv := hv c (Nat.le_refl c) hc
  refine ⟨?_, ?_, ?_⟩
  · rw [h1]
    intro s hs'
    rcases List.mem_cons.mp hs' with rfl | h'
    · exact hcv
    · exact hs s h'
  · rw [h2]
    intro g hg
    rcases List.mem_cons.mp hg with rfl | h'
    · exact ⟨hc, he, fun j h1 h2 => hv j (Nat.le_of_succ_le h1) h2⟩
    · exact hf g h'
  · rw [h3]
    exact ⟨Nat.lt_of_lt_of_le hc he, Or.inr (validCode_ne_zero hcv)⟩

/-- sum of `w` over the records `c .. e` -/
def sumW (w : Nat → Nat) (c e : Nat) : Nat := ((List.range' c (e - c)).map w).sum

/-- a weight per record such that a node outweighs its child range by at least 2 -/
structure Weights (t : Tbl P) where
  w : Nat → Nat
  two_le : ∀ i, i < t.n → 2 ≤ w i
  children : ∀ i, i < t.n → NodeIsh t i → InRange t i →
    sumW w (t.get i).a ((t.get i).a + (t.get i).b) + 2 ≤ w i

/-- weight of a pending child iterator = sum of the weights of its members -/
def fw {t : Tbl P} (W : Weights t) (f : Frame) : Nat := sumW W.w f.cur f.end_
def stackW {t : Tbl P} (W : Weights t) (fs : List Frame) : Nat := (fs.map (fw W)).sum

def nodeW {t : Tbl P} (W : Weights t) (st : ESt P) : Nat :=
  match st.phase with
  | .ascend => 0
  | .finished => 0
  | .descend => W.w st.node
  | _ => if st.done then 0 else W.w st.node

def rank : Phase → Nat
  | .finished => 0
  | .descend => 1
  | .callStart => 2
  | .callEnd => 3
  | .ascend => 4

-- The current node counts (`nodeW`) only while it can still be descended into: not while ascending, not after `done`.
-- A descent frees at least 2 units of weight (`Weights.children`) and adds at most one frame, one result and 3 ranks,
-- which the factor 8 pays for; every other iteration lowers a length or the rank at equal weight.
def phi {t : Tbl P} (W : Weights t) (st : ESt P) : Nat :=
  if st.phase = .finished then 0
  else 8 * (nodeW W st + stackW W st.stack) + st.stack.length + st.results.length + rank st.phase

theorem sumW_next (w : Nat → Nat) {c e : Nat} (h : c < e) : sumW w c e = w c + sumW w (c + 1) e := by
  unfold sumW
  have e1 : e - c = (e - (c + 1)) + 1 := by omega
  rw [e1, List.range'_succ]
  simp

theorem fw_next {t : Tbl P} (W : Weights t) {c e : Nat} (h1 : c < e) :
    fw W { cur := c, end_ := e } = W.w c + fw W { cur := c + 1, end_ := e } := sumW_next W.w h1

theorem phase_ne_of_beq {p : Phase} (h : ¬ (p == Phase.finished) = true) : p ≠ .finished := by
  intro hp
  subst hp
  exact h rfl

theorem phi_pos {t : Tbl P} (W : Weights t) {st : ESt P} (h : st.phase ≠ .finished) : 0 < phi W st := by
  have hr : 0 < rank st.phase := by
    cases hph : st.phase with
    | finished => exact absurd hph h
    | _ => exact Nat.succ_pos _
  unfold phi
  rw [if_neg h]
  exact Nat.lt_of_lt_of_le hr (Nat.le_add_left _ _)

theorem phi_finish_lt {t : Tbl P} (W : Weights t) {st : ESt P} (h : st.phase ≠ .finished) :
    phi W st.finish < phi W st := by
  have := phi_pos W h
  simpa [phi, ESt.finish] using this

theorem tick_spec {t : Tbl P} (hz : NoZeroChild t) (hvs : ValidSyls t) {st : ESt P} (hi : EInv t st) :
    ∃ st', tick t st = .ok st' ∧ EInv t st' ∧ ∀ W : Weights t, st.phase ≠ .finished → phi W st' < phi W st := by
  have hkeep : ∀ {st' : ESt P}, st'.syls = st.syls → st'.stack = st.stack → st'.node = st.node → EInv t st' :=
    fun h1 h2 h3 => ⟨h1 ▸ hi.syls, h2 ▸ hi.frames, h3 ▸ hi.node⟩
  -- in every case `tick` is evaluated first (its tests are decided by the case at hand), so the new state is explicit
  cases hph : st.phase with
  | finished => exact ⟨st, by simp only [tick, hph], hi, fun _ h => absurd rfl h⟩
  | callStart =>
    cases hrs : st.results with
    | cons r rs =>
      simp only [tick, hph, hrs]
      refine ⟨_, rfl, hkeep rfl rfl rfl, fun W _ => ?_⟩
      simp only [phi, nodeW, hph, hrs, List.length_cons, reduceCtorEq, if_false]
      omega
    | nil =>
      cases hd : st.done with
      | true =>
        simp only [tick, hph, hrs, hd, if_true]
        exact ⟨_, rfl, hkeep rfl rfl rfl, fun W _ => phi_finish_lt W fun h => nomatch hph.symm.trans h⟩
      | false =>
        simp only [tick, hph, hrs, hd, Bool.false_eq_true, if_false]
        refine ⟨_, rfl, hkeep rfl rfl rfl, fun W _ => ?_⟩
        simp only [phi, nodeW, hph, hrs, hd, reduceCtorEq, if_false, rank, Bool.false_eq_true]
        omega
  | callEnd =>
    cases hrs : st.results with
    | cons r rs =>
      simp only [tick, hph, hrs]
      refine ⟨_, rfl, hkeep rfl rfl rfl, fun W _ => ?_⟩
      simp only [phi, nodeW, hph, hrs, List.length_cons, reduceCtorEq, if_false, rank]
      omega
    | nil =>
      simp only [tick, hph, hrs]
      exact ⟨_, rfl, hkeep rfl rfl rfl, fun W _ => phi_finish_lt W fun h => nomatch hph.symm.trans h⟩
  | ascend =>
    cases hs : st.stack with
    | nil =>
      simp only [tick, hph, hs]
      refine ⟨_, rfl, hkeep rfl hs.symm rfl, fun W _ => ?_⟩
      simp only [phi, nodeW, hph, hs, reduceCtorEq, if_true, if_false, rank]
      omega
    | cons f rest =>
      have hf := hi.frames f (by rw [hs]; exact List.mem_cons_self)
      have hrest := fun g hg => hi.frames g (by rw [hs]; exact List.mem_cons_of_mem _ hg)
      have htail : ∀ s ∈ st.syls.tail, validCode s = true := fun s hs' => hi.syls s (List.mem_of_mem_tail hs')
      by_cases hlt : f.cur < f.end_
      · have hnz : ((t.get f.cur).s == 0) = false :=
          beq_false_of_ne (validCode_ne_zero (hf.2.2 f.cur (Nat.le_refl _) hlt))
        simp only [tick, hph, hs, Frame.next, hlt, if_true, hnz, Bool.false_eq_true, if_false]
        refine ⟨_, rfl, .enter htail hrest hlt hf.2.1 hf.2.2 rfl rfl rfl, fun W _ => ?_⟩
        have hnext : fw W f = W.w f.cur + fw W ⟨f.cur + 1, f.end_⟩ := fw_next W hlt
        cases hd : st.done <;>
        simp only [phi, nodeW, hph, hs, reduceCtorEq, if_true, if_false, rank, stackW, List.map_cons, List.sum_cons,
          List.length_cons, Bool.false_eq_true] <;>
        omega
      · simp only [tick, hph, hs, Frame.next, hlt, if_false]
        refine ⟨_, rfl, ⟨htail, hrest, hi.node⟩, fun W _ => ?_⟩
        simp only [phi, nodeW, hph, hs, reduceCtorEq, if_false, rank, stackW, List.map_cons, List.sum_cons,
          List.length_cons]
        omega
  | descend =>
    cases hin : oob (t.get st.node).a ((t.get st.node).a + (t.get st.node).b) t.n with
    | true =>
      simp only [tick, hph, hin, if_true]
      exact ⟨_, rfl, hkeep rfl rfl rfl, fun W _ => phi_finish_lt W fun h => nomatch hph.symm.trans h⟩
    | false =>
      have hr := oob_false hin
      have hir : InRange t st.node := ⟨by omega, hr.2⟩
      have hkids := hz st.node hi.node.1 hi.node.2 hir
      have hval := hvs st.node hi.node.1 hi.node.2 hir
      -- the children of the node weigh at most `W.w node - 2` together; they are split off one by one
      have hch := fun W : Weights t => W.children st.node hi.node.1 hi.node.2 hir
      have hnext := fun W : Weights t => sumW_next W.w hr.1
      simp only [tick, hph, hin, Bool.false_eq_true, if_false, sliceRecs_eq t ⟨Nat.le_of_lt hr.1, hr.2⟩, Frame.next,
        hr.1, if_true, leafAt_eq t (Nat.lt_of_lt_of_le hr.1 hr.2), any_invalid_false hi.syls]
      cases hl : (t.get (t.get st.node).a).s == 0 with
      | false =>
        simp only [Bool.false_eq_true, if_false]
        have hcv : ∀ j, (t.get st.node).a ≤ j → j < (t.get st.node).a + (t.get st.node).b →
            validCode (t.get j).s = true := fun j h1 h2 => hval j h1 h2 (by
          rcases Nat.eq_or_lt_of_le h1 with rfl | h
          · exact ne_of_beq_false hl
          · exact hkids j h h2)
        refine ⟨_, rfl, .enter hi.syls hi.frames hr.1 hr.2 hcv rfl rfl rfl, fun W _ => ?_⟩
        have := hch W
        have := hnext W
        simp only [phi, nodeW, hph, reduceCtorEq, if_false, rank, stackW, fw, List.map_cons, List.sum_cons,
          List.length_cons]
        omega
      | true =>
        cases hdo : oob (t.get (t.get st.node).a).a ((t.get (t.get st.node).a).a + (t.get (t.get st.node).a).b) t.dataLen with
        | true =>
          simp only [if_true]
          exact ⟨_, rfl, hkeep rfl rfl rfl, fun W _ => phi_finish_lt W fun h => nomatch hph.symm.trans h⟩
        | false =>
          have hd := oob_false hdo
          simp only [Bool.false_eq_true, if_false, if_true, sliceData_eq t ⟨Nat.le_of_lt hd.1, hd.2⟩]
          by_cases hsec : (t.get st.node).a + 1 < (t.get st.node).a + (t.get st.node).b
          · simp only [hsec, if_true]
            refine ⟨_, rfl, .enter hi.syls hi.frames hsec hr.2
              (fun j h1 h2 => hval j (by omega) h2 (hkids j h1 h2)) rfl rfl rfl, fun W _ => ?_⟩
            have := hch W
            have := hnext W
            have := sumW_next W.w hsec
            simp only [phi, nodeW, hph, reduceCtorEq, if_false, rank, stackW, fw, List.map_cons, List.sum_cons,
              List.length_cons]
            omega
          · simp only [hsec, if_false]
            refine ⟨_, rfl, hkeep rfl rfl rfl, fun W _ => ?_⟩
            have := W.two_le st.node hi.node.1
            simp only [phi, nodeW, hph, reduceCtorEq, if_false, rank, List.length_cons]
            omega

/-- the state after the prologue of `entries()` -/
def initSt : ESt P :=
  { phase := .callStart, node := 0, stack := [], syls := [], results := [], done := false, out := [] }

theorem entriesInit_some {t : Tbl P} {st : ESt P} (h : entriesInit t = some st) : 0 < t.n ∧ st = initSt := by
  unfold entriesInit at h
  split at h
  · cases h
  · dsimp only at h
    split at h
    · cases h
    · exact ⟨by omega, (Option.some.inj h).symm⟩

theorem entriesInit_inv {t : Tbl P} {st : ESt P} (h : entriesInit t = some st) : EInv t st := by
  obtain ⟨hn, rfl⟩ := entriesInit_some h
  exact ⟨nofun, nofun, hn, Or.inl rfl⟩

theorem phi_init {t : Tbl P} (W : Weights t) {st : ESt P} (h : entriesInit t = some st) : phi W st = 8 * W.w 0 + 2 := by
  obtain ⟨_, rfl⟩ := entriesInit_some h
  rfl

/-- the run returns, or it runs out of a fuel that is below the potential of every weight function: it never panics -/
theorem run_spec {t : Tbl P} (hz : NoZeroChild t) (hvs : ValidSyls t) : ∀ (fuel : Nat) (st : ESt P), EInv t st →
    (∃ st', run t fuel st = .ok st') ∨ (run t fuel st = .outOfFuel ∧ ∀ W : Weights t, fuel < phi W st)
  | 0, st, _ => by
    unfold run
    split
    · exact Or.inl ⟨_, rfl⟩
    · exact Or.inr ⟨rfl, fun W => phi_pos W (phase_ne_of_beq ‹_›)⟩
  | fuel + 1, st, hi => by
    unfold run
    split
    · exact Or.inl ⟨_, rfl⟩
    · obtain ⟨st', h', hi', hlt⟩ := tick_spec hz hvs hi
      rw [h']
      refine (run_spec hz hvs fuel st' hi').imp_right fun ⟨h, hW⟩ => ⟨h, fun W => ?_⟩
      have := hW W
      have := hlt W (phase_ne_of_beq ‹_›)
      omega

theorem entriesFuel_returns {t : Tbl P} (W : Weights t) (hz : NoZeroChild t) (hvs : ValidSyls t) (fuel : Nat)
    (hfuel : 8 * W.w 0 + 2 ≤ fuel) : Returns (entriesFuel t fuel) := by
  unfold entriesFuel
  cases hinit : entriesInit t with
  | none => exact ⟨_, rfl⟩
  | some st =>
    dsimp only
    rcases run_spec hz hvs fuel st (entriesInit_inv hinit) with ⟨st', h'⟩ | ⟨_, hW⟩
    · rw [h']
      exact ⟨_, rfl⟩
    · have := hW W
      rw [phi_init W hinit] at this
      omega

theorem entriesFuel_no_panic {t : Tbl P} (hz : NoZeroChild t) (hvs : ValidSyls t) (fuel : Nat) (s : String) :
    entriesFuel t fuel ≠ .panic s := by
  unfold entriesFuel
  cases hinit : entriesInit t with
  | none => nofun
  | some st =>
    dsimp only
    rcases run_spec hz hvs fuel st (entriesInit_inv hinit) with ⟨st', h'⟩ | ⟨h', _⟩ <;> rw [h'] <;> nofun

end Chewing.TrieWalk
