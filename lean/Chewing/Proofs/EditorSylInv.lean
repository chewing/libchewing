import Chewing.Proofs.EditorEffect
/-!
The invariant behind the F37 repair: the editor is in state `EnteringSyllable` exactly when the phonetic buffer is
not empty.  Its two halves for the result of one step — `SylOK`: a step that ends in `EnteringSyllable` leaves the
buffer non-empty; `EmptyOK`: a step that ends elsewhere leaves it empty — are proved for `Entering::next` and
`EnteringSyllable::next` under the facts `LayoutSane` about the layout.  Every arm of `Entering` but the one that
hands the key to the layout keeps the buffer and stays out of `EnteringSyllable` (`enteringNext_syl`); so do
`Selecting` and `Highlighting`.
-/
namespace Chewing

variable {D L : Type} (env : Env D L)

/-- what the invariants need from a phonetic layout (facts of the C14 kind; the harness checks the
    resulting invariants on the real layouts after every step) -/
structure LayoutSane (env : Env D L) : Prop where
  /-- `clear()` empties the buffer -/
  clear_empty : ∀ l, env.sylIsEmpty (env.clearSyl l) = true
  /-- a key absorbed from the empty buffer leaves something in it -/
  absorb_nonempty : ∀ l ev, env.sylIsEmpty l = true → (env.keyPress l ev).1 = .absorb →
    env.sylIsEmpty (env.keyPress l ev).2 = false
  /-- a key not absorbed from the empty buffer leaves it empty -/
  reject_from_empty : ∀ l ev, env.sylIsEmpty l = true → (env.keyPress l ev).1 ≠ .absorb →
    env.sylIsEmpty (env.keyPress l ev).2 = true
  /-- a fuzzy completion restarts the buffer with the new key -/
  fuzzy_nonempty : ∀ l ev s,
    ((env.fuzzyKeyPress l ev).1 = .fuzzy s → env.sylIsEmpty (env.fuzzyKeyPress l ev).2 = false) ∧
    ((env.keyPress l ev).1 = .fuzzy s → env.sylIsEmpty (env.keyPress l ev).2 = false)
  /-- a rejected key (neither absorbed, committed nor fuzzy) does not empty a non-empty buffer -/
  reject_keeps : ∀ l ev, env.sylIsEmpty l = false →
    ((env.keyPress l ev).1 ≠ .absorb → (env.keyPress l ev).1 ≠ .commit → (∀ s, (env.keyPress l ev).1 ≠ .fuzzy s) →
      env.sylIsEmpty (env.keyPress l ev).2 = false) ∧
    ((env.fuzzyKeyPress l ev).1 ≠ .absorb → (env.fuzzyKeyPress l ev).1 ≠ .commit →
      (∀ s, (env.fuzzyKeyPress l ev).1 ≠ .fuzzy s) → env.sylIsEmpty (env.fuzzyKeyPress l ev).2 = false)

/-- the state a transition leads to, from state `st` -/
def Trans.target (t : Trans) (st : St) : St :=
  match t with
  | .toState s => s
  | .spin _ => st

/-- result lands in `EnteringSyllable` only with a non-empty phonetic buffer -/
def SylOK (st : St) (r : StepRes D L) : Prop :=
  ∀ sh' t, r = .ok (sh', t) → t.target st = .enteringSyllable → env.sylIsEmpty sh'.syl = false

/-- result not landing in `EnteringSyllable` has an empty phonetic buffer -/
def EmptyOK (st : St) (r : StepRes D L) : Prop :=
  ∀ sh' t, r = .ok (sh', t) → t.target st ≠ .enteringSyllable → env.sylIsEmpty sh'.syl = true

/-- the result's phonetic buffer is `l0` -/
def SylIs (l0 : L) (r : StepRes D L) : Prop := ∀ sh' t, r = .ok (sh', t) → sh'.syl = l0

theorem sylIs_ite {l0 : L} {c : Prop} [Decidable c] {a b : StepRes D L}
    (h1 : SylIs l0 a) (h2 : SylIs l0 b) : SylIs l0 (if c then a else b) :=
  ite_intro (fun _ => h1) fun _ => h2

/-- a transition that does not lead to `EnteringSyllable` -/
def Trans.notSyl (t : Trans) : Prop := t ≠ .toState .enteringSyllable

theorem Trans.notSyl.target {t : Trans} (h : t.notSyl) {st : St} (hst : st ≠ .enteringSyllable) :
    t.target st ≠ .enteringSyllable := by
  cases t with
  | toState s => exact fun e => h (congrArg Trans.toState e)
  | spin b => exact hst

/-! ### learning and committing never touch the phonetic buffer -/

theorem learnInRangeNotify_syl (sh : Shared D L) (a b : Nat) :
    ResAll (fun x => x.1.syl = sh.syl) (Shared.learnInRangeNotify env sh a b) :=
  learnInRangeNotify_keeps env (·.syl) (fun _ _ _ _ => rfl) sh a b

theorem commit_syl (sh : Shared D L) : ResAll (fun x => x.syl = sh.syl) (Shared.commit env sh) := fun _ e => by
  obtain ⟨_, _, _, hf, rfl⟩ := C02.commit_spec env e
  exact hf.fields.2.2.2.2.1

/-! ### `Entering` -/

/-- `Entering::next` keeps the phonetic buffer and stays out of `EnteringSyllable`, unless — Chinese mode, no
    modifiers — the layout was asked: its state after the key is kept, and `EnteringSyllable` entered iff it took it -/
theorem enteringNext_syl (sh : Shared D L) (ev : KeyEvent) :
    StepAll (fun sh' t => (sh'.syl = sh.syl ∧ t.notSyl) ∨
      (sh'.syl = (env.keyPress sh.syl ev).2 ∧
        if (env.keyPress sh.syl ev).1 = .absorb then t = .toState .enteringSyllable else t.notSyl))
      (enteringNext env sh ev) := fun sh' t e => by
  cases enteringNext_eff env sh ev sh' t e with
  | char h => exact .inl ⟨h.fields.2, nofun⟩
  | rejected _ _ ha h => exact .inr ⟨h.fields.2, by rw [if_neg (mt beq_iff_eq.2 ha)]; exact nofun⟩
  | syllable _ _ ha => exact .inr ⟨rfl, by rw [if_pos (eq_of_beq ha)]⟩
  | commit _ _ h => exact .inl ⟨commit_syl env sh _ h, nofun⟩
  | _ => exact .inl ⟨rfl, nofun⟩

theorem sylOK_enteringNext (hl : LayoutSane env) (sh : Shared D L) (ev : KeyEvent)
    (hempty : env.sylIsEmpty sh.syl = true) : SylOK env .entering (enteringNext env sh ev) := fun sh' t e ht => by
  rcases enteringNext_syl env sh ev sh' t e with ⟨_, hn⟩ | ⟨hs, hi⟩
  · exact absurd ht (hn.target nofun)
  · split at hi
    · next ha => rw [hs]; exact hl.absorb_nonempty _ _ hempty ha
    · exact absurd ht (hi.target nofun)

theorem emptyOK_enteringNext (hl : LayoutSane env) (sh : Shared D L) (ev : KeyEvent)
    (hempty : env.sylIsEmpty sh.syl = true) : EmptyOK env .entering (enteringNext env sh ev) := fun sh' t e ht => by
  rcases enteringNext_syl env sh ev sh' t e with ⟨hs, _⟩ | ⟨hs, hi⟩
  · rw [hs]; exact hempty
  · split at hi
    · cases hi; exact absurd rfl ht
    · next ha => rw [hs]; exact hl.reject_from_empty _ _ hempty ha

/-! ### `EnteringSyllable` -/

theorem sylOK_syllableAnswer (sh : Shared D L) (beh : LayoutBeh)
    (hf : ∀ s, beh = .fuzzy s → env.sylIsEmpty sh.syl = false)
    (hr : beh ≠ .absorb → beh ≠ .commit → (∀ s, beh ≠ .fuzzy s) → env.sylIsEmpty sh.syl = false) :
    SylOK env .enteringSyllable (syllableAnswer env sh beh) :=
  syllableAnswer_all env (fun _ _ => nofun) (fun _ e _ => eq_false_of_ne_true e) (fun s _ h _ _ _ => hf s h)
    (fun s h _ _ => hf s h) (fun _ _ _ _ _ => newPhraseSimple_all fun _ => nofun) (fun _ _ _ _ _ => nofun)
    (fun _ _ => nofun) fun h1 h2 h3 _ => hr h1 h3 h2

theorem sylOK_enteringSyllableNext (hl : LayoutSane env) (sh : Shared D L) (ev : KeyEvent)
    (hne : env.sylIsEmpty sh.syl = false) :
    SylOK env .enteringSyllable (enteringSyllableNext env sh ev) :=
  enteringSyllableNext_all env (fun e _ => by simpa using e) (fun _ => nofun) (fun _ => nofun) nofun nofun fun a ha => by
    obtain ⟨_, rfl⟩ | ⟨_, rfl⟩ := ha
    · exact sylOK_syllableAnswer env _ _ (fun s => (hl.fuzzy_nonempty sh.syl ev s).1) (hl.reject_keeps sh.syl ev hne).2
    · exact sylOK_syllableAnswer env _ _ (fun s => (hl.fuzzy_nonempty sh.syl ev s).2) (hl.reject_keeps sh.syl ev hne).1

theorem emptyOK_syllableAnswer (hl : LayoutSane env) (sh : Shared D L) (beh : LayoutBeh) :
    EmptyOK env .enteringSyllable (syllableAnswer env sh beh) :=
  syllableAnswer_all env (fun _ e _ => e) (fun _ _ => absurd rfl) (fun _ _ _ _ _ => absurd rfl) (fun _ _ _ => absurd rfl)
    (fun _ _ _ _ _ => newPhraseSimple_all fun _ _ => hl.clear_empty _) (fun _ _ _ _ _ _ => hl.clear_empty _)
    (fun _ _ _ => hl.clear_empty _) fun _ _ _ => absurd rfl

theorem emptyOK_enteringSyllableNext (hl : LayoutSane env) (sh : Shared D L) (ev : KeyEvent) :
    EmptyOK env .enteringSyllable (enteringSyllableNext env sh ev) :=
  enteringSyllableNext_all env (fun _ => absurd rfl) (fun e _ => by simpa using e) (fun _ _ => hl.clear_empty _)
    (fun _ => hl.clear_empty _) (fun _ => hl.clear_empty _) fun _ _ => emptyOK_syllableAnswer env hl _ _

/-! ### `Selecting` and `Highlighting` are quiet -/

/-- `Selecting::select` keeps the phonetic buffer and never leads to `EnteringSyllable` -/
theorem select_syl (s : Selecting) (sh : Shared D L) (n : Nat) :
    ResAll (fun x => x.2.1.syl = sh.syl ∧ x.2.2.notSyl) (Selecting.select env s sh n) :=
  select_all env (fun _ _ _ => ⟨rfl, nofun⟩) (fun _ _ _ _ _ _ _ _ => ⟨rfl, nofun⟩) (fun _ _ _ _ _ => ⟨rfl, nofun⟩)
    (fun _ _ _ _ _ _ _ => ⟨rfl, nofun⟩) (fun _ _ _ _ _ => ⟨rfl, nofun⟩) fun _ _ _ => ⟨rfl, nofun⟩

theorem selKeep_selectingNext (s : Selecting) (sh : Shared D L) (ev : KeyEvent) :
    ResAll (fun x => x.shared.syl = sh.syl ∧ x.trans.notSyl) (selectingNext env s sh ev) :=
  selectingNext_all env ⟨rfl, nofun⟩ ⟨rfl, nofun⟩ (fun _ _ => ⟨rfl, nofun⟩)
    (selDownSpace_all env (fun _ _ _ => ⟨rfl, nofun⟩) (fun _ _ _ _ _ _ => ⟨rfl, nofun⟩) fun _ _ => ⟨rfl, nofun⟩)
    (fun _ => selMove_all env (fun _ => ⟨rfl, nofun⟩) fun _ _ _ _ =>
      closeIfEmpty_all env (fun _ => ⟨rfl, nofun⟩) fun _ _ _ => ⟨rfl, nofun⟩)
    (selPrevPage_all env (fun _ => ⟨rfl, nofun⟩) fun _ _ _ => ⟨rfl, nofun⟩)
    (selNextPage_all env (fun _ _ _ => ⟨rfl, nofun⟩) fun _ _ _ => ⟨rfl, nofun⟩)
    (selDigit_all env (select_syl env s sh _)) ⟨rfl, nofun⟩ ⟨rfl, nofun⟩

theorem highlighting_syl (m : Nat) (sh : Shared D L) (ev : KeyEvent) :
    ResAll (fun x => x.1.syl = sh.syl ∧ x.2.2.notSyl) (highlightingNext env m sh ev) :=
  highlightingNext_all env (fun _ => ⟨rfl, nofun⟩) (fun _ => ⟨rfl, nofun⟩)
    (fun _ _ e => ⟨learnInRangeNotify_syl env _ _ _ _ e, nofun⟩) ⟨rfl, nofun⟩

end Chewing
