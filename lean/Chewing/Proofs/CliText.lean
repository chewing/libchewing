import Chewing.Model.Cli
/-!
Lemmas about the text primitives of the CLI model: `fields` / `tokens` on separator-free pieces,
`trimQ`, `decimal` / `parseU32`, `joinWith`.
-/
namespace Chewing.Cli
open Gen

def SepFree (sep : Nat → Bool) (a : Text) : Prop := ∀ c ∈ a, sep c = false

theorem SepFree.tail {sep : Nat → Bool} {c : Nat} {a : Text} (h : SepFree sep (c :: a)) : SepFree sep a :=
  fun x hx => h x (List.mem_cons_of_mem _ hx)

theorem fields_sepfree {sep : Nat → Bool} {a : Text} (h : SepFree sep a) : fields sep a = [a] := by
  induction a with
  | nil => rfl
  | cons c a ih =>
    have hc : sep c = false := h c (List.mem_cons_self)
    simp [fields, hc, ih h.tail]

theorem fields_append_sep {sep : Nat → Bool} {a : Text} {d : Nat} (b : Text) (h : SepFree sep a)
    (hd : sep d = true) : fields sep (a ++ d :: b) = a :: fields sep b := by
  induction a with
  | nil => simp [fields, hd]
  | cons c a ih =>
    have hc : sep c = false := h c (List.mem_cons_self)
    simp [fields, hc, ih h.tail]

theorem tokens_nil (sep : Nat → Bool) : tokens sep [] = [] := by simp [tokens, fields]

theorem tokens_sepfree {sep : Nat → Bool} {a : Text} (h : SepFree sep a) (hne : a ≠ []) :
    tokens sep a = [a] := by
  cases a with
  | nil => exact absurd rfl hne
  | cons c a => simp [tokens, fields_sepfree h]

theorem tokens_append_sep {sep : Nat → Bool} {a : Text} {d : Nat} (b : Text) (h : SepFree sep a)
    (hne : a ≠ []) (hd : sep d = true) : tokens sep (a ++ d :: b) = a :: tokens sep b := by
  cases a with
  | nil => exact absurd rfl hne
  | cons c a =>
    rw [tokens, fields_append_sep b h hd]
    simp [tokens]

theorem tokens_sep_cons {sep : Nat → Bool} {d : Nat} (b : Text) (hd : sep d = true) :
    tokens sep (d :: b) = tokens sep b := by
  simp [tokens, fields, hd]

theorem dropWhile_head {p : Nat → Bool} : ∀ {s : Text}, (∀ a, s.head? = some a → p a = false) → s.dropWhile p = s
  | [], _ => rfl
  | c :: cs, h => by simp [List.dropWhile, h c rfl]

theorem trimQ_eq {s : Text} (h1 : s.head? ≠ some cliQuote) (h2 : s.getLast? ≠ some cliQuote) : trimQ s = s := by
  unfold trimQ
  have a : s.dropWhile (· == cliQuote) = s := by
    apply dropWhile_head
    intro a ha
    have : a ≠ cliQuote := fun e => h1 (e ▸ ha)
    simpa using this
  rw [a]
  have b : s.reverse.dropWhile (· == cliQuote) = s.reverse := by
    apply dropWhile_head
    intro a ha
    rw [List.head?_reverse] at ha
    have : a ≠ cliQuote := fun e => h2 (e ▸ ha)
    simpa using this
  rw [b, List.reverse_reverse]

theorem trimQ_of_noquote {s : Text} (h : ∀ c ∈ s, c ≠ cliQuote) : trimQ s = s := by
  apply trimQ_eq
  · intro e
    exact h _ (List.mem_of_mem_head? e) rfl
  · intro e
    exact h _ (List.mem_of_mem_getLast? e) rfl

theorem digitsVal_append (a : Text) (d : Nat) : digitsVal (a ++ [d]) = digitsVal a * 10 + (d - 48) := by
  simp [digitsVal, List.foldl_append]

theorem isDigit_digit {d : Nat} (h : d < 10) : isDigit (48 + d) = true := by
  simp [isDigit]; omega

theorem decimalF_spec : ∀ (fuel n : Nat), n < 10 ^ fuel → 0 < fuel →
    digitsVal (decimalF fuel n) = n ∧ (∀ c ∈ decimalF fuel n, isDigit c = true) ∧ decimalF fuel n ≠ []
  | 0, _, _, h0 => absurd h0 (by omega)
  | fuel + 1, n, hn, _ => by
    unfold decimalF
    split
    · rename_i h
      exact ⟨by simp [digitsVal], by simpa using isDigit_digit h, by simp⟩
    · have hlt : n / 10 < 10 ^ fuel := Nat.div_lt_of_lt_mul (by rwa [Nat.pow_succ, Nat.mul_comm] at hn)
      have hf : 0 < fuel := Nat.pos_of_ne_zero (by rintro rfl; omega)
      obtain ⟨v, dg, _⟩ := decimalF_spec fuel (n / 10) hlt hf
      refine ⟨by rw [digitsVal_append, v, Nat.add_sub_cancel_left, Nat.div_add_mod'], fun c hc => ?_, by simp⟩
      rcases List.mem_append.mp hc with hc | hc
      · exact dg c hc
      · rw [List.mem_singleton.mp hc]
        exact isDigit_digit (Nat.mod_lt _ (by decide))

theorem decimal_spec {n : Nat} (hn : n < 4294967296) :
    digitsVal (decimal n) = n ∧ (∀ c ∈ decimal n, isDigit c = true) ∧ decimal n ≠ [] :=
  decimalF_spec 20 n (by omega) (by omega)

theorem parseU32_digits {s : Text} (hd : ∀ c ∈ s, isDigit c = true) (hne : s ≠ []) :
    parseU32 s = if digitsVal s < 4294967296 then some (digitsVal s) else none := by
  cases s with
  | nil => exact absurd rfl hne
  | cons c cs =>
    have hc : isDigit c = true := hd c (List.mem_cons_self)
    have h43 : c ≠ 43 := by
      intro e; subst e; simp [isDigit] at hc
    have hall : (c :: cs).all isDigit = true := List.all_eq_true.mpr hd
    unfold parseU32
    simp only [List.head?_cons]
    have : (some c == some 43) = false := by simpa using h43
    simp only [this]
    simp [hall]

theorem parseU32_decimal {n : Nat} (hn : n < 4294967296) : parseU32 (decimal n) = some n := by
  obtain ⟨v, dg, ne⟩ := decimal_spec hn
  rw [parseU32_digits dg ne, v]
  simp [hn]

theorem isDigit_not_sep {c : Nat} (h : isDigit c = true) : sylSep c = false ∧ c ≠ cliQuote ∧ c ≠ cliSsvDelim ∧ c ≠ cliCsvDelim := by
  have hc : c < 58 ∧ 48 ≤ c := by simp [isDigit] at h; omega
  exact (by decide : ∀ c < 58, 48 ≤ c → sylSep c = false ∧ c ≠ cliQuote ∧ c ≠ cliSsvDelim ∧ c ≠ cliCsvDelim) c hc.1 hc.2

def AllSep (sep : Nat → Bool) (g : Text) : Prop := ∀ c ∈ g, sep c = true

theorem tokens_allsep_append {sep : Nat → Bool} : ∀ {g : Text} (b : Text), AllSep sep g →
    tokens sep (g ++ b) = tokens sep b
  | [], _, _ => rfl
  | c :: g, b, h => by
    rw [List.cons_append, tokens_sep_cons _ (h c (List.mem_cons_self))]
    exact tokens_allsep_append b (fun x hx => h x (List.mem_cons_of_mem _ hx))

theorem tokens_append_gap {sep : Nat → Bool} {a g : Text} (b : Text) (h : SepFree sep a) (hne : a ≠ [])
    (hg : AllSep sep g) (hgne : g ≠ []) : tokens sep (a ++ g ++ b) = a :: tokens sep b := by
  cases g with
  | nil => exact absurd rfl hgne
  | cons d g =>
    have : a ++ d :: g ++ b = a ++ d :: (g ++ b) := by simp
    rw [this, tokens_append_sep _ h hne (hg d (List.mem_cons_self)),
      tokens_allsep_append b (fun x hx => hg x (List.mem_cons_of_mem _ hx))]

theorem tokens_joinWith_gap {sep : Nat → Bool} {g : Text} (hg : AllSep sep g) (hgne : g ≠ []) :
    ∀ (ts : List Text), (∀ t ∈ ts, SepFree sep t ∧ t ≠ []) → tokens sep (joinWith g ts) = ts
  | [], _ => by simp [joinWith, tokens_nil]
  | [t], h => by
    have := h t (List.mem_cons_self)
    simp [joinWith, tokens_sepfree this.1 this.2]
  | t :: t' :: rest, h => by
    have ht := h t (List.mem_cons_self)
    have ih := tokens_joinWith_gap hg hgne (t' :: rest) (fun x hx => h x (List.mem_cons_of_mem _ hx))
    have : joinWith g (t :: t' :: rest) = t ++ g ++ joinWith g (t' :: rest) := by simp [joinWith]
    rw [this, tokens_append_gap _ ht.1 ht.2 hg hgne, ih]

theorem tokens_joinWith_gap_append {sep : Nat → Bool} {g g' : Text} (hg : AllSep sep g) (hgne : g ≠ [])
    (hg' : AllSep sep g') (hgne' : g' ≠ []) (b : Text) :
    ∀ (ts : List Text), (∀ t ∈ ts, SepFree sep t ∧ t ≠ []) →
      tokens sep (joinWith g ts ++ g' ++ b) = ts ++ tokens sep b
  | [], _ => by simp [joinWith, tokens_allsep_append b hg']
  | [t], h => by
    have := h t (List.mem_cons_self)
    simp only [joinWith, List.singleton_append]
    rw [tokens_append_gap _ this.1 this.2 hg' hgne']
  | t :: t' :: rest, h => by
    have ht := h t (List.mem_cons_self)
    have ih := tokens_joinWith_gap_append hg hgne hg' hgne' b (t' :: rest)
      (fun x hx => h x (List.mem_cons_of_mem _ hx))
    have : joinWith g (t :: t' :: rest) ++ g' ++ b = t ++ g ++ (joinWith g (t' :: rest) ++ g' ++ b) := by
      simp [joinWith]
    rw [this, tokens_append_gap _ ht.1 ht.2 hg hgne, ih]
    rfl

theorem fields_ne_nil (sep : Nat → Bool) : ∀ s : Text, fields sep s ≠ []
  | [] => by simp [fields]
  | c :: cs => by
    unfold fields
    split
    · simp
    · split <;> simp

theorem tokens_head {sep : Nat → Bool} {x : Nat} (c : Text) (hx : sep x = false) :
    ∃ w rest, tokens sep (x :: c) = (x :: w) :: rest := by
  cases hf : fields sep c with
  | nil => exact absurd hf (fields_ne_nil sep c)
  | cons f fs => exact ⟨f, fs.filter (fun f => !f.isEmpty), by simp [tokens, fields, hx, hf]⟩

theorem dropWhile_append_single {p : Nat → Bool} {x : Nat} (hx : p x = false) :
    ∀ a : Text, (a ++ [x]).dropWhile p = a.dropWhile p ++ [x]
  | [] => by simp [List.dropWhile, hx]
  | c :: a => by
    by_cases hc : p c = true
    · simp [List.dropWhile, hc, dropWhile_append_single hx a]
    · simp [List.dropWhile, hc]

theorem trimQ_head {x : Nat} (w : Text) (hx : x ≠ cliQuote) : (trimQ (x :: w)).head? = some x := by
  unfold trimQ
  have hq : ((x == cliQuote) = false) := by simpa using hx
  have h1 : (x :: w).dropWhile (· == cliQuote) = x :: w := by simp [List.dropWhile, hq]
  rw [h1, List.reverse_cons, dropWhile_append_single (p := (· == cliQuote)) hq, List.reverse_append]
  simp

theorem trimQ_cons_quote (f : Text) : trimQ (cliQuote :: f) = trimQ f := by
  unfold trimQ
  simp [List.dropWhile]

theorem dropWhile_append_quote : ∀ f : Text,
    (f ++ [cliQuote]).dropWhile (· == cliQuote) =
      if f.dropWhile (· == cliQuote) = [] then [] else f.dropWhile (· == cliQuote) ++ [cliQuote]
  | [] => by simp [List.dropWhile]
  | c :: f => by
    by_cases hc : (c == cliQuote) = true
    · simp only [List.cons_append, List.dropWhile, hc]
      exact dropWhile_append_quote f
    · simp [List.dropWhile, hc]

theorem trimQ_append_quote (f : Text) : trimQ (f ++ [cliQuote]) = trimQ f := by
  unfold trimQ
  rw [dropWhile_append_quote]
  by_cases h : f.dropWhile (· == cliQuote) = []
  · simp [h]
  · simp only [h, if_false, List.reverse_append, List.reverse_cons, List.reverse_nil, List.nil_append,
      List.singleton_append]
    simp [List.dropWhile]

def quoteIf (b : Bool) (s : Text) : Text := if b then cliQuote :: (s ++ [cliQuote]) else s

theorem trimQ_quoteIf (b : Bool) {s : Text} (h1 : s.head? ≠ some cliQuote) (h2 : s.getLast? ≠ some cliQuote) :
    trimQ (quoteIf b s) = s := by
  cases b with
  | false => exact trimQ_eq h1 h2
  | true =>
    show trimQ (cliQuote :: (s ++ [cliQuote])) = s
    rw [trimQ_cons_quote, trimQ_append_quote, trimQ_eq h1 h2]

theorem mem_of_mem_fields {sep : Nat → Bool} : ∀ {s : Text} {f : Text} {c : Nat}, f ∈ fields sep s → c ∈ f → c ∈ s
  | [], f, c, hf, hc => by
    simp [fields] at hf; subst hf; cases hc
  | x :: xs, f, c, hf, hc => by
    unfold fields at hf
    by_cases hx : sep x = true
    · simp only [hx, if_true, List.mem_cons] at hf
      rcases hf with rfl | hf
      · cases hc
      · exact List.mem_cons_of_mem _ (mem_of_mem_fields hf hc)
    · cases hfs : fields sep xs with
      | nil => exact absurd hfs (fields_ne_nil sep xs)
      | cons g gs =>
        simp only [hx, hfs] at hf
        rcases List.mem_cons.mp hf with hf | hf
        · subst hf
          rcases List.mem_cons.mp hc with hc | hc
          · subst hc; exact List.mem_cons_self
          · exact List.mem_cons_of_mem _ (mem_of_mem_fields (by rw [hfs]; exact List.mem_cons_self) hc)
        · exact List.mem_cons_of_mem _ (mem_of_mem_fields (by rw [hfs]; exact List.mem_cons_of_mem _ hf) hc)

theorem mem_of_mem_tokens {sep : Nat → Bool} {s t : Text} {c : Nat} (ht : t ∈ tokens sep s) (hc : c ∈ t) : c ∈ s :=
  mem_of_mem_fields (List.mem_filter.mp ht).1 hc

theorem fields_cons_nonsep {sep : Nat → Bool} {q : Nat} (hq : sep q = false) (s : Text) :
    ∃ f fs, fields sep s = f :: fs ∧ fields sep (q :: s) = (q :: f) :: fs := by
  cases hf : fields sep s with
  | nil => exact absurd hf (fields_ne_nil sep s)
  | cons f fs => exact ⟨f, fs, rfl, by simp [fields, hq, hf]⟩

theorem fields_append_nonsep {sep : Nat → Bool} {q : Nat} (hq : sep q = false) : ∀ s : Text,
    ∃ fs f, fields sep s = fs ++ [f] ∧ fields sep (s ++ [q]) = fs ++ [f ++ [q]]
  | [] => ⟨[], [], by simp [fields], by simp [fields, hq]⟩
  | c :: s => by
    obtain ⟨fs, f, h1, h2⟩ := fields_append_nonsep hq s
    by_cases hc : sep c = true
    · exact ⟨[] :: fs, f, by simp [fields, hc, h1], by simp [fields, hc, h2]⟩
    · cases fs with
      | nil => exact ⟨[], c :: f, by simp [fields, hc, h1], by simp [fields, hc, h2]⟩
      | cons g gs => exact ⟨(c :: g) :: gs, f, by simp [fields, hc, h1], by simp [fields, hc, h2]⟩

theorem mem_of_mem_trimQ {t : Text} {c : Nat} (h : c ∈ trimQ t) : c ∈ t := by
  unfold trimQ at h
  have h1 := List.mem_reverse.mp h
  have h2 := (List.dropWhile_sublist _).subset h1
  have h3 := List.mem_reverse.mp h2
  exact (List.dropWhile_sublist _).subset h3

theorem dropWhile_head_not {p : Nat → Bool} : ∀ {l : Text} {x : Nat}, (l.dropWhile p).head? = some x → p x = false
  | [], _, h => by simp at h
  | c :: cs, x, h => by
    by_cases hc : p c = true
    · simp only [List.dropWhile, hc] at h
      exact dropWhile_head_not h
    · simp only [List.dropWhile, hc] at h
      simp at h; subst h
      simpa using hc

theorem dropWhile_getLast {p : Nat → Bool} : ∀ {l : Text} {x : Nat},
    (l.dropWhile p).getLast? = some x → l.getLast? = some x
  | [], _, h => by simp at h
  | c :: cs, x, h => by
    by_cases hc : p c = true
    · simp only [List.dropWhile, hc] at h
      have ih := dropWhile_getLast h
      cases cs with
      | nil => simp at ih
      | cons d ds => simpa using ih
    · simpa [List.dropWhile, hc] using h

theorem trimQ_ends (t : Text) : (trimQ t).head? ≠ some cliQuote ∧ (trimQ t).getLast? ≠ some cliQuote := by
  unfold trimQ
  constructor
  · intro h
    rw [List.head?_reverse] at h
    have h1 := dropWhile_getLast h
    rw [List.getLast?_reverse] at h1
    have := dropWhile_head_not h1
    simp at this
  · intro h
    rw [List.getLast?_reverse] at h
    have := dropWhile_head_not h
    simp at this

end Chewing.Cli
