import Chewing.Model.LayoutKeys
/-! Completeness check of the three 26-key layouts (outside the readings of known finding F21) over the generated readings of data/word.src, evaluated by the kernel
    (a finite quantifier; re-run whenever the tables, the readings or the model change). -/
namespace Chewing
open Gen

theorem complete_hsu_tbl : (readingCodes.all fun r => hsuGaps.contains r || entersAny hsuL (hsuCands r) r) = true := by
  decide +kernel

theorem complete_et26_tbl : (readingCodes.all fun r => et26Gaps.contains r || entersAny et26L (et26Cands r) r) = true := by
  decide +kernel

theorem complete_dc26_tbl : (readingCodes.all fun r => dc26Gaps.contains r || entersB dc26L (dc26KeysFor r) r) = true := by
  decide +kernel

end Chewing
