import Chewing.Proofs.Learn
import Chewing.Proofs.TopDefault
/-!
Learning under bounded frequencies (C08): with every stored frequency within `MAX_USER_FREQ`, `learn_phrase`
and `auto_learn` never panic, never lower a frequency, and keep the bound.  Also: strict dominance in the
merged lookup makes the phrase `find_best_phrase`'s choice.
-/
namespace Chewing.Learn
open Gen.Est

def FreqBounded (sys : List Entry) (u : UserMap) : Prop :=
  (∀ e ∈ sys, e.2.freq ≤ maxUserFreq) ∧ (∀ e ∈ u, e.2.1 ≤ maxUserFreq)

theorem allEntries_le (sys : List Entry) (u : UserMap) (key : List Nat) (hB : FreqBounded sys u) :
    ∀ e ∈ allEntries sys u key, e.2 ≤ maxUserFreq := by
  intro e he
  unfold allEntries sysLookup UserMap.lookup at he
  rcases List.mem_append.mp he with he | he
  · obtain ⟨a, ha, rfl⟩ := List.mem_map.mp he
    exact hB.1 a (List.mem_filter.mp ha).1
  · obtain ⟨a, ha, rfl⟩ := List.mem_map.mp he
    exact hB.2 a (List.mem_filter.mp ha).1

theorem mergedFreq_le (sys : List Entry) (u : UserMap) (key : List Nat) (t : Text) (hB : FreqBounded sys u) :
    mergedFreq sys u key t ≤ maxUserFreq :=
  maxBy_le (p := fun s => decide (s = t)) (fun e he _ => allEntries_le sys u key hB e he)

theorem othersMax_le (sys : List Entry) (u : UserMap) (key : List Nat) (t : Text) (hB : FreqBounded sys u) :
    othersMax sys u key t ≤ maxUserFreq :=
  maxBy_le (p := fun s => decide (s ≠ t)) (fun e he _ => allEntries_le sys u key hB e he)

theorem mem_of_get? {u : UserMap} {k : UKey} {v : Nat × Nat} (h : u.get? k = some v) : (k, v) ∈ u := by
  unfold UserMap.get? at h
  cases hf : u.find? (fun e => decide (e.1 = k)) with
  | none => rw [hf] at h; cases h
  | some e =>
    rw [hf] at h
    injection h with h
    have hm := List.mem_of_find?_eq_some hf
    have hk : e.1 = k := by simpa using List.find?_some hf
    have : e = (k, v) := by rw [← hk, ← h]
    rw [← this]; exact hm

theorem mem_lookup_of_get? {u : UserMap} {key : List Nat} {x : Text} {v : Nat × Nat}
    (h : u.get? (key, x) = some v) : (x, v.1) ∈ u.lookup key :=
  List.mem_map.mpr ⟨((key, x), v), List.mem_filter.mpr ⟨mem_of_get? h, by simp⟩, rfl⟩

theorem get?_le_mergedFreq (sys : List Entry) (u : UserMap) (key : List Nat) (x : Text) (v : Nat × Nat)
    (h : u.get? (key, x) = some v) : v.1 ≤ mergedFreq sys u key x :=
  le_bestOf_of_mem (List.mem_append_right _ (mem_lookup_of_get? h))

theorem freqBounded_insert (sys : List Entry) (u : UserMap) (k : UKey) (v : Nat × Nat) (hB : FreqBounded sys u)
    (hv : v.1 ≤ maxUserFreq) : FreqBounded sys (u.insert k v) := by
  refine ⟨hB.1, fun e he => ?_⟩
  unfold UserMap.insert at he
  rcases List.mem_cons.mp he with e1 | he
  · rw [e1]; exact hv
  · exact hB.2 e (List.mem_filter.mp he).1

def MonoStep (u u' : UserMap) : Prop := ∀ k v, u.get? k = some v → ∃ v', u'.get? k = some v' ∧ v.1 ≤ v'.1

theorem MonoStep.refl (u : UserMap) : MonoStep u u := fun _ v h => ⟨v, h, Nat.le_refl _⟩

theorem MonoStep.trans {a b c : UserMap} (h1 : MonoStep a b) (h2 : MonoStep b c) : MonoStep a c := by
  intro k v h
  obtain ⟨v1, e1, l1⟩ := h1 k v h
  obtain ⟨v2, e2, l2⟩ := h2 k v1 e1
  exact ⟨v2, e2, Nat.le_trans l1 l2⟩

theorem monoStep_insert (u : UserMap) (k : UKey) (v : Nat × Nat) (h : ∀ v0, u.get? k = some v0 → v0.1 ≤ v.1) :
    MonoStep u (u.insert k v) := by
  intro k' v' hk
  by_cases e : k' = k
  · subst e; exact ⟨v, UserMap.get?_insert_self _ _ _, h v' hk⟩
  · exact ⟨v', by rw [UserMap.get?_insert_ne _ _ _ _ e]; exact hk, Nat.le_refl _⟩

theorem allEntries_nonempty_of_get? (sys : List Entry) (u : UserMap) (key : List Nat) (x : Text) (v : Nat × Nat)
    (h : u.get? (key, x) = some v) : (allEntries sys u key).isEmpty = false :=
  List.isEmpty_eq_false_iff_exists_mem.mpr ⟨_, List.mem_append_right _ (mem_lookup_of_get? h)⟩

theorem u32_headroom : maxUserFreq + shortInc ≤ u32Max := by decide

theorem learnPhrase_bounded (ctx : LearnCtx) (u : UserMap) (key : List Nat) (x : Text)
    (hB : FreqBounded ctx.sys u) :
    ∃ u', learnPhrase ctx u key x = .ok u' ∧ FreqBounded ctx.sys u' ∧ MonoStep u u' := by
  refine ⟨_, learnPhrase_eq .., ?_⟩
  split
  · refine ⟨freqBounded_insert _ _ _ _ hB (learnedVal_le_max ..), monoStep_insert _ _ _ (fun v0 h0 => ?_)⟩
    rw [learnedVal, allEntries_nonempty_of_get? ctx.sys u key x v0 h0, if_neg Bool.false_ne_true]
    exact Nat.le_trans (get?_le_mergedFreq ctx.sys u key x v0 h0) (learnStep_ge _ _ (mergedFreq_le _ _ _ _ hB))
  · exact ⟨hB, MonoStep.refl u⟩

theorem learnAll_bounded (ctx : LearnCtx) (us : List (List Nat × Text)) :
    ∀ (u : UserMap), FreqBounded ctx.sys u →
      ∃ u', learnAll ctx us u = .ok u' ∧ FreqBounded ctx.sys u' ∧ MonoStep u u' := by
  induction us with
  | nil => intro u hB; exact ⟨u, rfl, hB, MonoStep.refl u⟩
  | cons p rest ih =>
    intro u hB
    obtain ⟨k, t⟩ := p
    obtain ⟨u1, e1, b1, m1⟩ := learnPhrase_bounded ctx u k t hB
    obtain ⟨u2, e2, b2, m2⟩ := ih u1 b1
    refine ⟨u2, ?_, b2, m1.trans m2⟩
    simp only [learnAll, e1, Outcome.bind]
    exact e2

/-- no bound on the stored frequencies is needed for "no panic" (repair of F40) -/
theorem learnAll_total (ctx : LearnCtx) (us : List (List Nat × Text)) :
    ∀ (u : UserMap), ∃ u', learnAll ctx us u = .ok u' := by
  induction us with
  | nil => exact fun u => ⟨u, rfl⟩
  | cons p rest ih =>
    intro u
    obtain ⟨k, t⟩ := p
    rw [learnAll, learnPhrase_eq]
    exact ih _

theorem keyOf_map_syl (key : List Nat) : keyOf (key.map Sym.syl) = key := by
  induction key with
  | nil => rfl
  | cons a r ih => simp [keyOf, ih]

/-! ### Strict dominance in the merged lookup -/

/-- a phrase whose merged frequency is strictly above every other phrase's is what `find_best_phrase` returns
    for the range -/
theorem bestPhrase_of_dominant (ctx : LearnCtx) (u : UserMap) (key : List Nat) (x : Text)
    (hdom : ∀ t, t ≠ x → mergedFreq ctx.sys u key t < mergedFreq ctx.sys u key x) :
    bestPhrase (lookupAll ctx u key) = some (x, mergedFreq ctx.sys u key x) := by
  have hb := lookupAll_bestOf ctx u key
  have hf : (x, mergedFreq ctx.sys u key x) ∈ lookupAll ctx u key := by
    rw [← hb]; exact bestOf_attained (by rw [hb]; exact pos_of_dominant hdom)
  apply bestPhrase_top _ _ hf
  intro q hq
  have h1 : mergedFreq ctx.sys u key q.1 = q.2 := (hb q.1).symm.trans (uniq_mem_bestOf (layeredLookup_uniq _ _) hq)
  by_cases e : q.1 = x
  · exact Or.inl (Prod.ext e (by rw [← h1, e]))
  · exact Or.inr (by rw [← h1]; exact hdom q.1 e)

end Chewing.Learn
