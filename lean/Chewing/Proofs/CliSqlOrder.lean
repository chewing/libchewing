import Chewing.Proofs.CliSqlLookup
/-!
Finding F34, exactly: what the SQLite file compiled from a dump answers for a **one-syllable key**.

`dump` enumerates the table in primary-key order (key blob, phrase text); compiling that text assigns
`sort_id` 1, 2, 3, … in this order; `lookup` orders by `sort_id` first.  Hence the recompiled file lists the
phrases of a one-syllable key in ascending order of their text, whatever the original order was
(`sql_recompiled_lookup_single`); so the lookup order survives iff it was ascending by text already.
-/
namespace Chewing.Cli

/-- ascending by phrase text (bytewise) -/
def pfLe (a b : PF) : Bool := !textLt b.1 a.1

def rowPF (r : Row) : PF := (r.phrase, r.freq)

theorem pfLe_total (a b : PF) : pfLe a b = true ∨ pfLe b a = true := by
  unfold pfLe
  rcases textLt_tri a.1 b.1 with h | h | h
  · left; simp [textLt_asymm _ _ h]
  · left; simp [h, textLt_irrefl]
  · right; simp [textLt_asymm _ _ h]

theorem pfLe_trans (a b c : PF) (h1 : pfLe a b = true) (h2 : pfLe b c = true) : pfLe a c = true := by
  unfold pfLe at h1 h2 ⊢
  simp only [Bool.not_eq_true'] at h1 h2 ⊢
  exact textLe_trans h1 h2

theorem freshRows_lower : ∀ (E : List Rec) (sid : Nat), ∀ row ∈ freshRows sid E, row.key.length = 1 → sid < row.sortId
  | [], _, row, h, _ => by simp [freshRows] at h
  | r :: E, sid, row, h, hl => by
    simp only [freshRows, List.mem_cons] at h
    rcases h with rfl | h
    · have : (r.syls.length == 1) = true := by simpa [newRow] using hl
      simp [newRow, this]
    · have := freshRows_lower E _ row h hl
      split at this <;> omega

theorem freshRows_increasing : ∀ (E : List Rec) (sid : Nat),
    (freshRows sid E).Pairwise (fun a b => a.key.length = 1 → b.key.length = 1 → a.sortId < b.sortId)
  | [], _ => by simp [freshRows]
  | r :: E, sid => by
    simp only [freshRows]
    refine List.pairwise_cons.mpr ⟨?_, freshRows_increasing E _⟩
    intro b hb ha hbl
    have h1 := freshRows_lower E _ b hb hbl
    have : (r.syls.length == 1) = true := by simpa [newRow] using ha
    simp only [this, if_true] at h1
    simp [newRow, this]
    exact h1

theorem sqlInv_unique {rows : List Row} (h : SqlInv rows) {a b : Row} (ha : a ∈ rows) (hb : b ∈ rows)
    (hs : SameKP a b) : a = b :=
  key_unique h.keyed ha hb (primKey_eq.mpr hs)

/-- **F34, exactly** — after dump + recompile a one-syllable key lists its phrases in ascending order of
    their text -/
theorem sql_recompiled_lookup_single (rs : List Rec) (k : Key) (hk : k.length = 1) :
    sqlLookup (sqlBuild (sqlEntries (sqlBuild rs))) k = insSort pfLe (sqlLookup (sqlBuild rs) k) := by
  have hinv := sqlBuild_inv rs
  generalize sqlBuild rs = m at hinv ⊢
  have hsorted : (insSort rowLe m.rows).Pairwise (fun a b => rowLe a b = true) :=
    insSort_pairwise rowLe_total rowLe_trans m.rows
  have hperm := insSort_perm rowLe m.rows
  have hinvS : SqlInv (insSort rowLe m.rows) :=
    hinv.perm hperm.symm (fun {x y} h c => h ⟨c.1.symm, c.2.symm⟩)
  have hrows := sqlBuild_entries hinv
  -- the rows of key `k` are already in lookup order …
  have hF2 : ((freshRows 0 (sqlEntries m)).filter (fun r => r.key == k)).Pairwise (fun a b => lookupLe a b = true) := by
    have h1 := (freshRows_increasing (sqlEntries m) 0).filter (fun r => r.key == k)
    refine h1.imp_of_mem ?_
    intro a b ha hb hab
    have ka : a.key = k := by simpa using (List.mem_filter.mp ha).2
    have kb : b.key = k := by simpa using (List.mem_filter.mp hb).2
    have := hab (by rw [ka]; exact hk) (by rw [kb]; exact hk)
    simp [lookupLe, this]
  -- … and are the rows of key `k` of the sorted original table
  have hmapF : ((freshRows 0 (sqlEntries m)).filter (fun r => r.key == k)).map rowPF =
      ((insSort rowLe m.rows).filter (fun r => r.key == k)).map rowPF := by
    have e1 : ∀ l : List Row, (l.filter (fun r => r.key == k)).map rowPF =
        (((l.map rowRec).filter (fun x => x.syls == k))).map (fun x => (x.phrase, x.freq)) := by
      intro l
      rw [List.filter_map, List.map_map]
      rfl
    rw [e1, e1, freshRows_recs, sqlEntries_eq]
  unfold sqlLookup
  rw [hrows, insSort_of_pairwise hF2]
  show _ = insSort pfLe ((insSort lookupLe (m.rows.filter (fun r => r.key == k))).map rowPF)
  show ((freshRows 0 (sqlEntries m)).filter (fun r => r.key == k)).map rowPF = _
  rw [hmapF]
  -- that list is ascending by phrase, and on the phrases of one key this order is antisymmetric
  have hasc : (((insSort rowLe m.rows).filter (fun r => r.key == k)).map rowPF).Pairwise (fun a b => pfLe a b = true) := by
    apply List.Pairwise.map rowPF (R := fun a b => a.key = k ∧ b.key = k ∧ rowLe a b = true)
    · rintro a b ⟨ka, kb, h⟩
      unfold rowLe at h
      rw [ka, kb] at h
      simpa [pfLe, rowPF, textLt_irrefl] using h
    · refine (hsorted.filter (fun r => r.key == k)).imp_of_mem ?_
      intro a b ha hb h
      exact ⟨by simpa using (List.mem_filter.mp ha).2, by simpa using (List.mem_filter.mp hb).2, h⟩
  rw [← insSort_congr pfLe_total pfLe_trans ?_ (((hperm.filter _).trans (insSort_perm lookupLe _).symm).map rowPF),
    insSort_of_pairwise hasc]
  intro a b ha hb h1 h2
  obtain ⟨ra, hra, rfl⟩ := List.mem_map.mp ha
  obtain ⟨rb, hrb, rfl⟩ := List.mem_map.mp hb
  have ka : ra.key = k := by simpa using (List.mem_filter.mp hra).2
  have kb : rb.key = k := by simpa using (List.mem_filter.mp hrb).2
  have hp : ra.phrase = rb.phrase := by
    unfold pfLe rowPF at h1 h2
    simp only [Bool.not_eq_true'] at h1 h2
    rcases textLt_tri ra.phrase rb.phrase with h | h | h
    · rw [h] at h2; cases h2
    · exact h
    · rw [h] at h1; cases h1
  rw [sqlInv_unique hinvS (List.mem_filter.mp hra).1 (List.mem_filter.mp hrb).1 ⟨ka.trans kb.symm, hp⟩]

end Chewing.Cli
