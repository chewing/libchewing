import Chewing.Proofs.CliSql
/-!
Lookup order of the SQLite back end after dump + recompile: unchanged for every key that does not
consist of exactly one syllable (rows of such keys all carry `sort_id` 0, so the order is a function of
the set of rows).  One-syllable keys are the exact class of finding F34.
-/
namespace Chewing.Cli
open List

/-- by `sort_id`, then like a leaf of the trie: frequency descending, then text descending -/
theorem lookupLe_iff (a b : Row) : lookupLe a b = true ↔
    a.sortId < b.sortId ∨ (a.sortId = b.sortId ∧ descLe (a.phrase, a.freq) (b.phrase, b.freq)) := by
  simp [lookupLe, descLe]

theorem lookupLe_total (a b : Row) : lookupLe a b = true ∨ lookupLe b a = true := by
  rw [lookupLe_iff, lookupLe_iff]
  rcases Nat.lt_trichotomy a.sortId b.sortId with h | h | h
  · exact .inl (.inl h)
  · exact (descLe_total (a.phrase, a.freq) (b.phrase, b.freq)).imp (fun d => .inr ⟨h, d⟩) (fun d => .inr ⟨h.symm, d⟩)
  · exact .inr (.inl h)

theorem lookupLe_trans (a b c : Row) (h1 : lookupLe a b = true) (h2 : lookupLe b c = true) :
    lookupLe a c = true := by
  rw [lookupLe_iff] at h1 h2 ⊢
  rcases h1 with h1 | ⟨e1, d1⟩ <;> rcases h2 with h2 | ⟨e2, d2⟩
  · exact .inl (Nat.lt_trans h1 h2)
  · exact .inl (e2 ▸ h1)
  · exact .inl (e1 ▸ h2)
  · exact .inr ⟨e1.trans e2, descLe_trans d1 d2⟩

theorem lookupLe_antisymm (a b : Row) (hk : a.key = b.key) (h1 : lookupLe a b = true) (h2 : lookupLe b a = true) :
    a = b := by
  rw [lookupLe_iff] at h1 h2
  rcases h1 with h1 | ⟨e1, d1⟩ <;> rcases h2 with h2 | ⟨e2, d2⟩
  · exact absurd h1 (Nat.lt_asymm h2)
  · exact absurd (e2 ▸ h1) (Nat.lt_irrefl _)
  · exact absurd (e1 ▸ h2) (Nat.lt_irrefl _)
  · have := descLe_antisymm d1 d2
    cases a; cases b
    simp only [Prod.mk.injEq] at this
    simp only at hk e1
    rw [hk, e1, this.1, this.2]

def SortIdInv (rows : List Row) : Prop := ∀ r ∈ rows, r.key.length ≠ 1 → r.sortId = 0

theorem foldl_sqlInsert_sortId : ∀ (rs : List Rec) {m : SqlM}, SqlInv m.rows → SortIdInv m.rows →
    SortIdInv (rs.foldl sqlInsert m).rows
  | [], _, _, h => h
  | r :: rs, m, hinv, h => by
    apply foldl_sqlInsert_sortId rs (by rw [sqlInsert_rows]; exact sqlUpsert_inv _ hinv)
    intro row hrow hlen
    rw [sqlInsert_rows] at hrow
    rcases (mem_sqlUpsert hinv).mp hrow with rfl | ⟨hrow, _⟩
    · have : (r.syls.length == 1) = false := by simpa [newRow] using hlen
      simp [newRow, this]
    · exact h row hrow hlen

theorem sqlBuild_sortId (rs : List Rec) : SortIdInv (sqlBuild rs).rows :=
  foldl_sqlInsert_sortId rs (by simp [SqlInv]) (by simp [SortIdInv])

theorem sqlInv_nodup {rows : List Row} (h : SqlInv rows) : rows.Nodup :=
  h.imp (fun {a b} (hne : ¬ SameKP a b) (e : a = b) => hne (by subst e; exact ⟨rfl, rfl⟩))

theorem row_eq_of_rec {a b : Row} (h : rowRec a = rowRec b) (hs : a.sortId = b.sortId) : a = b := by
  cases a; cases b
  simp only [rowRec, Rec.mk.injEq] at h
  simp only at hs
  obtain ⟨rfl, rfl, rfl⟩ := h
  subst hs
  rfl

theorem mem_rows_of_recs {m1 m2 : SqlM} (hs1 : SortIdInv m1.rows) (hs2 : SortIdInv m2.rows)
    (h : ∀ x ∈ m1.rows.map rowRec, x ∈ m2.rows.map rowRec) {row : Row} (hrow : row ∈ m1.rows)
    (hk : row.key.length ≠ 1) : row ∈ m2.rows := by
  obtain ⟨row', hrow', heq⟩ := List.mem_map.mp (h _ (List.mem_map_of_mem (f := rowRec) hrow))
  have hkey : row'.key = row.key := congrArg Rec.syls heq
  rw [← row_eq_of_rec heq (by rw [hs2 row' hrow' (hkey ▸ hk), hs1 row hrow hk])]
  exact hrow'

/-- **SQLite lookup order survives dump + recompile for every key that is not one syllable long** -/
theorem sql_roundtrip_lookup (rs : List Rec) (k : Key) (hk : k.length ≠ 1) :
    sqlLookup (sqlBuild (sqlEntries (sqlBuild rs))) k = sqlLookup (sqlBuild rs) k := by
  have hinv1 := sqlBuild_inv rs
  have hinv2 := sqlBuild_inv (sqlEntries (sqlBuild rs))
  have hs1 := sqlBuild_sortId rs
  have hs2 := sqlBuild_sortId (sqlEntries (sqlBuild rs))
  -- the two tables hold the same records
  have hmem : ∀ x : Rec, x ∈ (sqlBuild (sqlEntries (sqlBuild rs))).rows.map rowRec ↔ x ∈ (sqlBuild rs).rows.map rowRec := by
    intro x
    rw [sqlBuild_entries hinv1, freshRows_recs, sqlEntries_eq]
    exact ((insSort_perm rowLe _).map rowRec).mem_iff
  have hperm : (sqlBuild (sqlEntries (sqlBuild rs))).rows.filter (fun r => r.key == k) ~
      (sqlBuild rs).rows.filter (fun r => r.key == k) := by
    apply (List.perm_ext_iff_of_nodup ((sqlInv_nodup hinv2).filter _) ((sqlInv_nodup hinv1).filter _)).mpr
    intro row
    simp only [List.mem_filter, beq_iff_eq]
    exact ⟨fun ⟨hrow, hkey⟩ => ⟨mem_rows_of_recs hs2 hs1 (fun x => (hmem x).mp) hrow (hkey ▸ hk), hkey⟩,
      fun ⟨hrow, hkey⟩ => ⟨mem_rows_of_recs hs1 hs2 (fun x => (hmem x).mpr) hrow (hkey ▸ hk), hkey⟩⟩
  unfold sqlLookup
  rw [insSort_congr lookupLe_total lookupLe_trans ?_ hperm]
  intro a b ha hb h1 h2
  have ka : a.key = k := by simpa using (List.mem_filter.mp ha).2
  have kb : b.key = k := by simpa using (List.mem_filter.mp hb).2
  exact lookupLe_antisymm a b (ka.trans kb.symm) h1 h2

end Chewing.Cli
