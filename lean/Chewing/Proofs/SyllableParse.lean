import Chewing.Proofs.SyllableBuilder
/-!
The parser (`FromStr for Syllable`) on all strings: it accepts exactly the strings whose
symbols have strictly increasing kinds, and (without `ˉ`) the spelling of the result is the input.
-/
namespace Chewing
open Gen

theorem chars_tbl : (∀ p ∈ bopoFromChar, p.2 < 42 ∧ charOf p.2 = p.1) ∧
    (∀ b < 42, bopoOfChar (charOf b) = some b) ∧ charOf 41 = 713 ∧ nBopo = 42 := by
  decide +kernel

theorem bopoOfChar_sound {c b : Nat} (h : bopoOfChar c = some b) : b < 42 ∧ charOf b = c := by
  unfold bopoOfChar at h
  cases hf : bopoFromChar.find? (fun p => p.1 == c) with
  | none => simp [hf] at h
  | some p =>
    simp [hf] at h
    have := chars_tbl.1 p (List.mem_of_find?_eq_some hf)
    subst h
    exact ⟨this.1, this.2.trans (by simpa using List.find?_some hf)⟩

/-- every character is a Bopomofo symbol and the kinds are strictly increasing, starting at `st` -/
def KindsOK : Nat → List Nat → Prop
  | _, [] => True
  | st, c :: cs => ∃ b, bopoOfChar c = some b ∧ st ≤ kindOf b ∧ KindsOK (kindOf b + 1) cs

theorem tupleSyms_set {i m r t st b : Nat} (ht : Tup 5 i m r t) (hg : Good i m r t st) (hb : b < 41)
    (hst : st ≤ kindOf b) :
    on4 tupleSyms (setAt (kindOf b) (indexOf b) i m r t) = tupleSyms i m r t ++ [b] ∧
    on4 (Tup 5) (setAt (kindOf b) (indexOf b) i m r t) := by
  have hb' := Nat.lt_succ_of_lt hb
  refine ⟨?_, setAt_tup ht hb' (.inr ⟨Nat.ne_of_lt hb, Nat.le_refl _⟩)⟩
  obtain ⟨g0, g1, g2, g3⟩ := hg
  have le {a : Nat} (h : kindOf b ≤ a) : st ≤ a := Nat.le_trans hst h
  -- the fields of kind ≥ `st` are still empty, so the new symbol comes last
  rcases sym_spec hb' with ⟨hk, hi1, -, -, hm⟩ | ⟨hk, hi1, -, -, hm⟩ | ⟨hk, hi1, -, -, hm⟩ | ⟨hk, hi1, -, -, hm⟩ <;>
    rw [hk] at le ⊢ <;> have hne := Nat.ne_of_gt hi1
  · rw [g0 (le (by decide)), g1 (le (by decide)), g2 (le (by decide)), g3 (le (by decide))]
    simp only [tupleSyms, setAt, hne, hm, ↓reduceIte, Option.toList_some, List.append_nil, List.nil_append]
  · rw [g1 (le (by decide)), g2 (le (by decide)), g3 (le (by decide))]
    simp only [tupleSyms, setAt, hne, hm, ↓reduceIte, Option.toList_some, List.append_nil]
  · rw [g2 (le (by decide)), g3 (le (by decide))]
    simp only [tupleSyms, setAt, hne, hm, ↓reduceIte, Option.toList_some, List.append_nil]
  · rw [g3 (le (by decide))]
    simp only [tupleSyms, setAt, hne, (hm (Nat.ne_of_lt hb)).2, ↓reduceIte, Option.toList_some, List.append_nil]

/-- a returning step of the parser from an abstract state: the character is a symbol whose kind is not below the step,
    and the parser goes on from the state with that symbol written -/
theorem go_ok_cons {bld : Builder} {i m r t c v : Nat} {cs : List Nat} (ha : AbsOk bld i m r t)
    (h : parse.go bld (c :: cs) = .ok v) :
    ∃ b bld', bopoOfChar c = some b ∧ bld.step ≤ kindOf b ∧ parse.go bld' cs = .ok v ∧ bld'.step = kindOf b + 1 ∧
      bld'.value = enc4 (setAt (kindOf b) (indexOf b) i m r t) ∧
      on4 (AbsOk bld') (setAt (kindOf b) (indexOf b) i m r t) := by
  unfold parse.go at h
  cases hc : bopoOfChar c with
  | none => simp [hc] at h
  | some b =>
    have hb := (bopoOfChar_sound hc).1
    simp only [hc] at h
    by_cases hst : bld.step ≤ kindOf b
    · obtain ⟨bld', hins, hbld'⟩ := insert_abs_ok ha hb hst
      simp only [hins] at h
      exact ⟨b, bld', rfl, hst, h, hbld'⟩
    · obtain ⟨e, hins⟩ := insert_abs_err bld hb (by omega)
      simp [hins] at h

theorem go_iff (s : List Nat) : ∀ {bld : Builder} {i m r t : Nat}, AbsOk bld i m r t →
    ((∃ v, parse.go bld s = .ok v) ↔ KindsOK bld.step s) := by
  induction s with
  | nil => intro bld i m r t _; simp [parse.go, KindsOK]
  | cons c cs ih =>
    intro bld i m r t ha
    constructor
    · rintro ⟨v, h⟩
      obtain ⟨b, bld', hc, hst, hgo, hstep, -, ha'⟩ := go_ok_cons ha h
      exact ⟨b, hc, hst, hstep ▸ (ih ha').mp ⟨v, hgo⟩⟩
    · rintro ⟨b, hc, hst, hk⟩
      obtain ⟨bld', hins, hstep, -, ha'⟩ := insert_abs_ok ha (bopoOfChar_sound hc).1 hst
      rw [parse.go, hc]
      simp only [hins]
      exact (ih ha').mpr (hstep ▸ hk)

theorem go_spell (s : List Nat) : ∀ {bld : Builder} {i m r t : Nat} {v : Nat}, AbsOk bld i m r t →
    Tup 5 i m r t → parse.go bld s = .ok v → (∀ c ∈ s, c ≠ 713) →
    ∃ i' m' r' t', Tup 5 i' m' r' t' ∧ v = encode i' m' r' t' ∧ spell v = spell bld.value ++ s := by
  induction s with
  | nil =>
    intro bld i m r t v ha h5 hgo _
    simp [parse.go] at hgo
    exact ⟨i, m, r, t, h5, by rw [← hgo, ha.val], by simp [hgo]⟩
  | cons c cs ih =>
    intro bld i m r t v ha h5 hgo hno
    obtain ⟨b, bld', hc, hst, hgo', -, hval, ha'⟩ := go_ok_cons ha hgo
    obtain ⟨hb, hch⟩ := bopoOfChar_sound hc
    have hb41 : b < 41 := by
      have : b ≠ 41 := fun e => hno c (by simp) (by rw [← hch, e]; exact chars_tbl.2.2.1)
      omega
    obtain ⟨hsyms, h5'⟩ := tupleSyms_set h5 ha.good hb41 hst
    obtain ⟨i', m', r', t', ht', hv, hsp⟩ := ih ha' h5' hgo' (fun c' hc' => hno c' (by simp [hc']))
    refine ⟨i', m', r', t', ht', hv, ?_⟩
    rw [hsp, hval, ha.val]
    unfold enc4
    unfold on4 at hsyms
    rw [spell_encode (tup5_to6 h5'), spell_encode (tup5_to6 h5), hsyms]
    simp [hch]

/-- the parser on one optional component: absent, nothing happens; present (symbol `b` of kind `k ≥ step`, index `x`),
    it is written into the still empty field `k` -/
theorem go_opt {bld : Builder} {i m r t k x b : Nat} {o : Option Nat} (ha : AbsOk bld i m r t) (hst : bld.step ≤ k)
    (hk3 : k < 4) (ho : x ≠ 0 → b < 42 ∧ o = some b ∧ kindOf b = k ∧ indexOf b = x) (cs : List Nat) :
    ∃ bld', parse.go bld (((if x = 0 then [] else o.toList).map charOf) ++ cs) = parse.go bld' cs ∧ bld'.step ≤ k + 1 ∧
      on4 (AbsOk bld') (setAt k x i m r t) := by
  by_cases hx : x = 0
  · refine ⟨bld, by simp [hx], by omega, ?_⟩
    rw [hx, setAt_zero ha.good hst hk3]
    exact ha
  · obtain ⟨hb, rfl, hk, hi⟩ := ho hx
    obtain ⟨bld', hins, hstep, -, ha'⟩ := insert_abs_ok ha hb (hk ▸ hst)
    have hc : bopoOfChar (charOf b) = some b := chars_tbl.2.1 b hb
    refine ⟨bld', ?_, by omega, hk ▸ hi ▸ ha'⟩
    simp only [hx, if_false, Option.toList_some, List.map_cons, List.map_nil, List.cons_append, List.nil_append]
    rw [parse.go, hc]
    simp only [hins]

/-- syllable → spelling → syllable, through the four optional components in the order the parser demands -/
theorem parse_spell_encode {i m r t : Nat} (h : Tup 5 i m r t) :
    parse (spell (encode i m r t)) = .ok (encode i m r t) := by
  obtain ⟨h0, h1, h2, h3⟩ := h
  obtain ⟨t0, t1, t2, t3⟩ := syms_tbl
  rw [spell_encode (tup5_to6 ⟨h0, h1, h2, h3⟩)]
  unfold parse tupleSyms
  simp only [List.map_append, List.append_assoc]
  obtain ⟨b1, e1, s1, a1⟩ := go_opt absOk_new (k := 0) (x := i) (b := i - 1) (o := initialMap[i - 1]?) (Nat.le_refl _)
    (by omega) (fun hi => ⟨by omega, t0 i h0 hi⟩) _
  obtain ⟨b2, e2, s2, a2⟩ := go_opt a1 (k := 1) (x := m) (b := 20 + m) (o := medialMap[m - 1]?) s1
    (by omega) (fun hm => ⟨by omega, t1 m h1 hm⟩) _
  obtain ⟨b3, e3, s3, a3⟩ := go_opt a2 (k := 2) (x := r) (b := 23 + r) (o := rimeMap[r - 1]?) s2
    (by omega) (fun hr => ⟨by omega, t2 r h2 hr⟩) _
  obtain ⟨b4, e4, s4, a4⟩ := go_opt a3 (k := 3) (x := t) (b := 36 + t) (o := toneMap[t - 1]?) s3
    (by omega) (fun ht => ⟨by omega, t3 t h3 ht⟩) []
  rw [e1, e2, e3, ← List.append_nil (List.map charOf _), e4, parse.go, a4.val]
  rfl

theorem maps_lt : ∀ b ∈ initialMap ++ medialMap ++ rimeMap ++ toneMap, b < 42 := by decide +kernel

theorem tupleSyms_lt {i m r t b : Nat} (hb : b ∈ tupleSyms i m r t) : b < 42 := by
  have sub : ∀ {l : List Nat} {x : Nat}, b ∈ (if x = 0 then [] else (l[x - 1]?).toList) → b ∈ l := by
    intro l x h
    split at h
    · cases h
    · exact List.mem_of_getElem? (Option.mem_toList.mp h)
  simp only [tupleSyms, List.mem_append] at hb
  refine maps_lt b ?_
  simp only [List.mem_append]
  exact hb.imp (Or.imp (Or.imp sub sub) sub) sub

theorem go_map_charOf (bs : List Nat) : ∀ bld : Builder, (∀ b ∈ bs, b < 42) →
    parse.go bld (bs.map charOf) = (bld.insertAll bs).map (·.value) := by
  induction bs with
  | nil => intro bld _; rfl
  | cons b bs ih =>
    intro bld h
    have hc : bopoOfChar (charOf b) = some b := chars_tbl.2.1 b (h b (List.mem_cons_self ..))
    rw [List.map_cons, parse.go, hc, Builder.insertAll]
    dsimp only
    cases bld.insert b with
    | ok bld' => exact ih bld' fun b' hb' => h b' (List.mem_cons_of_mem _ hb')
    | error e => rfl

theorem compose_encode {i m r t : Nat} (h : Tup 5 i m r t) : compose i m r t = .ok (encode i m r t) := by
  rw [compose, ← go_map_charOf _ _ fun _ hb => tupleSyms_lt hb, ← spell_encode (tup5_to6 h)]
  exact parse_spell_encode h

end Chewing
