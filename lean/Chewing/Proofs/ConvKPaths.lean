import Chewing.Proofs.ConvShortestPath
/-!
`find_k_paths` never panics on a graph of valid edges that has a path, whatever an in-range oracle picks, and
never runs out of fuel; `trim_paths` keeps at least one path; the scores stay inside `i32` under `ScoreBound`.
-/
namespace Chewing.Conv

theorem markAll_total {len : Nat} {l : List Edge} (hl : ∀ e ∈ l, e.start < e.stop ∧ e.stop ≤ len)
    (removed : List Nat) : ∃ r, markAll len l removed = .ok r := by
  induction l generalizing removed with
  | nil => exact ⟨removed, rfl⟩
  | cons e l ih =>
    obtain ⟨h1, h2⟩ := hl e (List.mem_cons_self ..)
    obtain ⟨idx, hidx⟩ := edgeIdx_ok h1 h2
    unfold markAll
    rw [hidx]
    exact ih (fun x hx => hl x (List.mem_cons_of_mem _ hx)) _

/-- the spur loop never fails on a graph of valid edges, and every candidate it adds is a chain from `0` to
    `len`: the root of the previous path up to the spur edge, then a shortest path from there -/
theorem spurLoop_spec {es : List Edge} {len : Nat} (hv : EdgesValid len es) {ksp : List Path} {prev : Path}
    (hk : ∀ p ∈ ksp, IsChain es 0 len p) (hprev : IsChain es 0 len prev) :
    ∀ (is : List Nat) (cands : List Path) (removed : List Nat), (∀ i ∈ is, i < prev.length) →
      (∀ p ∈ cands, IsChain es 0 len p) →
      ∃ r, spurLoop es len ksp prev is cands removed = .ok r ∧ ∀ p ∈ r.1, IsChain es 0 len p := by
  intro is
  induction is with
  | nil => intro cands removed _ hc; exact ⟨_, rfl, hc⟩
  | cons i is ih =>
    intro cands removed hi hc
    have hmark : ∀ e ∈ ksp.filterMap (·[i]?), e.start < e.stop ∧ e.stop ≤ len := by
      intro e he
      obtain ⟨p, hp, hpe⟩ := List.mem_filterMap.mp he
      exact hv e ((hk p hp).mem (List.mem_of_getElem? hpe))
    obtain ⟨removed', hr⟩ := markAll_total hmark removed
    have hil : i < prev.length := hi i (List.mem_cons_self ..)
    have hsome : prev[i]? = some prev[i] := List.getElem?_eq_getElem hil
    obtain ⟨spur, hspur, hchain, _⟩ := shortestPath_spec hv removed' prev[i].start
    unfold spurLoop
    rw [hr]
    simp only
    rw [hsome]
    simp only
    rw [hspur]
    refine ih _ _ (fun j hj => hi j (List.mem_cons_of_mem _ hj)) ?_
    cases spur with
    | none => exact hc
    | some sp =>
      simp only
      split
      · exact hc
      · intro p hp
        rcases List.mem_append.mp hp with hp | hp
        · exact hc p hp
        · rw [List.mem_singleton.mp hp]
          exact (hprev.take hsome).append (hchain sp rfl)

/-- on a graph of valid edges the loop of `find_k_paths` can fail in one way only: the oracle answers
    out of range (so it neither panics under `PickInRange` nor ever runs out of fuel); it only ever appends to
    the paths found so far, and its paths are chains -/
theorem kLoop_total {pick : Nat → List Path → Nat} {es : List Edge} {len : Nat} (hv : EdgesValid len es) :
    ∀ (rem kth : Nat) (ksp cands : List Path) (removed : List Nat),
      (∀ p ∈ ksp, IsChain es 0 len p) → (∀ p ∈ cands, IsChain es 0 len p) → ksp ≠ [] →
      (∃ t, kLoop pick es len rem kth ksp cands removed = .ok (ksp ++ t) ∧ ∀ p ∈ ksp ++ t, IsChain es 0 len p) ∨
        ((∃ m, kLoop pick es len rem kth ksp cands removed = .panic m) ∧ ¬ PickInRange pick) := by
  intro rem
  induction rem with
  | zero => intro kth ksp cands removed hk _ _; exact .inl ⟨[], by rw [List.append_nil]; rfl, by rwa [List.append_nil]⟩
  | succ rem ih =>
    intro kth ksp cands removed hk hc hne
    unfold kLoop
    cases hlast : ksp.getLast? with
    | none => exact absurd (List.getLast?_eq_none_iff.mp hlast) hne
    | some prev =>
      simp only
      have hprev := hk prev (List.mem_of_getLast? hlast)
      obtain ⟨⟨cands', removed'⟩, hr, hc'⟩ := spurLoop_spec hv hk hprev (List.range prev.length) cands removed
        (fun i hi => List.mem_range.mp hi) hc
      rw [hr]
      simp only at hc' ⊢
      by_cases hemp : cands' = []
      · rw [if_pos hemp]; exact .inl ⟨[], by rw [List.append_nil], by rwa [List.append_nil]⟩
      · rw [if_neg hemp]
        cases hch : cands'[pick kth cands']? with
        | none =>
          exact .inr ⟨⟨_, rfl⟩, fun hp => Nat.not_lt.mpr (List.getElem?_eq_none_iff.mp hch) (hp kth cands' hemp)⟩
        | some chosen =>
          have hk' : ∀ p ∈ ksp ++ [chosen], IsChain es 0 len p := by
            intro p hp
            rcases List.mem_append.mp hp with hp | hp
            · exact hk p hp
            · rw [List.mem_singleton.mp hp]; exact hc' _ (List.mem_of_getElem? hch)
          rcases ih (kth + 1) _ _ removed' hk' (fun p hp => hc' p (List.mem_of_mem_eraseIdx hp)) (by simp) with
            ⟨t, h, hc⟩ | h
          · exact .inl ⟨chosen :: t, h.trans (by rw [List.append_assoc]; rfl), by rwa [List.append_assoc] at hc⟩
          · exact .inr h

/-- `find_k_paths` succeeds when the graph has a chain from `0` to `len` — unless the oracle answers out of
    range: the breadth-first path first, then the others, all of them chains from `0` to `len` -/
theorem findKPaths_total {pick : Nat → List Path → Nat} {es : List Edge} {len k : Nat}
    (hv : EdgesValid len es) {p : Path} (hp : IsChain es 0 len p) :
    (∃ sp rest, shortestPath es len [] 0 = .ok (some sp) ∧ findKPaths pick k len es = .ok (sp :: rest) ∧
        ∀ q ∈ sp :: rest, IsChain es 0 len q) ∨
      ((∃ m, findKPaths pick k len es = .panic m) ∧ ¬ PickInRange pick) := by
  unfold findKPaths
  have hany : (es.any fun e => decide (len ≤ e.start)) = false := by
    rw [List.any_eq_false]
    intro e he
    have := hv e he
    simp only [decide_eq_true_eq]
    omega
  rw [hany]
  simp only [Bool.false_eq_true, if_false]
  obtain ⟨p', hp'⟩ := shortestPath_complete hv [] hp (fun _ _ _ _ h => by cases h)
  rw [hp']
  simp only
  refine (kLoop_total hv _ _ [p'] _ _ ?_ (fun _ h => by cases h) (by simp)).imp (fun ⟨t, h, hc⟩ => ⟨p', t, rfl, h, hc⟩) id
  intro q hq
  rw [List.mem_singleton.mp hq]
  exact shortestPath_chain hv hp'

/-- what a successful call returned is what `findKPaths_total` speaks of -/
theorem findKPaths_chain {pick : Nat → List Path → Nat} {es : List Edge} {len k : Nat}
    (hv : EdgesValid len es) {p : Path} (hp : IsChain es 0 len p) {paths : List Path}
    (h : findKPaths pick k len es = .ok paths) : ∀ q ∈ paths, IsChain es 0 len q := by
  rcases findKPaths_total (pick := pick) (k := k) hv hp with ⟨_, _, _, h', hc⟩ | ⟨⟨m, h'⟩, _⟩
  · rw [h] at h'; cases h'; exact hc
  · rw [h] at h'; cases h'

/-! ### `trim_paths` keeps at least one path -/

theorem trimInner_keeper_ne {cand : Path} {ps : List Path} {drop : Bool} {keeper : List Path} (h : keeper ≠ []) :
    (trimInner cand ps drop keeper).1 ≠ [] := by
  induction ps generalizing drop keeper with
  | nil => exact h
  | cons p ps ih =>
    unfold trimInner
    split
    · exact ih (by simp)
    · split
      · exact ih h
      · exact ih (by simp)

theorem trimInner_drop_ne {cand : Path} {ps : List Path} {keeper : List Path}
    (h : (trimInner cand ps false keeper).2 = true) : (trimInner cand ps false keeper).1 ≠ [] := by
  induction ps generalizing keeper with
  | nil => simp [trimInner] at h
  | cons p ps ih =>
    unfold trimInner at h ⊢
    split
    · exact trimInner_keeper_ne (by simp)
    · rename_i hc
      rw [if_neg hc] at h
      split
      · rename_i hc2
        rw [if_pos hc2] at h
        exact ih h
      · exact trimInner_keeper_ne (by simp)

theorem trimStep_ne (trimmed : List Path) (cand : Path) : trimStep trimmed cand ≠ [] := by
  unfold trimStep
  simp only
  split
  · rename_i h; exact trimInner_drop_ne h
  · simp

theorem trimPaths_ne {paths : List Path} (h : paths ≠ []) : trimPaths paths ≠ [] := by
  unfold trimPaths
  suffices ∀ (qs : List Path) (acc : List Path), qs ≠ [] → qs.foldl trimStep acc ≠ [] from this paths [] h
  intro qs
  induction qs with
  | nil => intro _ h; exact absurd rfl h
  | cons q qs ih =>
    intro acc _
    rw [List.foldl_cons]
    cases qs with
    | nil => exact trimStep_ne acc q
    | cons q' r => exact ih _ (by simp)

/-! ### the scores fit `i32` -/

theorem chkI32_ok {site : String} {x : Int} (h1 : -2147483648 ≤ x) (h2 : x ≤ 2147483647) : chkI32 site x = .ok x := by
  unfold chkI32 i32Min i32Max
  rw [if_pos ⟨h1, h2⟩]

theorem chain_len_sum {E : List Edge} {a b : Nat} {p : Path} (h : IsChain E a b p)
    (hv : ∀ e ∈ E, e.start < e.stop) : (p.map Edge.len).sum + a = b ∧ p.length + a ≤ b := by
  induction p generalizing a with
  | nil => cases h; simp
  | cons e r ih =>
    obtain ⟨h1, h2, h3⟩ := h
    obtain ⟨i1, i2⟩ := ih h3
    have := hv e h1
    simp only [List.map_cons, List.sum_cons, List.length_cons, Edge.len]
    omega

theorem absDiff_le (a b : Nat) : absDiff a b ≤ a + b := by
  unfold absDiff; split <;> omega

theorem sum_absDiff_le (x : Nat) (es : List Edge) :
    (es.map fun f => absDiff x f.len).sum ≤ es.length * x + (es.map Edge.len).sum := by
  induction es with
  | nil => simp
  | cons e r ih =>
    simp only [List.map_cons, List.sum_cons, List.length_cons]
    have := absDiff_le x e.len
    rw [Nat.add_mul, Nat.one_mul]
    omega

theorem lenVarianceSum_le (p : Path) : lenVarianceSum p ≤ p.length * (p.map Edge.len).sum := by
  induction p with
  | nil => simp [lenVarianceSum]
  | cons e r ih =>
    simp only [lenVarianceSum, List.map_cons, List.sum_cons, List.length_cons]
    have h1 := sum_absDiff_le e.len r
    rw [Nat.add_mul, Nat.one_mul, Nat.mul_add]
    omega

theorem freqSum_le (p : Path) (hf : ∀ e ∈ p, e.phrase.freq ≤ 8388608) : freqSum p ≤ p.length * 8388608 := by
  unfold freqSum
  induction p with
  | nil => simp
  | cons e r ih =>
    simp only [List.map_cons, List.sum_cons, List.length_cons]
    have h1 := hf e (List.mem_cons_self ..)
    have h2 := ih (fun x hx => hf x (List.mem_cons_of_mem _ hx))
    have h3 : e.phrase.freq / (if e.len = 1 then 512 else 1) ≤ e.phrase.freq := Nat.div_le_self _ _
    rw [Nat.add_mul, Nat.one_mul]
    omega

theorem score_total {E : List Edge} {len : Nat} {p : Path} (hc : IsChain E 0 len p)
    (hv : ∀ e ∈ E, e.start < e.stop) (hf : ∀ e ∈ E, e.phrase.freq ≤ 8388608) (hlen : len ≤ 128) :
    ∃ s, score p = .ok s := by
  obtain ⟨hsum, hn⟩ := chain_len_sum hc hv
  simp only [Nat.add_zero] at hsum hn
  have hls : ruleLargestSum p = (len : Int) := by
    unfold ruleLargestSum asI32
    rw [hsum, Nat.mod_eq_of_lt (by omega), if_pos (by omega)]
  have hvar : lenVarianceSum p ≤ 16384 := by
    have h1 := lenVarianceSum_le p
    rw [hsum] at h1
    have h2 : p.length * len ≤ 128 * 128 := Nat.mul_le_mul (by omega) hlen
    omega
  have hfs : freqSum p ≤ 1073741824 := by
    have h1 := freqSum_le p (fun e he => hf e (hc.mem he))
    have h2 : p.length * 8388608 ≤ 128 * 8388608 := Nat.mul_le_mul_right _ (by omega)
    omega
  have havg : ∃ b : Int, ruleLargestAvgWordLen p = .ok b ∧ 0 ≤ b ∧ b ≤ 768 := by
    unfold ruleLargestAvgWordLen
    by_cases hp : p = []
    · rw [if_pos hp]; exact ⟨0, rfl, by omega, by omega⟩
    · rw [if_neg hp, hls, chkI32_ok (by omega) (by omega)]
      simp only
      rw [if_pos (by unfold i32Max; omega)]
      refine ⟨_, rfl, Int.tdiv_nonneg (by omega) (by omega), ?_⟩
      have := Int.tdiv_le_self (a := 6 * (len : Int)) (p.length : Int) (by omega)
      omega
  obtain ⟨b, hb, hb0, hb1⟩ := havg
  have hlv : ruleSmallestLenVariance p = .ok (-(lenVarianceSum p : Int)) := by
    unfold ruleSmallestLenVariance i32Max
    rw [if_pos (by omega)]
  have hfq : ruleLargestFreqSum p = .ok (freqSum p : Int) := by
    unfold ruleLargestFreqSum i32Max
    rw [if_pos (by omega)]
  unfold score
  -- worst case 1000·128 + 1000·768 + 2^30 < 2^31 and −100·16384 > −2^31: every `chkI32` passes
  simp (disch := omega) only [hls, hb, hlv, hfq, chkI32_ok]
  exact ⟨_, rfl⟩

theorem scoreAll_total {paths : List Path} (h : ∀ p ∈ paths, ∃ s, score p = .ok s) :
    ∃ sp, scoreAll paths = .ok sp := by
  induction paths with
  | nil => exact ⟨[], rfl⟩
  | cons p ps ih =>
    obtain ⟨s, hs⟩ := h p (List.mem_cons_self ..)
    obtain ⟨sp, hsp⟩ := ih (fun q hq => h q (List.mem_cons_of_mem _ hq))
    unfold scoreAll
    rw [hs, hsp]
    exact ⟨_, rfl⟩

theorem sortPaths_total {paths : List Path} (h : ∀ p ∈ paths, ∃ s, score p = .ok s) :
    ∃ sorted, sortPaths paths = .ok sorted := by
  unfold sortPaths
  split
  · exact ⟨_, rfl⟩
  · obtain ⟨sp, hsp⟩ := scoreAll_total h
    rw [hsp]
    exact ⟨_, rfl⟩

end Chewing.Conv
