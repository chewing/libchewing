import Chewing.Proofs.PhraseSelHas
import Chewing.Props.C01
/-!
C07 after the FX1 repair ("a symbol list without entries is not opened"): **an open candidate list is never
empty and its current page is strictly below the page count** — `ListOk`, the page invariant `PageOk` of
`Proofs/EditorSelect.lean` WITHOUT its escape clause "or nothing is listed".

Unlike `PageOk` (kept by every operation from every state, for every environment, because page 0 of an empty
list satisfies it), `ListOk` needs to know where the range of a phrase list comes from: `Down` / `Space` on the
last page, `j` / `k` and the four `jump_to_*_selection_point` calls move the range, and the new range has a
candidate because the selector functions only stop on a range with a phrase or on the range they started
from (`Proofs/PhraseSelHas.lean`), and because `jump_to_first_selection_point` re-initialises from the
position the list was opened at, which the current range contains (C01's `Anchor`) and whose break points
enclose it (`PhraseSel.Within`, carried here).  Hence the pre-state hypothesis `C01.EditorInv` (C01's
reachable-state invariant, at either strength: its exclusion-free strength `C01.SafeInv` is enough).
-/
namespace Chewing
open Chewing.C04

variable {D L : Type} (env : Env D L)

/-! ### the strict page invariant -/

/-- the current page is below the page count (so the list is not empty) -/
def ListOk (s : Selecting) (sh : Shared D L) : Prop :=
  ∀ tp, Selecting.totalPage env s sh = .ok tp → s.pageNo < tp

/-- the range of a phrase list lies between the break points around the position the list was opened at -/
def SelWithin (s : Selecting) : Prop := ∀ p, s.sel = .phrase p → p.Within

theorem listOk_pageOk {s : Selecting} {sh : Shared D L} (h : ListOk env s sh) : PageOk env s sh :=
  fun tp ht => Or.inl (h tp ht)

theorem listOk_congr {sh sh' : Shared D L} (h : SameList env sh sh') {s : Selecting} (hp : ListOk env s sh) :
    ListOk env s sh' := by
  intro tp ht
  rw [totalPage_congr env h] at ht
  exact hp tp ht

/-- a list on page 0 that lists something -/
theorem listOk_zero {s : Selecting} {sh : Shared D L} (h0 : s.pageNo = 0)
    (hne : 0 < sh.options.candidatesPerPage → ∀ cs, Selecting.candidates env s sh = .ok cs → cs ≠ []) :
    ListOk env s sh := by
  intro tp ht
  obtain ⟨cs, hc, hper, rfl⟩ := totalPage_ok env ht
  rw [h0]
  exact pageCount_pos _ _ hper (List.length_pos_iff.mpr (hne hper cs hc))

theorem listOk_of_lt {s : Selecting} {sh : Shared D L} {tp k : Nat}
    (ht : Selecting.totalPage env s sh = .ok tp) (hk : k < tp) : ListOk env { s with pageNo := k } sh := by
  intro tp' ht'
  rw [totalPage_page, ht] at ht'
  injection ht' with ht'; subst ht'
  exact hk

/-- **a list that satisfies the invariant lists something** (whenever the page size is not zero) -/
theorem listOk_nonempty {s : Selecting} {sh : Shared D L} {cs : List Text} (hp : ListOk env s sh)
    (hc : Selecting.candidates env s sh = .ok cs) (hper : 0 < sh.options.candidatesPerPage) : cs ≠ [] := by
  intro hnil
  have := hp _ (totalPage_eq env hc hper)
  rw [hnil, lt_pageCount_iff hper] at this
  exact Nat.not_lt_zero _ this

/-- … also seen from a list with the same selector on another page -/
theorem listOk_nonempty_sel {s s' : Selecting} {sh : Shared D L} {cs : List Text} (hp : ListOk env s sh)
    (hsel : s'.sel = s.sel) (hc : Selecting.candidates env s' sh = .ok cs) (hper : 0 < sh.options.candidatesPerPage) :
    cs ≠ [] := by
  have : Selecting.candidates env s' sh = Selecting.candidates env s sh := by
    unfold Selecting.candidates; rw [hsel]
  rw [this] at hc
  exact listOk_nonempty env hp hc hper

/-! ### every arm of `Selecting::next` -/

def Strict (s : Selecting) (sh : Shared D L) : Prop := ListOk env s sh ∧ SelWithin s

theorem strict_congr {sh sh' : Shared D L} (h : SameList env sh sh') {s : Selecting} (hp : Strict env s sh) :
    Strict env s sh' := ⟨listOk_congr env h hp.1, hp.2⟩

/-- result of `Selecting::next`: the list is closed, or it stays open with the strict invariant -/
def SelOkS (r : Outcome (SelRes D L)) : Prop := ResAll (Kept (Strict env)) r

theorem selWithin_of_not_phrase {s : Selecting} (h : ∀ p, s.sel ≠ .phrase p) : SelWithin s :=
  fun p hp => absurd hp (h p)

/-- Down / Space: the next page, or the next range — one with a phrase, or the range the list is on -/
theorem selOkS_selDownSpace (s : Selecting) (sh : Shared D L) (hp : ListOk env s sh) (hw : SelWithin s)
    (ha : ∀ p, s.sel = .phrase p → C01.Anchor p ∧ p.begin_ < p.end_) :
    SelOkS env (selDownSpace env s sh) := by
  refine selDownSpace_all env (fun _ ht hlt => .spin ⟨listOk_of_lt env ht hlt, hw⟩) (fun tp p p' ht hsel hn => ?_)
    fun tp ht => .spin ⟨listOk_zero env rfl fun hper cs hc => listOk_nonempty_sel env hp rfl hc hper, hw⟩
  obtain ⟨n1, n2, _, _, n5, n6⟩ := next_has env hn
  refine .spin ⟨listOk_zero env rfl fun hper cs hc => ?_, fun q hq => ?_⟩
  · rcases n5 with hh | ⟨hb, he⟩
    · exact candidates_nonempty env hh hc
    · refine listOk_nonempty env hp (cs := cs) ?_ hper
      unfold Selecting.candidates
      rw [hsel]
      exact (phraseCandidates_congr env n1 n2 hb he _ _).symm.trans hc
  · cases hq
    exact n6 (ha p hsel).1 (ha p hsel).2 (hw p hsel)

/-- `j` / `k`: what `retarget` hands back is a list on page 0 whose phrase range is inside its break points -/
theorem retarget_spec (s : Selecting) (sh : Shared D L) :
    StepAll (Opens fun s' _ => s'.pageNo = 0 ∧ SelWithin s') (retarget env s sh) :=
  retarget_all env fun _ ho => .selecting ⟨rfl, fun q hq => by
    obtain ⟨p, hi, rfl⟩ | hn := ho
    · cases hq; exact (init_within env hi).2.2.2.2
    · exact absurd hq (hn q)⟩

theorem selOkS_selMove (s : Selecting) (sh : Shared D L) (isJ : Bool) (hp : ListOk env s sh) (hw : SelWithin s) :
    SelOkS env (selMove env s sh isJ) :=
  selMove_all env (fun _ => .spin ⟨hp, hw⟩) fun _ _ _ e =>
    have ⟨h0, hw'⟩ := retarget_spec env _ _ _ _ e _ rfl
    closeIfEmpty_all env (fun _ => .close) fun _ ht hne =>
      .spin ⟨fun _ ht' => by cases ht.symm.trans ht'; rw [h0]; omega, hw'⟩

theorem selOkS_selPrevPage (s : Selecting) (sh : Shared D L) (hp : ListOk env s sh) (hw : SelWithin s) :
    SelOkS env (selPrevPage env s sh) :=
  selPrevPage_all env
    (fun _ => .spin ⟨fun tp ht => show s.pageNo - 1 < tp by have := hp tp ht; omega, hw⟩)
    fun tp ht _ => .spin ⟨listOk_of_lt env ht (by have := hp tp ht; omega), hw⟩

theorem selOkS_selNextPage (s : Selecting) (sh : Shared D L) (hp : ListOk env s sh) (hw : SelWithin s) :
    SelOkS env (selNextPage env s sh) :=
  selNextPage_all env (fun _ ht hlt => .spin ⟨listOk_of_lt env ht hlt, hw⟩)
    fun tp ht _ => .spin ⟨listOk_of_lt env ht (by have := hp tp ht; omega), hw⟩

/-- a choice closes the list, is rejected, or leaves a list that lists something on page 0: the list it was, or
    the sub-table of a category of the symbol table (FX1 repair: an empty one closes the list) -/
theorem select_strict (s : Selecting) (sh : Shared D L) (n : Nat) (hp : ListOk env s sh) (hw : SelWithin s) :
    ResAll (fun x => Kept (Strict env) ⟨x.2.1, x.1, x.2.2⟩) (Selecting.select env s sh n) :=
  select_all env (fun _ _ _ => .spin ⟨hp, hw⟩) (fun _ _ _ _ _ _ _ _ => .close) (fun _ _ _ _ _ => .close)
    (fun _ y' c cs _ _ hm => .spin ⟨listOk_zero env rfl fun _ cs' hc => by
        cases hm.symm.trans (show y'.menu = .ok cs' from hc)
        exact List.cons_ne_nil c cs,
      selWithin_of_not_phrase fun _ => nofun⟩)
    (fun _ _ _ _ _ => .close)
    fun _ _ _ => .spin ⟨listOk_zero env rfl fun hper cs hc => listOk_nonempty_sel env hp rfl hc hper, hw⟩

/-- **every key** handled by an open list either closes it or leaves the strict invariant intact -/
theorem selOkS_selectingNext (s : Selecting) (sh : Shared D L) (ev : KeyEvent) (hp : ListOk env s sh)
    (hw : SelWithin s) (ha : ∀ p, s.sel = .phrase p → C01.Anchor p ∧ p.begin_ < p.end_) :
    SelOkS env (selectingNext env s sh ev) :=
  selectingNext_all env (.spin ⟨hp, hw⟩) .close (fun _ _ => .close) (selOkS_selDownSpace env s sh hp hw ha)
    (fun _ => selOkS_selMove env s sh _ hp hw) (selOkS_selPrevPage env s sh hp hw) (selOkS_selNextPage env s sh hp hw)
    (selDigit_all env (select_strict env s sh _ hp hw)) .close (.spin ⟨hp, hw⟩)

/-! ### every way of opening a list opens one that lists something, on page 0 -/

/-- a freshly opened list: on page 0, with at least one candidate, a phrase range inside its break points -/
def Opened (s : Selecting) (sh : Shared D L) : Prop :=
  s.pageNo = 0 ∧ (∀ cs, Selecting.candidates env s sh = .ok cs → cs ≠ []) ∧ SelWithin s

theorem Opened.strict {s : Selecting} {sh : Shared D L} (h : Opened env s sh) : Strict env s sh :=
  ⟨listOk_zero env h.1 fun _ => h.2.1, h.2.2⟩

/-- the list `start_selecting` opens: the one `new_phrase` made, or a symbol list; it lists something -/
theorem OpensOn.opened {sh : Shared D L} {sym : Sym} {s : Selecting} (h : OpensOn env sh sym s) :
    Opened env s { sh with com := sh.com.pushCursor.clampCursor } := by
  obtain ⟨_, hn⟩ | ⟨_, h0, hnp⟩ := h.made
  · obtain ⟨p, hinit, rfl⟩ := newPhrase_init env hn
    exact ⟨rfl, h.lists, fun q hq => by cases hq; exact (init_within env hinit).2.2.2.2⟩
  · exact ⟨h0, h.lists, selWithin_of_not_phrase hnp⟩

theorem opened_startSelecting (sh : Shared D L) : StepAll (Opens (Opened env)) (startSelecting env sh) :=
  startSelecting_opensOn env .spin fun _ _ h => .selecting (h.opened env)

/-- `Entering`: whatever key opens a list opens one that lists something (FX1 repair: only a symbol table with
    entries is opened) -/
theorem opened_enteringNext (sh : Shared D L) (ev : KeyEvent) : StepAll (Opens (Opened env)) (enteringNext env sh ev) :=
  enteringNext_opens env sh ev (fun hne => ⟨rfl, hne, selWithin_of_not_phrase fun _ => nofun⟩) fun _ _ h => h.opened env

theorem initSingleWord_eq (st : Strategy) (com : Composition) (cur m : Nat) (h : min cur com.len = m + 1) :
    PhraseSel.initSingleWord st com cur =
      .ok { begin_ := m, end_ := m + 1, forward := false, orig := m, strategy := st, com := com } := by
  unfold PhraseSel.initSingleWord
  simp only [h]
  simp

/-- the simple engine opens the single-word list right after inserting a syllable the dictionary has a word
    for: that list lists the word -/
theorem opened_newPhraseSimple (sh1 : Shared D L) (c0 : CompEditor) (k : Nat)
    (hi : c0.insert (.syl k) = .ok sh1.com)
    (hw : env.hasPhrase sh1.dict [k] sh1.options.lookupStrategy = true) :
    StepAll (Opens (Opened env)) (newPhraseSimple sh1) := by
  intro sh' t e s ht
  subst ht
  obtain ⟨p, hp, rfl, rfl⟩ := newPhraseSimple_init e
  -- the buffer after the insertion: the syllable at the old cursor, the cursor behind it
  obtain ⟨c1, hc, hcom⟩ := withInner_ok hi
  obtain ⟨_, hle, rfl⟩ := insert_ok.mp hc
  have hat : sh1.com.inner.symbols[c0.cursor]? = some (Sym.syl k) := by
    rw [hcom]
    exact (getElem?_insertAt _ _ _ _ hle).trans ((if_neg (Nat.lt_irrefl _)).trans (if_pos rfl))
  have hlen : sh1.com.inner.symbols.length = c0.inner.symbols.length + 1 := by
    rw [hcom]; exact length_insertAt ..
  have hcur : sh1.com.cursor = c0.cursor + 1 := by rw [hcom]
  rw [initSingleWord_eq _ _ _ c0.cursor (by
    show min sh1.com.cursor sh1.com.inner.symbols.length = c0.cursor + 1
    rw [hcur, hlen]; omega)] at hp
  cases hp
  refine ⟨rfl, fun cs hc => candidates_nonempty env ?_ hc, fun q hq => ?_⟩
  · exact C01.rangeHasPhrase_single _ _ (show sh1.com.inner.symbols[c0.cursor]? = some (Sym.syl k) from hat) hw
      (by show c0.cursor + 1 ≤ sh1.com.inner.symbols.length; omega)
  · cases hq
    exact ⟨nofun, fun _ =>
      (C01.apbp_spec _ (c := c0.cursor) (by show c0.cursor ≤ sh1.com.inner.symbols.length; omega)).1⟩

/-- `EnteringSyllable` (the simple engine opens a list after every completed syllable) -/
theorem opened_enteringSyllableNext (sh : Shared D L) (ev : KeyEvent) :
    StepAll (Opens (Opened env)) (enteringSyllableNext env sh ev) :=
  enteringSyllableNext_opens env ev fun _ _ => syllableAnswer_opens env _ fun _ hw e =>
    opened_newPhraseSimple env _ _ _ e hw

/-! ### the range `init` returns is the longest one with a phrase -/

/-- what `C07.initLoop_longest` (`Props/C07.lean`) states: the shrinking loop stops at the first range with a phrase -/
theorem initLoop_longest (d : D) : ∀ (fuel : Nat) (s s' : PhraseSel), PhraseSel.initLoop env s d fuel = .ok s' →
    (s.forward = true → s'.begin_ = s.begin_ ∧
      ∀ e', s'.end_ < e' → e' ≤ s.end_ → PhraseSel.rangeHasPhrase env s d s.begin_ e' = .ok false) ∧
    (s.forward = false → s'.end_ = s.end_ ∧
      ∀ b', s.begin_ ≤ b' → b' < s'.begin_ → PhraseSel.rangeHasPhrase env s d b' s.end_ = .ok false) := by
  refine initLoop_induct env (fun _ _ _ _ => ⟨fun _ => ⟨rfl, fun _ _ _ => by omega⟩, fun _ => ⟨rfl, fun _ _ _ => by omega⟩⟩)
    (fun s s' hf _ hfalse ih => ⟨fun _ => ?_, fun h => Bool.noConfusion (hf.symm.trans h)⟩)
    fun s s' hf _ hfalse ih => ⟨fun h => Bool.noConfusion (hf.symm.trans h), fun _ => ?_⟩
  -- the range just tried had no phrase; the longer ones are the induction hypothesis
  · obtain ⟨hb, hall⟩ := ih.1 hf
    refine ⟨hb, fun e' a b => ?_⟩
    rcases Nat.lt_or_ge e' s.end_ with hlt | hge
    · exact hall e' a (by show e' ≤ s.end_ - 1; omega)
    · cases Nat.le_antisymm b hge; exact hfalse
  · obtain ⟨he, hall⟩ := ih.2 hf
    refine ⟨he, fun b' a b => ?_⟩
    rcases Nat.lt_or_ge s.begin_ b' with hlt | hge
    · exact hall b' (by show s.begin_ + 1 ≤ b'; omega) b
    · cases Nat.le_antisymm hge a; exact hfalse

/-- what `C07.opened_range_longest` states, where it is explained -/
theorem opened_range_longest {fw : Bool} {st : Strategy} {com : Composition} {cur : Nat} {d : D} {p : PhraseSel}
    (h : PhraseSel.init env fw st com cur d = .ok p) :
    (fw = true → p.begin_ = (if cur == com.len then cur - 1 else cur) ∧
      ∀ e', p.end_ < e' → e' ≤ p.nextBreakPoint cur → PhraseSel.rangeHasPhrase env p d p.begin_ e' = .ok false) ∧
    (fw = false → p.end_ = min (cur + 1) com.len ∧
      ∀ b', p.afterPreviousBreakPoint cur ≤ b' → b' < p.begin_ → PhraseSel.rangeHasPhrase env p d b' p.end_ = .ok false) := by
  obtain ⟨s0, hl, hcom, hstr, hfo, _, hf, hr⟩ := init_loop env h
  obtain ⟨_, _, c, d', _⟩ := initLoop_ok env d _ _ _ hl
  obtain ⟨lf, lr⟩ := initLoop_longest env d _ _ _ hl
  have hcom' : p.com = com := c.trans hcom
  refine ⟨fun hfw => ?_, fun hfw => ?_⟩
  · obtain ⟨hb, hall⟩ := lf (hfo.trans hfw)
    refine ⟨hb.trans (hf hfw).1, fun e' a b => ?_⟩
    rw [rangeHasPhrase_congr env c d', hb]
    exact hall e' a (by rw [(hf hfw).2, ← nextBreakPoint_congr hcom' cur]; exact b)
  · obtain ⟨he, hall⟩ := lr (hfo.trans hfw)
    refine ⟨he.trans (hr hfw).1, fun b' a b => ?_⟩
    rw [rangeHasPhrase_congr env c d', he]
    exact hall b' (by rw [(hr hfw).2, ← afterPreviousBreakPoint_congr hcom' cur]; exact a) b

/-! ### `jump_to_first_selection_point`: re-initialising from the anchor finds a range that lists something -/

/-- a phrase list over more than one syllable that lists something: the dictionary has a phrase for the range -/
theorem has_of_candidates {p : PhraseSel} {d : D} {l : L} {cs : List Text}
    (hc : PhraseSel.candidates env p d l = .ok cs) (hne : cs ≠ []) (hlen : p.end_ - p.begin_ ≠ 1) :
    PhraseSel.rangeHasPhrase env p d p.begin_ p.end_ = .ok true := by
  obtain ⟨syms, hs, ⟨_, rfl⟩ | ⟨h1, _⟩⟩ := phraseCandidates_spec env hc
  · rw [rangeHasPhrase_eq env hs, (env.hasPhrase_iff ..).mpr fun h0 => hne (by rw [h0]; rfl)]
  · exact absurd h1 hlen

/-- **`jump_to_first_selection_point` on a list that lists something yields one that lists something**: the
    range `init` returns from the anchor has a phrase, or it is the one-syllable range at the anchor — and
    then the list was on that very range (a longer one inside the break points would have had no phrase) -/
theorem init_from_anchor_nonempty {p p' : PhraseSel} {d : D} {l : L} {cs0 cs : List Text}
    (hlt : p.begin_ < p.end_) (ha : C01.Anchor p) (hw : p.Within)
    (hc0 : PhraseSel.candidates env p d l = .ok cs0) (hne0 : cs0 ≠ [])
    (hq : PhraseSel.init env p.forward p.strategy p.com p.orig d = .ok p')
    (hc : PhraseSel.candidates env p' d l = .ok cs) : cs ≠ [] := by
  obtain ⟨_, _, _, hor⟩ := init_ok env hq
  obtain ⟨hfw, horig, hstr, hcom, _⟩ := init_within env hq
  rcases hor with hh | ⟨hfalse, hend, _⟩
  · exact candidates_nonempty env hh hc
  · obtain ⟨lf, lr⟩ := opened_range_longest env hq
    have hol : p.orig < p.com.len := ha.orig_lt
    cases hf : p.forward with
    | true =>
      obtain ⟨hb, hall⟩ := lf hf
      have hb' : p'.begin_ = p.begin_ := by
        rw [hb, if_neg (by simp only [beq_iff_eq]; omega), ha.fw hf]
      by_cases hsame : p.end_ = p.begin_ + 1
      · rw [phraseCandidates_congr env hcom hstr hb' (by omega)] at hc
        rw [hc0] at hc; injection hc with hc; exact hc ▸ hne0
      · exfalso
        have h1 := hall p.end_ (by omega) (by
          rw [nextBreakPoint_congr hcom]; exact hw.1 hf)
        rw [rangeHasPhrase_congr env hcom hstr, hb'] at h1
        rw [has_of_candidates env hc0 hne0 (by omega)] at h1
        cases h1
    | false =>
      obtain ⟨he, hall⟩ := lr hf
      have he' : p'.end_ = p.end_ := by
        rw [he, ha.rw hf]; omega
      by_cases hsame : p.begin_ + 1 = p.end_
      · rw [phraseCandidates_congr env hcom hstr (by omega) he'] at hc
        rw [hc0] at hc; injection hc with hc; exact hc ▸ hne0
      · exfalso
        have h1 := hall p.begin_ (by
          rw [afterPreviousBreakPoint_congr hcom]; exact hw.2 hf) (by omega)
        rw [rangeHasPhrase_congr env hcom hstr, he'] at h1
        rw [has_of_candidates env hc0 hne0 (by omega)] at h1
        cases h1

/-! ### whole operations -/

/-- **the strict page invariant of an editor**: while a list is open the current page is below the page count
    (the list is not empty), and the range of a phrase list lies inside the break points around its anchor -/
def Editor.ListInv (e : Editor D L) : Prop :=
  ∀ s, e.state = .selecting s → ListOk env s e.shared ∧ SelWithin s

theorem Editor.ListInv.pageInv {e : Editor D L} (h : e.ListInv env) : e.PageInv env :=
  fun s hs => listOk_pageOk env (h s hs).1

theorem phraseOK_of_inv {G : D → Prop} {w : Prop} {e : Editor D L} (hinv : C01.EditorInv env G w e)
    {s : Selecting} (hs : e.state = .selecting s) {p : PhraseSel} (hp : s.sel = .phrase p) :
    C01.PhraseOK env w e.shared p := by
  have h1 := (hinv.selInv hs).sel
  rw [hp] at h1
  exact h1

/-- **every key event keeps the strict invariant** -/
theorem processKey_listInv {G : D → Prop} {w : Prop} (hf : FlushKeepsLookups env) {e e' : Editor D L}
    (hinv : C01.EditorInv env G w e) {ev : KeyEvent} {b : KB}
    (h : e.processKey env ev = .ok (e', b)) (hi : e.ListInv env) : e'.ListInv env :=
  processKey_inv env (strict_congr env) hf
    (fun sh => (opened_enteringNext env sh ev).mono fun _ _ => Opens.mono fun _ _ => Opened.strict env)
    (fun sh => (opened_enteringSyllableNext env sh ev).mono fun _ _ => Opens.mono fun _ _ => Opened.strict env)
    (fun s hs => selOkS_selectingNext env s _ ev
      (listOk_congr env (sameList_of_fields env rfl rfl rfl) (hi s hs).1) (hi s hs).2 fun _ hp =>
        ⟨(phraseOK_of_inv env hinv hs hp).anchor, (phraseOK_of_inv env hinv hs hp).lt⟩) h

/-- `Editor::select(n)` (= `chewing_cand_choose_by_index`) keeps the strict invariant -/
theorem select_listInv {e e' : Editor D L} {n : Nat} {okk : Bool}
    (h : e.select env n = .ok (e', okk)) (hi : e.ListInv env) : e'.ListInv env :=
  select_inv env (strict_congr env) h hi fun s hs => select_strict env s _ n (hi s hs).1 (hi s hs).2

/-- `jump_to_{first,last,next,prev}_selection_point` (= `chewing_cand_list_*`): the range moves to one that has
    a phrase, or stays; a refused jump changes nothing -/
theorem jump_listInv {G : D → Prop} {w : Prop} {e e' : Editor D L} (hinv : C01.EditorInv env G w e)
    {which : Nat} {okk : Bool}
    (h : e.jump env which = .ok (e', okk)) (hi : e.ListInv env) : e'.ListInv env := by
  refine jump_all (Q := fun x => Editor.ListInv env x.1) env hi (fun s p p' hst hp hq => ?_) _ h
  have hpo := phraseOK_of_inv env hinv hst hp
  obtain ⟨hl, hwi⟩ := hi s hst
  have hw : p.Within := hwi p hp
  -- the list the editor is on lists something (for a positive page size)
  obtain ⟨cs0, hc0⟩ := C01.phraseCandidates_returns hpo
  have hcur : 0 < e.shared.options.candidatesPerPage → cs0 ≠ [] := fun hper =>
    listOk_nonempty env hl (by unfold Selecting.candidates; rw [hp]; exact hc0) hper
  -- it is enough that the new range is inside the break points and lists something
  suffices hp' : p'.Within ∧ (0 < e.shared.options.candidatesPerPage → ∀ cs,
      PhraseSel.candidates env p' e.shared.dict e.shared.syl = .ok cs → cs ≠ []) by
    intro s1 hs1
    cases hs1
    exact ⟨listOk_zero env rfl hp'.2, fun q hq => by cases hq; exact hp'.1⟩
  rcases hq with ⟨_, hq⟩ | ⟨_, hq⟩ | ⟨b, en, _, hq, rfl⟩ | ⟨b, en, _, hq, rfl⟩
  · exact ⟨(init_within env hq).2.2.2.2, fun hper cs hc =>
      init_from_anchor_nonempty env hpo.lt hpo.anchor hw hc0 (hcur hper) hq hc⟩
  · obtain ⟨j1, j2, j3, j4, j5, j6, j7⟩ := jumpToLast_has env hq
    refine ⟨within_congr j1 j3 j4 (fun _ => j6) (fun _ => j5) hw, fun hper cs hc => ?_⟩
    rcases j7 with hh | ⟨hb, he⟩
    · exact candidates_nonempty env hh hc
    · cases hc0.symm.trans ((phraseCandidates_congr env j1 j2 hb he _ _).symm.trans hc)
      exact hcur hper
  · obtain ⟨n1, n2, n3⟩ := nextSelectionPoint_has env hq
    exact ⟨within_congr (p := p) rfl rfl rfl (fun _ => n3) (fun _ => n2) hw,
      fun _ cs hc => candidates_nonempty env (p := { p with begin_ := b, end_ := en }) n1 hc⟩
  · obtain ⟨n1, n2, n3⟩ := prevSelectionPoint_has env hq
    exact ⟨⟨fun hf => (nextBreakPoint_congr (p := p) (q := { p with begin_ := b, end_ := en }) rfl p.orig).symm ▸ (n2 hf).2,
        fun hf => (afterPreviousBreakPoint_congr (p := p) (q := { p with begin_ := b, end_ := en }) rfl p.orig).symm ▸ (n3 hf).2⟩,
      fun _ cs hc => candidates_nonempty env (p := { p with begin_ := b, end_ := en }) n1 hc⟩

/-- `Editor::start_selecting` (= `chewing_cand_open`) opens a list that lists something, or leaves an open list alone -/
theorem startSelecting_listInv {e e' : Editor D L} {okk : Bool}
    (h : e.startSelecting env = .ok (e', okk)) (hi : e.ListInv env) : e'.ListInv env :=
  startSelecting_inv env (strict_congr env) h hi fun sh =>
    (opened_startSelecting env sh).mono fun _ _ => Opens.mono fun _ _ => Opened.strict env

end Chewing
