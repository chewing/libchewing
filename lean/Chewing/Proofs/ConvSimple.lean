import Chewing.Proofs.ConvBasic
import Chewing.Proofs.StableSort
/-!
`SimpleEngine::convert`: the sorted list of one interval per unselected symbol plus the selections is a
tiling, under `CompValid` (pairwise non-intersecting valid selections).
-/
namespace Chewing.Conv

/-- a list of non-empty intervals inside `[a, n)`, sorted by start, pairwise non-intersecting and covering
    every position of `[a, n)`, is a chain from `a` to `n` -/
theorem chain_of_sorted_cover {l : List Interval} {a n : Nat}
    (hs : l.Pairwise (fun x y => x.start ≤ y.start))
    (hd : l.Pairwise (fun x y => x.intersect y = false))
    (hb : ∀ x ∈ l, a ≤ x.start ∧ x.start < x.stop ∧ x.stop ≤ n)
    (hcov : ∀ i, a ≤ i → i < n → ∃ x ∈ l, x.start ≤ i ∧ i < x.stop)
    (han : a ≤ n) : IvChain a n l := by
  induction l generalizing a with
  | nil =>
    show a = n
    rcases Nat.lt_or_ge a n with h | h
    · obtain ⟨x, hx, _⟩ := hcov a (Nat.le_refl _) h
      cases hx
    · omega
  | cons x r ih =>
    rw [List.pairwise_cons] at hs hd
    have hbx := hb x (List.mem_cons_self ..)
    have hxa : x.start = a := by
      obtain ⟨y, hy, hy1, hy2⟩ := hcov a (Nat.le_refl _) (by omega)
      have hby := hb y hy
      rcases List.mem_cons.mp hy with rfl | hyr
      · omega
      · have h1 := hs.1 y hyr
        have h2 := intersect_eq_false.mp (hd.1 y hyr)
        omega
    refine ⟨hxa, hbx.2.1, ih hs.2 hd.2 ?_ ?_ hbx.2.2⟩
    · intro z hz
      have hbz := hb z (List.mem_cons_of_mem _ hz)
      have h1 := hs.1 z hz
      have h2 := intersect_eq_false.mp (hd.1 z hz)
      omega
    · intro i h1 h2
      obtain ⟨z, hz, hz1, hz2⟩ := hcov i (by omega) h2
      rcases List.mem_cons.mp hz with rfl | hzr
      · omega
      · exact ⟨z, hzr, hz1, hz2⟩

/-! ### the stable sort by start -/

theorem sortByStart_eq_isort (l : List Interval) :
    sortByStart l = isort (fun a b => !decide (b.start ≤ a.start)) l :=
  isort_unique (ins := insertByStart) (fun _ => rfl) (fun _ _ _ => rfl) rfl (fun _ _ => rfl) l

theorem sortByStart_perm (l : List Interval) : (sortByStart l).Perm l := sortByStart_eq_isort l ▸ isort_perm _ l

theorem sortByStart_sorted (l : List Interval) : (sortByStart l).Pairwise (fun a b => a.start ≤ b.start) :=
  sortByStart_eq_isort l ▸ StableSort.isort_le_pairwise (r := fun a b : Interval => a.start ≤ b.start) (fun _ _ => Nat.le_total _ _) (fun _ _ _ => Nat.le_trans) l

/-! ### the unselected symbols -/

theorem simpleInterval_range (d : Dict) (sym : Sym) (i : Nat) :
    (simpleInterval d sym i).start = i ∧ (simpleInterval d sym i).stop = i + 1 := by
  cases sym <;> exact ⟨rfl, rfl⟩

theorem mem_simpleSingles {d : Dict} {c : Composition} {l : List (Sym × Nat)} {iv : Interval}
    (h : iv ∈ simpleSingles d c l) :
    ∃ sym i, (sym, i) ∈ l ∧ c.selections.any (fun sel => sel.intersectRange i (i + 1)) = false ∧
      iv = simpleInterval d sym i := by
  induction l with
  | nil => cases h
  | cons p rest ih =>
    obtain ⟨sym, i⟩ := p
    unfold simpleSingles at h
    split at h
    · obtain ⟨s', i', h1, h2⟩ := ih h
      exact ⟨s', i', List.mem_cons_of_mem _ h1, h2⟩
    · rename_i hn
      rcases List.mem_cons.mp h with rfl | h
      · exact ⟨sym, i, List.mem_cons_self .., by simpa using hn, rfl⟩
      · obtain ⟨s', i', h1, h2⟩ := ih h
        exact ⟨s', i', List.mem_cons_of_mem _ h1, h2⟩

theorem simpleSingles_complete {d : Dict} {c : Composition} {l : List (Sym × Nat)} {sym : Sym} {i : Nat}
    (hm : (sym, i) ∈ l) (hn : c.selections.any (fun sel => sel.intersectRange i (i + 1)) = false) :
    simpleInterval d sym i ∈ simpleSingles d c l := by
  induction l with
  | nil => cases hm
  | cons p rest ih =>
    obtain ⟨sym', i'⟩ := p
    unfold simpleSingles
    rcases List.mem_cons.mp hm with heq | hm
    · cases heq
      rw [hn]
      exact List.mem_cons_self ..
    · split
      · exact ih hm
      · exact List.mem_cons_of_mem _ (ih hm)

theorem simpleSingles_ge {d : Dict} {c : Composition} {l : List Sym} {k : Nat} :
    ∀ iv ∈ simpleSingles d c (l.zipIdx k), k ≤ iv.start := by
  intro iv h
  obtain ⟨sym, i, h1, _, rfl⟩ := mem_simpleSingles h
  rw [(simpleInterval_range d sym i).1]
  exact (List.mem_zipIdx h1).1

theorem simpleSingles_pairwise {d : Dict} {c : Composition} {l : List Sym} {k : Nat} :
    (simpleSingles d c (l.zipIdx k)).Pairwise (fun a b => a.stop ≤ b.start) := by
  induction l generalizing k with
  | nil => simp [simpleSingles]
  | cons x xs ih =>
    rw [List.zipIdx_cons]
    unfold simpleSingles
    split
    · exact ih
    · rw [List.pairwise_cons]
      refine ⟨?_, ih⟩
      intro b hb
      rw [(simpleInterval_range d x k).2]
      exact simpleSingles_ge b hb

/-- the list the simple engine sorts -/
def simpleList (d : Dict) (c : Composition) : List Interval := simpleSingles d c c.symbols.zipIdx ++ c.selections

theorem convertSimple_eq (d : Dict) (c : Composition) : convertSimple d c = [sortByStart (simpleList d c)] := rfl

theorem simpleList_disjoint {d : Dict} {c : Composition} (hc : CompValid c) :
    (simpleList d c).Pairwise (fun a b => a.intersect b = false) := by
  unfold simpleList
  rw [List.pairwise_append]
  refine ⟨simpleSingles_pairwise.imp ?_, hc.disjoint, ?_⟩
  · intro a b hab
    rw [intersect_eq_false]
    omega
  · intro a ha b hb
    obtain ⟨sym, i, _, hn, rfl⟩ := mem_simpleSingles ha
    rw [intersect_comm]
    have := List.any_eq_false.mp hn b hb
    obtain ⟨r1, r2⟩ := simpleInterval_range d sym i
    simp only [Interval.intersect, r1, r2]
    simpa using this

theorem simpleList_bounds {d : Dict} {c : Composition} (hc : CompValid c) :
    ∀ x ∈ simpleList d c, 0 ≤ x.start ∧ x.start < x.stop ∧ x.stop ≤ c.symbols.length := by
  intro x hx
  rcases List.mem_append.mp hx with hx | hx
  · obtain ⟨sym, i, h1, _, rfl⟩ := mem_simpleSingles hx
    obtain ⟨r1, r2⟩ := simpleInterval_range d sym i
    have := List.mem_zipIdx_iff_getElem?.mp h1
    have hi : i < c.symbols.length := by
      simp only at this
      exact (List.getElem?_eq_some_iff.mp this).1
    omega
  · have := hc.sels x hx
    exact ⟨Nat.zero_le _, this.nonempty, this.inRange⟩

theorem simpleList_cover {d : Dict} {c : Composition} :
    ∀ i, i < c.symbols.length → ∃ x ∈ simpleList d c, x.start ≤ i ∧ i < x.stop := by
  intro i hi
  cases hany : c.selections.any (fun sel => sel.intersectRange i (i + 1)) with
  | true =>
    obtain ⟨x, hx, hxi⟩ := List.any_eq_true.mp hany
    have := intersectRange_eq_true.mp hxi
    exact ⟨x, List.mem_append_right _ hx, by omega, by omega⟩
  | false =>
    have hm : (c.symbols[i], i) ∈ c.symbols.zipIdx :=
      List.mem_zipIdx_iff_getElem?.mpr (List.getElem?_eq_getElem hi)
    refine ⟨_, List.mem_append_left _ (simpleSingles_complete (d := d) hm hany), ?_⟩
    obtain ⟨r1, r2⟩ := simpleInterval_range d c.symbols[i] i
    omega

theorem convertSimple_chain {d : Dict} {c : Composition} (hc : CompValid c) :
    IvChain 0 c.symbols.length (sortByStart (simpleList d c)) := by
  have hp := sortByStart_perm (simpleList d c)
  refine chain_of_sorted_cover (sortByStart_sorted _) ?_ ?_ ?_ (Nat.zero_le _)
  · exact (hp.pairwise_iff (fun {x y} h => by rw [intersect_comm]; exact h)).mpr (simpleList_disjoint hc)
  · intro x hx
    exact simpleList_bounds hc x (hp.mem_iff.mp hx)
  · intro i h1 h2
    obtain ⟨x, hx, hxi⟩ := simpleList_cover (d := d) i h2
    exact ⟨x, hp.mem_iff.mpr hx, hxi⟩

theorem mem_convertSimple {d : Dict} {c : Composition} {alt : List Interval} (h : alt ∈ convertSimple d c)
    {iv : Interval} (hiv : iv ∈ alt) : iv ∈ simpleList d c := by
  rw [convertSimple_eq, List.mem_singleton] at h
  subst h
  exact (sortByStart_perm _).mem_iff.mp hiv

end Chewing.Conv
