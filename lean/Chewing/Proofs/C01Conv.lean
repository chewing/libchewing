import Chewing.Proofs.C01Shared
import Chewing.Props.C03
/-!
C01 ↔ C03: the conversion-engine model of C03 (`Conv.convert`, all three engines) satisfies the hypothesis
`EnvOK.convert_ok` / `EnvOK.convert_len` that the C01 theorems make about `env.convert` — on buffers of at most 128 symbols and
dictionaries with frequencies up to 2^23 (`ScoreBound`, the `i32` score arithmetic of the debug profile).
-/
namespace Chewing.C01
open Chewing.Conv

/-- `EngineKind` of the editor model ↦ `Engine` of the conversion model -/
def toEngine : EngineKind → Engine
  | .simple => .simple
  | .chewing => .chewing
  | .fuzzy => .fuzzy

theorem toEngine_strategy (k : EngineKind) : (toEngine k).strategy = engStrategy k := by
  cases k <;> rfl

/-- **the engines of C03 deliver what `EnvOK.convert_ok` asks for**: on EVERY valid composition (with or
    without a word per syllable) at least one alternative, each a chain over `0..len` whose texts have at least
    one character per symbol — `hn`: no buffered syllable has the empty spelling (`spell 0 = []`; no keyboard
    layout produces the syllable code 0) -/
theorem convert_ok_of_C03 {pick : Nat → List Path → Nat} (hp : PickInRange pick) {d : Dict}
    (hw : WellFormed d) (hf : ∀ strat key, ∀ p ∈ d.lookup key strat, p.freq ≤ 8388608)
    (k : EngineKind) {c : Composition} (hc : CompValid c) (hlen : c.symbols.length ≤ 128) (hn : SpellNonempty c) :
    OkAnd (fun paths => paths ≠ [] ∧ ∀ p ∈ paths, PathW c p) (Conv.convert pick (toEngine k) d c) := by
  have hsb : ScoreBound d (toEngine k).strategy c := ⟨hlen, hf _⟩
  obtain ⟨alts, hq, hne⟩ := C03.nonempty_result hp hc hsb
  exact ⟨alts, hq, hne, fun p hpm =>
    ⟨C03.alt_chain hc hq p hpm, C03.text_at_least_one_per_symbol hc hw hn hq p hpm⟩⟩

/-- a first word for every buffered syllable under the engine kind's strategy is C03's `HasWord` -/
theorem hasWord_of_head {d : Dict} {k : EngineKind} {c : Composition}
    (hword : ∀ x, Sym.syl x ∈ c.symbols → (d.lookup [x] (engStrategy k)).head?.isSome = true) :
    HasWord d (toEngine k).strategy c := by
  intro x hx he
  have := hword x hx
  rw [← toEngine_strategy, he] at this
  cases this

/-- **… and `EnvOK.convert_len`**: exactly one character per symbol when every syllable has a word under the
    engine's strategy -/
theorem convert_len_of_C03 {pick : Nat → List Path → Nat} {d : Dict} (hw : WellFormed d)
    (k : EngineKind) {c : Composition} (hc : CompValid c)
    (hword : ∀ x, Sym.syl x ∈ c.symbols → (d.lookup [x] (engStrategy k)).head?.isSome = true)
    {paths : List (List Interval)} (hq : Conv.convert pick (toEngine k) d c = .ok paths) :
    ∀ p ∈ paths, ∀ iv ∈ p, iv.text.length = iv.stop - iv.start :=
  fun p hpm => C03.one_char_per_symbol hc hw (hasWord_of_head hword) hq p hpm

end Chewing.C01
