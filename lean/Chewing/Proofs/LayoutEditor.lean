import Chewing.Model.Editor
import Chewing.Proofs.LayoutSound
import Chewing.Proofs.EditorSteps
/-!
Stage B of C14: the phonetic layouts *inside the editor*.  `EnteringSyllable::next` hands every key (other
than Backspace / Esc / the Caps-Lock pseudo key) to the layout and inserts a syllable into the pre-edit
buffer in exactly two cases: after `Commit` it inserts `read()` of the layout, after `Fuzzy(s)` it inserts
`s` — and only if the dictionary has a phrase for that one syllable.  Stated over the validated editor
model (`Model/Editor.lean`, parametric in its environment), then instantiated with the layout models.
-/
namespace Chewing
open Gen

/-- the editor model's key event as the layout models see it -/
def toKeyEv (ev : KeyEvent) : KeyEv :=
  { index := ev.index, code := ev.code, unicode := ev.unicode,
    mods := ev.mods.shift.toNat + 2 * ev.mods.ctrl.toNat + 4 * ev.mods.capslock.toNat + 8 * ev.mods.numlock.toNat }

def toLB : Behavior → LayoutBeh
  | .ignore => .ignore
  | .absorb => .absorb
  | .commit => .commit
  | .keyError => .keyError
  | .error => .error
  | .noWord => .noWord
  | .openSymbolTable => .openSymbolTable
  | .fuzzy s => .fuzzy s

/-- a layout-model step as the total function the editor model expects (a panic never happens from a
    composable state: `SoundLayout`) -/
def liftPress (r : PressResult) (c : Nat) : LayoutBeh × Nat :=
  match r with
  | some (b, c') => (toLB b, c')
  | none => (.error, c)

theorem comp_liftPress {r : PressResult} {c : Nat} (hr : StepOk r) : Comp (liftPress r c).2 := by
  obtain ⟨b, c', rfl, hc', _⟩ := hr
  exact hc'

/-- an editor environment whose phonetic layout is the layout model `L` (everything else from `base`) -/
def layoutEnv {D : Type} (L : Layout) (base : Env D Nat) : Env D Nat :=
  { base with
    keyPress := fun c ev => liftPress (L.press c (toKeyEv ev)) c
    fuzzyKeyPress := fun c ev => liftPress (L.fuzzyPress c (toKeyEv ev)) c
    removeLast := removeLast
    clearSyl := fun _ => clearSyl
    sylIsEmpty := isEmptySyl
    read := id
    altSyllables := fun _ s => L.alt s }

section
variable {D L : Type} (env : Env D L)

/-- what a layout answer can do to the pre-edit buffer: nothing, or insert at the cursor the syllable the
    layout handed over (`read()` after `Commit`, the payload of `Fuzzy`), which the dictionary knows -/
def AnswerEffect (sh : Shared D L) (beh : LayoutBeh) (sh' : Shared D L) : Prop :=
  sh'.com.inner = sh.com.inner ∨
  ∃ s com1, ((beh = .commit ∧ s = env.read sh.syl) ∨ beh = .fuzzy s) ∧
    env.hasPhrase sh.dict [s] sh.options.lookupStrategy = true ∧
    sh.com.insert (.syl s) = .ok com1 ∧ sh'.com.inner = com1.inner

theorem syllableAnswer_effect (sh : Shared D L) (beh : LayoutBeh) :
    StepAll (fun sh' _ => AnswerEffect env sh beh sh') (syllableAnswer env sh beh) := by
  cases beh with
  | absorb => exact .ite (fun _ => .ok (.inl rfl)) fun _ => .ok (.inl rfl)
  | fuzzy s =>
    exact .ite (fun hp => withCom_absorb_all fun c hc => .inr ⟨s, c, .inr rfl, hp, hc, rfl⟩) fun _ => .ok (.inl rfl)
  | commit =>
    refine .ite (fun hp => withCom_all fun c hc => ?_) fun _ => .ok (.inl rfl)
    have he : AnswerEffect env sh .commit { sh with com := c } := .inr ⟨_, c, .inl ⟨rfl, rfl⟩, hp, hc, rfl⟩
    exact .ite (fun _ => newPhraseSimple_all fun _ => he) fun _ => .ok he
  | _ => exact .ok (.inl rfl)

/-- … and to the layout state: kept, or cleared -/
def SylAfter (sh sh' : Shared D L) : Prop :=
  sh'.syl = sh.syl ∨ sh'.syl = env.clearSyl sh.syl ∨ sh'.syl = env.clearSyl (env.clearSyl sh.syl)

theorem syllableAnswer_syl (sh : Shared D L) (beh : LayoutBeh) :
    StepAll (fun sh' _ => SylAfter env sh sh') (syllableAnswer env sh beh) :=
  syllableAnswer_all env (fun _ _ => .inl rfl) (fun _ _ => .inl rfl) (fun _ _ _ _ _ => .inl rfl) (fun _ _ _ => .inl rfl)
    (fun _ _ _ _ _ => newPhraseSimple_all fun _ => .inr (.inr rfl)) (fun _ _ _ _ _ => .inr (.inl rfl))
    (fun _ _ => .inr (.inl rfl)) fun _ _ _ => .inl rfl

end

/-- the layout step `r` handed the syllable `s` over to the editor -/
def HandedOver (r : PressResult) (s : Nat) : Prop :=
  r = some (.commit, s) ∨ ∃ c', r = some (.fuzzy s, c')

/-- the effect of one key of `EnteringSyllable` on the pre-edit buffer -/
def KeyEffect (sh sh' : Shared D Nat) (r : PressResult) : Prop :=
  sh'.com.inner = sh.com.inner ∨
  ∃ s com1, Comp s ∧ s ≠ emptyPattern ∧ HandedOver r s ∧
    sh.com.insert (.syl s) = .ok com1 ∧ sh'.com.inner = com1.inner

theorem toLB_commit {b : Behavior} (h : toLB b = .commit) : b = .commit := by
  cases b <;> first | rfl | cases h

theorem toLB_fuzzy {b : Behavior} {s : Nat} (h : toLB b = .fuzzy s) : b = .fuzzy s := by
  cases b <;> first | (cases h; rfl) | cases h

theorem layoutKey_sound {D : Type} (L : Layout) (base : Env D Nat) (sh : Shared D Nat) (r : PressResult)
    (hr : StepOk r)
    (hne : (layoutEnv L base).hasPhrase sh.dict [emptyPattern] sh.options.lookupStrategy = false) :
    StepAll (fun sh' _ => Comp sh'.syl ∧ KeyEffect sh sh' r)
      (syllableAnswer (layoutEnv L base) { sh with syl := (liftPress r sh.syl).2 } (liftPress r sh.syl).1) := by
  obtain ⟨b, c', rfl, hc', hf⟩ := hr
  intro sh' t h
  constructor
  · rcases syllableAnswer_syl _ _ _ _ _ h with e | e | e <;> rw [e]
    · exact hc'
    · exact comp_clear
    · exact comp_clear
  · rcases syllableAnswer_effect _ _ _ _ _ h with e | ⟨s, com1, hs, hp, hins, hcom⟩
    · exact .inl e
    · have hsne : s ≠ emptyPattern := fun e => by rw [e] at hp; exact nomatch hne ▸ hp
      refine .inr ⟨s, com1, ?_, hsne, ?_, hins, hcom⟩ <;> rcases hs with ⟨hb, rfl⟩ | hs
      · exact hc'
      · exact (hf s (toLB_fuzzy hs)).1
      · exact .inl (by rw [toLB_commit hb])
      · exact .inr ⟨c', by rw [toLB_fuzzy hs]⟩

/-- the layout step the editor performs for a key under the given lookup strategy -/
def layoutStepFor (L : Layout) (strat : Strategy) (c : Nat) (k : KeyEv) : PressResult :=
  match strat with
  | .fuzzyPartialPrefix => L.fuzzyPress c k
  | .standard => L.press c k

/-- One key in state `EnteringSyllable`, on an editor whose layout is the sound layout model `L`, from a
    well-formed layout state, with a dictionary that has no phrase for the empty syllable: the layout state
    stays well-formed, and the pre-edit buffer is unchanged, cleared (Esc), or receives exactly the syllable the
    layout handed over (`read()` after `Commit`, or the `Fuzzy` payload) — well-formed and non-empty. -/
theorem enteringSyllable_sound {D : Type} {L : Layout} (hL : SoundLayout L) (base : Env D Nat) (sh : Shared D Nat)
    (ev : KeyEvent) (hc : Comp sh.syl)
    (hne : (layoutEnv L base).hasPhrase sh.dict [emptyPattern] sh.options.lookupStrategy = false)
    (sh' : Shared D Nat) (t : Trans) (h : enteringSyllableNext (layoutEnv L base) sh ev = .ok (sh', t)) :
    Comp sh'.syl ∧
    (sh'.com = sh.com.clear ∨
      KeyEffect sh sh' (layoutStepFor L sh.options.lookupStrategy sh.syl (toKeyEv ev))) := by
  revert sh' t h
  have hsame : sh.com = sh.com.clear ∨
      KeyEffect sh sh (layoutStepFor L sh.options.lookupStrategy sh.syl (toKeyEv ev)) := .inr (.inl rfl)
  refine enteringSyllableNext_all _ (fun _ => ⟨comp_removeLast hc, hsame⟩) (fun _ => ⟨comp_removeLast hc, hsame⟩)
    (fun _ => ⟨comp_clear, hsame⟩) ⟨comp_clear, .inl rfl⟩ ⟨comp_clear, hsame⟩ fun a ha => ?_
  -- the layout is asked: which press it is depends on the lookup strategy, as in `layoutStepFor`
  obtain ⟨hs, rfl⟩ | ⟨hs, rfl⟩ := ha <;> rw [hs]
  · exact (layoutKey_sound L base sh _ (fuzzyPress_ok hL hc _) hne).mono fun _ _ h => ⟨h.1, .inr h.2⟩
  · exact (layoutKey_sound L base sh _ (hL _ _ hc).stepOk hne).mono fun _ _ h => ⟨h.1, .inr h.2⟩

end Chewing
