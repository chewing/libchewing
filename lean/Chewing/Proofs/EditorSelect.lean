import Chewing.Proofs.EditorKey
import Chewing.Proofs.EditorEffect
import Chewing.Proofs.Paging
/-!
Candidate-list lemmas for the editor state machine (C07), for every environment:

* the list depends only on the selector, the dictionary's lookups, the layout and the page size
  (`SameList`, `candidates_congr`);
* `PageOk`: the current page is below the page count, or nothing is listed — preserved by every arm of
  `Selecting::next`, by `Selecting::select`, and established by every way of opening or re-targeting
  a list (they start at page 0);
* where lists are opened (`Opens`) and what `Selecting::next` hands back (`Kept`), for any property of a list;
  `process_keyevent`, `select` and `start_selecting` for any invariant of an open list (`processKey_inv`, …);
* what choosing an entry of a symbol list does (`choose_special`, `choose_symbol_*`).
-/
namespace Chewing

open Chewing.C06

variable {D L : Type} (env : Env D L)

/-! ### outcomes -/

/-- an outcome behind three guards that panic: if it is a value, no guard fired.  (Splitting the guards
    with the guarded term abstracted is much cheaper than splitting them in place.) -/
private theorem ok_of_guards {α : Type} {a b c : Prop} [Decidable a] [Decidable b] [Decidable c] {p q r : String}
    {x : Outcome α} {y : α} (h : (if a then .panic p else if b then .panic q else if c then .panic r else x) = .ok y) :
    ¬ a ∧ ¬ b ∧ ¬ c ∧ x = .ok y := by
  split at h
  · cases h
  · split at h
    · cases h
    · split at h
      · cases h
      · exact ⟨‹_›, ‹_›, ‹_›, h⟩

/-! ### what a list is computed from -/

/-- the data a candidate list is computed from are the same in `sh'` as in `sh`: what the dictionary answers, the
    layout's alternative syllables (all a list reads of the phonetic buffer) and the page size -/
def SameList (sh sh' : Shared D L) : Prop :=
  (∀ k st, env.lookupAll sh'.dict k st = env.lookupAll sh.dict k st) ∧
  (∀ c, env.altSyllables sh'.syl c = env.altSyllables sh.syl c) ∧
  sh'.options.candidatesPerPage = sh.options.candidatesPerPage

theorem SameList.refl (sh : Shared D L) : SameList env sh sh := ⟨fun _ _ => rfl, fun _ => rfl, rfl⟩

theorem SameList.trans {a b c : Shared D L} (h1 : SameList env a b) (h2 : SameList env b c) : SameList env a c :=
  ⟨fun k st => by rw [h2.1, h1.1], fun x => by rw [h2.2.1, h1.2.1], by rw [h2.2.2, h1.2.2]⟩

theorem candidates_congr {sh sh' : Shared D L} (h : SameList env sh sh') (s : Selecting) :
    Selecting.candidates env s sh' = Selecting.candidates env s sh :=
  candidates_of_lookups env s h.1 h.2.1

theorem totalPage_congr {sh sh' : Shared D L} (h : SameList env sh sh') (s : Selecting) :
    Selecting.totalPage env s sh' = Selecting.totalPage env s sh := by
  unfold Selecting.totalPage
  rw [candidates_congr env h, h.2.2]

/-- the page number and the insert/replace action play no part in what is listed -/
theorem candidates_page (s : Selecting) (sh : Shared D L) (k : Nat) :
    Selecting.candidates env { s with pageNo := k } sh = Selecting.candidates env s sh := rfl

theorem totalPage_page (s : Selecting) (sh : Shared D L) (k : Nat) :
    Selecting.totalPage env { s with pageNo := k } sh = Selecting.totalPage env s sh := rfl

/-- `total_page()` answers ⇒ the list was computed, the page size is positive, and the answer is the
    ceiling of `len / per` -/
theorem totalPage_ok {s : Selecting} {sh : Shared D L} {tp : Nat} (h : Selecting.totalPage env s sh = .ok tp) :
    ∃ cs, Selecting.candidates env s sh = .ok cs ∧ 0 < sh.options.candidatesPerPage ∧
      tp = pageCount cs.length sh.options.candidatesPerPage := by
  unfold Selecting.totalPage at h
  split at h
  · next cs hc =>
    split at h
    · cases h
    · next hz => exact ⟨cs, hc, Nat.pos_of_ne_zero fun h0 => hz (beq_iff_eq.mpr h0), (Outcome.ok.inj h).symm⟩
  · cases h
  · cases h

/-- … and conversely -/
theorem totalPage_eq {s : Selecting} {sh : Shared D L} {cs : List Text}
    (hc : Selecting.candidates env s sh = .ok cs) (hper : 0 < sh.options.candidatesPerPage) :
    Selecting.totalPage env s sh = .ok (pageCount cs.length sh.options.candidatesPerPage) := by
  unfold Selecting.totalPage
  rw [hc]
  exact if_neg (by simp only [beq_iff_eq]; omega)

/-- `div_ceil` by a page size of zero panics (the C API only admits 1..10) -/
theorem totalPage_zero_panics {s : Selecting} {sh : Shared D L} {cs : List Text}
    (hc : Selecting.candidates env s sh = .ok cs) (h0 : sh.options.candidatesPerPage = 0) :
    Selecting.totalPage env s sh = .panic "div-ceil-zero" := by
  unfold Selecting.totalPage
  rw [hc, h0]; rfl

/-! ### the page invariant -/

/-- the current page is below the page count — or nothing is listed at all -/
def PageOk (s : Selecting) (sh : Shared D L) : Prop :=
  ∀ tp, Selecting.totalPage env s sh = .ok tp → s.pageNo < tp ∨ Selecting.candidates env s sh = .ok []

theorem pageOk_congr {sh sh' : Shared D L} (h : SameList env sh sh') {s : Selecting} (hp : PageOk env s sh) :
    PageOk env s sh' := by
  intro tp ht
  rw [totalPage_congr env h] at ht
  rw [candidates_congr env h]
  exact hp tp ht

/-- a list that starts at page 0 is fine -/
theorem pageOk_zero {s : Selecting} (sh : Shared D L) (h0 : s.pageNo = 0) : PageOk env s sh := by
  intro tp ht
  obtain ⟨cs, hc, hper, rfl⟩ := totalPage_ok env ht
  cases cs with
  | nil => exact Or.inr hc
  | cons c cs =>
    left; rw [h0]
    exact pageCount_pos _ _ hper (by simp)

/-- a page below the count that the same list reports -/
theorem pageOk_of_lt {s : Selecting} {sh : Shared D L} {tp k : Nat}
    (ht : Selecting.totalPage env s sh = .ok tp) (hk : k < tp) : PageOk env { s with pageNo := k } sh := by
  intro tp' ht'
  rw [totalPage_page, ht] at ht'
  injection ht' with ht'; subst ht'
  exact Or.inl hk

/-- zero pages ⇒ nothing listed -/
theorem no_pages_empty {s : Selecting} {sh : Shared D L} (ht : Selecting.totalPage env s sh = .ok 0) :
    Selecting.candidates env s sh = .ok [] := by
  obtain ⟨cs, hc, hper, h0⟩ := totalPage_ok env ht
  have := pageCount_covers cs.length _ hper
  rw [← h0, Nat.zero_mul] at this
  have hn : cs = [] := List.eq_nil_of_length_eq_zero (by omega)
  rw [hc, hn]

/-! ### a freshly initialised phrase selector -/

/-- a one-syllable range at a syllable the dictionary has no word for (F02 / F03 repair: the shrinking
    loop of `PhraseSelector::init` keeps it instead of shrinking to an empty range) -/
def PhraseSel.WordlessSyl (p : PhraseSel) (d : D) : Prop :=
  PhraseSel.rangeHasPhrase env p d p.begin_ p.end_ = .ok false ∧ p.end_ = p.begin_ + 1 ∧
  ∃ sym, p.com.symbol? p.begin_ = some sym ∧ sym.isSyl = true

/-- induction along the shrinking loop of `PhraseSelector::init`: it stops on a non-empty range inside the
    buffer that has a phrase or is a syllable without a word (`hstop`); from a range without a phrase it
    goes on without the last (`hfw`) / the first (`hrw`) symbol -/
theorem initLoop_induct {d : D} {R : PhraseSel → PhraseSel → Prop}
    (hstop : ∀ s, s.begin_ < s.end_ → s.end_ ≤ s.com.len →
      PhraseSel.rangeHasPhrase env s d s.begin_ s.end_ = .ok true ∨ PhraseSel.WordlessSyl env s d → R s s)
    (hfw : ∀ s s', s.forward = true → s.begin_ < s.end_ →
      PhraseSel.rangeHasPhrase env s d s.begin_ s.end_ = .ok false → R { s with end_ := s.end_ - 1 } s' → R s s')
    (hrw : ∀ s s', s.forward = false → s.begin_ < s.end_ →
      PhraseSel.rangeHasPhrase env s d s.begin_ s.end_ = .ok false → R { s with begin_ := s.begin_ + 1 } s' → R s s') :
    ∀ (fuel : Nat) (s s' : PhraseSel), PhraseSel.initLoop env s d fuel = .ok s' → R s s' := by
  intro fuel
  induction fuel with
  | zero => intro s s' h; simp [PhraseSel.initLoop] at h
  | succ fuel ih =>
    intro s s' h
    unfold PhraseSel.initLoop at h
    obtain ⟨h1, h2, h3, h⟩ := ok_of_guards h
    have hlt : s.begin_ < s.end_ := by
      have : s.begin_ ≠ s.end_ := by simpa using h3
      omega
    split at h
    · next hp => cases h; exact hstop s hlt (by omega) (.inl hp)
    · next hp =>
      have hgo : (if s.forward = true then PhraseSel.initLoop env { s with end_ := s.end_ - 1 } d fuel
          else PhraseSel.initLoop env { s with begin_ := s.begin_ + 1 } d fuel) = .ok s' → R s s' := by
        intro h
        split at h
        · next hf => exact hfw s s' hf hlt hp (ih _ _ h)
        · next hf => exact hrw s s' (by simpa using hf) hlt hp (ih _ _ h)
      -- the early exit: a syllable without a word keeps its one-syllable range
      split at h
      · next sym hs =>
        split at h
        · next hone =>
          cases h
          simp only [Bool.and_eq_true, beq_iff_eq] at hone
          exact hstop s hlt (by omega) (.inr ⟨hp, by omega, sym, hs, hone.2⟩)
        · exact hgo h
      · split at h
        · next hone => simp only [Bool.and_false, Bool.false_eq_true] at hone
        · exact hgo h
    · cases h
    · cases h

/-- what the shrinking loop of `PhraseSelector::init` returns: a non-empty range inside the buffer
    for which the dictionary has a phrase — or the one-syllable range of a syllable without a word;
    nothing but `begin` / `end` is touched -/
theorem initLoop_ok (d : D) : ∀ (fuel : Nat) (s s' : PhraseSel), PhraseSel.initLoop env s d fuel = .ok s' →
    s'.begin_ < s'.end_ ∧ s'.end_ ≤ s'.com.len ∧ s'.com = s.com ∧ s'.strategy = s.strategy ∧
    s'.forward = s.forward ∧ s'.orig = s.orig ∧
    (PhraseSel.rangeHasPhrase env s' d s'.begin_ s'.end_ = .ok true ∨ PhraseSel.WordlessSyl env s' d) :=
  initLoop_induct env (fun _ a b c => ⟨a, b, rfl, rfl, rfl, rfl, c⟩) (fun _ _ _ _ _ ih => ih) fun _ _ _ _ _ ih => ih

/-- **what `PhraseSelector::candidates` answers**: the texts of the dictionary's answer for the leading syllables of the
    range — followed, for a range of one symbol, which is then a syllable, by the answers for its alternatives -/
theorem phraseCandidates_spec {p : PhraseSel} {d : D} {l : L} {cs : List Text}
    (h : PhraseSel.candidates env p d l = .ok cs) :
    ∃ syms, sliceSyms p.com.symbols p.begin_ p.end_ = .ok syms ∧
      ((p.end_ - p.begin_ ≠ 1 ∧ cs = (env.lookupAll d (sylPrefix syms) p.strategy).map (·.text)) ∨
       (p.end_ - p.begin_ = 1 ∧ ∃ c, p.com.symbol? p.begin_ = some (.syl c) ∧
          cs = (env.lookupAll d (sylPrefix syms) p.strategy).map (·.text) ++
            (env.altSyllables l c).flatMap fun a => (env.lookupAll d [a] p.strategy).map (·.text))) := by
  unfold PhraseSel.candidates at h
  split at h
  · next syms hs =>
    refine ⟨syms, hs, ?_⟩
    dsimp only at h
    split at h
    · next h1 =>
      split at h
      · next c hsym => cases h; exact .inr ⟨eq_of_beq h1, c, hsym, rfl⟩
      · cases h
      · cases h
    · next h1 => cases h; exact .inl ⟨fun e => h1 (beq_iff_eq.mpr e), rfl⟩
  · cases h
  · cases h

theorem Env.hasPhrase_iff (d : D) (k : List Nat) (st : Strategy) :
    env.hasPhrase d k st = true ↔ env.lookupAll d k st ≠ [] := by
  unfold Env.hasPhrase
  cases env.lookupAll d k st <;> simp

/-- `range_has_phrase` asks whether the dictionary has a phrase for the leading syllables of the range -/
theorem rangeHasPhrase_eq {p : PhraseSel} {d : D} {b e : Nat} {syms : List Sym}
    (hs : sliceSyms p.com.symbols b e = .ok syms) :
    PhraseSel.rangeHasPhrase env p d b e = .ok (env.hasPhrase d (sylPrefix syms) p.strategy) := by
  unfold PhraseSel.rangeHasPhrase
  rw [hs]

/-- a range for which the dictionary has a phrase lists at least one candidate -/
theorem candidates_nonempty {p : PhraseSel} {d : D} {l : L} {cs : List Text}
    (hp : PhraseSel.rangeHasPhrase env p d p.begin_ p.end_ = .ok true)
    (hc : PhraseSel.candidates env p d l = .ok cs) : cs ≠ [] := by
  obtain ⟨syms, hs, h⟩ := phraseCandidates_spec env hc
  -- the dictionary's answer for the range, with which the list begins, is not empty
  have hbase := (env.hasPhrase_iff ..).mp (Outcome.ok.inj ((rangeHasPhrase_eq env hs).symm.trans hp))
  rcases h with ⟨_, rfl⟩ | ⟨_, _, _, rfl⟩
  · exact fun h0 => hbase (List.map_eq_nil_iff.mp h0)
  · exact fun h0 => hbase (List.map_eq_nil_iff.mp (List.append_eq_nil_iff.mp h0).1)

/-- `PhraseSelector::init` runs the shrinking loop on the range from the cursor to the next break point
    (choosing forward) or from the previous break point to the cursor (choosing rearward) -/
theorem init_loop {fw : Bool} {st : Strategy} {com : Composition} {cur : Nat} {d : D} {p : PhraseSel}
    (h : PhraseSel.init env fw st com cur d = .ok p) :
    ∃ s0 : PhraseSel, PhraseSel.initLoop env s0 d (com.len + 2) = .ok p ∧
      s0.com = com ∧ s0.strategy = st ∧ s0.forward = fw ∧ s0.orig = cur ∧
      (fw = true → s0.begin_ = (if cur == com.len then cur - 1 else cur) ∧
        s0.end_ = PhraseSel.nextBreakPoint ⟨0, com.len, fw, cur, st, com⟩ cur) ∧
      (fw = false → s0.end_ = min (cur + 1) com.len ∧
        s0.begin_ = PhraseSel.afterPreviousBreakPoint ⟨0, com.len, fw, cur, st, com⟩ cur) := by
  unfold PhraseSel.init at h
  dsimp only at h
  split at h
  · next hfw =>
    split at h
    · cases h
    · exact ⟨_, h, rfl, rfl, rfl, rfl, fun _ => ⟨rfl, rfl⟩, fun hh => Bool.noConfusion (hfw.symm.trans hh)⟩
  · next hfw => exact ⟨_, h, rfl, rfl, rfl, rfl, fun hh => absurd hh hfw, fun _ => ⟨rfl, rfl⟩⟩

theorem init_ok {fw : Bool} {st : Strategy} {com : Composition} {cur : Nat} {d : D} {p : PhraseSel}
    (h : PhraseSel.init env fw st com cur d = .ok p) :
    p.begin_ < p.end_ ∧ p.end_ ≤ p.com.len ∧ p.com = com ∧
    (PhraseSel.rangeHasPhrase env p d p.begin_ p.end_ = .ok true ∨ PhraseSel.WordlessSyl env p d) := by
  obtain ⟨s0, hl, hcom, _⟩ := init_loop env h
  obtain ⟨a, b, c, _, _, _, g⟩ := initLoop_ok env d _ _ _ hl
  exact ⟨a, b, c.trans hcom, g⟩

/-! ### the lists that are opened -/

/-- the list `new_phrase` makes: on page 0, over the range `PhraseSelector::init` finds at the clamped cursor -/
theorem newPhrase_init {sh sh' : Shared D L} {s : Selecting}
    (h : newPhrase env sh = .ok (sh', .toState (.selecting s))) :
    ∃ p, PhraseSel.init env (!sh.options.phraseChoiceRearward) sh.options.lookupStrategy
        sh.com.pushCursor.clampCursor.inner sh.com.pushCursor.clampCursor.cursor sh.dict = .ok p ∧
      s = { pageNo := 0, action := .replace, sel := .phrase p } := by
  refine newPhrase_all (P := fun _ t => t = .toState (.selecting s) → _) env (fun p hp e => ?_) _ _ h rfl
  cases e
  exact ⟨p, hp, rfl⟩

/-- a phrase list made by `new_phrase` is on page 0 and its range is a non-empty part of the buffer (it
    may list nothing: a syllable without a word — `open_phrase` does not open such a list) -/
theorem newPhrase_opened {sh sh' : Shared D L} {s : Selecting}
    (h : newPhrase env sh = .ok (sh', .toState (.selecting s))) :
    s.pageNo = 0 ∧ ∃ p, s.sel = .phrase p ∧ p.begin_ < p.end_ ∧ p.end_ ≤ p.com.len := by
  obtain ⟨p, hp, rfl⟩ := newPhrase_init env h
  obtain ⟨a, b, _⟩ := init_ok env hp
  exact ⟨rfl, p, rfl, a, b⟩

/-- a list that `open_phrase` opens is the one `new_phrase` made, and it lists something -/
theorem openPhrase_opened {sh sh' : Shared D L} {s : Selecting}
    (h : openPhrase env sh = .ok (sh', .toState (.selecting s))) :
    newPhrase env sh = .ok (sh', .toState (.selecting s)) ∧
    ∀ cs, Selecting.candidates env s sh' = .ok cs → cs ≠ [] :=
  openPhrase_all env
    (P := fun x t => t = .toState (.selecting s) →
      newPhrase env sh = .ok (x, t) ∧ ∀ cs, Selecting.candidates env s x = .ok cs → cs ≠ [])
    (fun _ hn hne e => by cases e; exact ⟨hn, hne⟩) nofun _ _ h rfl

/-- **a phrase list opened by Down / Space / `start_selecting` is on page 0 and not empty**, so its
    page index is *strictly* below the page count -/
theorem openPhrase_nonempty {sh sh' : Shared D L} {s : Selecting} {cs : List Text}
    (h : openPhrase env sh = .ok (sh', .toState (.selecting s)))
    (hc : Selecting.candidates env s sh' = .ok cs) :
    s.pageNo = 0 ∧ cs ≠ [] ∧ ∃ p, s.sel = .phrase p ∧ p.begin_ < p.end_ ∧ p.end_ ≤ p.com.len := by
  obtain ⟨hn, hne⟩ := openPhrase_opened env h
  obtain ⟨h0, hp⟩ := newPhrase_opened env hn
  exact ⟨h0, hne cs hc, hp⟩

/-- the simple engine's list: on page 0, over the single word `init_single_word` finds before the cursor -/
theorem newPhraseSimple_init {sh sh' : Shared D L} {s : Selecting}
    (h : newPhraseSimple sh = .ok (sh', .toState (.selecting s))) :
    ∃ p, PhraseSel.initSingleWord sh.options.lookupStrategy sh.com.pushCursor.inner sh.com.pushCursor.cursor = .ok p ∧
      s = { pageNo := 0, action := .replace, sel := .phrase p } ∧ sh' = { sh with com := sh.com.pushCursor } := by
  unfold newPhraseSimple at h
  dsimp only at h
  split at h
  · next p hp => cases h; exact ⟨p, hp, rfl, rfl⟩
  · cases h
  · cases h

/-! ### where lists are opened -/

/-- `Q` holds of the list the transition opens (if it opens one) and the shared state it goes with -/
def Opens (Q : Selecting → Shared D L → Prop) (sh : Shared D L) (t : Trans) : Prop :=
  ∀ s, t = .toState (.selecting s) → Q s sh

section
variable {Q : Selecting → Shared D L → Prop} {sh : Shared D L}

theorem Opens.selecting {s : Selecting} (h : Q s sh) : Opens Q sh (.toState (.selecting s)) := by
  intro _ e
  cases e
  exact h

theorem Opens.spin {b : KB} : Opens Q sh (.spin b) := fun _ e => nomatch e

theorem Opens.entering : Opens Q sh (.toState .entering) := fun _ e => nomatch e

theorem Opens.highlighting {m : Nat} : Opens Q sh (.toState (.highlighting m)) := fun _ e => nomatch e

theorem Opens.mono {Q' : Selecting → Shared D L → Prop} (hq : ∀ s sh, Q s sh → Q' s sh) {t : Trans}
    (h : Opens Q sh t) : Opens Q' sh t := fun s e => hq _ _ (h s e)

/-- `Entering` opens a list on the symbol at the cursor (`OpensOn`) or the symbol table, nothing else -/
theorem enteringNext_opens (sh : Shared D L) (ev : KeyEvent)
    (hsym : (∀ cs, Selecting.candidates env (newSymbol sh) sh = .ok cs → cs ≠ []) → Q (newSymbol sh) sh)
    (hopen : ∀ sym s, OpensOn env sh sym s → Q s { sh with com := sh.com.pushCursor.clampCursor }) :
    StepAll (Opens Q) (enteringNext env sh ev) := fun sh' t e => by
  cases enteringNext_eff env sh ev sh' t e with
  | symbols hne => exact .selecting (hsym hne)
  | opened sym s h => exact .selecting (hopen sym s h)
  | highlight => exact .highlighting
  | syllable => exact nofun
  | _ => exact .spin

/-- the layout's answer opens a list only in the simple engine, after inserting a syllable the
    dictionary has a word for -/
theorem syllableAnswer_opens (beh : LayoutBeh)
    (hsimple : ∀ c, env.hasPhrase sh.dict [env.read sh.syl] sh.options.lookupStrategy = true →
      sh.com.insert (.syl (env.read sh.syl)) = .ok c →
      StepAll (Opens Q) (newPhraseSimple { sh with com := c, syl := env.clearSyl (env.clearSyl sh.syl) })) :
    StepAll (Opens Q) (syllableAnswer env sh beh) :=
  syllableAnswer_all env (fun _ _ => .entering) (fun _ _ => .spin) (fun _ _ _ _ _ => .spin) (fun _ _ _ => .spin)
    (fun c _ hw _ e => hsimple c hw e) (fun _ _ _ _ _ => .entering) (fun _ _ => .entering) fun _ _ _ => .spin

theorem enteringSyllableNext_opens (ev : KeyEvent)
    (h : ∀ l beh, StepAll (Opens Q) (syllableAnswer env { sh with syl := l } beh)) :
    StepAll (Opens Q) (enteringSyllableNext env sh ev) :=
  enteringSyllableNext_all env (fun _ => .spin) (fun _ => .entering) (fun _ => .entering) .entering .entering fun _ _ => h _ _

end

/-! ### every way of opening a list starts at page 0 -/

theorem OpensOn.page0 {sh : Shared D L} {sym : Sym} {s : Selecting} (h : OpensOn env sh sym s) : s.pageNo = 0 :=
  h.made.elim (fun h => (newPhrase_opened env h.2).1) (·.2.1)

theorem opens0_startSelecting (sh : Shared D L) : StepAll (Opens fun s _ => s.pageNo = 0) (startSelecting env sh) :=
  startSelecting_opensOn env .spin fun _ _ h => .selecting (h.page0 env)

/-- `Entering`: whatever key opens a list opens it on page 0 -/
theorem opens0_enteringNext (sh : Shared D L) (ev : KeyEvent) :
    StepAll (Opens fun s _ => s.pageNo = 0) (enteringNext env sh ev) :=
  enteringNext_opens env sh ev (fun _ => rfl) fun _ _ h => h.page0 env

theorem opens0_newPhraseSimple (sh : Shared D L) : StepAll (Opens fun s _ => s.pageNo = 0) (newPhraseSimple sh) := by
  intro sh' t e s ht
  subst ht
  obtain ⟨_, _, rfl, _⟩ := newPhraseSimple_init e
  rfl

/-- `EnteringSyllable` (the simple engine opens a list after every completed syllable): page 0 -/
theorem opens0_enteringSyllableNext (sh : Shared D L) (ev : KeyEvent) :
    StepAll (Opens fun s _ => s.pageNo = 0) (enteringSyllableNext env sh ev) :=
  enteringSyllableNext_opens env ev fun _ _ => syllableAnswer_opens env _ fun _ _ _ => opens0_newPhraseSimple _

/-- `Highlighting` never opens a list -/
theorem highlighting_never_opens (m : Nat) (sh : Shared D L) (ev : KeyEvent) :
    ResAll (fun x => ∀ s, x.2.2 ≠ .toState (.selecting s)) (highlightingNext env m sh ev) :=
  highlightingNext_all env (fun _ _ => nofun) (fun _ _ => nofun) (fun _ _ _ _ => nofun) fun _ => nofun

/-! ### `Selecting::select` -/

/-- what a choice can do: close the list, be rejected with nothing changed, or (symbol lists: a
    category with a sub-table) stay open on page 0 with the buffer untouched -/
theorem select_shape (s : Selecting) (sh : Shared D L) (n : Nat) :
    ResAll (fun x => x.2.2 = .toState .entering ∨ (x.2.2 = .spin .bell ∧ x.2.1 = sh ∧ x.1 = s) ∨
                     (x.2.2 = .spin .absorb ∧ x.2.1 = sh ∧ x.1.pageNo = 0))
      (Selecting.select env s sh n) :=
  select_all env (fun _ _ _ => .inr (.inl ⟨rfl, rfl, rfl⟩)) (fun _ _ _ _ _ _ _ _ => .inl rfl) (fun _ _ _ _ _ => .inl rfl)
    (fun _ _ _ _ _ _ _ => .inr (.inr ⟨rfl, rfl, rfl⟩)) (fun _ _ _ _ _ => .inl rfl) fun _ _ _ => .inr (.inr ⟨rfl, rfl, rfl⟩)

/-! ### every arm of `Selecting::next` keeps the page invariant -/

/-- what `Selecting::next` hands back: the list is closed (back to `Entering`), or it stays open (a `Spin`)
    and `I` holds of the selector and the shared state -/
def Kept (I : Selecting → Shared D L → Prop) (x : SelRes D L) : Prop :=
  x.trans = .toState .entering ∨ ((∃ b, x.trans = .spin b) ∧ I x.sel x.shared)

section
variable {I : Selecting → Shared D L → Prop} {sh : Shared D L} {s : Selecting}

theorem Kept.close : Kept I ⟨sh, s, .toState .entering⟩ := .inl rfl

theorem Kept.spin {b : KB} (h : I s sh) : Kept I ⟨sh, s, .spin b⟩ := .inr ⟨⟨b, rfl⟩, h⟩

end

def SelOk (r : Outcome (SelRes D L)) : Prop := ResAll (Kept (PageOk env)) r

theorem selOk_selDownSpace (s : Selecting) (sh : Shared D L) : SelOk env (selDownSpace env s sh) :=
  selDownSpace_all env (fun _ ht hlt => .spin (pageOk_of_lt env ht hlt))
    (fun _ _ _ _ _ _ => .spin (pageOk_zero env _ rfl)) fun _ _ => .spin (pageOk_zero env _ rfl)

/-- re-targeting (keys `j` / `k`) always yields a list on page 0 -/
theorem retarget_page0 (s : Selecting) (sh : Shared D L) :
    StepAll (Opens fun s' _ => s'.pageNo = 0) (retarget env s sh) :=
  retarget_all env fun _ _ => .selecting rfl

theorem selOk_selMove (s : Selecting) (sh : Shared D L) (isJ : Bool) (hp : PageOk env s sh) :
    SelOk env (selMove env s sh isJ) :=
  selMove_all env (fun _ => .spin hp) fun _ _ _ e =>
    closeIfEmpty_all env (fun _ => .close) fun _ _ _ => .spin (pageOk_zero env _ (retarget_page0 env _ _ _ _ e _ rfl))

theorem selOk_selPrevPage (s : Selecting) (sh : Shared D L) (hp : PageOk env s sh) :
    SelOk env (selPrevPage env s sh) :=
  selPrevPage_all env
    (fun _ => .spin fun tp ht => (hp tp ht).imp (fun h => show s.pageNo - 1 < tp by omega) id)
    fun tp ht _ => .spin (by
      rcases Nat.eq_zero_or_pos tp with rfl | h0
      · exact fun _ _ => .inr (no_pages_empty env ht)
      · exact pageOk_of_lt env ht (by omega))

theorem selOk_selNextPage (s : Selecting) (sh : Shared D L) : SelOk env (selNextPage env s sh) :=
  selNextPage_all env (fun _ ht hlt => .spin (pageOk_of_lt env ht hlt)) fun _ _ _ => .spin (pageOk_zero env _ rfl)

/-- a choice closes the list, is rejected, or leaves it on page 0 -/
theorem select_pageOk (s : Selecting) (sh : Shared D L) (n : Nat) (hp : PageOk env s sh) :
    ResAll (fun x => Kept (PageOk env) ⟨x.2.1, x.1, x.2.2⟩) (Selecting.select env s sh n) :=
  select_all env (fun _ _ _ => .spin hp) (fun _ _ _ _ _ _ _ _ => .close) (fun _ _ _ _ _ => .close)
    (fun _ _ _ _ _ _ _ => .spin (pageOk_zero env _ rfl)) (fun _ _ _ _ _ => .close) fun _ _ _ => .spin (pageOk_zero env _ rfl)

/-- **every key** handled by an open list either closes it or leaves the page invariant intact -/
theorem selOk_selectingNext (s : Selecting) (sh : Shared D L) (ev : KeyEvent) (hp : PageOk env s sh) :
    SelOk env (selectingNext env s sh ev) :=
  selectingNext_all env (.spin hp) .close (fun _ _ => .close) (selOk_selDownSpace env s sh)
    (fun _ => selOk_selMove env s sh _ hp) (selOk_selPrevPage env s sh hp) (selOk_selNextPage env s sh)
    (selDigit_all env (select_pageOk env s sh _ hp)) .close (.spin hp)

/-! ### whole operations -/

/-- `reopen()` + `flush()` of the dictionary after a key does not change what lookups answer
    (C09 / C10 prove this of the real dictionaries; here it is a premise on the environment) -/
def FlushKeepsLookups : Prop := ∀ d k st, env.lookupAll (env.reopenFlush d) k st = env.lookupAll d k st

/-- **the page invariant of an editor**: while a list is open the current page is below the page
    count, or nothing is listed -/
def Editor.PageInv (e : Editor D L) : Prop := ∀ s, e.state = .selecting s → PageOk env s e.shared

theorem sameList_of_fields {sh sh' : Shared D L} (h1 : sh'.dict = sh.dict) (h2 : sh'.syl = sh.syl)
    (h3 : sh'.options = sh.options) : SameList env sh sh' :=
  ⟨fun _ _ => by rw [h1], fun _ => by rw [h2], by rw [h3]⟩

theorem tryAutoCommit_sameList {sh sh2 : Shared D L} (h : Shared.tryAutoCommit env sh = .ok sh2) :
    SameList env sh sh2 := by
  obtain ⟨-, rfl⟩ | ⟨_, _, _, _, rfl, -⟩ := tryAutoCommit_cases env sh _ h
  · exact .refl env _
  · exact sameList_of_fields env rfl rfl rfl

theorem applyTrans_spin (sh : Shared D L) (st : St) (b : KB) :
    applyTrans sh st (.spin b) = ({ sh with last := b }, st) := rfl

theorem applyTrans_to (sh : Shared D L) (st st' : St) :
    applyTrans sh st (.toState st') = ({ sh with last := .absorb }, st') := rfl

/-- the auto-commit that follows a step which left the editor in an editing state -/
theorem autoCommit_sameList (sh : Shared D L) {c : Prop} [Decidable c] :
    ResAll (SameList env sh) (if c then Shared.tryAutoCommit env sh else .ok sh) :=
  .ite (fun _ _ h => tryAutoCommit_sameList env h) fun _ => .ok (.refl env _)

/-- the tail of `process_keyevent` (auto-commit, dictionary flush) leaves an open list's data alone -/
theorem tail_sameList (hf : FlushKeepsLookups env) {sh : Shared D L} {st : St} {e' : Editor D L} {b : KB}
    (h : tail env sh st = .ok (e', b)) : e'.state = st ∧ SameList env sh e'.shared := by
  obtain ⟨hst, _, sh2, h2, he⟩ := C05.tail_spec env h
  refine ⟨hst, SameList.trans env (autoCommit_sameList env _ _ h2) ?_⟩
  rw [he]
  split
  · exact ⟨fun k st => hf _ k st, fun _ => rfl, rfl⟩
  · exact SameList.refl env _

/-! The page invariant and its strict form (`Proofs/EditorOpenList.lean`) go through the operations of the
    editor in the same way.  `I` is either of them: a property of an open list that reads nothing of the
    shared state but what the list is computed from (`hc`). -/

section
variable {I : Selecting → Shared D L → Prop} (hc : ∀ {sh sh'}, SameList env sh sh' → ∀ {s}, I s sh → I s sh')
include hc

theorem inv_last {s : Selecting} {sh : Shared D L} (b : KB) (h : I s sh) : I s { sh with last := b } :=
  hc (sh := sh) (sh' := { sh with last := b }) (sameList_of_fields env rfl rfl rfl) h

/-- out of a state without a list: a list that is opened has `I` -/
theorem applyTrans_opens {sh : Shared D L} {t : Trans} (st0 : St) (hns : ∀ s, st0 ≠ .selecting s) (h : Opens I sh t) :
    ∀ s, (applyTrans sh st0 t).2 = .selecting s → I s (applyTrans sh st0 t).1 := by
  intro s hs
  cases t with
  | toState st' => exact inv_last env hc _ (h s (congrArg _ hs))
  | spin b => exact absurd hs (hns s)

/-- out of `Selecting`: a list that stays open has `I` -/
theorem applyTrans_kept {x : SelRes D L} (h : Kept I x) :
    ∀ s, (applyTrans x.shared (.selecting x.sel) x.trans).2 = .selecting s →
      I s (applyTrans x.shared (.selecting x.sel) x.trans).1 := by
  intro s hs
  rcases h with ht | ⟨⟨b, ht⟩, hi⟩
  · rw [ht] at hs; cases hs
  · rw [ht] at hs ⊢; cases hs; exact inv_last env hc _ hi

/-- `process_keyevent`, given that the lists `Entering` / `EnteringSyllable` open have `I` and that
    `Selecting::next` keeps it -/
theorem processKey_inv (hf : FlushKeepsLookups env) {e e' : Editor D L} {ev : KeyEvent} {b : KB}
    (hent : ∀ sh, StepAll (Opens I) (enteringNext env sh ev))
    (hsyl : ∀ sh, StepAll (Opens I) (enteringSyllableNext env sh ev))
    (hsel : ∀ s, e.state = .selecting s → ResAll (Kept I) (selectingNext env s (preamble e.shared) ev))
    (h : e.processKey env ev = .ok (e', b)) : ∀ s, e'.state = .selecting s → I s e'.shared := by
  obtain ⟨sh, st, hd, ht⟩ := C05.processKey_split env h
  obtain ⟨hst, hsl⟩ := tail_sameList env hf ht
  refine fun s hs => hc hsl (dispatch_all env (Q := fun x => ∀ s, x.2 = .selecting s → I s x.1)
    (fun _ _ _ e => applyTrans_opens env hc .entering nofun (hent _ _ _ e))
    (fun _ _ _ e => applyTrans_opens env hc .enteringSyllable nofun (hsyl _ _ _ e))
    (fun s0 hs0 x e => applyTrans_kept env hc (hsel s0 hs0 x e))
    (fun m _ x e s hs => ?_) _ hd s (hst ▸ hs))
  -- `Highlighting` never opens a list
  have hno := highlighting_never_opens env m _ ev x e
  rcases ht : x.2.2 with st' | b <;> rw [ht] at hs
  · exact absurd (ht.trans (congrArg _ hs)) (hno s)
  · cases hs

/-- `Editor::select(n)`, given that `Selecting::select` keeps `I` -/
theorem select_inv {e e' : Editor D L} {n : Nat} {okk : Bool} (h : e.select env n = .ok (e', okk))
    (hi : ∀ s, e.state = .selecting s → I s e.shared)
    (hsel : ∀ s, e.state = .selecting s →
      ResAll (fun x => Kept I ⟨x.2.1, x.1, x.2.2⟩) (Selecting.select env s e.shared n)) :
    ∀ s, e'.state = .selecting s → I s e'.shared :=
  editorSelect_all (Q := fun x => ∀ s, x.1.state = .selecting s → I s x.1.shared) env (fun _ => hi)
    (fun s0 _ _ _ _ hs0 hq h2 s hs =>
      hc (autoCommit_sameList env _ _ h2) (applyTrans_kept env hc (hsel s0 hs0 _ hq) s hs)) _ h

/-- `Editor::start_selecting`, given that the list `start_selecting` opens has `I` -/
theorem startSelecting_inv {e e' : Editor D L} {okk : Bool} (h : e.startSelecting env = .ok (e', okk))
    (hi : ∀ s, e.state = .selecting s → I s e.shared)
    (hopen : ∀ sh, StepAll (Opens I) (startSelecting env sh)) :
    ∀ s, e'.state = .selecting s → I s e'.shared := by
  refine editorStartSelecting_all (Q := fun x => ∀ s, x.1.state = .selecting s → I s x.1.shared) env
    (fun sh t e1 ho he s hs => ?_) _ h
  subst he
  -- `leaveIfEmpty` only ever turns `EnteringSyllable` into `Entering`
  have hs' := leaveIfEmpty_selecting env _ hs
  rw [C05.leaveIfEmpty_shared]
  rcases ho with ⟨he, hr⟩ | ⟨he, hr⟩ | ⟨_, _, rfl, rfl⟩
  · rw [he] at hs' ⊢
    exact applyTrans_opens env hc .entering nofun (hopen _ _ _ hr) s hs'
  · rw [he] at hs' ⊢
    exact applyTrans_opens env hc .enteringSyllable nofun (hopen _ _ _ hr) s hs'
  · exact inv_last env hc _ (hi s hs')

end

/-- **every key event keeps the page invariant** -/
theorem processKey_pageInv (hf : FlushKeepsLookups env) {e e' : Editor D L} {ev : KeyEvent} {b : KB}
    (h : e.processKey env ev = .ok (e', b)) (hi : e.PageInv env) : e'.PageInv env :=
  processKey_inv env (pageOk_congr env) hf
    (fun sh => (opens0_enteringNext env sh ev).mono fun _ _ => Opens.mono fun _ _ => pageOk_zero env _)
    (fun sh => (opens0_enteringSyllableNext env sh ev).mono fun _ _ => Opens.mono fun _ _ => pageOk_zero env _)
    (fun s hs => selOk_selectingNext env s _ ev (pageOk_congr env (sameList_of_fields env rfl rfl rfl) (hi s hs))) h

/-- `Editor::select(n)` (= `chewing_cand_choose_by_index`) keeps the page invariant -/
theorem select_pageInv {e e' : Editor D L} {n : Nat} {okk : Bool}
    (h : e.select env n = .ok (e', okk)) (hi : e.PageInv env) : e'.PageInv env :=
  select_inv env (pageOk_congr env) h hi fun s hs => select_pageOk env s _ n (hi s hs)

theorem jump_pageInv {e e' : Editor D L} {which : Nat} {okk : Bool}
    (h : e.jump env which = .ok (e', okk)) (hi : e.PageInv env) : e'.PageInv env := by
  rcases jump_page0 env e which _ h with h1 | ⟨_, s, hs, h0⟩
  · exact (show e' = e from h1) ▸ hi
  · intro s' hs'
    cases hs.symm.trans hs'
    exact pageOk_zero env _ h0

/-- `Editor::start_selecting` (= `chewing_cand_open`) opens on page 0 or leaves an open list alone -/
theorem startSelecting_pageInv {e e' : Editor D L} {okk : Bool}
    (h : e.startSelecting env = .ok (e', okk)) (hi : e.PageInv env) : e'.PageInv env :=
  startSelecting_inv env (pageOk_congr env) h hi fun sh =>
    (opens0_startSelecting env sh).mono fun _ _ => Opens.mono fun _ _ => pageOk_zero env _

/-- insert at / replace the symbol under the cursor, restore the saved cursor, close the list -/
def placeSymbol (s : Selecting) (sh : Shared D L) (sym : Sym) : Outcome (Selecting × Shared D L × Trans) :=
  match (match s.action with
         | .insert => sh.com.insert sym
         | .replace => sh.com.replace sym) with
  | .ok com => .ok (s, { sh with com := com.popCursor }, .toState .entering)
  | .panic p => .panic p
  | .outOfFuel => .outOfFuel

/-- a choice from the symbol table, at an index it lists: `SymbolSelector::select` answers a symbol, which is
    placed — or a category `y'`, whose sub-table opens on page 0 or, holding no symbols, closes the list -/
theorem select_symbol {s : Selecting} {sh : Shared D L} {y : SymSel} {cs : List Text} {n : Nat}
    (hsel : s.sel = .symbol y) (hm : y.menu = .ok cs) (hin : Selecting.offset s sh n < cs.length) :
    Selecting.select env s sh n =
      match y.select (Selecting.offset s sh n) with
      | .ok (some sym, y') => (placeSymbol s sh sym).map fun (_, sh', t) => ({ s with sel := .symbol y' }, sh', t)
      | .ok (none, y') =>
        match y'.menu with
        | .ok [] => .ok ({ s with sel := .symbol y', pageNo := 0 }, Shared.cancelSelecting sh, .toState .entering)
        | .ok _ => .ok ({ s with sel := .symbol y', pageNo := 0 }, sh, .spin .absorb)
        | .panic q => .panic q
        | .outOfFuel => .outOfFuel
      | .panic q => .panic q
      | .outOfFuel => .outOfFuel := by
  unfold Selecting.select placeSymbol
  simp only [Selecting.candidates, hsel, hm]
  rw [if_neg (Nat.not_le.mpr hin)]
  rfl

/-- … from a special-symbol list -/
theorem select_special {s : Selecting} {sh : Shared D L} {sym0 : Sym} {cs : List Text} {n : Nat}
    (hsel : s.sel = .special sym0) (hm : specialMenu sym0 = .ok cs) (hin : Selecting.offset s sh n < cs.length) :
    Selecting.select env s sh n =
      match specialSelect sym0 (Selecting.offset s sh n) with
      | .ok (some out) => placeSymbol s sh out
      | .ok none => .ok ({ s with pageNo := 0 }, sh, .spin .absorb)
      | .panic q => .panic q
      | .outOfFuel => .outOfFuel := by
  unfold Selecting.select placeSymbol
  simp only [Selecting.candidates, hsel, hm]
  rw [if_neg (Nat.not_le.mpr hin)]
  rfl

/-- **special-symbol list**: choosing an index in range places exactly the listed character -/
theorem choose_special {s : Selecting} {sh : Shared D L} {sym0 : Sym} {cs : List Text} {n : Nat}
    (hsel : s.sel = .special sym0) (hm : specialMenu sym0 = .ok cs)
    (hin : Selecting.offset s sh n < cs.length) :
    ∃ ch, cs[Selecting.offset s sh n]? = some [ch] ∧
      Selecting.select env s sh n = placeSymbol s sh (.chr ch) := by
  rw [select_special env hsel hm hin]
  unfold specialMenu at hm
  unfold specialSelect
  split at hm
  · next row hrow =>
    cases hm
    rw [List.length_map] at hin
    refine ⟨(row.drop 1)[Selecting.offset s sh n], ?_, ?_⟩
    · rw [List.getElem?_map, List.getElem?_eq_getElem hin]; rfl
    · simp only [List.getElem?_eq_getElem hin, Option.map]
  · cases hm; exact absurd hin (Nat.not_lt_zero _)
  · cases hm
  · cases hm

/-- **symbol table, inside a category**: choosing an index in range places exactly the listed
    character (and the selector is back at the top level) -/
theorem choose_symbol_leaf {s : Selecting} {sh : Shared D L} {y : SymSel} {c : Nat} {row : Text} {n : Nat}
    (hsel : s.sel = .symbol y) (hcur : y.cursor = some c) (hrow : y.table[c]? = some row)
    (hin : Selecting.offset s sh n < row.length) :
    Selecting.candidates env s sh = .ok (row.map fun ch => [ch]) ∧
    Selecting.select env s sh n =
      (placeSymbol s sh (.chr row[Selecting.offset s sh n])).map
        fun (_, sh', t) => ({ s with sel := .symbol { y with cursor := none } }, sh', t) := by
  have hmenu : y.menu = .ok (row.map fun ch => [ch]) := by unfold SymSel.menu; simp only [hcur, hrow]
  refine ⟨by unfold Selecting.candidates; simp only [hsel, hmenu], ?_⟩
  rw [select_symbol env hsel hmenu (by rw [List.length_map]; exact hin)]
  simp only [SymSel.select, hcur, hrow, List.getElem?_eq_getElem hin, Option.map]

theorem SymSel.menu_top {y : SymSel} (hcur : y.cursor = none) : y.menu = .ok (y.category.map (·.1)) := by
  unfold SymSel.menu
  simp only [hcur]

/-- the top level of the symbol table lists the entry `hcat` speaks of -/
theorem SymSel.listed_top {y : SymSel} {o : Nat} {x : Text × Option Nat} (hcat : y.category[o]? = some x) :
    o < (y.category.map (·.1)).length := by
  rw [List.length_map]; exact (List.getElem?_eq_some_iff.mp hcat).1

/-- **symbol table, top level, a category with a sub-table** that holds symbols: the list stays open, shows
    that sub-table from page 0, and the buffer is untouched -/
theorem choose_symbol_descend {s : Selecting} {sh : Shared D L} {y : SymSel} {n : Nat} {name : Text} {idx : Nat}
    {row : Text} (hsel : s.sel = .symbol y) (hcur : y.cursor = none)
    (hcat : y.category[Selecting.offset s sh n]? = some (name, some idx))
    (hrow : y.table[idx % 256]? = some row) (hne : row ≠ []) :
    Selecting.select env s sh n =
      .ok ({ s with sel := .symbol { y with cursor := some (idx % 256) }, pageNo := 0 }, sh, .spin .absorb) := by
  rw [select_symbol env hsel (SymSel.menu_top hcur) (SymSel.listed_top hcat)]
  simp only [SymSel.select, hcur, hcat, SymSel.menu, hrow]
  cases row with
  | nil => exact absurd rfl hne
  | cons c cs => rfl

/-- **symbol table, top level, a category WITHOUT symbols** (FX1 repair): nothing to list — the list is
    closed, the saved cursor restored, nothing inserted -/
theorem choose_symbol_empty_category {s : Selecting} {sh : Shared D L} {y : SymSel} {n : Nat} {name : Text} {idx : Nat}
    (hsel : s.sel = .symbol y) (hcur : y.cursor = none)
    (hcat : y.category[Selecting.offset s sh n]? = some (name, some idx))
    (hrow : y.table[idx % 256]? = some []) :
    Selecting.select env s sh n =
      .ok ({ s with sel := .symbol { y with cursor := some (idx % 256) }, pageNo := 0 },
           Shared.cancelSelecting sh, .toState .entering) := by
  rw [select_symbol env hsel (SymSel.menu_top hcur) (SymSel.listed_top hcat)]
  simp only [SymSel.select, hcur, hcat, SymSel.menu, hrow]
  rfl

/-- **symbol table, top level, a plain entry**: its first character is placed -/
theorem choose_symbol_plain {s : Selecting} {sh : Shared D L} {y : SymSel} {n : Nat} {name : Text} {ch : Nat}
    (hsel : s.sel = .symbol y) (hcur : y.cursor = none)
    (hcat : y.category[Selecting.offset s sh n]? = some (name, none)) (hch : name.head? = some ch) :
    Selecting.select env s sh n =
      (placeSymbol s sh (.chr ch)).map fun (_, sh', t) => ({ s with sel := .symbol { y with cursor := none } }, sh', t) := by
  rw [select_symbol env hsel (SymSel.menu_top hcur) (SymSel.listed_top hcat)]
  simp only [SymSel.select, hcur, hcat, hch]

end Chewing
