import Chewing.Model.TrieCodec
import Chewing.Proofs.TrieLookup
import Chewing.Proofs.TrieOrder
/-!
The walk on the tree (`tWalk`, either strategy) reaches exactly the nodes whose path has the query's length and
matches it syllable by syllable under the strategy (`keyMatch`), each once (`mem_reach`, `reach_paths_nodup`); so a
lookup returns the leaves of the groups `reachGroups` of the builder's map.  The exact lookup is the case where only
the query itself matches (`tLookup_standard`), the fuzzy lookup the case `keyMatch = fuzzyMatch`.  (The code's predicate is false for a stored syllable field that
`Syllable::try_from` rejects — `matchSyl … = n != 0 && validCode n && startsWith n syl`; every node of a
well-formed forest carries a valid code (`Forest.WF`), so on the builder tree the predicate is `startsWith`.)
-/
namespace Chewing.TrieCodec

/-- every syllable of the key begins with the corresponding partial syllable, same length -/
def fuzzyMatch : List Nat → List Nat → Bool
  | [], [] => true
  | s :: k, p :: q => startsWith s p && fuzzyMatch k q
  | _, _ => false

/-- the strategy's predicate on a stored syllable that is a `Syllable` (non-zero, valid code) -/
def sylMatch : Strategy → Nat → Nat → Bool
  | .standard, s, p => s == p
  | .fuzzyPartialPrefix, s, p => startsWith s p

/-- the key matches the query syllable by syllable, same length -/
def keyMatch (st : Strategy) : List Nat → List Nat → Bool
  | [], [] => true
  | s :: k, p :: q => sylMatch st s p && keyMatch st k q
  | _, _ => false

theorem keyMatch_fuzzy : ∀ k q : List Nat, keyMatch .fuzzyPartialPrefix k q = fuzzyMatch k q
  | [], [] | [], _ :: _ | _ :: _, [] => rfl
  | s :: k, p :: q => by simp only [keyMatch, fuzzyMatch, sylMatch, keyMatch_fuzzy k q]

theorem keyMatch_standard : ∀ k q : List Nat, keyMatch .standard k q = true ↔ k = q
  | [], [] => by simp [keyMatch]
  | [], _ :: _ | _ :: _, [] => by simp [keyMatch]
  | s :: k, p :: q => by simp [keyMatch, sylMatch, keyMatch_standard k q]

theorem matchSyl_valid {st : Strategy} {s : Nat} (h0 : s ≠ 0) (hv : validCode s = true) (p : Nat) :
    matchSyl st s p = sylMatch st s p := by
  cases st <;> simp [matchSyl, sylMatch, h0, hv]

def Item.leaf? : Item → Option (List Phrase)
  | .node _ l _ => l
  | .leaf _ => none

theorem leafPhrases_eq (it : Item) : it.leafPhrases = (it.leaf?.map sortLeaf).getD [] := by
  cases it with
  | node s l sub => cases l <;> rfl
  | leaf ps => rfl

/-- the node at a relative path -/
def itemAt : Item → List Nat → Option Item
  | n, [] => some n
  | .node _ _ sub, s :: r =>
    match sub.child s with
    | some nd => itemAt (.node s nd.1 nd.2) r
    | none => none
  | .leaf _, _ :: _ => none

theorem findNode_itemAt (s : Nat) (l : Option (List Phrase)) (sub : Forest) (path : List Nat) :
    findNode path (l, sub) = (itemAt (.node s l sub) path).bind Item.leaf? := by
  induction path generalizing s l sub with
  | nil => rfl
  | cons t r ih =>
    simp only [findNode, itemAt]
    cases hc : sub.child t with
    | none => rfl
    | some nd => simp only; exact ih t nd.1 nd.2

/-- nodes reached from `n`, with their relative paths, in thread order -/
def reach (st : Strategy) : List Nat → Item → List (List Nat × Item)
  | [], n => [([], n)]
  | p :: q, n =>
    (n.kids.filter fun k => matchSyl st k.syl p).flatMap fun k =>
      (reach st q k).map fun r => (k.syl :: r.1, r.2)

theorem tStep_append (st : Strategy) (p : Nat) (a b : List Item) :
    tStep st p (a ++ b) = tStep st p a ++ tStep st p b := by
  simp [tStep]

theorem tWalk_append (st : Strategy) (q : List Nat) (a b : List Item) :
    tWalk st q (a ++ b) = tWalk st q a ++ tWalk st q b := by
  induction q generalizing a b with
  | nil => rfl
  | cons p q ih => simp only [tWalk, tStep_append, ih]

theorem tWalk_flatMap (st : Strategy) (q : List Nat) (items : List Item) :
    tWalk st q items = items.flatMap fun n => tWalk st q [n] := by
  induction items with
  | nil => simp [tWalk_nil]
  | cons n ns ih =>
    have : n :: ns = [n] ++ ns := rfl
    rw [this, tWalk_append, ih]
    simp

theorem tWalk_eq_reach (st : Strategy) (q : List Nat) (n : Item) :
    tWalk st q [n] = (reach st q n).map (·.2) := by
  induction q generalizing n with
  | nil => rfl
  | cons p q ih =>
    simp only [tWalk, reach]
    rw [tWalk_flatMap]
    simp only [tStep, List.flatMap_cons, List.flatMap_nil, List.append_nil, List.map_flatMap, List.map_map]
    congr 1
    funext k
    rw [ih k]
    simp [Function.comp_def]

theorem mem_toItems_iff {f : Forest} (hf : f.WF) (k : Item) :
    k ∈ f.toItems ↔ ∃ nd, f.child k.syl = some nd ∧ k = .node k.syl nd.1 nd.2 := by
  rw [mem_toItems_child hf.good]
  constructor
  · rintro ⟨s, l, sub, rfl, hc⟩
    exact ⟨(l, sub), hc, rfl⟩
  · rintro ⟨nd, hc, e⟩
    exact ⟨k.syl, nd.1, nd.2, e, hc⟩

theorem mem_kids_node {s : Nat} {l : Option (List Phrase)} {sub : Forest} (hw : sub.WF) (k : Item) (hk : k.syl ≠ 0) :
    k ∈ (Item.node s l sub).kids ↔ ∃ nd, sub.child k.syl = some nd ∧ k = .node k.syl nd.1 nd.2 := by
  rw [← mem_toItems_iff hw k]
  exact ⟨fun h => forall_mem_kidsOf (Q := fun it => it.syl ≠ 0 → it ∈ sub.toItems) (fun _ _ h0 => absurd rfl h0)
    (fun _ h _ => h) k h hk, fun h => List.mem_append_right _ (mem_sortBy.mpr h)⟩

/-- the walk reaches the node at `path` iff `path` matches the query under the strategy -/
theorem mem_reach (st : Strategy) (q : List Nat) (hq : ∀ p ∈ q, p ≠ 0) :
    ∀ (s : Nat) (l : Option (List Phrase)) (sub : Forest), sub.WF → ∀ (path : List Nat) (it : Item),
      (path, it) ∈ reach st q (.node s l sub) ↔
        (keyMatch st path q = true ∧ itemAt (.node s l sub) path = some it) := by
  induction q with
  | nil =>
    intro s l sub _ path it
    cases path with
    | nil => simp [reach, keyMatch, itemAt, eq_comm]
    | cons t r => simp [reach, keyMatch]
  | cons p q ih =>
    intro s l sub hw path it
    have hp : p ≠ 0 := hq p List.mem_cons_self
    have ih := ih fun p' hp' => hq p' (List.mem_cons_of_mem _ hp')
    simp only [reach, List.mem_flatMap, List.mem_filter, List.mem_map]
    constructor
    · rintro ⟨k, ⟨hk, hm⟩, r, hr, heq⟩
      obtain ⟨nd, hc, hknd⟩ := (mem_kids_node hw k (matchSyl_ne_zero hp hm)).mp hk
      obtain ⟨⟨h0, _, hv⟩, hnd⟩ := WF_shape.child hw hc
      cases heq
      rw [hknd] at hr
      have := (ih k.syl nd.1 nd.2 hnd.2.2 r.1 r.2).mp hr
      rw [matchSyl_valid (Nat.ne_of_gt h0) hv] at hm
      exact ⟨by simp only [keyMatch, hm, this.1, Bool.and_self], by simp only [itemAt, hc]; exact this.2⟩
    · rintro ⟨h1, h2⟩
      cases path with
      | nil => simp [keyMatch] at h1
      | cons t r =>
        simp only [keyMatch, Bool.and_eq_true] at h1
        simp only [itemAt] at h2
        cases hc : sub.child t with
        | none => rw [hc] at h2; cases h2
        | some nd =>
          rw [hc] at h2
          obtain ⟨⟨ht0, _, htv⟩, hnd⟩ := WF_shape.child hw hc
          have ht : (Item.node t nd.1 nd.2).syl ≠ 0 := Nat.ne_of_gt ht0
          exact ⟨.node t nd.1 nd.2, ⟨(mem_kids_node hw _ ht).mpr ⟨nd, hc, rfl⟩,
              by rw [matchSyl_valid ht htv]; exact h1.1⟩,
            (r, it), (ih t nd.1 nd.2 hnd.2.2 r it).mpr ⟨h1.2, h2⟩, rfl⟩

/-! ### in ascending key order, hence each once -/

/-- the strategy's predicate never keeps the leaf record of a node -/
theorem filter_kidsOf {st : Strategy} {p : Nat} (hp : p ≠ 0) (l : Option (List Phrase)) (sub : Forest) :
    (kidsOf l sub).filter (fun k => matchSyl st k.syl p) =
      (sortBy sylLt sub.toItems).filter fun k => matchSyl st k.syl p := by
  have h : (leafItem l).filter (fun k => matchSyl st k.syl p) = [] := by
    refine List.filter_eq_nil_iff.mpr fun k hk hm => ?_
    cases l with
    | none => cases hk
    | some ps => cases List.mem_singleton.mp hk; exact matchSyl_ne_zero hp hm rfl
  rw [kidsOf_eq, List.filter_append, h, List.nil_append]

/-- the walk visits the matching nodes in ascending order of their keys (children lie in the index in ascending
    order of their syllables) -/
theorem reach_paths_sorted (st : Strategy) (q : List Nat) (hq : ∀ p ∈ q, p ≠ 0) :
    ∀ (s : Nat) (l : Option (List Phrase)) (sub : Forest), sub.WF →
      ((reach st q (.node s l sub)).map (·.1)).Pairwise (fun a b => lexLt a b = true) := by
  induction q with
  | nil => intro s l sub _; simp [reach]
  | cons p q ih =>
    intro s l sub hw
    have hp : p ≠ 0 := hq p List.mem_cons_self
    simp only [reach, List.map_flatMap, List.map_map, List.pairwise_flatMap]
    constructor
    · intro k hk
      simp only [List.mem_filter] at hk
      obtain ⟨nd, hc, hknd⟩ := (mem_kids_node hw k (matchSyl_ne_zero hp hk.2)).mp hk.1
      have := ih (fun p' hp' => hq p' (List.mem_cons_of_mem _ hp')) k.syl nd.1 nd.2 (WF_shape.child hw hc).2.2.2
      rw [← hknd, List.pairwise_map] at this
      rw [List.pairwise_map]
      exact this.imp fun hab => by simpa [lexLt] using hab
    · rw [Item.kids, filter_kidsOf hp]
      refine ((sorted_kids_ascending' hw.good).filter _).imp fun hab x hx y hy => ?_
      simp only [List.mem_map, Function.comp] at hx hy
      obtain ⟨_, _, rfl⟩ := hx
      obtain ⟨_, _, rfl⟩ := hy
      simp [lexLt, hab]

theorem reach_paths_nodup (st : Strategy) (q : List Nat) (hq : ∀ p ∈ q, p ≠ 0) (s : Nat) (l : Option (List Phrase))
    (sub : Forest) (hw : sub.WF) : ((reach st q (.node s l sub)).map (·.1)).Nodup :=
  (reach_paths_sorted st q hq s l sub hw).imp fun h e => by
    rw [e] at h; exact absurd (lexLt_asymm _ _ h) (by rw [h]; exact Bool.noConfusion)

/-- (key, inserted phrase vector) of every reached node that has a leaf -/
def reachGroups (st : Strategy) (q : List Nat) (root : Item) : List (List Nat × List Phrase) :=
  (reach st q root).filterMap fun r => r.2.leaf?.map fun ps => (r.1, ps)

theorem tLookup_groups (st : Strategy) (q : List Nat) (root : Item) :
    tLookup st q root = (reachGroups st q root).flatMap fun g => sortLeaf g.2 := by
  simp only [tLookup, tWalk_eq_reach, reachGroups, List.flatMap_map]
  generalize reach st q root = rs
  induction rs with
  | nil => rfl
  | cons r rs ih =>
    simp only [List.flatMap_cons, List.filterMap_cons, ih]
    rw [leafPhrases_eq]
    cases r.2.leaf? <;> simp

/-- **what a lookup returns, either strategy**: the groups are the entries of the builder's map whose key matches -/
theorem mem_reachGroups (st : Strategy) (q : List Nat) (hq : ∀ p ∈ q, p ≠ 0) (s : Nat) (l : Option (List Phrase))
    (sub : Forest) (hw : sub.WF) (k : List Nat) (ps : List Phrase) :
    (k, ps) ∈ reachGroups st q (.node s l sub) ↔ (findNode k (l, sub) = some ps ∧ keyMatch st k q = true) := by
  simp only [reachGroups, List.mem_filterMap, Option.map_eq_some_iff, Prod.mk.injEq]
  rw [findNode_itemAt s]
  constructor
  · rintro ⟨r, hr, ps', hps, rfl, rfl⟩
    have := (mem_reach st q hq s l sub hw r.1 r.2).mp hr
    exact ⟨by rw [this.2]; exact hps, this.1⟩
  · rintro ⟨h1, h2⟩
    cases hi : itemAt (.node s l sub) k with
    | none => rw [hi] at h1; cases h1
    | some it =>
      rw [hi] at h1
      exact ⟨(k, it), (mem_reach st q hq s l sub hw k it).mpr ⟨h2, hi⟩, ps, h1, rfl, rfl⟩

theorem reachGroups_keys_sublist (st : Strategy) (q : List Nat) (root : Item) :
    ((reachGroups st q root).map (·.1)).Sublist ((reach st q root).map (·.1)) := by
  simp only [reachGroups]
  generalize reach st q root = rs
  induction rs with
  | nil => exact List.Sublist.refl _
  | cons r rs ih =>
    simp only [List.filterMap_cons, List.map_cons]
    cases r.2.leaf? with
    | none => exact List.Sublist.cons _ ih
    | some ps => exact List.Sublist.cons_cons _ ih

theorem reachGroups_nodup (st : Strategy) (q : List Nat) (hq : ∀ p ∈ q, p ≠ 0) (s : Nat) (l : Option (List Phrase))
    (sub : Forest) (hw : sub.WF) : ((reachGroups st q (.node s l sub)).map (·.1)).Nodup :=
  (reach_paths_nodup st q hq s l sub hw).sublist (reachGroups_keys_sublist st q _)

/-- exact lookup on the tree = the builder's map, leaf in sorted order: only the query itself matches -/
theorem tLookup_standard (key : List Nat) (hkey : ∀ s ∈ key, s ≠ 0) (s : Nat) (l : Option (List Phrase)) (sub : Forest)
    (hw : sub.WF) : tLookup .standard key (.node s l sub) = ((findNode key (l, sub)).map sortLeaf).getD [] := by
  rw [tLookup_groups]
  have hm := mem_reachGroups .standard key hkey s l sub hw
  have hn := reachGroups_nodup .standard key hkey s l sub hw
  simp only [keyMatch_standard] at hm
  generalize reachGroups .standard key (.node s l sub) = G at hm hn
  match G, hm, hn with
  | [], hm, _ =>
    cases hf : findNode key (l, sub) with
    | none => rfl
    | some ps => exact nomatch (hm key ps).mpr ⟨hf, rfl⟩
  | [(k, ps)], hm, _ =>
    obtain ⟨hf, rfl⟩ := (hm k ps).mp List.mem_cons_self
    simp [hf]
  | (k, ps) :: (k', ps') :: _, hm, hn =>
    have h1 := ((hm k ps).mp List.mem_cons_self).2
    have h2 := ((hm k' ps').mp (List.mem_cons_of_mem _ List.mem_cons_self)).2
    simp [h1, h2] at hn

end Chewing.TrieCodec
