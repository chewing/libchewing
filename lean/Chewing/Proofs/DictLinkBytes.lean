import Chewing.Proofs.DictLink
import Chewing.Proofs.TrieLink
/-!
# DictLinkBytes — the files of `DictLink` are byte files

`Proofs/DictLink.lean` runs C10's persistence protocol over C09's concrete `TrieBuf` layers, with a
complete file modelled as the `List Leaf` that was written (`CFile.complete t`, `t = Trie.build es`).
This file removes that abstraction as an assumption: along **every** run of the protocol every
complete file (at the path, the temp file, the writer's output and re-opened result, the snapshot
held in memory) *is* `Trie.build es` for a list `es` of entries that are valid for the Rust types and
satisfy a given size predicate `P` (`Tracked`, `tracked_run`) — and for such a list
`TrieLink.build_denotes` says the bytes `TrieBuilder::write` produces denote exactly that leaf list
under the real reader (`Trie::new`, `lookup_*`, `entries`).

The size predicate is C11's `Builder.Fits` (every leaf < 64 KiB encoded, every node < 65536 children,
document within `der`'s `Length::MAX`): the protocol model has no failing `write`, so the statement
is made for histories all of whose snapshots fit (`SnapshotsOk`); a history that exceeds the limits
makes `TrieBuilder::write` return an error (C11 F13 fix), which this model does not follow further.
-/
namespace Chewing.DictLink
open Chewing.Persist

/-! ## validity of what goes into the dictionary -/

/-- `(syllables, phrase text)` as the Rust types constrain it: `Syllable`s — non-zero `u16` codes that
    `Syllable::try_from` accepts (`validCode`: the invariant of the type since the repair of C13's finding F47,
    required by C11's `ValidEntry`) —, a `String` -/
def ValidPK (pk : MapSpec.PKey) : Prop :=
  (∀ s ∈ pk.1, 0 < s ∧ s < 65536 ∧ validCode s = true) ∧ ∀ c ∈ pk.2, Der.IsScalar c

/-- `(freq : u32, last_used : u64)` -/
def ValidVal (v : MapSpec.Val) : Prop := v.1 < 2 ^ 32 ∧ v.2 < 2 ^ 64

/-- a `DictionaryMut` call with arguments of the Rust types -/
def CActValid : CAct → Prop
  | .add k t f tm => ValidPK (k, t) ∧ ValidVal (f, tm.getD 0)
  | .update k t f tm => ValidPK (k, t) ∧ ValidVal (f, tm)
  | _ => True

theorem validEntry_mk {pk : MapSpec.PKey} {v : MapSpec.Val} (hk : ValidPK pk) (hv : ValidVal v) :
    TrieCodec.ValidEntry (pk.1, mkPhrase pk.2 v) := by
  refine ⟨hk.1, hk.2, hv.1, ?_⟩
  intro t ht
  simp only [mkPhrase, Option.some.injEq] at ht
  rw [← ht]; exact hv.2

/-- a leaf list `TrieBuilder` wrote from valid entries satisfying `P` -/
def Written (P : List Entry → Prop) (t : List Leaf) : Prop :=
  ∃ es, (∀ e ∈ es, TrieCodec.ValidEntry e) ∧ P es ∧ t = Trie.build es

theorem Written.snapOk {P : List Entry → Prop} {t : List Leaf} (h : Written P t) : Trie.SnapOk t := by
  obtain ⟨es, _, _, rfl⟩ := h
  exact Trie.snapOk_build es

theorem Written.entries_valid {P : List Entry → Prop} {t : List Leaf} (h : Written P t) :
    ∀ e ∈ Trie.entries t, TrieCodec.ValidEntry e := by
  obtain ⟨es, hv, _, rfl⟩ := h
  intro e he
  obtain ⟨l, hl, e1, hp⟩ := TrieBuf.mem_trie_entries.mp he
  unfold Trie.build at hl
  obtain ⟨k, _, rfl⟩ := List.mem_map.mp hl
  simp only at e1 hp
  have := TrieLink.mem_leafOf ((mem_isort _).mp hp)
  have hv' := hv _ this
  rw [e1] at hv'
  exact hv'

def BtValid (bt : List (MapSpec.PKey × MapSpec.Val)) : Prop := ∀ e ∈ bt, ValidPK e.1 ∧ ValidVal e.2

theorem entries_valid {P : List Entry → Prop} {s : TrieBuf.State} (hs : Written P s.snap) (hb : BtValid s.btree) :
    ∀ e ∈ TrieBuf.entries s, TrieCodec.ValidEntry e := by
  intro e he
  unfold TrieBuf.entries at he
  rw [List.mem_filter, List.mem_append] at he
  rcases he.1 with h | h
  · exact hs.entries_valid e (List.mem_filter.mp h).1
  · unfold TrieBuf.btEntries at h
    obtain ⟨x, hx, rfl⟩ := List.mem_map.mp h
    exact validEntry_mk (hb x hx).1 (hb x hx).2

/-! ## the invariant -/

structure Tracked (P : List Entry → Prop) (cw : CWorld) : Prop where
  snap : Written P cw.st.snap
  btree : BtValid cw.st.btree
  files : ∀ n t, cw.fs n = some (.complete t) → Written P t
  writer : ∀ wr, cw.writer = some wr → Written P wr.out ∧ ∀ t, wr.result = some t → Written P t

def TmpWritten (P : List Entry → Prop) (tmp : Option CFile) : Prop := ∀ t, tmp = some (.complete t) → Written P t

theorem TmpWritten.ok {P : List Entry → Prop} {tmp : Option CFile} (h : TmpWritten P tmp) : TmpOk tmp :=
  fun t e => (h t e).snapOk

theorem tracked_init {P : List Entry → Prop} {t0 : List Leaf} (h0 : Written P t0) {tmp : Option CFile}
    (ht : TmpWritten P tmp) : Tracked P (cinit t0 tmp) := by
  refine ⟨h0, fun _ h => by simp [cinit, freshSt, TrieBuf.initFile, TrieBuf.initMem] at h, ?_, fun _ h => by simp [cinit] at h⟩
  intro n t h
  cases n with
  | path => simp only [cinit, Option.some.injEq, CFile.complete.injEq] at h; rw [← h]; exact h0
  | tmp => exact ht t h

theorem creadPath_written {P : List Entry → Prop} {fs : CFS} (h : ∀ n t, fs n = some (.complete t) → Written P t)
    {t : List Leaf} (e : creadPath fs = some t) : Written P t := by
  unfold creadPath at e
  split at e
  · rename_i t' h'
    cases e
    exact h .path _ h'
  · cases e

theorem tracked_sync {P : List Entry → Prop} {cw : CWorld} (h : Tracked P cw) : Tracked P (csync cw) := by
  obtain ⟨st, cwr, cfs, cph, ccr⟩ := cw
  obtain ⟨hs, hb, hf, hw⟩ := h
  simp only at hs hb hf hw
  unfold csync
  cases cwr with
  | none =>
    simp only
    cases h1 : creadPath cfs with
    | none => exact ⟨hs, hb, hf, hw⟩
    | some t => exact ⟨creadPath_written hf h1, hb, hf, hw⟩
  | some wr =>
    simp only
    split
    · exact ⟨hs, hb, hf, hw⟩
    · cases h2 : wr.result with
      | none => exact ⟨hs, hb, hf, fun _ e => by cases e⟩
      | some t =>
        simp only
        split
        · exact ⟨hs, hb, hf, fun _ e => by cases e⟩
        · exact ⟨(hw wr rfl).2 t h2, fun _ e => by simp [adopt] at e, hf, fun _ e => by cases e⟩

theorem tracked_checkpoint {P : List Entry → Prop} {cw : CWorld} (h : Tracked P cw) (hP : P (TrieBuf.entries cw.st)) :
    Tracked P (ccheckpoint cw) := by
  obtain ⟨st, cwr, cfs, cph, ccr⟩ := cw
  have hev := entries_valid h.snap h.btree
  obtain ⟨hs, hb, hf, hw⟩ := h
  simp only at hs hb hf hw hP hev
  unfold ccheckpoint
  split
  · exact ⟨hs, hb, hf, hw⟩
  · split
    · exact ⟨hs, hb, hf, hw⟩
    · refine ⟨hs, hb, hf, ?_⟩
      intro wr e
      simp only [Option.some.injEq] at e
      subst e
      exact ⟨⟨_, hev, hP, rfl⟩, fun _ e => by cases e⟩

theorem csetF_written {P : List Entry → Prop} {fs : CFS} (h : ∀ n t, fs n = some (.complete t) → Written P t)
    (m : Name) (f : Option CFile) (hf : ∀ t, f = some (.complete t) → Written P t) :
    ∀ n t, csetF fs m f n = some (.complete t) → Written P t := by
  intro n t e
  unfold csetF at e
  split at e
  · exact hf t e
  · exact h n t e

theorem tracked_wstep {P : List Entry → Prop} {wr wr' : CWriter} {fs fs' : CFS}
    (hf : ∀ n t, fs n = some (.complete t) → Written P t)
    (hw : Written P wr.out ∧ ∀ t, wr.result = some t → Written P t) (h : cwstep wr fs = some (wr', fs')) :
    (∀ n t, fs' n = some (.complete t) → Written P t) ∧
      (Written P wr'.out ∧ ∀ t, wr'.result = some t → Written P t) := by
  obtain ⟨pc, out, res⟩ := wr
  unfold cwstep at h
  cases pc <;> simp only at h
  case start => cases h; exact ⟨hf, hw⟩
  case collected => cases h; exact ⟨csetF_written hf .tmp (some .partial_) (fun _ e => by cases e), hw⟩
  case created => cases h; exact ⟨csetF_written hf .tmp (some .partial_) (fun _ e => by cases e), hw⟩
  case written =>
    cases h
    refine ⟨csetF_written hf .tmp (some (.complete out)) ?_, hw⟩
    intro t e
    simp only [Option.some.injEq, CFile.complete.injEq] at e
    rw [← e]; exact hw.1
  case flushed => cases h; exact ⟨hf, hw⟩
  case synced =>
    cases h1 : fs .tmp with
    | none => rw [h1] at h; cases h; exact ⟨hf, hw.1, fun _ e => by cases e⟩
    | some f =>
      rw [h1] at h
      cases h
      refine ⟨csetF_written (csetF_written hf .path (some f) ?_) .tmp none (fun _ e => by cases e), hw⟩
      intro t e
      simp only [Option.some.injEq] at e
      exact hf .tmp t (by rw [h1, e])
  case renamed => cases h; exact ⟨hf, hw⟩
  case built => cases h; exact ⟨hf, hw.1, fun t e => creadPath_written hf e⟩
  case reopened => cases h; exact ⟨hf, hw⟩
  case finished => cases h

theorem btValid_put {s : TrieBuf.State} (hb : BtValid s.btree) {k : MapSpec.PKey} {v : MapSpec.Val}
    (hk : ValidPK k) (hv : ValidVal v) : BtValid (TrieBuf.put s k v).btree := by
  intro e he
  rcases TrieBuf.mem_btInsert.mp he with rfl | ⟨h1, _⟩
  · exact ⟨hk, hv⟩
  · exact hb e h1

theorem tracked_apply {P : List Entry → Prop} {cw : CWorld} (h : Tracked P cw) (a : CAct) (hv : CActValid a)
    (op : MapSpec.Op) (ho : opOf a = some op) : Tracked P { cw with st := TrieBuf.apply cw.st op } := by
  obtain ⟨hs, hb, hf, hw⟩ := h
  cases a <;> cases ho
  case add k t f tm =>
    simp only [TrieBuf.apply]
    split
    · exact ⟨hs, btValid_put hb hv.1 hv.2, hf, hw⟩
    · exact ⟨hs, hb, hf, hw⟩
  case update k t f tm => exact ⟨hs, btValid_put hb hv.1 hv.2, hf, hw⟩
  case remove k t =>
    refine ⟨hs, fun e he => ?_, hf, hw⟩
    simp only [TrieBuf.apply, TrieBuf.btErase, List.mem_filter] at he
    exact hb e he.1

/-- **every step keeps every file a written file** — provided the snapshot a step may take from the
    current state satisfies the size predicate -/
theorem tracked_step {P : List Entry → Prop} {cw cw' : CWorld} {a : CAct} (ht : Tracked P cw) (hv : CActValid a)
    (hP : P (TrieBuf.entries cw.st)) (h : cstep cw a = some cw') : Tracked P cw' := by
  have hsync := tracked_sync ht
  have hck := tracked_checkpoint ht hP
  cases (cstep_some h).2 with
  | w hwr h3 =>
    have := tracked_wstep ht.files (ht.writer _ hwr) h3
    exact ⟨ht.snap, ht.btree, this.1, fun x e => by cases e; exact this.2⟩
  | change _ ho => exact tracked_apply ht a hv _ ho
  | flush => exact hck
  | reopen => exact hsync
  | dSync => exact ⟨hsync.snap, hsync.btree, hsync.files, hsync.writer⟩
  | dFlush => exact ⟨hck.snap, hck.btree, hck.files, hck.writer⟩
  | dJoin0 => exact ⟨ht.snap, ht.btree, ht.files, nofun⟩
  | dJoin => exact ⟨ht.snap, ht.btree, ht.files, nofun⟩
  | open_ _ h1 =>
    exact ⟨creadPath_written ht.files h1,
      fun _ e => by simp [freshSt, TrieBuf.initFile, TrieBuf.initMem] at e, ht.files, ht.writer⟩
  | _ => exact ⟨ht.snap, ht.btree, ht.files, ht.writer⟩

/-- every snapshot the history can take satisfies the size predicate: the entries of every state the
    run passes through -/
def SnapshotsOk (P : List Entry → Prop) (cw : CWorld) (acts : List CAct) : Prop :=
  ∀ pre cw', pre <+: acts → crun cw pre = some cw' → P (TrieBuf.entries cw'.st)

theorem snapshotsOk_nil {P : List Entry → Prop} {cw : CWorld} (h0 : P (TrieBuf.entries cw.st)) : SnapshotsOk P cw [] := by
  intro pre cw' hpre hr
  have : pre = [] := List.prefix_nil.mp hpre
  subst this
  cases cfolds.nil_ok.mp hr; exact h0

/-- how the examples of `Props/C10.lean` discharge `SnapshotsOk` for a concrete history, one step at a time -/
theorem snapshotsOk_cons {P : List Entry → Prop} {cw : CWorld} {a : CAct} {as : List CAct}
    (h0 : P (TrieBuf.entries cw.st)) (cw1 : CWorld) (h1 : cstep cw a = some cw1) (h : SnapshotsOk P cw1 as) :
    SnapshotsOk P cw (a :: as) := by
  intro pre cw' hpre hr
  cases pre with
  | nil => cases cfolds.nil_ok.mp hr; exact h0
  | cons b pre =>
    obtain ⟨s, hs⟩ := hpre
    simp only [List.cons_append, List.cons.injEq] at hs
    obtain ⟨rfl, hs⟩ := hs
    rw [cfolds.cons_eq h1] at hr
    exact h pre cw' ⟨s, hs⟩ hr

theorem tracked_run {P : List Entry → Prop} {acts : List CAct} {cw cw' : CWorld} (ht : Tracked P cw)
    (hv : ∀ a ∈ acts, CActValid a) (hP : SnapshotsOk P cw acts) (h : crun cw acts = some cw') : Tracked P cw' :=
  cfolds.keeps (I := Tracked P) (S := fun cw acts => (∀ a ∈ acts, CActValid a) ∧ SnapshotsOk P cw acts)
    (fun {_ a _ cw1} hs h1 => ⟨(List.forall_mem_cons.mp hs.1).2, fun pre cw'' hpre hr =>
      hs.2 (a :: pre) cw'' (List.cons_prefix_cons.mpr ⟨rfl, hpre⟩) (cfolds.cons_ok.mpr ⟨cw1, h1, hr⟩)⟩)
    (fun {cw _ _ _} ht hs h1 => tracked_step ht (List.forall_mem_cons.mp hs.1).1 (hs.2 [] cw List.nil_prefix rfl) h1)
    acts ht ⟨hv, hP⟩ h

/-! ## what a well-formed leaf list answers to an exact lookup -/

theorem isLookup_baseGet {t : List Leaf} (h : Trie.SnapOk t) (k : List Nat) :
    MapSpec.IsLookup (TrieBuf.baseGet t) k (Trie.lookupAll t k .standard) := by
  refine ⟨(Trie.leafOk_iff _).mp (TrieBuf.leafOk_lookupAll_std h k), ?_, ?_⟩
  · intro p hp
    obtain ⟨l, hl, e, hpl⟩ := TrieBuf.mem_lookupAll_std.mp hp
    exact (TrieBuf.baseGet_iff h).mpr ⟨l, hl, e, p, hpl, rfl, rfl⟩
  · intro tx v hb
    obtain ⟨l, hl, e, p, hpl, e', _⟩ := (TrieBuf.baseGet_iff h).mp hb
    exact ⟨p, TrieBuf.mem_lookupAll_std.mpr ⟨l, hl, e, hpl⟩, e'⟩

end Chewing.DictLink
