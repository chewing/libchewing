import Chewing.Proofs.Persist
/-!
# `Drop` always completes

From every state that has not died, the writer reaches its end in at most nine hops and `Drop` then
runs through its parts: "flushed and closed normally" is reachable from every state, under every
schedule prefix — so `durable_full` is never vacuous, and there is no deadlock between `Drop`'s joins
and the writer in the step model.
-/
namespace Chewing.Persist

/-- only the writer and the parts of `Drop` move -/
def Passive (acts : List Act) : Prop := ∀ a ∈ acts, a = .w ∨ a = .d

theorem passive_append {l1 l2 : List Act} (h1 : Passive l1) (h2 : Passive l2) : Passive (l1 ++ l2) := by
  intro a ha
  rcases List.mem_append.mp ha with h | h
  · exact h1 a h
  · exact h2 a h

theorem passive_replicate_w (n : Nat) : Passive (List.replicate n .w) := by
  intro a ha
  exact Or.inl (List.eq_of_mem_replicate ha)

theorem passive_d : Passive [.d] := by
  intro a ha
  exact Or.inr (List.mem_singleton.mp ha)

theorem pc_idx_le (p : PC) : p.idx ≤ 9 := by cases p <;> decide

theorem pc_idx_nine {p : PC} (h : 9 ≤ p.idx) : p = .finished := by
  cases p <;> first | rfl | (exfalso; revert h; decide)

theorem wstep_advance {wr : Writer} (fs : FS) (hne : wr.pc ≠ .finished) :
    ∃ wr' fs', wstep wr fs = some (wr', fs') ∧ wr.pc.idx < wr'.pc.idx := by
  unfold wstep
  cases hpc : wr.pc <;> simp only
  case finished => exact absurd hpc hne
  case synced => split <;> exact ⟨_, _, rfl, by simp [PC.idx]⟩
  all_goals exact ⟨_, _, rfl, by simp [PC.idx]⟩

/-- an unfinished writer can always take its next hop, and its program counter grows -/
theorem w_advance (cfg : Cfg) {w : World} {wr : Writer} (hc : w.crashed = false) (hw : w.writer = some wr)
    (hne : wr.pc ≠ .finished) :
    ∃ w' wr', step cfg w .w = some w' ∧ w'.writer = some wr' ∧ wr.pc.idx < wr'.pc.idx ∧
      w'.phase = w.phase ∧ w'.crashed = false := by
  obtain ⟨wr', fs', hws, hlt⟩ := wstep_advance w.fs hne
  exact ⟨_, wr', step_of_Step hc (.w hw hws), rfl, hlt, rfl, hc⟩

theorem drain_aux (cfg : Cfg) (n : Nat) : ∀ (w : World) (wr : Writer), 9 - wr.pc.idx ≤ n → w.crashed = false →
    w.writer = some wr →
    ∃ k w', k ≤ n ∧ run cfg w (List.replicate k .w) = some w' ∧ writerDone w' = true ∧ w'.phase = w.phase ∧
      w'.crashed = false := by
  induction n with
  | zero =>
    intro w wr hn hc hw
    have hfin : wr.pc = .finished := pc_idx_nine (Nat.le_of_sub_eq_zero (Nat.le_zero.mp hn))
    exact ⟨0, w, Nat.le_refl 0, rfl, by simp [writerDone, hw, hfin], rfl, hc⟩
  | succ n ih =>
    intro w wr hn hc hw
    by_cases hfin : wr.pc = .finished
    · exact ⟨0, w, Nat.zero_le _, rfl, by simp [writerDone, hw, hfin], rfl, hc⟩
    · obtain ⟨w1, wr1, hs, hw1, hlt, hph, hc1⟩ := w_advance cfg hc hw hfin
      obtain ⟨k, w2, hk, hr, hd, hph2, hc2⟩ := ih w1 wr1 (by omega) hc1 hw1
      exact ⟨k + 1, w2, Nat.succ_le_succ hk, folds.cons_ok.mpr ⟨w1, hs, hr⟩, hd, hph2.trans hph, hc2⟩

/-- the writer, if any, can always be run to its end -/
theorem drain (cfg : Cfg) (w : World) (hc : w.crashed = false) :
    ∃ k w', k ≤ 9 ∧ run cfg w (List.replicate k .w) = some w' ∧ writerDone w' = true ∧ w'.phase = w.phase ∧
      w'.crashed = false := by
  cases hw : w.writer with
  | none => exact ⟨0, w, Nat.zero_le _, rfl, by simp [writerDone, hw], rfl, hc⟩
  | some wr => exact drain_aux cfg 9 w wr (Nat.sub_le ..) hc hw

/-- from `w`, at most `n` steps of the writer and of `Drop` alone end with the dictionary closed -/
def Closes (cfg : Cfg) (w : World) (n : Nat) : Prop :=
  ∃ acts w', Passive acts ∧ acts.length ≤ n ∧ run cfg w acts = some w' ∧ w'.phase = .closed ∧ w'.crashed = false

theorem closes_here {cfg : Cfg} {w : World} (hp : w.phase = .closed) (hc : w.crashed = false) : Closes cfg w 0 :=
  ⟨[], w, (fun _ h => nomatch h), Nat.le_refl _, rfl, hp, hc⟩

theorem closes_mono {cfg : Cfg} {w : World} {n m : Nat} (h : Closes cfg w n) (hnm : n ≤ m) : Closes cfg w m :=
  let ⟨acts, w', hpa, hl, hr⟩ := h
  ⟨acts, w', hpa, Nat.le_trans hl hnm, hr⟩

/-- a run of at most `m` such steps in front -/
theorem closes_after {cfg : Cfg} {w w1 : World} {l : List Act} {m n : Nat} (hl : Passive l) (hm : l.length ≤ m)
    (hr : run cfg w l = some w1) (h : Closes cfg w1 n) : Closes cfg w (m + n) :=
  let ⟨acts, w', hpa, hle, hr2, hcl⟩ := h
  ⟨l ++ acts, w', passive_append hl hpa, List.length_append ▸ Nat.add_le_add hm hle, (folds.append hr _).trans hr2, hcl⟩

/-- one part of `Drop` in front -/
theorem closes_d {cfg : Cfg} {w w1 : World} {n : Nat} (hc : w.crashed = false) (hs : Step cfg w .d w1)
    (h : Closes cfg w1 n) : Closes cfg w (1 + n) :=
  closes_after passive_d (Nat.le_refl 1) (folds.cons_ok.mpr ⟨w1, step_of_Step hc hs, rfl⟩) h

/-- … after the writer, if any, was run to its end -/
theorem closes_drained {cfg : Cfg} {w : World} {n : Nat} (hc : w.crashed = false)
    (h : ∀ w1, writerDone w1 = true → w1.phase = w.phase → w1.crashed = false → Closes cfg w1 n) :
    Closes cfg w (9 + n) :=
  let ⟨k, w1, hk, hr, hd, hph, hc1⟩ := drain cfg w hc
  closes_after (passive_replicate_w k) (List.length_replicate ▸ hk) hr (h w1 hd hph hc1)

theorem term_dJoin (cfg : Cfg) (w : World) (hc : w.crashed = false) (hp : w.phase = .dJoin) : Closes cfg w 10 :=
  closes_drained hc fun _ hd hph hc1 => closes_d hc1 (.dJoin (hph.trans hp) hd) (closes_here rfl hc1)

theorem term_dFlush (cfg : Cfg) (w : World) (hc : w.crashed = false) (hp : w.phase = .dFlush) : Closes cfg w 11 :=
  closes_d hc (.dFlush hp) (term_dJoin cfg _ ((checkpoint_crashed w).trans hc) rfl)

theorem term_dSync (cfg : Cfg) (w : World) (hc : w.crashed = false) (hp : w.phase = .dSync) : Closes cfg w 12 :=
  closes_d hc (.dSync hp) (term_dFlush cfg _ ((sync_crashed w).trans hc) rfl)

theorem term_dJoin0 (cfg : Cfg) (w : World) (hc : w.crashed = false) (hp : w.phase = .dJoin0) : Closes cfg w 22 :=
  closes_drained hc fun _ hd hph hc1 => closes_d hc1 (.dJoin0 (hph.trans hp) hd) (term_dSync cfg _ hc1 rfl)

/-- from every open dictionary that has not died, `close` followed by at most 22 steps of the writer
    and of `Drop` alone reaches `closed` -/
theorem close_completes (cfg : Cfg) (w : World) (hc : w.crashed = false) (hp : w.phase = .run) :
    ∃ acts w', Passive acts ∧ acts.length ≤ 22 ∧ run cfg w (.close :: acts) = some w' ∧ w'.phase = .closed ∧
      w'.crashed = false := by
  obtain ⟨acts, w', hpa, hl, hr, hcl⟩ :
      Closes cfg { w with phase := if cfg.joinFirst then .dJoin0 else .dSync } 22 := by
    cases cfg.joinFirst
    · exact closes_mono (term_dSync cfg { w with phase := .dSync } hc rfl) (by decide)
    · exact term_dJoin0 cfg { w with phase := .dJoin0 } hc rfl
  exact ⟨acts, w', hpa, hl, folds.cons_ok.mpr ⟨_, step_of_Step hc (.close hp), hr⟩, hcl⟩

end Chewing.Persist
