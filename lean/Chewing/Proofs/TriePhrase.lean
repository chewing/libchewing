import Chewing.Model.TrieCodec
import Chewing.Proofs.Der
/-!
Phrase records: `decPhrase (encPhrase p ++ rest) = some (p, rest)` and the `PhrasesIter` loop
returns exactly the encoded phrases.
-/
namespace Chewing.TrieCodec
open Chewing.Der

/-- what the Rust types guarantee of a `Phrase`: `str` holds scalar values, `u32`, `Option<u64>` -/
def ValidPhrase (p : Phrase) : Prop :=
  (∀ c ∈ p.text, IsScalar c) ∧ p.freq < 2 ^ 32 ∧ ∀ t, p.lastUsed = some t → t < 2 ^ 64

instance (p : Phrase) : Decidable (ValidPhrase p) :=
  decidable_of_iff ((∀ c ∈ p.text, IsScalar c) ∧ p.freq < 2 ^ 32 ∧ p.lastUsed.all (fun t => decide (t < 2 ^ 64)) = true)
    (by unfold ValidPhrase; cases p.lastUsed <;> simp)

theorem encPhrase_cons (p : Phrase) : ∃ bs, encPhrase p = tagSequence :: bs := ⟨_, rfl⟩

theorem encPhrase_body_le (p : Phrase) :
    (encUtf8 p.text ++ encUint 4 p.freq ++ encCtx0U64 p.lastUsed).length + 2 ≤ (encPhrase p).length :=
  tlv_length_ge _ _

theorem decPhrase_encPhrase (p : Phrase) (r : Bytes) (hv : ValidPhrase p) (hl : (encPhrase p).length ≤ maxLen) :
    decPhrase (encPhrase p ++ r) = some (p, r) := by
  obtain ⟨ht, hf, hu⟩ := hv
  have hb := encPhrase_body_le p
  have h1 : (utf8Enc p.text).length ≤ maxLen := by
    have := tlv_length_ge tagUtf8String (utf8Enc p.text)
    simp only [List.length_append] at hb
    unfold encUtf8 at hb
    omega
  unfold decPhrase encPhrase
  refine decSeq_encSeq _ _ r p ?_ (by omega)
  rw [List.append_assoc, decUtf8_encUtf8 p.text _ ht h1]
  simp only
  rw [decUint_encUint 4 p.freq _ (by decide) (by decide) (by simpa using hf)]
  simp only
  rw [decCtx0U64_enc p.lastUsed (fun v hv => by simpa using hu v hv)]

theorem decPhrasesFuel_enc (ps : List Phrase) (f : Nat) (hf : ps.length ≤ f)
    (hv : ∀ p ∈ ps, ValidPhrase p ∧ (encPhrase p).length ≤ maxLen) :
    decPhrasesFuel f (encPhrases ps) = ps := by
  induction ps generalizing f with
  | nil => cases f <;> simp [encPhrases, decPhrasesFuel]
  | cons p ps ih =>
    cases f with
    | zero => simp at hf
    | succ f =>
      obtain ⟨bs, hbs⟩ := encPhrase_cons p
      have hd := decPhrase_encPhrase p (encPhrases ps) (hv p (by simp)).1 (hv p (by simp)).2
      simp only [encPhrases, List.flatMap_cons] at hd ⊢
      rw [hbs] at hd ⊢
      simp only [List.cons_append] at hd ⊢
      rw [decPhrasesFuel, hd]
      simp only
      have := ih f (by simpa using hf) (fun q hq => hv q (by simp [hq]))
      simp only [encPhrases] at this
      rw [this]

theorem encPhrase_length_ge (p : Phrase) : 2 ≤ (encPhrase p).length := by
  have := tlv_length_ge tagSequence (encUtf8 p.text ++ encUint 4 p.freq ++ encCtx0U64 p.lastUsed)
  unfold encPhrase encSeq
  omega

theorem encPhrases_length_ge (ps : List Phrase) : ps.length ≤ (encPhrases ps).length := by
  induction ps with
  | nil => simp [encPhrases]
  | cons p ps ih =>
    have := encPhrase_length_ge p
    simp only [encPhrases, List.flatMap_cons, List.length_append, List.length_cons] at ih ⊢
    omega

theorem decPhrases_encPhrases (ps : List Phrase)
    (hv : ∀ p ∈ ps, ValidPhrase p ∧ (encPhrase p).length ≤ maxLen) :
    decPhrases (encPhrases ps) = ps :=
  decPhrasesFuel_enc ps _ (encPhrases_length_ge ps) hv

theorem encPhrase_le_encPhrases {p : Phrase} {ps : List Phrase} (h : p ∈ ps) :
    (encPhrase p).length ≤ (encPhrases ps).length := by
  induction ps with
  | nil => cases h
  | cons q ps ih =>
    simp only [encPhrases, List.flatMap_cons, List.length_append]
    cases h with
    | head => omega
    | tail _ h => have := ih h; simp only [encPhrases] at this; omega

end Chewing.TrieCodec
