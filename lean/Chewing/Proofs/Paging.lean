import Chewing.Model.Candidates
/-!
Paging arithmetic (C07), for every list, page size and page index: the page count is the ceiling of
`n / per`, the pages `pageItems cs per 0 … pageCount-1` tile the list in order, all but the last are
full, the last is non-empty, pages from `pageCount` on are empty, item `i` of page `p` is item
`p * per + i` of the list.
-/
namespace Chewing

/-- the page count is the least number of pages that hold `n` items — everything else about it follows -/
theorem pageCount_le_iff {n per k : Nat} (hper : 0 < per) : pageCount n per ≤ k ↔ n ≤ k * per := by
  unfold pageCount
  rw [Nat.div_le_iff_le_mul_add_pred hper, Nat.mul_comm per k]
  omega

theorem pageCount_covers (n per : Nat) (hper : 0 < per) : n ≤ pageCount n per * per :=
  (pageCount_le_iff hper).1 (Nat.le_refl _)

theorem pageCount_least (n per k : Nat) (hper : 0 < per) (hk : n ≤ k * per) : pageCount n per ≤ k :=
  (pageCount_le_iff hper).2 hk

/-- a page index is below the page count exactly when the list reaches beyond the pages before it -/
theorem lt_pageCount_iff {n per k : Nat} (hper : 0 < per) : k < pageCount n per ↔ k * per < n := by
  rw [← Nat.not_le, pageCount_le_iff hper, Nat.not_le]

theorem pageCount_pos (n per : Nat) (hper : 0 < per) (hn : 0 < n) : 0 < pageCount n per :=
  (lt_pageCount_iff hper).2 (by rwa [Nat.zero_mul])

/-- the usual closed form: quotient, plus one if there is a remainder -/
theorem pageCount_eq (n per : Nat) (hper : 0 < per) :
    pageCount n per = n / per + if n % per = 0 then 0 else 1 := by
  unfold pageCount
  have h1 := Nat.div_add_mod n per
  have h2 := Nat.mod_lt n hper
  rw [show n + per - 1 = per * (n / per) + (n % per + per - 1) by omega, Nat.mul_add_div hper]
  split
  · next h0 => rw [h0, Nat.zero_add, Nat.div_eq_of_lt (Nat.sub_one_lt (Nat.ne_of_gt hper))]
  · rw [Nat.div_eq_of_lt_le (m := n % per + per - 1) (k := 1) (by omega) (by omega)]

section
variable {α : Type}

theorem pageItems_length_le (cs : List α) (per p : Nat) : (pageItems cs per p).length ≤ per := by
  unfold pageItems
  rw [List.length_take]
  exact Nat.min_le_left _ _

theorem pageItems_length (cs : List α) (per p : Nat) :
    (pageItems cs per p).length = min per (cs.length - p * per) := by
  unfold pageItems
  rw [List.length_take, List.length_drop]

theorem pages_prefix (cs : List α) (per : Nat) (k : Nat) :
    (List.range k).flatMap (pageItems cs per) = cs.take (k * per) := by
  induction k with
  | zero => simp
  | succ k ih =>
    rw [List.range_succ, List.flatMap_append, ih]
    simp only [List.flatMap_cons, List.flatMap_nil, List.append_nil]
    unfold pageItems
    rw [Nat.succ_mul, List.take_add]

/-- **the pages partition the list in order** -/
theorem pages_partition (cs : List α) (per : Nat) (hper : 0 < per) :
    (List.range (pageCount cs.length per)).flatMap (pageItems cs per) = cs := by
  rw [pages_prefix]
  exact List.take_of_length_le (pageCount_covers _ _ hper)

theorem page_full (cs : List α) (per p : Nat) (hp : p + 1 < pageCount cs.length per) :
    (pageItems cs per p).length = per := by
  rcases Nat.eq_zero_or_pos per with rfl | hper
  · exact absurd hp (by simp [pageCount])
  · have := (lt_pageCount_iff hper).1 hp
    rw [Nat.add_mul, Nat.one_mul] at this
    rw [pageItems_length]
    omega

theorem page_nonempty (cs : List α) (per p : Nat) (hper : 0 < per) (hp : p < pageCount cs.length per) :
    0 < (pageItems cs per p).length := by
  have := (lt_pageCount_iff hper).1 hp
  rw [pageItems_length]
  omega

theorem page_beyond (cs : List α) (per p : Nat) (hper : 0 < per) (hp : pageCount cs.length per ≤ p) :
    pageItems cs per p = [] := by
  apply List.eq_nil_of_length_eq_zero
  have := (pageCount_le_iff hper).1 hp
  rw [pageItems_length]
  omega

theorem page_item (cs : List α) (per p i : Nat) (hi : i < per) :
    (pageItems cs per p)[i]? = cs[p * per + i]? := by
  unfold pageItems
  rw [List.getElem?_take_of_lt hi, List.getElem?_drop]

theorem page_item_none (cs : List α) (per p i : Nat) (hi : per ≤ i) : (pageItems cs per p)[i]? = none := by
  apply List.getElem?_eq_none
  exact Nat.le_trans (pageItems_length_le cs per p) hi

end

end Chewing
