import Chewing.Proofs.CliCompile
import Chewing.Proofs.RustText
import Chewing.Props.C13
/-!
From the source text to the hypotheses of the round trip:
* whatever `parse_line` accepts has a `u32` frequency, a phrase without quotes at either end, and —
  if the line does not contain the first-tone mark (F18) — syllables that spell and parse back (C13);
* the lines `dump` writes survive `writeln!` / `BufRead::lines`.
-/
namespace Chewing.Cli

theorem parseU32_lt {s : Text} {n : Nat} (h : parseU32 s = some n) : n < 4294967296 := by
  unfold parseU32 at h
  simp only at h
  generalize (if (s.head? == some 43) = true then s.tail else s) = ds at h
  by_cases h1 : ds.isEmpty = true
  · simp [h1] at h
  · by_cases h2 : ds.all isDigit = true
    · by_cases h3 : digitsVal ds < 4294967296
      · simp only [h1, h2, h3, if_true] at h
        simp at h
        omega
      · simp [h1, h2, h3] at h
    · simp [h1, h2] at h

theorem parseFreq_lt {keep : Bool} {p : Text} {fs : List Text} {n : Nat} (h : parseFreq keep p fs = .ok n) :
    n < 4294967296 := by
  unfold parseFreq at h
  split at h
  · cases h
  · split at h
    · rename_i m hm
      have hlt := parseU32_lt hm
      have := Except.ok.inj h
      subst this
      split <;> omega
    · cases h

/-- every syllable the parser produces from a field without the first-tone mark spells and parses
    back (C13 `spell_parse`) -/
theorem parsed_sylOK {s : List Nat} {v : Nat} (hp : Chewing.parse s = .ok v) (hne : s ≠ [])
    (hno : ∀ c ∈ s, c ≠ 713) : sylOK v = true := by
  obtain ⟨hc, hs⟩ := C13.spell_parse hp hno
  simp [sylOK, hs, hp, hne]

/-- **whatever `parse_line` accepts from a line without the first-tone mark is a well-formed record**
    (since the fixes of F27 the parser itself checks that the phrase is not empty and contains no comma /
    whitespace, that there is a syllable, and one syllable per character) -/
theorem parsed_wellFormed {d : Nat} {keep : Bool} {l : Text} {r : Rec} (h : parseLine d keep l = .ok r)
    (hno : ∀ c ∈ l, c ≠ 713) : WellFormedRecord r := by
  obtain ⟨f0, fs, n, syls, _, hne, hsep, hf, hs, hsne, hlen, rfl⟩ := parseLine_ok_iff.mp h
  have he := trimQ_ends f0
  refine wellFormed_iff.mpr ⟨⟨hne, he.1, he.2, hsep⟩, parseFreq_lt hf, fun v hv => ?_, hsne, hlen⟩
  obtain ⟨t, ht, hte, hp⟩ := parseSyls_mem hs v hv
  have := parsed_sylOK hp hte fun c hc =>
    hno c (mem_of_mem_tokens (List.mem_of_mem_drop ht) (mem_of_mem_trimQ hc))
  simpa [sylOK] using this

/-- a text line that survives `writeln!` / `BufRead::lines` -/
def FileLine (l : Text) : Prop := (∀ c ∈ l, c ≠ 10) ∧ l.getLast? ≠ some 13

theorem readLines_writeLines (ls : List Text) (h : ∀ l ∈ ls, FileLine l) : readLines (writeLines ls) = ls :=
  (Uhash.readLines_eq _).trans (Uhash.lines_enc false ls fun l hl => ⟨(h l hl).1, fun _ => (h l hl).2⟩)

theorem mem_joinWith {g : Text} : ∀ {ts : List Text} {c : Nat}, c ∈ joinWith g ts → c ∈ g ∨ ∃ t ∈ ts, c ∈ t
  | [], c, h => by simp [joinWith] at h
  | [t], c, h => by
    simp only [joinWith] at h
    exact Or.inr ⟨t, List.mem_cons_self, h⟩
  | t :: t' :: rest, c, h => by
    simp only [joinWith, List.mem_append] at h
    rcases h with (h | h) | h
    · exact Or.inr ⟨t, List.mem_cons_self, h⟩
    · exact Or.inl h
    · rcases mem_joinWith h with h | ⟨x, hx, hc⟩
      · exact Or.inl h
      · exact Or.inr ⟨x, List.mem_cons_of_mem _ hx, hc⟩

theorem not_sep_not_eol {c : Nat} (h : sylSep c = false) : c ≠ 10 ∧ c ≠ 13 := by
  constructor <;> (intro e; subst e; revert h; decide)

theorem dump_line_chars {r : Rec} (h : WellFormedRecord r) :
    (∀ c ∈ dumpLine r, c ≠ 10 ∧ c ≠ 13) ∧ (∀ c ∈ dumpCsvLine r, c ≠ 10 ∧ c ≠ 13) := by
  obtain ⟨⟨_, _, _, psep⟩, hf, hs, _, _⟩ := wellFormed_iff.mp h
  obtain ⟨_, dd, _⟩ := decimal_spec hf
  have hsyl := sylOK_of_wellFormed h
  have hj : ∀ (g : Text), (∀ c ∈ g, c ≠ 10 ∧ c ≠ 13) → ∀ c ∈ joinWith g (r.syls.map spell), c ≠ 10 ∧ c ≠ 13 := by
    intro g hg c hc
    rcases mem_joinWith hc with hc | ⟨t, ht, hc⟩
    · exact hg c hc
    · obtain ⟨v, hv, rfl⟩ := List.mem_map.mp ht
      exact not_sep_not_eol ((spell_plain (hsyl v hv)).2.2 c hc).1
  have hd : ∀ c ∈ decimal r.freq, c ≠ 10 ∧ c ≠ 13 := fun c hc => not_sep_not_eol (isDigit_not_sep (dd c hc)).1
  have hp : ∀ c ∈ r.phrase, c ≠ 10 ∧ c ≠ 13 := fun c hc => not_sep_not_eol (psep c hc)
  have key : ∀ s1 s2 j : Text, (∀ c ∈ s1 ++ s2 ++ j, c ≠ 10 ∧ c ≠ 13) →
      ∀ c ∈ r.phrase ++ s1 ++ decimal r.freq ++ s2 ++ joinWith j (r.syls.map spell), c ≠ 10 ∧ c ≠ 13 := by
    intro s1 s2 j hs c hc
    simp only [List.mem_append] at hc hs
    rcases hc with (((hc | hc) | hc) | hc) | hc
    · exact hp c hc
    · exact hs c (.inl (.inl hc))
    · exact hd c hc
    · exact hs c (.inl (.inr hc))
    · exact hj j (fun c hc => hs c (.inr hc)) c hc
  exact ⟨key _ _ _ (by decide), key _ _ _ (by decide)⟩

theorem dump_file_roundtrip (csv : Bool) (es : List Rec) (h : ∀ r ∈ es, WellFormedRecord r) :
    readLines (writeLines (dump csv es)) = dump csv es := by
  apply readLines_writeLines
  intro l hl
  have key : ∀ c ∈ l, c ≠ 10 ∧ c ≠ 13 := by
    cases csv with
    | false =>
      simp only [dump, Bool.false_eq_true, if_false, List.mem_map] at hl
      obtain ⟨r, hr, rfl⟩ := hl
      exact (dump_line_chars (h r hr)).1
    | true =>
      simp only [dump, if_true, List.mem_cons, List.mem_map] at hl
      rcases hl with rfl | ⟨r, hr, rfl⟩
      · decide
      · exact (dump_line_chars (h r hr)).2
  exact ⟨fun c hc => (key c hc).1, fun e => (key 13 (List.mem_of_mem_getLast? e)).2 rfl⟩

end Chewing.Cli
