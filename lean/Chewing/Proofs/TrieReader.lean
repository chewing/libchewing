import Chewing.Proofs.TrieFirstN
import Chewing.Proofs.TrieFuzzy
import Chewing.Proofs.TrieEntriesRuns
/-!
What the reader returns, said once: `Answers t m` — every method of the reader, on the `Trie` `t`, is the function of the
map `m` (key ↦ phrase vector) the trait documents.  `laid_answers`: a `Trie` whose index lays out a tree answers as the
map of that tree; the file `TrieBuilder::write` wrote (`write_laid`) and every conforming file are such.
-/
namespace Chewing.TrieCodec
open Chewing.Der Chewing.Cli

/-- the keys of `groups`, each once, are those the map `m` holds and `P` admits -/
def GroupsOfMap (m : Key → Option (List Phrase)) (P : Key → Prop) (groups : List Group) : Prop :=
  (groups.map (·.1)).Nodup ∧ ∀ k ps, (k, ps) ∈ groups ↔ (m k = some ps ∧ P k)

/-- every method of the reader answers as the map `m` (key ↦ phrase vector) prescribes: an exact lookup, a lookup
    with either strategy leaf after leaf, the first `n`, the enumeration as a set of groups and as a list.
    `C11.GroupsOf es P` is `GroupsOfMap (C11.inserted es) P`, and `C11.leafOut g` is `sortLeaf g.2`, by unfolding:
    `Props/C11.lean` hands the fields of `Answers t (inserted es)` to its clauses by `exact`. -/
structure Answers (t : Trie) (m : Key → Option (List Phrase)) : Prop where
  exact : ∀ k, (∀ s ∈ k, s ≠ 0) → lookupAll t k .standard = sortLeaf ((m k).getD [])
  groups : ∀ st q, (∀ s ∈ q, s ≠ 0) → ∃ groups, GroupsOfMap m (keyMatch st · q = true) groups ∧
    lookupAll t q st = groups.flatMap fun g => sortLeaf g.2
  firstN : ∀ st k n, (∀ s ∈ k, s ≠ 0) → lookupFirstN t k n st = (lookupAll t k st).take n
  entries : ∃ groups, GroupsOfMap m (fun _ => True) groups ∧
    entries t = .ok (groups.flatMap fun g => (sortLeaf g.2).map fun p => (g.1, p))
  order : ∀ keys : List Key, keys.Nodup → (∀ k, k ∈ keys ↔ ∃ ps, m k = some ps) →
    TrieCodec.entries t = .ok ((trieOrder keys).flatMap fun k => (sortLeaf ((m k).getD [])).map fun p => (k, p))

theorem Answers.fuzzy {t : Trie} {m : Key → Option (List Phrase)} (h : Answers t m) (q : Key) (hq : ∀ s ∈ q, s ≠ 0) :
    ∃ groups, GroupsOfMap m (fuzzyMatch · q = true) groups ∧
      lookupAll t q .fuzzyPartialPrefix = groups.flatMap fun g => sortLeaf g.2 := by
  simpa only [keyMatch_fuzzy] using h.groups .fuzzyPartialPrefix q hq

theorem Answers.first {t : Trie} {m : Key → Option (List Phrase)} (h : Answers t m) (st : Strategy) (k : Key)
    (hk : ∀ s ∈ k, s ≠ 0) : lookupFirst t k st = (lookupAll t k st).head? := by
  rw [lookupFirst, h.firstN st k 1 hk]
  cases lookupAll t k st <;> rfl

/-- **the reader on a `Trie` whose index lays out a tree** answers as the map of the tree -/
theorem laid_answers {recs : List Rec} {data : Bytes} {info : Info} {l : Option (List Phrase)} {sub : Forest}
    (hl : Laid recs data 0 (.node 0 l sub)) (hp : (Item.node 0 l sub).Pre) (hc : recs.length = (Item.node 0 l sub).size)
    {m : Key → Option (List Phrase)} (hm : ∀ k, findNode k (l, sub) = m k) :
    Answers { info := info, index := recs.flatMap recBytes, data := data } m := by
  obtain rfl : (findNode · (l, sub)) = m := funext hm
  have hall := lookupAll_eq_tLookup (info := info) hl hp
  have hw : sub.WF := hp.2.2
  refine ⟨fun k hk => ?_, fun st q hq => ⟨reachGroups st q (.node 0 l sub),
      ⟨reachGroups_nodup st q hq 0 l sub hw, mem_reachGroups st q hq 0 l sub hw⟩, by rw [hall st q hq, tLookup_groups]⟩,
    fun st k n hk => lookupFirstN_eq_take hl hp st k hk n, ?_, entries_laid_order hl hp hc⟩
  · rw [hall .standard k hk, tLookup_standard k hk 0 l sub hw]
    cases findNode k (l, sub) <;> rfl
  · obtain ⟨groups, hperm, _, _, hent⟩ := entries_laid_out (info := info) hl hp hc
    exact ⟨groups, ⟨(hperm.map (·.1)).nodup_iff.mpr (nodeGroups_keys_nodup hw),
      fun k ps => by rw [hperm.mem_iff, mem_nodeGroups hw, and_true]⟩, hent⟩

end Chewing.TrieCodec
