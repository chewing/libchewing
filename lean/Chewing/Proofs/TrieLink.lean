import Chewing.Proofs.StableSort
import Chewing.Proofs.TrieBufSorted
import Chewing.Props.C11
/-!
# C09's abstract trie file *is* C11's byte-level file

C09 (`Model/TrieBuf.lean`) treats a trie file as the list of its leaves (`List Leaf`) and models
"insert all entries into a `TrieBuilder`, write, open" as `Trie.build`.  C11 (`Model/TrieCodec.lean`)
models the same code at the level of the bytes: `Builder.ofEntries`, `Builder.write`, `openTrie`
(`Trie::new`), `lookupAll`, `lookupFirstN`, `entries`.  This file proves that the first is the
denotation of the second, from `C11.read_write` (a lookup on the written file is the walk `tLookup` on the builder
tree), `C11.opened` (`TrieCodec.Answers`: `firstN`, `first`, `entries`) and `C11.writes_within_limits`, and
the tree lemmas of `Proofs/TrieBuilder.lean` (`WF_ofEntries`, `find_ofEntries`) and `Proofs/TrieFuzzy.lean`
(`tLookup_groups`, `mem_reachGroups`, `reach_paths_sorted`):

* `leafLt_eq_phraseLt` — the two transcriptions of the comparator of `TrieBuilder::write` agree;
* `isort_leafLt_eq_sortLeaf` — C09's insertion sort and C11's give the same leaf (stable sorts under a
  total preorder are unique, `Proofs/StableSort.lean`);
* `upsert_eq_insRepl`, `leafOf_eq_refFind` — the two models of `TrieBuilder::insert` agree;
* `lookupAll_build` — C09's lookups (either strategy) on `Trie.build es` in closed form;
* `TrieCodec.reach_paths_sorted` (`Proofs/TrieFuzzy.lean`): the byte-level walk visits the matching keys in
  lexicographic order (children sorted by syllable), which is the order of C09's leaf list;
* **`build_denotes`** — for valid input, whatever `write` produced opens, and the real reader's
  `lookup_all_phrases` (both strategies), `lookup_first_n_phrases`, `lookup_first_phrase` return
  **the same lists** as C09's abstract functions on `Trie.build es`; `entries()` enumerates the same
  entries, key by key in the same order.
-/
namespace Chewing.TrieLink
open Chewing.Der Chewing.TrieCodec Chewing.StableSort

theorem cmpList_lt_eq_lexLt (x y : List Nat) : (cmpList x y == .lt) = lexLt x y :=
  Bool.eq_iff_iff.mpr (by rw [beq_iff_eq, cmpList_lt_iff, lexLt_iff])

theorem cmpNat_lt (a b : Nat) : (Trie.cmpNat a b == .lt) = decide (a < b) := by
  unfold Trie.cmpNat
  by_cases h1 : a < b
  · simp [h1]
  · by_cases h2 : b < a <;> simp [h1, h2]

theorem leafLt_eq_phraseLt (a b : Phrase) : Trie.leafLt a b = phraseLt a b := by
  unfold Trie.leafLt Trie.leafCmp phraseLt
  by_cases ha : a.text.length = 1 <;> by_cases hb : b.text.length = 1
  · simp [ha, hb]
  · simp [ha, hb]
  · simp [ha, hb]
  · have h1 : (a.text.length == 1) = false := by simpa using ha
    have h2 : (b.text.length == 1) = false := by simpa using hb
    simp only [h1, h2, Bool.and_self, Bool.false_eq_true, if_false, ha, hb, false_and]
    by_cases hf : a.freq = b.freq
    · have h3 : (a.freq == b.freq) = true := by simpa using hf
      rw [if_pos hf]
      simp only [h3, if_true]
      exact cmpList_lt_eq_lexLt _ _
    · have h3 : (a.freq == b.freq) = false := by simpa using hf
      rw [if_neg hf]
      simp only [h3, if_false, Bool.false_eq_true]
      rw [cmpNat_lt]

/-- **C09's leaf = C11's leaf**: `isort leafLt` (insertion from the left, right to left) and `sortLeaf`
    (`sortBy phraseLt`: insertion from the right, left to right) return the same list -/
theorem isort_leafLt_eq_sortLeaf (ps : List Phrase) : isort Trie.leafLt ps = sortLeaf ps := by
  have : Trie.leafLt = phraseLt := by funext a b; exact leafLt_eq_phraseLt a b
  rw [this]
  exact isort_eq_sortBy tp_phraseLt ps (fun _ _ => trivial)

/-- any stable sort of a leaf by the comparator of `write` is the model's leaf (so the model of
    `slice::sort_by` does not depend on the algorithm std picks) -/
theorem stable_sort_is_sortLeaf (ps r : List Phrase) (hs : Sorted phraseLt r)
    (hst : StableOf phraseLt (fun _ => True) ps r) : r = sortLeaf ps :=
  stable_sort_is_sortBy tp_phraseLt ps r (fun _ _ => trivial) (fun _ _ => trivial) hs hst

theorem leafOk_insRepl {ps : List Phrase} (h : Trie.LeafOk ps) (p : Phrase) : Trie.LeafOk (Trie.insRepl ps p) := by
  rw [Trie.leafOk_iff] at h ⊢
  rw [Trie.texts_insRepl]
  exact firstOccStep_nodup h _

/-- on a leaf with pairwise different texts C11's `upsert` (replace the first phrase with that text)
    and C09's `insRepl` (replace every phrase with that text) are the same -/
theorem upsert_eq_insRepl {ps : List Phrase} (h : Trie.LeafOk ps) (p : Phrase) : upsert ps p = Trie.insRepl ps p := by
  induction ps with
  | nil => rfl
  | cons q qs ih =>
    have h' := List.pairwise_cons.mp h
    have hmem : p.text ∈ texts (q :: qs) ↔ q.text = p.text ∨ p.text ∈ texts qs := by
      rw [texts_cons, List.mem_cons, eq_comm]
    rw [upsert, Trie.insRepl_eq]
    by_cases e : q.text = p.text
    · -- no later phrase has this text: replacing every occurrence replaces the first
      have hmap : qs.map (fun x => if x.text == p.text then p else x) = qs :=
        (List.map_congr_left fun x hx => if_neg (by simpa using fun c => h'.1 x hx (e.trans c.symm))).trans (List.map_id _)
      rw [if_pos e, if_pos (hmem.mpr (Or.inl e)), List.map_cons, hmap, if_pos (by simpa using e)]
    · rw [if_neg e, ih h'.2, Trie.insRepl_eq]
      have hb : ¬ (q.text == p.text) = true := by simpa using e
      by_cases hm : p.text ∈ texts qs
      · rw [if_pos hm, if_pos (hmem.mpr (Or.inr hm)), List.map_cons, if_neg hb]
      · rw [if_neg hm, if_neg (fun c => (hmem.mp c).elim e hm)]; rfl

/-- the phrases C09's builder holds for a key are those of C11's reference map -/
theorem leafOf_eq_refFind (es : List Entry) (k : List Nat) : Trie.leafOf es k = (refFind es k).getD [] := by
  unfold Trie.leafOf refFind
  have key : ∀ (es : List Entry) (acc : Option (List Phrase)), Trie.LeafOk (acc.getD []) →
      ((es.filter (fun e => e.1 == k)).map (·.2)).foldl Trie.insRepl (acc.getD []) =
        (es.foldl (fun acc e => if e.1 = k then some (upsert (acc.getD []) e.2) else acc) acc).getD [] := by
    intro es
    induction es with
    | nil => intro acc _; rfl
    | cons e es ih =>
      intro acc hacc
      simp only [List.foldl_cons, List.filter_cons]
      by_cases hk : e.1 = k
      · have hb : (e.1 == k) = true := by simpa using hk
        rw [if_pos hk]
        simp only [hb, if_true, List.map_cons, List.foldl_cons]
        rw [upsert_eq_insRepl hacc]
        exact ih (some (Trie.insRepl (acc.getD []) e.2)) (leafOk_insRepl hacc _)
      · have hb : (e.1 == k) = false := by simpa using hk
        simp only [hb, hk, if_false, Bool.false_eq_true]
        exact ih acc hacc
  exact key es none List.Pairwise.nil

theorem mem_leafOf {es : List Entry} {k : List Nat} {p : Phrase} (h : p ∈ Trie.leafOf es k) : (k, p) ∈ es := by
  rcases mem_foldl_step (fun h => (Trie.mem_insRepl.mp h).symm.imp_left And.left) _ h with h1 | h1
  · cases h1
  · obtain ⟨e, he, rfl⟩ := List.mem_map.mp h1
    obtain ⟨he, hk⟩ := List.mem_filter.mp he
    rw [← beq_iff_eq.mp hk]
    exact he

theorem mem_refFind {es : List Entry} {k : List Nat} {p : Phrase} (h : p ∈ (refFind es k).getD []) : (k, p) ∈ es := by
  rw [← leafOf_eq_refFind] at h
  exact mem_leafOf h

/-- the order of keys is core's order of `List Nat` -/
theorem keyLt_iff {a b : List Nat} : Trie.keyLt a b = true ↔ a < b := by
  rw [Trie.keyLt, beq_iff_eq, cmpList_lt_iff]

theorem keyLt_false_iff {a b : List Nat} : Trie.keyLt a b = false ↔ b ≤ a := by
  rw [← Bool.not_eq_true, keyLt_iff, List.not_lt]

theorem keyLt_irrefl (a : List Nat) : Trie.keyLt a a = false := keyLt_false_iff.mpr (List.le_refl a)

theorem keyLt_trans {a b c : List Nat} (h1 : Trie.keyLt a b = true) (h2 : Trie.keyLt b c = true) : Trie.keyLt a c = true :=
  keyLt_iff.mpr (List.lt_trans (keyLt_iff.mp h1) (keyLt_iff.mp h2))

theorem keyLt_total {a b : List Nat} (h : Trie.keyLt a b = false) (hne : a ≠ b) : Trie.keyLt b a = true :=
  keyLt_iff.mpr ((List.le_iff_lt_or_eq.mp (keyLt_false_iff.mp h)).resolve_right (Ne.symm hne))

theorem tp_keyLt : TPOn Trie.keyLt (fun _ => True) :=
  ⟨fun _ _ _ _ h => keyLt_false_iff.mpr (List.le_of_lt (keyLt_iff.mp h)),
    fun _ _ _ _ _ _ h1 h2 => keyLt_false_iff.mpr (List.le_trans (keyLt_false_iff.mp h1) (keyLt_false_iff.mp h2))⟩

theorem strict_sorted_ext {α : Type} (lt : α → α → Prop) (irr : ∀ a, ¬ lt a a) (tr : ∀ a b c, lt a b → lt b c → lt a c)
    (l1 l2 : List α) (s1 : l1.Pairwise lt) (s2 : l2.Pairwise lt) (h : ∀ x, x ∈ l1 ↔ x ∈ l2) : l1 = l2 := by
  have nd {l : List α} (s : l.Pairwise lt) : l.Nodup := s.imp fun {a b} (h : lt a b) (e : a = b) => irr b (e ▸ h)
  exact ((List.perm_ext_iff_of_nodup (nd s1) (nd s2)).mpr h).eq_of_pairwise
    (fun a b _ _ hab hba => absurd (tr a b a hab hba) (irr a)) s1 s2

/-- the keys of `Trie.build es`, in file order -/
def buildKeys (es : List Entry) : List (List Nat) := isort Trie.keyLt (Trie.dedupKeys (es.map (·.1)))

theorem mem_buildKeys {es : List Entry} {k : List Nat} : k ∈ buildKeys es ↔ k ∈ es.map (·.1) := by
  unfold buildKeys
  rw [mem_isort, Trie.mem_dedupKeys]

theorem buildKeys_nodup (es : List Entry) : (buildKeys es).Nodup :=
  (isort_perm Trie.keyLt _).symm.nodup (Trie.dedupKeys_nodup _)

theorem buildKeys_sorted (es : List Entry) : (buildKeys es).Pairwise (fun a b => Trie.keyLt a b = true) := by
  have h1 : Sorted Trie.keyLt (buildKeys es) := isort_sorted tp_keyLt _ (fun _ _ => trivial)
  have h2 := buildKeys_nodup es
  unfold Sorted at h1
  unfold List.Nodup at h2
  have := h1.and h2
  exact this.imp (fun ⟨h, hne⟩ => keyLt_total h (fun e => hne e.symm))

theorem build_eq (es : List Entry) :
    Trie.build es = (buildKeys es).map (fun k => (k, sortLeaf ((refFind es k).getD []))) := by
  unfold Trie.build buildKeys
  apply List.map_congr_left
  intro k _
  rw [isort_leafLt_eq_sortLeaf, leafOf_eq_refFind]

theorem refFind_isSome_iff (es : List Entry) (k : List Nat) : (refFind es k).isSome = true ↔ k ∈ es.map (·.1) :=
  Option.isSome_iff_exists.trans (C11.inserted_some_iff es k)

/-- the file's keys with the phrase vectors inserted for them, in file order -/
def buildGroups (es : List Entry) : List (List Nat × List Phrase) :=
  (buildKeys es).map fun k => (k, (refFind es k).getD [])

theorem buildGroups_keys (es : List Entry) : (buildGroups es).map (·.1) = buildKeys es := by
  simp [buildGroups, Function.comp_def]

theorem mem_buildKeys_iff {es : List Entry} {k : List Nat} : k ∈ buildKeys es ↔ (refFind es k).isSome = true := by
  rw [mem_buildKeys, refFind_isSome_iff]

theorem mem_buildGroups {es : List Entry} {g : List Nat × List Phrase} :
    g ∈ buildGroups es ↔ refFind es g.1 = some g.2 := by
  obtain ⟨k, ps⟩ := g
  simp only [buildGroups, List.mem_map, Prod.mk.injEq]
  constructor
  · rintro ⟨k', hk', rfl, rfl⟩
    rw [mem_buildKeys_iff] at hk'
    cases h : refFind es k' with
    | none => rw [h] at hk'; cases hk'
    | some _ => rfl
  · intro h
    exact ⟨k, mem_buildKeys_iff.mpr (by rw [h]; rfl), rfl, by rw [h]; rfl⟩

theorem refFind_of_not_mem {es : List Entry} {k : List Nat} (h : k ∉ buildKeys es) : refFind es k = none := by
  simpa [mem_buildKeys_iff] using h

theorem lookupLeaves_build (es : List Entry) (q : List Nat) (st : Strategy) :
    Trie.lookupLeaves (Trie.build es) q st =
      ((buildKeys es).filter (fun k => Trie.keyMatch st k q)).map (fun k => sortLeaf ((refFind es k).getD [])) := by
  unfold Trie.lookupLeaves
  rw [build_eq, List.filter_map, List.map_map]
  rfl

/-- C09's `fuzzyMatch` (with its explicit non-zero test) is C11's on keys of non-zero syllables -/
theorem fuzzyMatch_eq {k : List Nat} (hk : ∀ s ∈ k, s ≠ 0) (q : List Nat) :
    Trie.fuzzyMatch k q = TrieCodec.fuzzyMatch k q := by
  induction k generalizing q with
  | nil => cases q <;> rfl
  | cons s k ih =>
    cases q with
    | nil => rfl
    | cons p q =>
      simp only [Trie.fuzzyMatch, TrieCodec.fuzzyMatch]
      rw [ih (fun s' hs' => hk s' (List.mem_cons_of_mem _ hs'))]
      have : (s != 0) = true := by simpa using hk s List.mem_cons_self
      simp [this]

theorem buildGroups_filter (es : List Entry) (P : List Nat → Bool) :
    ((buildKeys es).filter P).map (fun k => (k, (refFind es k).getD [])) = (buildGroups es).filter (fun g => P g.1) := by
  rw [buildGroups, List.filter_map]; rfl

/-- the groups of a lookup (either strategy) on the builder tree of `es`, explicitly: the matching keys of C09's
    file in file order, each with its inserted phrase vector.  Both lists are strictly ascending in the
    key and have the same members. -/
theorem reachGroups_ofEntries (st : Strategy) (info : Info) (es : List Entry) (hv : ∀ e ∈ es, ValidEntry e)
    (q : List Nat) (hq : ∀ p ∈ q, p ≠ 0) :
    reachGroups st q (Builder.ofEntries info es).root =
      ((buildKeys es).filter (fun k => TrieCodec.keyMatch st k q)).map (fun k => (k, (refFind es k).getD [])) := by
  have hwf := WF_ofEntries info es hv
  refine strict_sorted_ext (fun a b : List Nat × List Phrase => Trie.keyLt a.1 b.1 = true)
    (fun a h => by rw [keyLt_irrefl] at h; cases h) (fun a b c => keyLt_trans) _ _ ?_ ?_ ?_
  · exact List.pairwise_map.mp (List.Pairwise.sublist (reachGroups_keys_sublist _ q _)
      ((reach_paths_sorted st q hq 0 _ _ hwf.2).imp fun h => (cmpList_lt_eq_lexLt _ _).trans h))
  · exact List.pairwise_map.mpr ((buildKeys_sorted es).filter _)
  · rintro ⟨k, ps⟩
    have hfind := find_ofEntries info es k
    unfold Builder.find at hfind
    rw [Builder.root, mem_reachGroups _ q hq 0 _ _ hwf.2 k ps, hfind, buildGroups_filter, List.mem_filter, mem_buildGroups]

/-- C09's `search_predicate` along the path is C11's on keys of non-zero syllables -/
theorem keyMatch_eq (st : Strategy) {k : List Nat} (hk : ∀ s ∈ k, s ≠ 0) (q : List Nat) :
    Trie.keyMatch st k q = TrieCodec.keyMatch st k q := by
  cases st with
  | standard => exact Bool.eq_iff_iff.mpr (by rw [keyMatch_standard]; exact beq_iff_eq)
  | fuzzyPartialPrefix => rw [keyMatch_fuzzy]; exact fuzzyMatch_eq hk q

theorem lookupAll_build (st : Strategy) (es : List Entry) (hv : ∀ e ∈ es, ValidEntry e) (q : List Nat) :
    Trie.lookupAll (Trie.build es) q st =
      ((buildKeys es).filter (fun k => TrieCodec.keyMatch st k q)).flatMap (fun k => sortLeaf ((refFind es k).getD [])) := by
  unfold Trie.lookupAll
  rw [lookupLeaves_build, List.flatMap_def]
  congr 2
  apply List.filter_congr
  intro k hk
  obtain ⟨e, he, rfl⟩ := List.mem_map.mp (mem_buildKeys.mp hk)
  exact keyMatch_eq st (fun s hs => by have := (hv e he).1 s hs; omega) q

/-- C09's abstract trie file `t` is the content of the byte file `bytes`: the file opens
    (`Trie::new`), and every function of the `Dictionary` trait the real reader implements returns, on
    queries of non-zero syllables, what C09's abstract function returns on `t` — the same list, in the
    same order; `entries()` enumerates the same entries (a permutation: the real iterator is depth
    first, deepest first), key by key in the same order -/
structure Denotes (bytes : Bytes) (t : List Leaf) : Prop where
  reads : ∃ tr, openTrie bytes = some tr ∧
    (∀ k st, C11.ValidKey k → TrieCodec.lookupAll tr k st = Trie.lookupAll t k st) ∧
    (∀ k n st, C11.ValidKey k → TrieCodec.lookupFirstN tr k n st = Trie.lookupFirstN t k n st) ∧
    (∀ k st, C11.ValidKey k → TrieCodec.lookupFirst tr k st = (Trie.lookupAll t k st).head?) ∧
    ∃ ents, TrieCodec.entries tr = .ok ents ∧ ents.Perm (Trie.entries t) ∧
      ∀ k, ents.filter (fun e => e.1 == k) = (Trie.entries t).filter (fun e => e.1 == k)

theorem entries_build (es : List Entry) :
    Trie.entries (Trie.build es) = (buildGroups es).flatMap fun g => (C11.leafOut g).map fun p => (g.1, p) := by
  unfold Trie.entries buildGroups
  rw [build_eq, List.flatMap_map, List.flatMap_map]
  rfl

/-- **the file layer of C09 is C11**: for every metadata record and every list of valid entries, the
    bytes `TrieBuilder::write` produces (when it succeeds) denote C09's abstract file `Trie.build es` -/
theorem build_denotes (info : Info) (es : List Entry) (hv : C11.ValidInput info es) (bytes : Bytes)
    (hw : (Builder.ofEntries info es).write = some bytes) : Denotes bytes (Trie.build es) := by
  have hwf := WF_ofEntries info es hv.2
  have hi : ValidInfo (Builder.ofEntries info es).info := by rw [info_ofEntries]; exact hv.1
  obtain ⟨tr, hopen, _, hall⟩ := C11.read_write _ hwf hi bytes hw
  obtain ⟨t4, ho4, _, ha⟩ := C11.opened info es hv bytes hw
  obtain rfl : t4 = tr := Option.some.inj (ho4.symm.trans hopen)
  obtain ⟨groups, ⟨hgnd, hgmem⟩, hent⟩ := ha.entries
  change entries t4 = .ok (groups.flatMap fun g => (C11.leafOut g).map fun p => (g.1, p)) at hent
  have hlook : ∀ k st, C11.ValidKey k → TrieCodec.lookupAll t4 k st = Trie.lookupAll (Trie.build es) k st := by
    intro k st hk
    rw [hall st k hk, tLookup_groups, reachGroups_ofEntries st info es hv.2 k hk, lookupAll_build st es hv.2,
      List.flatMap_map]
  -- the group list of the real enumeration and the file's have distinct keys and the same members
  have hp1 : groups.Pairwise (fun a b => a.1 ≠ b.1) := List.pairwise_map.mp hgnd
  have hp2 : (buildGroups es).Pairwise (fun a b => a.1 ≠ b.1) :=
    List.pairwise_map.mp (by rw [buildGroups_keys]; exact buildKeys_nodup es)
  have hm : ∀ g, g ∈ groups ↔ g ∈ buildGroups es := fun ⟨k, ps⟩ => by
    rw [hgmem, mem_buildGroups]; exact and_iff_left trivial
  refine ⟨t4, hopen, hlook, ?_, ?_, _, hent, ?_, ?_⟩
  · intro k n st hk
    rw [ha.firstN st k n hk, hlook k st hk, Trie.lookupFirstN_eq_take]
  · intro k st hk
    rw [ha.first st k hk, hlook k st hk]
  · rw [entries_build]
    exact List.Perm.flatMap_right _ ((List.perm_ext_iff_of_nodup (hp1.imp fun h e => h (congrArg Prod.fst e))
      (hp2.imp fun h e => h (congrArg Prod.fst e))).mpr hm)
  · intro k
    have hG : ∀ g : List Nat × List Phrase, ∀ e ∈ (C11.leafOut g).map (fun p => ((g.1, p) : Entry)), e.1 = g.1 := by
      intro g e he
      obtain ⟨p, _, rfl⟩ := List.mem_map.mp he
      rfl
    have hsel := filter_flatMap_key (fun e : Entry => e.1) (fun g : List Nat × List Phrase => g.1) _ hG (fun x => x == k)
    rw [entries_build, hsel groups, hsel (buildGroups es), filter_key_eq_find hp1, filter_key_eq_find hp2,
      find_key_congr hp1 hp2 hm]

/-- … and inside the format's limits `write` does succeed, so the file exists -/
theorem build_denotes_fits (info : Info) (es : List Entry) (hv : C11.ValidInput info es)
    (hf : (Builder.ofEntries info es).Fits) :
    ∃ bytes, (Builder.ofEntries info es).write = some bytes ∧ Denotes bytes (Trie.build es) := by
  have := C11.writes_within_limits _ hf
  cases hw : (Builder.ofEntries info es).write with
  | none => rw [hw] at this; cases this
  | some bytes => exact ⟨bytes, rfl, build_denotes info es hv bytes hw⟩

end Chewing.TrieLink
