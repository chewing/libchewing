import Chewing.Model.TrieCodec
import Chewing.Model.TrieWalk
/-!
`open_total`: the byte-level model of `Trie::new` (`TrieCodec.openTrie`: the DER shapes of the `der` crate, then
`validate_index`) is a total function on ALL byte strings — it returns `none` (= `Err`) or a `Trie` whose index
passed the validation — and the index table the traversal model (`Model/TrieWalk.lean`) works on is that very
record list: `tblOf_validate`.  So in `Props/C12.lean` the decoding of the `der` crate is part of the model, not a
parameter: for every byte string, opening returns, and if it returns a `Trie`, every traversal of it returns.
(That the model agrees with the real `Trie::new` is the correspondence `walk open` on every corrupted file.)
-/
namespace Chewing.TrieWalk
open Chewing.Der Chewing.TrieCodec

/-- `Trie::new` returns `Err`, or a `Trie` whose index passed `validate_index` -/
theorem open_total (bytes : Bytes) :
    openTrie bytes = none ∨ ∃ t, openTrie bytes = some t ∧ validIndex t.index t.data = true := by
  unfold openTrie
  split
  · exact Or.inl rfl
  · split
    · rename_i t _
      by_cases hv : validIndex t.index t.data = true
      · exact Or.inr ⟨t, by rw [if_pos hv], hv⟩
      · exact Or.inl (by rw [if_neg hv])
    · exact Or.inl rfl

theorem parseRecs_short (bs : Bytes) (h : bs.length < 8) : parseRecs bs = [] := by
  unfold parseRecs
  rw [Nat.div_eq_of_lt h]
  rfl

theorem parseRecs_step (bs : Bytes) (h : 8 ≤ bs.length) :
    parseRecs bs = viewAt bs 0 :: parseRecs (bs.drop 8) := by
  unfold parseRecs
  rw [List.length_drop, Nat.div_eq_sub_div (by decide) h, List.range_succ_eq_map, List.map_cons, List.map_map]
  congr 1
  apply List.map_congr_left
  intro i _
  simp only [Function.comp, viewAt, List.drop_drop]
  rw [Nat.succ_mul, Nat.add_comm]

theorem be_eq_fromBE (l : List Nat) : be l = fromBE l := rfl

/-- the record list of the traversal model is the record list `validate_index` reads -/
theorem parseIndex_rec3 : ∀ ib : Bytes, (parseIndex ib).map (fun r => (r.a, r.b, r.s)) = parseRecs ib
  | b0 :: b1 :: b2 :: b3 :: b4 :: b5 :: b6 :: b7 :: rest => by
    rw [parseRecs_step _ (by exact Nat.le_add_left ..), parseIndex, List.map_cons, parseIndex_rec3 rest]
    rfl
  | [] | [_] | [_, _] | [_, _, _] | [_, _, _, _] | [_, _, _, _, _] | [_, _, _, _, _, _] | [_, _, _, _, _, _, _] =>
    (parseRecs_short _ (by simp)).symm

/-- the table the traversals of an opened `Trie` run on: its index records, the length of its phrase bytes, and
    `PhrasesIter` over a slice of them -/
def tblOf (t : Trie) : Tbl Phrase :=
  { recs := parseIndex t.index, dataLen := t.data.length,
    leaf := fun db de => decPhrases ((t.data.drop db).take (de - db)) }

/-- … has passed `validate` exactly when `Trie::new` accepted the file -/
theorem tblOf_validate (t : Trie) : validate (tblOf t) = validIndex t.index t.data := by
  unfold validate validIndex Tbl.rec3 tblOf
  rw [parseIndex_rec3]

/-- **open_total**, traversal form: for every byte string `Trie::new` returns `Err` or a `Trie` whose table is
    validated — the hypothesis of every traversal theorem of C12 -/
theorem open_then_valid (bytes : Bytes) :
    openTrie bytes = none ∨ ∃ t, openTrie bytes = some t ∧ validate (tblOf t) = true := by
  rcases open_total bytes with h | ⟨t, h1, h2⟩
  · exact Or.inl h
  · exact Or.inr ⟨t, h1, by rw [tblOf_validate]; exact h2⟩

end Chewing.TrieWalk
