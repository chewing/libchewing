import Chewing.Model.TrieCodec
import Chewing.Proofs.TrieFuzzy
/-!
`entries()` on the tree: the explicit-stack DFS (descend along first children collecting leaves,
ascend to the next sibling) yields every (key, leaf) of the tree exactly once.

`tDescend`/`tAscend`/`tLoop` mirror the reader's `descend`/`ascend`/`entriesLoop` with tree nodes
instead of record views (the refinement is `Proofs/TrieEntries.lean`).
-/
namespace Chewing.TrieCodec

/-- (key, inserted phrase vector) -/
abbrev Group := List Nat × List Phrase

def leafGroup : Option (List Phrase) → List Group
  | some ps => [([], ps)]
  | none => []

/-- all groups below a child list, keys relative to the parent -/
def forestGroups : Forest → List Group
  | .nil => []
  | .cons s l sub next =>
    (leafGroup l ++ forestGroups sub).map (fun g => (s :: g.1, g.2)) ++ forestGroups next

def nodeGroups (nd : NodeData) : List Group := leafGroup nd.1 ++ forestGroups nd.2

/-- the groups below an item whose node sits at the absolute path `π` -/
def itemGroups (π : List Nat) : Item → List Group
  | .node _ l sub => (nodeGroups (l, sub)).map fun g => (π ++ g.1, g.2)
  | .leaf ps => [(π, ps)]

theorem mem_leafGroup {l : Option (List Phrase)} {g : Group} : g ∈ leafGroup l ↔ g.1 = [] ∧ l = some g.2 := by
  obtain ⟨k, ps⟩ := g
  cases l with
  | none => simp [leafGroup]
  | some ps' => simp [leafGroup, eq_comm]

theorem forestGroups_key_ne_nil {f : Forest} {g : Group} (h : g ∈ forestGroups f) : g.1 ≠ [] := by
  induction f with
  | nil => cases h
  | cons t l sub next _ ihn =>
    rcases List.mem_append.mp h with h | h
    · obtain ⟨g', _, rfl⟩ := List.mem_map.mp h
      exact List.cons_ne_nil _ _
    · exact ihn h

/-- one level: the groups below a child list are those below its children -/
theorem mem_forestGroups {f : Forest} (hf : f.WF) (k : List Nat) (ps : List Phrase) :
    (k, ps) ∈ forestGroups f ↔ ∃ s r nd, k = s :: r ∧ f.child s = some nd ∧ (r, ps) ∈ nodeGroups nd := by
  induction f with
  | nil => simp [forestGroups, Forest.child]
  | cons t l sub next _ ihn =>
    have h3 : next.child t = none := hf.2.2.2.1
    have ihn := ihn hf.2.2.2.2.2.2.2
    show (k, ps) ∈ (nodeGroups (l, sub)).map (fun g => (t :: g.1, g.2)) ++ forestGroups next ↔ _
    simp only [List.mem_append, List.mem_map, Forest.child]
    constructor
    · rintro (⟨g, hg, heq⟩ | h)
      · cases heq
        exact ⟨t, g.1, (l, sub), rfl, if_pos rfl, hg⟩
      · obtain ⟨s, r, nd, rfl, hc, hm⟩ := ihn.mp h
        have : t ≠ s := fun e => by rw [← e, h3] at hc; cases hc
        exact ⟨s, r, nd, rfl, by rw [if_neg this]; exact hc, hm⟩
    · rintro ⟨s, r, nd, rfl, hc, hm⟩
      split at hc
      · next hts => cases hc; exact Or.inl ⟨(r, ps), hm, by rw [hts]⟩
      · exact Or.inr (ihn.mpr ⟨s, r, nd, rfl, hc, hm⟩)

/-- a group of the tree = an entry of the builder's map -/
theorem mem_nodeGroups {l : Option (List Phrase)} {sub : Forest} (hw : sub.WF) (k : List Nat) (ps : List Phrase) :
    (k, ps) ∈ nodeGroups (l, sub) ↔ findNode k (l, sub) = some ps := by
  induction k generalizing l sub with
  | nil =>
    simp only [nodeGroups, List.mem_append, mem_leafGroup, findNode, true_and]
    exact or_iff_left fun h => forestGroups_key_ne_nil h rfl
  | cons s r ih =>
    show (s :: r, ps) ∈ leafGroup l ++ forestGroups sub ↔ _
    simp only [List.mem_append, mem_leafGroup, reduceCtorEq, false_and, false_or, findNode, mem_forestGroups hw,
      List.cons.injEq]
    constructor
    · rintro ⟨_, _, nd, ⟨rfl, rfl⟩, hc, hm⟩
      rw [hc]
      exact (ih (WF_shape.child hw hc).2.2.2).mp hm
    · intro h
      cases hc : sub.child s with
      | none => rw [hc] at h; cases h
      | some nd => rw [hc] at h; exact ⟨s, r, nd, ⟨rfl, rfl⟩, hc, (ih (WF_shape.child hw hc).2.2.2).mpr h⟩

/-- below a node the keys are distinct if they are below its children: the key of its leaf is `[]` -/
theorem nodeGroups_keys_nodup_of {l : Option (List Phrase)} {sub : Forest}
    (hs : ((forestGroups sub).map (·.1)).Nodup) : ((nodeGroups (l, sub)).map (·.1)).Nodup := by
  simp only [nodeGroups, List.map_append]
  refine List.nodup_append.mpr ⟨by cases l <;> simp [leafGroup], hs, ?_⟩
  intro a ha b hb e
  obtain ⟨g, hg, rfl⟩ := List.mem_map.mp ha
  obtain ⟨g', hg', rfl⟩ := List.mem_map.mp hb
  exact forestGroups_key_ne_nil hg' (e ▸ (mem_leafGroup.mp hg).1)

theorem forestGroups_keys_nodup {f : Forest} (hf : f.WF) : ((forestGroups f).map (·.1)).Nodup := by
  induction f with
  | nil => exact List.nodup_nil
  | cons t l sub next ihs ihn =>
    obtain ⟨_, _, _, h3, _, _, h6, h7⟩ := hf
    show (((nodeGroups (l, sub)).map fun g => (t :: g.1, g.2)) ++ forestGroups next).map (·.1) |>.Nodup
    rw [List.map_append, List.map_map]
    refine List.nodup_append.mpr ⟨?_, ihn h7, ?_⟩
    · have := List.Pairwise.map (S := fun a b => a ≠ b) (fun r => t :: r) (fun a b hne e => hne (List.cons.inj e).2)
        (nodeGroups_keys_nodup_of (l := l) (ihs h6))
      rw [List.map_map] at this
      exact this
    · intro a ha b hb e
      obtain ⟨g, _, rfl⟩ := List.mem_map.mp ha
      obtain ⟨⟨g1, g2⟩, hg', rfl⟩ := List.mem_map.mp hb
      obtain ⟨s, r', nd, hk, hc, _⟩ := (mem_forestGroups h7 g1 g2).mp hg'
      cases hk
      cases e
      rw [h3] at hc
      cases hc

theorem nodeGroups_keys_nodup {l : Option (List Phrase)} {sub : Forest} (hw : sub.WF) :
    ((nodeGroups (l, sub)).map (·.1)).Nodup := nodeGroups_keys_nodup_of (forestGroups_keys_nodup hw)

theorem forestGroups_toItems (f : Forest) :
    forestGroups f = f.toItems.flatMap fun k => itemGroups [k.syl] k := by
  induction f with
  | nil => rfl
  | cons t l sub next _ ihn =>
    simp only [forestGroups, Forest.toItems, List.flatMap_cons, ihn, itemGroups, nodeGroups, Item.syl]
    simp

/-- the groups below a node: its own leaf, then those of its children in any order of the children -/
theorem itemGroups_node_perm (π : List Nat) (s : Nat) (l : Option (List Phrase)) (sub : Forest) :
    (itemGroups π (.node s l sub)).Perm
      ((leafGroup l).map (fun g => (π ++ g.1, g.2)) ++
        (sortBy sylLt sub.toItems).flatMap fun k => itemGroups (π ++ [k.syl]) k) := by
  have hl : itemGroups π (.node s l sub) =
      (leafGroup l).map (fun g => (π ++ g.1, g.2)) ++ (forestGroups sub).map (fun g => (π ++ g.1, g.2)) := by
    simp only [itemGroups, nodeGroups, List.map_append]
  rw [hl]
  refine List.Perm.append_left _ ?_
  rw [forestGroups_toItems, List.map_flatMap]
  have hfun : (fun k : Item => (itemGroups [k.syl] k).map fun g => (π ++ g.1, g.2)) =
      fun k => itemGroups (π ++ [k.syl]) k := by
    funext k
    cases k with
    | node s' l' sub' => simp [itemGroups, List.map_map, Function.comp_def, List.append_assoc]
    | leaf ps => simp [itemGroups]
  rw [hfun]
  exact (List.Perm.flatMap_right _ (sortBy_perm sylLt sub.toItems)).symm

/-- descend along first children; `none` = out of fuel (or a node without records below it) -/
def tDescend : Nat → Item → List (List Item) → List Nat → List Group →
    Option (List (List Item) × List Nat × List Group)
  | 0, _, _, _, _ => none
  | f + 1, node, stack, syls, results =>
    match node.kids with
    | [] => none
    | .leaf ps :: more =>
      match more with
      | [] => some (stack, syls, (syls.reverse, ps) :: results)
      | second :: more' => tDescend f second (more' :: stack) (second.syl :: syls) ((syls.reverse, ps) :: results)
    | .node s l sub :: more =>
      tDescend f (.node s l sub) (more :: stack) (s :: syls) results

def tAscend : List (List Item) → List Nat → Option (Item × List (List Item) × List Nat)
  | [], _ => none
  | [] :: stack, syls => tAscend stack syls.tail
  | (next :: it) :: stack, syls => some (next, it :: stack, next.syl :: syls.tail)

def tLoop (D : Nat) : Nat → Item → List (List Item) → List Nat → Option (List Group)
  | 0, _, _, _ => none
  | f + 1, node, stack, syls =>
    match tDescend D node stack syls [] with
    | none => none
    | some (stack', syls', results) =>
      match tAscend stack' syls' with
      | none => some results
      | some (node', stack'', syls'') =>
        match tLoop D f node' stack'' syls'' with
        | none => none
        | some more => some (results ++ more)

/-- what is still to be produced from the frames of the stack -/
def framesGroups : List (List Item) → List Nat → List Group
  | [], _ => []
  | F :: stack, syls =>
    (F.flatMap fun X => itemGroups ((X.syl :: syls.tail).reverse) X) ++ framesGroups stack syls.tail

def fsize (stack : List (List Item)) : Nat := (stack.map qsize).sum

/-- the current node of the iteration: a node (root or not) with something below it -/
def NodeInv (it : Item) : Prop :=
  ∃ s l sub, it = .node s l sub ∧ LeafOK l ∧ sub.WF ∧ kidsOf l sub ≠ []

/-- stacked siblings are non-root nodes -/
def FramesInv (stack : List (List Item)) : Prop := ∀ F ∈ stack, ∀ X ∈ F, X.WF ∧ X.syl ≠ 0

theorem WF_node_inv {it : Item} (h : it.WF) (hs : it.syl ≠ 0) : NodeInv it := by
  cases it with
  | leaf ps => exact absurd rfl hs
  | node s l sub => exact ⟨s, l, sub, rfl, h.2.2.2.1, h.2.2.2.2.2, h.kids_ne_nil⟩

theorem sorted_kids_inv {sub : Forest} (hw : sub.WF) : ∀ X ∈ sortBy sylLt sub.toItems, X.WF ∧ X.syl ≠ 0 := by
  intro X hX
  have hm := mem_sortBy.mp hX
  have := toItems_syl_pos hw X hm
  exact ⟨toItems_WF hw X hm, by omega⟩

/-- one descent: the leaves of the chain are produced, the remaining work is on the stack -/
theorem tDescend_spec (f : Nat) : ∀ (node : Item) (stack : List (List Item)) (syls : List Nat) (results : List Group),
    NodeInv node → FramesInv stack → (∀ s ∈ syls, s ≠ 0) → node.size ≤ f →
    ∃ stack' syls' chain, tDescend f node stack syls results = some (stack', syls', chain ++ results) ∧
      (chain ++ framesGroups stack' syls').Perm (itemGroups syls.reverse node ++ framesGroups stack syls) ∧
      fsize stack' + 1 ≤ node.size + fsize stack ∧ FramesInv stack' ∧ (∀ s ∈ syls', s ≠ 0) := by
  induction f with
  | zero =>
    intro node stack syls results _ _ _ hsz
    have := item_size_pos node
    omega
  | succ f ih =>
    intro node stack syls results hn hfr hsy hsz
    obtain ⟨s, l, sub, rfl, hl, hw, hne⟩ := hn
    have hperm := itemGroups_node_perm syls.reverse s l sub
    have hkinv := sorted_kids_inv hw
    have hsize := qsize_sorted_kids sub
    simp only [tDescend, Item.kids, kidsOf_eq]
    cases hk : sortBy sylLt sub.toItems with
    | nil =>
      rw [hk] at hperm
      cases l with
      | none => exact absurd hk hne
      | some ps =>
        simp only [leafItem, leafGroup, List.map_cons, List.map_nil, List.append_nil, List.flatMap_nil] at hperm ⊢
        refine ⟨stack, syls, [(syls.reverse, ps)], rfl, ?_, ?_, hfr, hsy⟩
        · exact List.Perm.append_right _ hperm.symm
        · simp [Item.size]; omega
    | cons k ks =>
      rw [hk] at hperm hkinv hsize
      have hk1 := hkinv k List.mem_cons_self
      have hfr' : FramesInv (ks :: stack) :=
        List.forall_mem_cons.mpr ⟨fun X hX => hkinv X (List.mem_cons_of_mem _ hX), hfr⟩
      have hsy' : ∀ t ∈ k.syl :: syls, t ≠ 0 := List.forall_mem_cons.mpr ⟨hk1.2, hsy⟩
      rw [qsize_cons] at hsize
      have hsz1 : k.size ≤ f := by simp [Item.size] at hsz; omega
      have hn := WF_node_inv hk1.1 hk1.2
      simp only [List.flatMap_cons] at hperm
      cases l with
      | some ps =>
        simp only [leafItem, leafGroup, List.map_cons, List.map_nil, List.append_nil, List.cons_append, List.nil_append]
          at hperm ⊢
        obtain ⟨stack', syls', chain, hd, hp, hfs, hfi, hsi⟩ :=
          ih k (ks :: stack) (k.syl :: syls) ((syls.reverse, ps) :: results) hn hfr' hsy' hsz1
        refine ⟨stack', syls', chain ++ [(syls.reverse, ps)], by simpa using hd, ?_, ?_, hfi, hsi⟩
        · -- (chain ++ C) ++ B ~ C ++ (chain ++ B) ~ C ++ (D ++ (E ++ G)) ~ node ++ G
          refine List.Perm.trans ?_ (List.Perm.append_right _ hperm.symm)
          have h1 : (chain ++ [(syls.reverse, ps)] ++ framesGroups stack' syls').Perm
              ([(syls.reverse, ps)] ++ (chain ++ framesGroups stack' syls')) := by
            rw [List.append_assoc]
            exact List.perm_append_comm_assoc _ _ _
          simp only [framesGroups, List.reverse_cons, List.tail_cons] at hp
          exact h1.trans (List.Perm.cons _ (hp.trans (by simp [List.append_assoc])))
        · simp only [fsize, List.map_cons, List.sum_cons] at hfs ⊢
          simp [Item.size]
          omega
      | none =>
        simp only [leafItem, leafGroup, List.map_nil, List.nil_append] at hperm ⊢
        obtain ⟨stack', syls', chain, hd, hp, hfs, hfi, hsi⟩ :=
          ih k (ks :: stack) (k.syl :: syls) results hn hfr' hsy' hsz1
        cases k with
        | leaf ps' => exact absurd rfl hk1.2
        | node s1 l1 sub1 =>
          refine ⟨stack', syls', chain, hd, ?_, ?_, hfi, hsi⟩
          · simp only [framesGroups, List.reverse_cons, List.tail_cons] at hp
            refine List.Perm.trans ?_ (List.Perm.append_right _ hperm.symm)
            exact hp.trans (by simp [List.append_assoc, Item.syl])
          · simp only [fsize, List.map_cons, List.sum_cons] at hfs ⊢
            simp [Item.size]
            omega

/-- ascending keeps what remains -/
theorem tAscend_spec : ∀ (stack : List (List Item)) (syls : List Nat), FramesInv stack → (∀ s ∈ syls, s ≠ 0) →
    match tAscend stack syls with
    | none => framesGroups stack syls = []
    | some (n, stack', syls') =>
      framesGroups stack syls = itemGroups syls'.reverse n ++ framesGroups stack' syls' ∧
      n.size + fsize stack' = fsize stack ∧ NodeInv n ∧ FramesInv stack' ∧ (∀ s ∈ syls', s ≠ 0) := by
  intro stack
  induction stack with
  | nil => intro syls _ _; rfl
  | cons F stack ih =>
    intro syls hfr hsy
    cases F with
    | nil =>
      simp only [tAscend]
      have := ih syls.tail (fun F hF => hfr F (by simp [hF])) (fun s hs => hsy s (List.mem_of_mem_tail hs))
      cases hta : tAscend stack syls.tail with
      | none => rw [hta] at this; simpa [framesGroups] using this
      | some r =>
        obtain ⟨n, stack', syls'⟩ := r
        rw [hta] at this
        simp only at this ⊢
        refine ⟨by simpa [framesGroups] using this.1, ?_, this.2.2⟩
        simpa [fsize, qsize] using this.2.1
    | cons X Xs =>
      simp only [tAscend]
      have hX := hfr (X :: Xs) (by simp) X (by simp)
      refine ⟨?_, ?_, WF_node_inv hX.1 hX.2, ?_, ?_⟩
      · simp [framesGroups, List.append_assoc]
      · simp [fsize, qsize]; omega
      · intro F hF Y hY
        simp only [List.mem_cons] at hF
        rcases hF with rfl | hF
        · exact hfr (X :: F) (by simp) Y (by simp [hY])
        · exact hfr F (by simp [hF]) Y hY
      · exact List.forall_mem_cons.mpr ⟨hX.2, fun s hs => hsy s (List.mem_of_mem_tail hs)⟩

/-- the whole iteration produces what remains, each group once -/
theorem tLoop_spec (D : Nat) (f : Nat) : ∀ (node : Item) (stack : List (List Item)) (syls : List Nat),
    NodeInv node → FramesInv stack → (∀ s ∈ syls, s ≠ 0) →
    node.size + fsize stack ≤ f → node.size + fsize stack ≤ D →
    ∃ out, tLoop D f node stack syls = some out ∧
      out.Perm (itemGroups syls.reverse node ++ framesGroups stack syls) := by
  induction f with
  | zero =>
    intro node stack syls _ _ _ hsz _
    have := item_size_pos node
    omega
  | succ f ih =>
    intro node stack syls hn hfr hsy hsz hD
    obtain ⟨stack', syls', chain, hd, hp, hfs, hfi, hsi⟩ :=
      tDescend_spec D node stack syls [] hn hfr hsy (by omega)
    simp only [List.append_nil] at hd
    simp only [tLoop, hd]
    have hasc := tAscend_spec stack' syls' hfi hsi
    cases hta : tAscend stack' syls' with
    | none =>
      rw [hta] at hasc
      simp only at hasc ⊢
      rw [hasc, List.append_nil] at hp
      exact ⟨chain, rfl, hp⟩
    | some r =>
      obtain ⟨n, stack'', syls''⟩ := r
      rw [hta] at hasc
      simp only at hasc ⊢
      obtain ⟨hg, hs2, hn2, hf2, hy2⟩ := hasc
      obtain ⟨out, ho, hop⟩ := ih n stack'' syls'' hn2 hf2 hy2 (by omega) (by omega)
      rw [ho]
      refine ⟨chain ++ out, rfl, ?_⟩
      refine List.Perm.trans (List.Perm.append_left _ hop) ?_
      rw [← hg]
      exact hp

end Chewing.TrieCodec
