import Chewing.Model.Estimate
/-!
Arithmetic of `estimate` (C08): when each band returns and what (`risingBand_isOk`, `risingBand_eq`,
`decayBand_isOk`; `C08.estimate_no_panic` puts the exact no-panic precondition of `estimate` together from them),
the editor path (no timestamp ⇒ short band), and the bounded-liveness argument "the gap to the best homophone
closes within 50 learnings".
The constants are the generated ones (`Gen/Estimate.lean`); where a fact depends on their values they are
unfolded to the literals of the current source before `omega` / kernel evaluation.
-/
namespace Chewing.Learn
open Gen.Est

theorem risingDelta_pos (div f o m : Nat) {plus inc : Nat} (hp : 0 < plus) (hi : 0 < inc) :
    0 < risingDelta div plus inc f o m := by
  simp only [risingDelta]
  split
  · exact Nat.lt_min.mpr ⟨Nat.add_pos_right _ hp, hi⟩
  · exact Nat.lt_of_lt_of_le hi (Nat.le_max_right _ _)

/-- a rising band panics only on `max_freq - orig_freq` -/
theorem risingBand_isOk (div plus inc f o m : Nat) :
    (risingBand div plus inc f o m).isOk = true ↔ o ≤ m := by
  unfold risingBand
  by_cases h1 : m < o
  · rw [if_pos h1]
    exact ⟨fun h => (nomatch h), fun h => absurd h (by omega)⟩
  · rw [if_neg h1]
    exact ⟨fun _ => by omega, fun _ => rfl⟩

/-- the value of a rising band, for ALL `u32` inputs that pass the subtraction: the clamped sum (the saturation
    is invisible behind the clamp: `MAX_USER_FREQ ≤ u32::MAX`) -/
theorem risingBand_eq (div plus inc f o m : Nat) (h : o ≤ m) :
    risingBand div plus inc f o m = .ok (min (f + risingDelta div plus inc f o m) maxUserFreq) := by
  have : maxUserFreq ≤ u32Max := by decide
  unfold risingBand satAdd32
  rw [if_neg (Nat.not_lt.mpr h)]
  simp only [Nat.min_assoc, Nat.min_eq_right this]

theorem risingBand_ok {div plus inc f o m v : Nat} (h : risingBand div plus inc f o m = .ok v) :
    v = min (f + risingDelta div plus inc f o m) maxUserFreq := by
  rw [risingBand_eq _ _ _ _ _ _ ((risingBand_isOk ..).mp (by rw [h]; rfl))] at h
  exact (Outcome.ok.inj h).symm

theorem decayBand_isOk (f o : Nat) :
    (decayBand f o).isOk = true ↔ (o ≤ f ∧ max ((f - o) / longDiv) longDec ≤ f) := by
  unfold decayBand
  by_cases h1 : f < o
  · rw [if_pos h1]
    exact ⟨fun h => (nomatch h), fun h => absurd h.1 (by omega)⟩
  · rw [if_neg h1]
    by_cases h2 : f < max ((f - o) / longDiv) longDec
    · simp only [h2, if_true]
      exact ⟨fun h => (nomatch h), fun h => absurd h.2 (by omega)⟩
    · simp only [h2, if_false]
      exact ⟨fun _ => ⟨by omega, by omega⟩, fun _ => rfl⟩

/-- within `shortBand` of the last use `estimate` is the short rising band -/
theorem estimate_short {lt : Nat} {lu : Option Nat} (h : satSub lt (lu.getD lt) < shortBand) (f o m : Nat) :
    estimate lt f lu o m = risingBand shortDiv shortPlus shortInc f o m :=
  if_pos h

/-! ### The editor path: `learn_phrase` passes a phrase without timestamp and `orig_freq = phrase.freq()` -/

/-- new frequency on the editor path (when nothing overflows) -/
def stepFreq (f mx : Nat) : Nat := min (f + risingDelta shortDiv shortPlus shortInc f f mx) maxUserFreq

theorem risingDelta_le (f mx : Nat) (h : f ≤ mx) :
    f + risingDelta shortDiv shortPlus shortInc f f mx ≤ mx + shortInc := by
  unfold risingDelta
  split
  · exact Nat.add_le_add h (Nat.min_le_right ..)
  · simp only [shortDiv, shortPlus, shortInc]; omega

/-- on the editor path `estimate` cannot panic and returns the clamped sum — for every `u32` frequency (the rising
    bands add with `saturating_add` since the repair of F40; before it `freq + delta` overflowed unless
    `mx + shortInc ≤ u32::MAX`) -/
theorem estimate_editor (lt f mx : Nat) (h : f ≤ mx) :
    estimate lt f none f mx = .ok (stepFreq f mx) := by
  rw [estimate_short (by simp [satSub, shortBand]), risingBand_eq _ _ _ _ _ _ h]
  rfl

theorem stepFreq_gt (f mx : Nat) (hf : f < maxUserFreq) : f < stepFreq f mx := by
  have := risingDelta_pos shortDiv f f mx (plus := shortPlus) (inc := shortInc) (by decide) (by decide)
  unfold stepFreq; omega

theorem stepFreq_le_max (f mx : Nat) : stepFreq f mx ≤ maxUserFreq :=
  Nat.min_le_right _ _

/-- one learning of X while the best other homophone has frequency `fy` -/
def learnStep (fy f : Nat) : Nat := stepFreq f (max f fy)

def learnIter (fy : Nat) : Nat → Nat → Nat
  | 0, f => f
  | k + 1, f => learnStep fy (learnIter fy k f)

theorem learnIter_succ' (fy k f : Nat) : learnIter fy (k + 1) f = learnIter fy k (learnStep fy f) := by
  induction k with
  | zero => rfl
  | succ k ih =>
    show learnStep fy (learnIter fy (k + 1) f) = learnStep fy (learnIter fy k (learnStep fy f))
    rw [ih]

/-- what one learning does to the gap `fy - f` while it is positive: the gap loses
    `max (gap / shortDiv + shortPlus) shortInc` -/
def gapStep (g : Nat) : Nat := g - max (g / shortDiv + shortPlus) shortInc

def gapIter : Nat → Nat → Nat
  | 0, g => g
  | k + 1, g => gapStep (gapIter k g)

/-- the gap after a step is the smaller of `g - (g / shortDiv + shortPlus)` and `g - shortInc`, both monotone -/
theorem gapStep_mono {a b : Nat} (h : a ≤ b) : gapStep a ≤ gapStep b := by
  unfold gapStep
  rw [← Nat.sub_min_sub_left, ← Nat.sub_min_sub_left]
  have h1 : a - (a / shortDiv + shortPlus) ≤ b - (b / shortDiv + shortPlus) := by
    simp only [shortDiv, shortPlus]; omega
  exact Nat.le_min.mpr ⟨Nat.le_trans (Nat.min_le_left ..) h1,
    Nat.le_trans (Nat.min_le_right ..) (Nat.sub_le_sub_right h _)⟩

theorem gapIter_mono (k : Nat) {a b : Nat} (h : a ≤ b) : gapIter k a ≤ gapIter k b := by
  induction k with
  | zero => exact h
  | succ k ih => exact gapStep_mono ih

/-- the frequency bound of the property's quantifier -/
def freqBound : Nat := 1000000

/-- number of learnings after which a gap of at most `freqBound` is closed (kernel evaluation of 49 steps on
    one number — not an enumeration of frequency pairs) -/
def closeSteps : Nat := 49

theorem gapIter_bound : gapIter closeSteps freqBound = 0 := by decide

/-- `closeSteps` is exact: one learning fewer leaves a positive gap from `freqBound` -/
theorem gapIter_bound_tight : 0 < gapIter (closeSteps - 1) freqBound := by decide

theorem learnStep_reach (fy f : Nat) (hy : fy < maxUserFreq) (h : fy ≤ f) : fy < learnStep fy f := by
  have := risingDelta_pos shortDiv f f (max f fy) (plus := shortPlus) (inc := shortInc) (by decide) (by decide)
  unfold learnStep stepFreq; omega

/-- while X is behind, its step is `max (gap / shortDiv + shortPlus) shortInc`, and the clamp cannot bite below
    `fy < MAX_USER_FREQ` -/
theorem learnStep_gap (fy f : Nat) (hy : fy < maxUserFreq) : fy - learnStep fy f ≤ gapStep (fy - f) := by
  by_cases h : fy ≤ f
  · rw [Nat.sub_eq_zero_of_le (Nat.le_of_lt (learnStep_reach fy f hy h))]; exact Nat.zero_le _
  · unfold learnStep stepFreq gapStep
    simp only [risingDelta]
    rw [Nat.max_eq_right (Nat.le_of_not_le h), if_neg h]
    generalize max ((fy - f) / shortDiv + shortPlus) shortInc = d
    omega

theorem learnIter_gap (fy f : Nat) (hy : fy < maxUserFreq) (k : Nat) :
    fy - learnIter fy k f ≤ gapIter k (fy - f) := by
  induction k with
  | zero => exact Nat.le_refl _
  | succ k ih =>
    exact Nat.le_trans (learnStep_gap fy _ hy) (gapStep_mono ih)

theorem learnStep_ge (fy f : Nat) (hf : f ≤ maxUserFreq) : f ≤ learnStep fy f := by
  unfold learnStep stepFreq; omega

theorem learnIter_le_max (fy f : Nat) (hf : f ≤ maxUserFreq) (k : Nat) : learnIter fy k f ≤ maxUserFreq := by
  cases k with
  | zero => exact hf
  | succ k => exact stepFreq_le_max _ _

/-- after `closeSteps` learnings X has caught up, after one more it is strictly ahead, and it stays ahead -/
theorem learnIter_top (fy f : Nat) (hy : fy ≤ freqBound) (k : Nat) (hk : closeSteps + 1 ≤ k) :
    fy < learnIter fy k f := by
  have hy' : fy < maxUserFreq := Nat.lt_of_le_of_lt hy (by decide)
  -- the gap left after `closeSteps` learnings is at most the one left from `freqBound`, which is 0
  have h49 : fy ≤ learnIter fy closeSteps f :=
    Nat.le_of_sub_eq_zero (Nat.le_zero.mp (Nat.le_trans (learnIter_gap fy f hy' closeSteps)
      (gapIter_bound ▸ gapIter_mono closeSteps (Nat.le_trans (Nat.sub_le fy f) hy))))
  obtain ⟨j, rfl⟩ : ∃ j, k = closeSteps + 1 + j := ⟨_, (Nat.add_sub_of_le hk).symm⟩
  induction j with
  | zero => exact learnStep_reach fy _ hy' h49
  | succ j ih => exact learnStep_reach fy _ hy' (Nat.le_of_lt (ih (Nat.le_add_right ..)))

end Chewing.Learn
