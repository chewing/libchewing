import Chewing.Model.MapSpec
import Chewing.Proofs.Learn
/-!
# LearnLink — C08's user dictionary is C09's map

C08 (`Model/Learn.lean`) abstracts the user dictionary as an association list `UserMap`
(`get?` / `insert`), and its theorem `learned_persists` *assumes* that close + reopen preserves that
map.  `URep u m` — the `UserMap` `u` is the map `m` of C09's specification `MapSpec` — is the relation under
which that assumption is replaced by theorems (`Props/C08.lean`):

* `urep_insert`: `UserMap.insert` is `MapSpec.Map.set`; with it `C08.learn_is_dictionary_call_linked`: one
  `learn_phrase` is — at the level of the map — the `DictionaryMut` call the editor makes (`add_phrase` with
  frequency 1 when no dictionary knows a phrase for the syllables, which `MapSpec` accepts because the phrase
  is then not live; `update_phrase` otherwise), so a sequence of learnings is a `MapSpec` history;
* `C08.learned_persists_linked`: C10's `durable_lookup_linked` (all schedules of the snapshot writer, C09's
  concrete layers and `entries()`) + C09's `layered_over_map`: after the dictionary was closed, a
  `TrieBuf` opened on the file lists every live phrase with its value and `Layered` over any system
  layers offers it.
-/
namespace Chewing.LearnLink
open Chewing.Learn

/-- C08's association list denotes the `MapSpec` map `m` -/
def URep (u : UserMap) (m : MapSpec.Map) : Prop := ∀ k, u.get? k = m k

theorem urep_insert {u : UserMap} {m : MapSpec.Map} (h : URep u m) (k : UKey) (v : Nat × Nat) :
    URep (u.insert k v) (m.set k (some v)) := by
  intro k'
  unfold MapSpec.Map.set
  by_cases e : k' = k
  · subst e; simp [UserMap.get?_insert_self]
  · rw [UserMap.get?_insert_ne u k k' v e]
    simp only [e, if_false]
    exact h k'

theorem lookup_nil_get? {u : UserMap} {key : List Nat} (h : u.lookup key = []) (t : Text) : u.get? (key, t) = none := by
  unfold UserMap.get?
  rw [Option.map_eq_none_iff, List.find?_eq_none]
  intro e he hd
  have hk : e.1 = (key, t) := of_decide_eq_true hd
  have : (e.1.2, e.2.1) ∈ u.lookup key := by
    unfold UserMap.lookup
    exact List.mem_map.mpr ⟨e, List.mem_filter.mpr ⟨he, by simp [hk]⟩, rfl⟩
  rw [h] at this
  cases this

end Chewing.LearnLink
