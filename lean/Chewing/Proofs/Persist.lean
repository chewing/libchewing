import Chewing.Model.Persist
import Chewing.Proofs.Runs
/-!
Invariant of the persistence protocol (`Model/Persist.lean`) and its preservation by every step.
`step` is a partial function with one branch per enabled transition; `Step` lists the branches and `step_some`
inverts `step`, so that a proof about one step is a case analysis over `Step`, and a proof about a run goes
through `folds`.  Used by `Props/C10.lean`.
-/
namespace Chewing.Persist

/-- the pending layers say something about `k` -/
def touched (b : Buf) (k : Key) : Prop := (b.btree k).isSome = true ∨ b.grave k = true

/-! ### small facts about files and layers -/

@[simp] theorem setF_same (fs : FS) (n : Name) (f : Option FileC) : setF fs n f n = f := by simp [setF]
@[simp] theorem setF_tmp_path (fs : FS) (f : Option FileC) : setF fs .tmp f .path = fs .path := by simp [setF]
@[simp] theorem setF_path_tmp (fs : FS) (f : Option FileC) : setF fs .path f .tmp = fs .tmp := by simp [setF]

theorem readPath_eq_some {fs : FS} {c : Content} : readPath fs = some c ↔ fs .path = some (.complete c) := by
  unfold readPath
  constructor
  · intro h
    split at h
    · next c' hc => cases h; exact hc
    · cases h
  · intro h
    simp [h]

theorem complete_inj {c c' : Content} (h : (some (FileC.complete c) : Option FileC) = some (FileC.complete c')) : c = c' := by
  injection h with h
  injection h

theorem live_fresh (c : Content) (g : Nat) : (Buf.fresh c g).live = c := by
  funext k
  simp [Buf.live, Buf.fresh]

/-- reloading the base layer from a file that agrees with it outside the pending layers does not
    change what is live -/
theorem live_reload (b : Buf) (c : Content) (h : ∀ k, ¬ touched b k → c k = b.trie k) :
    ({ b with trie := c } : Buf).live = b.live := by
  funext k
  simp only [Buf.live]
  by_cases hg : b.grave k = true
  · simp [hg]
  · cases hb : b.btree k with
    | some v => simp [hg]
    | none =>
      have ht : ¬ touched b k := by simp [touched, hg, hb]
      simp [hg, h k ht]

theorem live_untouched (b : Buf) (k : Key) (hk : ¬ touched b k) : b.live k = b.trie k := by
  have h1 : b.grave k = false := Bool.eq_false_iff.mpr (fun hg => hk (Or.inr hg))
  have h2 : b.btree k = none := by
    cases hb : b.btree k with
    | none => rfl
    | some v => exact absurd (Or.inl (by simp [hb])) hk
  simp [Buf.live, h1, h2]

theorem live_idem (b : Buf) : ({ b with trie := b.live } : Buf).live = b.live :=
  live_reload b b.live (live_untouched b)

theorem live_cleared (b : Buf) (hb : b.btree = fun _ => none) (hg : b.grave = fun _ => false) :
    b.live = b.trie := by
  funext k
  simp [Buf.live, hb, hg]

theorem touched_put {cfg : Cfg} {b : Buf} {k j : Key} {v : Val} (h : touched b j) : touched (b.put cfg k v) j := by
  unfold touched Buf.put at *
  by_cases hj : j = k
  · left; simp [setC, hj]
  · cases h with
    | inl h => left; simpa [setC, hj] using h
    | inr h =>
      right
      cases cfg.revive <;> simp [setG, hj, h]

theorem touched_remove {b : Buf} {k j : Key} (h : touched b j) : touched (b.remove k) j := by
  unfold touched Buf.remove at *
  by_cases hj : j = k
  · right; simp [setG, hj]
  · cases h with
    | inl h => left; simpa [setC, hj] using h
    | inr h => right; simpa [setG, hj] using h

/-- `remove_phrase` is `m[k ↦ none]` on the live map -/
theorem live_remove (b : Buf) (k : Key) : (b.remove k).live = setC b.live k none := by
  funext j
  by_cases hj : j = k
  · simp [Buf.live, Buf.remove, setC, setG, hj]
  · simp [Buf.live, Buf.remove, setC, setG, hj]

/-- with the tombstone rule repaired, `add`/`update` are `m[k ↦ some v]` on the live map -/
theorem live_put_revive (cfg : Cfg) (hr : cfg.revive = true) (b : Buf) (k : Key) (v : Val) :
    (b.put cfg k v).live = setC b.live k (some v) := by
  funext j
  by_cases hj : j = k
  · simp [Buf.live, Buf.put, setC, setG, hj, hr]
  · simp [Buf.live, Buf.put, setC, setG, hj, hr]

/-- without it the key stays hidden while tombstoned (finding F09, property C09) -/
theorem live_put_norevive (cfg : Cfg) (hr : cfg.revive = false) (b : Buf) (k : Key) (v : Val) :
    (b.put cfg k v).live = setC b.live k (if b.grave k then none else some v) := by
  funext j
  by_cases hj : j = k
  · subst hj
    cases hg : b.grave j <;> simp [Buf.live, Buf.put, setC, hr, hg]
  · simp [Buf.live, Buf.put, setC, hj, hr]

/-! ### the invariant -/

/-- facts about an in-flight (or finished, still registered) writer -/
structure WInv (fs : FS) (b : Buf) (wr : Writer) : Prop where
  tmpC : wr.pc = .flushed ∨ wr.pc = .synced → fs .tmp = some (.complete wr.snap)
  pathNew : PC.renamed.idx ≤ wr.pc.idx → fs .path = some (.complete wr.snap)
  pathOld : wr.pc.idx < PC.renamed.idx → fs .path = wr.old
  res : PC.reopened.idx ≤ wr.pc.idx → wr.result = some wr.snap
  clean : b.dirty = false → wr.snap = b.live ∧ wr.gen = b.gen
  agree : ∀ k, ¬ touched b k → wr.snap k = b.trie k

/-- the part of the invariant that does not mention the foreground phase -/
structure Core (b : Buf) (ow : Option Writer) (fs : FS) : Prop where
  path : ∃ c, fs .path = some (.complete c)
  agree : ∀ c, fs .path = some (.complete c) → ∀ k, ¬ touched b k → c k = b.trie k
  wr : ∀ x, ow = some x → WInv fs b x
  quiet : ow = none → b.dirty = false → fs .path = some (.complete b.live)

structure PhaseInv (cfg : Cfg) (w : World) : Prop where
  dropA : cfg.joinFirst = true → (w.phase = .dSync ∨ w.phase = .dFlush) → w.writer = none
  dropB : cfg.joinFirst = true → (w.phase = .dJoin ∨ w.phase = .closed) → w.buf.dirty = false
  closedW : w.phase = .closed → w.writer = none

structure Inv (cfg : Cfg) (w : World) : Prop where
  core : Core w.buf w.writer w.fs
  ph : PhaseInv cfg w

theorem core_init (c0 : Content) (t0 : Option FileC) : Core (init c0 t0).buf (init c0 t0).writer (init c0 t0).fs :=
  ⟨⟨c0, rfl⟩, fun _ hc _ _ => complete_inj hc ▸ rfl, (fun _ hx => nomatch hx),
    fun _ _ => congrArg (some ∘ FileC.complete) (live_fresh c0 0).symm⟩

theorem inv_init (cfg : Cfg) (c0 : Content) (t0 : Option FileC) : Inv cfg (init c0 t0) :=
  ⟨core_init c0 t0, fun _ => nofun, fun _ => nofun, nofun⟩

/-! ### preservation: changes -/

/-- an accepted change leaves the base layer alone, only adds to what the pending layers touch, and sets `dirty`:
    every clause of `Core` either ignores the buffer, is about untouched keys, or assumes `dirty = false` -/
theorem core_change {b b' : Buf} {wr : Option Writer} {fs : FS} (h : Core b wr fs) (ht : b'.trie = b.trie)
    (hd : b'.dirty = true) (hmono : ∀ j, touched b j → touched b' j) : Core b' wr fs := by
  refine ⟨h.path, fun c hc j hj => ?_, fun x hx => ?_, fun _ hd' => ?_⟩
  · rw [ht]; exact h.agree c hc j (fun h => hj (hmono j h))
  · have hx' := h.wr x hx
    refine ⟨hx'.tmpC, hx'.pathNew, hx'.pathOld, hx'.res, fun hd' => ?_, fun j hj => ?_⟩
    · rw [hd] at hd'; cases hd'
    · rw [ht]; exact hx'.agree j (fun h => hj (hmono j h))
  · rw [hd] at hd'; cases hd'

theorem core_put {b : Buf} {wr : Option Writer} {fs : FS} (cfg : Cfg) (k : Key) (v : Val) (h : Core b wr fs) :
    Core (b.put cfg k v) wr fs :=
  core_change h rfl rfl (fun _ => touched_put)

theorem core_remove {b : Buf} {wr : Option Writer} {fs : FS} (k : Key) (h : Core b wr fs) :
    Core (b.remove k) wr fs :=
  core_change h rfl rfl (fun _ => touched_remove)

theorem core_add {b : Buf} {wr : Option Writer} {fs : FS} (cfg : Cfg) (k : Key) (v : Val) (h : Core b wr fs) :
    Core (b.add cfg k v).1 wr fs := by
  unfold Buf.add
  split
  · exact h
  · exact core_put cfg k v h

/-! ### preservation: `sync` -/

/-- The outcomes of `sync`: nothing (an unfinished writer is waited for, or the file does not load); a finished writer
    is dropped; its result is adopted when nothing changed meanwhile; without a writer the file is read again. -/
theorem sync_cases (w : World) :
    sync w = w ∨ (writerDone w = true ∧ sync w = { w with writer := none }) ∨
    (∃ wr t, w.writer = some wr ∧ wr.pc = .finished ∧ wr.result = some t ∧ w.buf.dirty = false ∧
      sync w = { w with writer := none,
                        buf := { w.buf with trie := t, btree := fun _ => none, grave := fun _ => false } }) ∨
    ∃ c, w.writer = none ∧ readPath w.fs = some c ∧ sync w = { w with buf := { w.buf with trie := c } } := by
  unfold sync writerDone
  cases hw : w.writer with
  | none =>
    cases hc : readPath w.fs with
    | none => exact .inl rfl
    | some c => exact .inr (.inr (.inr ⟨c, rfl, rfl, rfl⟩))
  | some wr =>
    by_cases hpc : wr.pc = .finished
    · cases hr : wr.result with
      | none => exact .inr (.inl ⟨by simp [hpc], by simp [hpc, hr]⟩)
      | some t =>
        cases hd : w.buf.dirty with
        | true => exact .inr (.inl ⟨by simp [hpc], by simp [hpc, hr]⟩)
        | false => exact .inr (.inr (.inl ⟨wr, t, rfl, hpc, hr, rfl, by simp [hpc, hr, hd]⟩))
    · exact .inl (by simp [hpc])

/-- `sync` touches the writer registration and the layers, nothing else -/
theorem sync_frame (w : World) :
    (sync w).phase = w.phase ∧ (sync w).crashed = w.crashed ∧ (sync w).fs = w.fs ∧
      (sync w).buf.dirty = w.buf.dirty := by
  rcases sync_cases w with e | ⟨_, e⟩ | ⟨_, _, _, _, _, hd, e⟩ | ⟨_, _, _, e⟩ <;> rw [e]
  all_goals exact ⟨rfl, rfl, rfl, rfl⟩

theorem sync_phase (w : World) : (sync w).phase = w.phase := (sync_frame w).1
theorem sync_crashed (w : World) : (sync w).crashed = w.crashed := (sync_frame w).2.1
theorem sync_fs (w : World) : (sync w).fs = w.fs := (sync_frame w).2.2.1
theorem sync_dirty (w : World) : (sync w).buf.dirty = w.buf.dirty := (sync_frame w).2.2.2

/-- after `sync` the writer is the one before it, or none -/
theorem sync_writer (w : World) : (sync w).writer = w.writer ∨ (sync w).writer = none := by
  rcases sync_cases w with e | ⟨_, e⟩ | ⟨_, _, _, _, _, _, e⟩ | ⟨_, _, _, e⟩ <;> rw [e]
  · exact .inl rfl
  · exact .inr rfl
  · exact .inr rfl
  · exact .inl rfl

theorem sync_writer_none (w : World) (h : w.writer = none) : (sync w).writer = none :=
  (sync_writer w).elim (·.trans h) id

theorem core_join (w : World) (h : Core w.buf w.writer w.fs) (hd : writerDone w = true) :
    Core w.buf none w.fs := by
  refine ⟨h.path, h.agree, fun x hx => (by cases hx), ?_⟩
  intro _ hdirty
  cases hw : w.writer with
  | none => exact h.quiet hw hdirty
  | some wr =>
    have hx := h.wr wr hw
    have hpc : wr.pc = .finished := by
      unfold writerDone at hd
      rw [hw] at hd
      simpa using hd
    have h9 : wr.pc.idx = 9 := by rw [hpc]; rfl
    rw [hx.pathNew (by rw [h9]; decide), (hx.clean hdirty).1]

/-- `sync` keeps `Core` and what is live.  Dropping a finished writer is `core_join`; adopting its result happens
    only when nothing changed since the snapshot, which is then both the file and the live contents; a reload
    reads a file that agrees with the base layer outside the pending layers. -/
theorem core_sync (w : World) (h : Core w.buf w.writer w.fs) :
    Core (sync w).buf (sync w).writer (sync w).fs ∧ (sync w).buf.live = w.buf.live := by
  rcases sync_cases w with e | ⟨hdone, e⟩ | ⟨wr, t, hw, hpc, hr, hd, e⟩ | ⟨c, hw, hrp, e⟩ <;> rw [e]
  · exact ⟨h, rfl⟩
  · exact ⟨core_join w h hdone, rfl⟩
  · have hx := h.wr wr hw
    have h9 : PC.reopened.idx ≤ wr.pc.idx := by rw [hpc]; decide
    have hnew := hx.pathNew (Nat.le_trans (by decide) h9)
    have ht : t = wr.snap := Option.some.inj (hr.symm.trans (hx.res h9))
    refine ⟨⟨h.path, fun c hc k _ => ?_, (fun _ hx => nomatch hx), fun _ _ => ?_⟩, ?_⟩
    · rw [← complete_inj (hnew.symm.trans hc), ht]
    · rw [live_cleared _ rfl rfl, hnew, ht]
    · rw [live_cleared _ rfl rfl]
      exact ht.trans (hx.clean hd).1
  · have hp := readPath_eq_some.mp hrp
    have hlive : ({ w.buf with trie := c } : Buf).live = w.buf.live := live_reload w.buf c (h.agree c hp)
    refine ⟨⟨h.path, fun c' hc' k _ => ?_, (fun _ hx => nomatch hw.symm.trans hx), fun _ hd => ?_⟩, hlive⟩
    · rw [complete_inj (hp.symm.trans hc')]
    · rw [hlive]; exact h.quiet hw hd

/-! ### preservation: `checkpoint` -/

/-- `checkpoint` spawns a writer on the live contents of a dirty dictionary without one, or does nothing -/
theorem checkpoint_cases (w : World) :
    (w.writer = none ∧ w.buf.dirty = true ∧
      checkpoint w = { w with writer := some { pc := .start, snap := w.buf.live, result := none, gen := w.buf.gen,
                                               old := w.fs .path },
                              buf := { w.buf with dirty := false } }) ∨
    ((w.writer ≠ none ∨ w.buf.dirty = false) ∧ checkpoint w = w) := by
  unfold checkpoint
  cases hw : w.writer with
  | some wr => exact .inr ⟨.inl nofun, rfl⟩
  | none => cases hd : w.buf.dirty <;> simp

/-- `checkpoint` registers a writer and clears `dirty`, nothing else -/
theorem checkpoint_frame (w : World) :
    (checkpoint w).phase = w.phase ∧ (checkpoint w).crashed = w.crashed ∧ (checkpoint w).fs = w.fs ∧
      (checkpoint w).buf.live = w.buf.live := by
  rcases checkpoint_cases w with ⟨_, _, e⟩ | ⟨_, e⟩ <;> rw [e] <;> exact ⟨rfl, rfl, rfl, rfl⟩

theorem checkpoint_phase (w : World) : (checkpoint w).phase = w.phase := (checkpoint_frame w).1
theorem checkpoint_crashed (w : World) : (checkpoint w).crashed = w.crashed := (checkpoint_frame w).2.1
theorem checkpoint_fs (w : World) : (checkpoint w).fs = w.fs := (checkpoint_frame w).2.2.1
theorem checkpoint_live (w : World) : (checkpoint w).buf.live = w.buf.live := (checkpoint_frame w).2.2.2

theorem checkpoint_clean (w : World) (h : w.writer = none) : (checkpoint w).buf.dirty = false := by
  rcases checkpoint_cases w with ⟨_, _, e⟩ | ⟨hn, e⟩ <;> rw [e]
  exact hn.resolve_left (· h)

/-- a writer after `checkpoint` is the one before it, or was spawned with the live contents as its snapshot -/
theorem checkpoint_writer (w : World) :
    (checkpoint w).writer = w.writer ∨ ∃ wr', (checkpoint w).writer = some wr' ∧ wr'.snap = w.buf.live := by
  rcases checkpoint_cases w with ⟨_, _, e⟩ | ⟨_, e⟩ <;> rw [e]
  · exact .inr ⟨_, rfl, rfl⟩
  · exact .inl rfl

theorem core_checkpoint (w : World) (h : Core w.buf w.writer w.fs) :
    Core (checkpoint w).buf (checkpoint w).writer (checkpoint w).fs := by
  rcases checkpoint_cases w with ⟨_, _, e⟩ | ⟨_, e⟩ <;> rw [e]
  · -- a fresh writer at `start`: only `pathOld`, `clean` and `agree` say anything
    refine ⟨h.path, h.agree, ?_, nofun⟩
    rintro _ ⟨⟩
    exact ⟨fun hp => by simp at hp, fun hp => by simp [PC.idx] at hp, fun _ => rfl,
      fun hp => by simp [PC.idx] at hp, fun _ => ⟨rfl, rfl⟩, live_untouched w.buf⟩
  · exact h

/-! ### preservation: the writer thread -/

/-- a hop that leaves the path alone: `Core` needs only the writer's clauses again -/
theorem core_hop {b : Buf} {wr wr' : Writer} {fs fs' : FS} (h : Core b (some wr) fs) (hp : fs' .path = fs .path)
    (hw : WInv fs' b wr') : Core b (some wr') fs' :=
  ⟨hp ▸ h.path, fun c hc => h.agree c (hp ▸ hc), fun _ e => Option.some.inj e ▸ hw, nofun⟩

/-- Every hop keeps the writer's part of the invariant; each clause of `WInv` speaks of a range of progress
    points, so at each hop all but the clauses named below are vacuous or inherited. -/
theorem core_wstep {b : Buf} {wr wr' : Writer} {fs fs' : FS} (h : Core b (some wr) fs)
    (hs : wstep wr fs = some (wr', fs')) :
    Core b (some wr') fs' ∧
    (fs' .path = fs .path ∨ (wr.pc = .synced ∧ fs' .path = some (.complete wr.snap))) := by
  have hx := h.wr wr rfl
  unfold wstep at hs
  cases hpc : wr.pc <;> rw [hpc] at hs <;> simp only at hs
  case finished => cases hs
  case synced =>
    -- the rename: the temp file is the complete snapshot, and becomes the path
    rw [hx.tmpC (Or.inr hpc)] at hs
    cases hs
    refine ⟨⟨⟨wr.snap, by simp⟩, fun c hc k hk => ?_, ?_, nofun⟩, Or.inr ⟨rfl, by simp⟩⟩
    · rw [← complete_inj ((setF_tmp_path ..).symm.trans hc |>.symm.trans (setF_same ..) |>.symm)]
      exact hx.agree k hk
    · rintro _ ⟨⟩
      exact ⟨fun hp => by simp at hp, fun _ => by simp, fun hp => by simp [PC.idx] at hp,
        fun hp => by simp [PC.idx] at hp, hx.clean, hx.agree⟩
  all_goals
    cases hs
    have hidx : wr.pc.idx = _ := congrArg PC.idx hpc
    refine ⟨core_hop h (by simp) ?_, Or.inl (by simp)⟩
  case start =>
    exact ⟨fun hp => by simp at hp, fun hp => by simp [PC.idx] at hp,
      fun _ => hx.pathOld (by rw [hidx]; decide), fun hp => by simp [PC.idx] at hp, hx.clean, hx.agree⟩
  case collected =>
    exact ⟨fun hp => by simp at hp, fun hp => by simp [PC.idx] at hp,
      fun _ => (setF_tmp_path ..).trans (hx.pathOld (by rw [hidx]; decide)), fun hp => by simp [PC.idx] at hp,
      hx.clean, hx.agree⟩
  case created =>
    exact ⟨fun hp => by simp at hp, fun hp => by simp [PC.idx] at hp,
      fun _ => (setF_tmp_path ..).trans (hx.pathOld (by rw [hidx]; decide)), fun hp => by simp [PC.idx] at hp,
      hx.clean, hx.agree⟩
  case written =>
    -- `flush()` completes the temp file
    exact ⟨fun _ => setF_same .., fun hp => by simp [PC.idx] at hp,
      fun _ => (setF_tmp_path ..).trans (hx.pathOld (by rw [hidx]; decide)), fun hp => by simp [PC.idx] at hp,
      hx.clean, hx.agree⟩
  case flushed =>
    exact ⟨fun _ => hx.tmpC (Or.inl hpc), fun hp => by simp [PC.idx] at hp,
      fun _ => hx.pathOld (by rw [hidx]; decide), fun hp => by simp [PC.idx] at hp, hx.clean, hx.agree⟩
  case renamed =>
    exact ⟨fun hp => by simp at hp, fun _ => hx.pathNew (by rw [hidx]; decide),
      fun hp => by simp [PC.idx] at hp, fun hp => by simp [PC.idx] at hp, hx.clean, hx.agree⟩
  case built =>
    -- `Trie::open(path)` reads the snapshot back
    have hnew := hx.pathNew (by rw [hidx]; decide)
    exact ⟨fun hp => by simp at hp, fun _ => hnew, fun hp => by simp [PC.idx] at hp,
      fun _ => readPath_eq_some.mpr hnew, hx.clean, hx.agree⟩
  case reopened =>
    exact ⟨fun hp => by simp at hp, fun _ => hx.pathNew (by rw [hidx]; decide),
      fun hp => by simp [PC.idx] at hp, fun _ => hx.res (by rw [hidx]; decide), hx.clean, hx.agree⟩

/-! ### one step -/

/-- The enabled transitions of a world that has not died, one constructor per branch of `step`. -/
inductive Step (cfg : Cfg) (w : World) : Act → World → Prop
  | crash : Step cfg w .crash { w with crashed := true }
  | w {wr wr' : Writer} {fs' : FS} : w.writer = some wr → wstep wr w.fs = some (wr', fs') →
      Step cfg w .w { w with writer := some wr', fs := fs' }
  | add (k : Key) (v : Val) : w.phase = .run → Step cfg w (.add k v) { w with buf := (w.buf.add cfg k v).1 }
  | update (k : Key) (v : Val) : w.phase = .run → Step cfg w (.update k v) { w with buf := w.buf.put cfg k v }
  | remove (k : Key) : w.phase = .run → Step cfg w (.remove k) { w with buf := w.buf.remove k }
  | flush : w.phase = .run → Step cfg w .flush (checkpoint w)
  | reopen : w.phase = .run → Step cfg w .reopen (sync w)
  | close : w.phase = .run → Step cfg w .close { w with phase := if cfg.joinFirst then .dJoin0 else .dSync }
  | dJoin0 : w.phase = .dJoin0 → writerDone w = true → Step cfg w .d { w with writer := none, phase := .dSync }
  | dSync : w.phase = .dSync → Step cfg w .d { sync w with phase := .dFlush }
  | dFlush : w.phase = .dFlush → Step cfg w .d { checkpoint w with phase := .dJoin }
  | dJoin : w.phase = .dJoin → writerDone w = true → Step cfg w .d { w with writer := none, phase := .closed }
  | open_ {c : Content} : w.phase = .closed → readPath w.fs = some c →
      Step cfg w .open_ { w with buf := Buf.fresh c w.buf.gen, phase := .run }

/-- inversion of `step`: proofs about one step go by cases on `Step` -/
theorem step_some {cfg : Cfg} {w w' : World} {a : Act} (h : step cfg w a = some w') :
    w.crashed = false ∧ Step cfg w a w' := by
  by_cases hc : w.crashed = true
  · simp [step, hc] at h
  · refine ⟨Bool.eq_false_iff.mpr hc, ?_⟩
    unfold step at h
    rw [if_neg hc] at h
    cases a <;> simp only at h
    case crash => cases h; exact .crash
    case w =>
      split at h
      · split at h
        · cases h; exact .w ‹_› ‹_›
        · cases h
      · cases h
    case add k v => split at h <;> cases h; exact .add k v ‹_›
    case update k v => split at h <;> cases h; exact .update k v ‹_›
    case remove k => split at h <;> cases h; exact .remove k ‹_›
    case flush => split at h <;> cases h; exact .flush ‹_›
    case reopen => split at h <;> cases h; exact .reopen ‹_›
    case close => split at h <;> cases h; exact .close ‹_›
    case d =>
      split at h
      · split at h <;> cases h; exact .dJoin0 ‹_› ‹_›
      · cases h; exact .dSync ‹_›
      · cases h; exact .dFlush ‹_›
      · split at h <;> cases h; exact .dJoin ‹_› ‹_›
      · cases h
    case open_ =>
      split at h
      · split at h
        · cases h; exact .open_ ‹_› ‹_›
        · cases h
      · cases h

theorem step_of_Step {cfg : Cfg} {w w' : World} {a : Act} (hc : w.crashed = false) (h : Step cfg w a w') :
    step cfg w a = some w' := by
  cases h <;> simp [step, *]

theorem phaseInv_of_run {cfg : Cfg} {w : World} (h : w.phase = .run) : PhaseInv cfg w := by
  refine ⟨fun _ h2 => ?_, fun _ h2 => ?_, fun h2 => ?_⟩ <;> rw [h] at h2 <;> exact nomatch h2

/-- the only step that changes what the path holds is the writer's rename, and it installs the
    complete snapshot -/
def PathStep (w : World) (a : Act) (w' : World) : Prop :=
  w'.fs .path = w.fs .path ∨
  ∃ wr, w.writer = some wr ∧ wr.pc = .synced ∧ a = .w ∧ w'.fs .path = some (.complete wr.snap)

/-- the live contents after a step, as a function of the state before it -/
def liveAfter (cfg : Cfg) (w : World) (a : Act) : Content :=
  match a with
  | .add k v => (w.buf.add cfg k v).1.live
  | .update k v => (w.buf.put cfg k v).live
  | .remove k => (w.buf.remove k).live
  | .open_ => (readPath w.fs).getD w.buf.live
  | _ => w.buf.live

theorem step_facts {cfg : Cfg} {w w' : World} {a : Act} (hi : Inv cfg w) (hs : step cfg w a = some w') :
    Inv cfg w' ∧ PathStep w a w' ∧ w'.buf.live = liveAfter cfg w a := by
  have hc := hi.core
  cases (step_some hs).2 with
  | crash => exact ⟨⟨hc, ⟨hi.ph.dropA, hi.ph.dropB, hi.ph.closedW⟩⟩, Or.inl rfl, rfl⟩
  | @w wr wr' fs' hw hws =>
    -- a registered writer excludes the phases that `PhaseInv` constrains through `writer = none`
    rw [hw] at hc
    obtain ⟨hc', hp⟩ := core_wstep hc hws
    refine ⟨⟨hc', ⟨fun hj hph => ?_, hi.ph.dropB, fun hph => ?_⟩⟩, ?_, rfl⟩
    · exact nomatch hw.symm.trans (hi.ph.dropA hj hph)
    · exact nomatch hw.symm.trans (hi.ph.closedW hph)
    · exact hp.imp id (fun ⟨hp1, hp2⟩ => ⟨wr, hw, hp1, rfl, hp2⟩)
  | add k v hph => exact ⟨⟨core_add cfg k v hc, phaseInv_of_run hph⟩, Or.inl rfl, rfl⟩
  | update k v hph => exact ⟨⟨core_put cfg k v hc, phaseInv_of_run hph⟩, Or.inl rfl, rfl⟩
  | remove k hph => exact ⟨⟨core_remove k hc, phaseInv_of_run hph⟩, Or.inl rfl, rfl⟩
  | flush hph =>
    exact ⟨⟨core_checkpoint w hc, phaseInv_of_run ((checkpoint_phase w).trans hph)⟩,
      Or.inl (by rw [checkpoint_fs]), checkpoint_live w⟩
  | reopen hph =>
    exact ⟨⟨(core_sync w hc).1, phaseInv_of_run ((sync_phase w).trans hph)⟩,
      Or.inl (by rw [sync_fs]), (core_sync w hc).2⟩
  | close hph =>
    refine ⟨⟨hc, ⟨fun hj h2 => ?_, fun hj h2 => ?_, fun h2 => ?_⟩⟩, Or.inl rfl, rfl⟩
    · simp only [hj, ite_true] at h2
      rcases h2 with h2 | h2 <;> cases h2
    · simp only [hj, ite_true] at h2
      rcases h2 with h2 | h2 <;> cases h2
    · simp only at h2
      split at h2 <;> cases h2
  | dJoin0 hph hdone =>
    exact ⟨⟨core_join w hc hdone, ⟨fun _ _ => rfl, fun _ => nofun, nofun⟩⟩,
      Or.inl rfl, rfl⟩
  | dSync hph =>
    exact ⟨⟨(core_sync w hc).1, ⟨fun hj _ => sync_writer_none w (hi.ph.dropA hj (Or.inl hph)),
        fun _ => nofun, nofun⟩⟩,
      Or.inl (congrFun (sync_fs w) _), (core_sync w hc).2⟩
  | dFlush hph =>
    exact ⟨⟨core_checkpoint w hc, ⟨fun _ => nofun,
        fun hj _ => checkpoint_clean w (hi.ph.dropA hj (Or.inr hph)), nofun⟩⟩,
      Or.inl (congrFun (checkpoint_fs w) _), checkpoint_live w⟩
  | dJoin hph hdone =>
    exact ⟨⟨core_join w hc hdone, ⟨fun _ => nofun,
        fun hj _ => hi.ph.dropB hj (Or.inl hph), fun _ => rfl⟩⟩, Or.inl rfl, rfl⟩
  | @open_ c hph hrp =>
    have hp := readPath_eq_some.mp hrp
    refine ⟨⟨⟨hc.path, ?_, ?_, ?_⟩, phaseInv_of_run rfl⟩, Or.inl rfl, ?_⟩
    · intro c' hc' k _
      rw [← complete_inj (hp.symm.trans hc')]
      rfl
    · intro x hx
      exact nomatch hx.symm.trans (hi.ph.closedW hph)
    · intro _ _
      show w.fs .path = some (.complete (Buf.fresh c w.buf.gen).live)
      rw [live_fresh, hp]
    · show (Buf.fresh c w.buf.gen).live = liveAfter cfg w .open_
      simp [liveAfter, hrp, live_fresh]

/-! ### runs -/

theorem folds {cfg : Cfg} : Folds (· = some ·) (step cfg) (run cfg) :=
  ⟨by simp [run], fun w a _ => by rw [run]; cases step cfg w a <;> simp⟩

theorem inv_run {cfg : Cfg} {acts : List Act} {w w' : World} (hi : Inv cfg w) (hr : run cfg w acts = some w') :
    Inv cfg w' :=
  folds.always (fun hi hs => (step_facts hi hs).1) acts hi hr

theorem inv_reachable {cfg : Cfg} {w : World} (h : Reachable cfg w) : Inv cfg w := by
  obtain ⟨c0, t0, acts, hr⟩ := h
  exact inv_run (inv_init cfg c0 t0) hr

theorem reachable_step {cfg : Cfg} {w w' : World} {a : Act} (h : Reachable cfg w) (hs : step cfg w a = some w') :
    Reachable cfg w' := by
  obtain ⟨c0, t0, acts, hr⟩ := h
  exact ⟨c0, t0, acts ++ [a], (folds.append hr _).trans (folds.one.mpr hs)⟩

/-! ### the live contents follow the accepted changes -/

theorem liveAfter_spec {cfg : Cfg} (hrv : cfg.revive = true) (hj : cfg.joinFirst = true) {w w' : World} {a : Act}
    (hi : Inv cfg w) (hs : step cfg w a = some w') : liveAfter cfg w a = applyChange w.buf.live a := by
  cases (step_some hs).2 with
  | add k v =>
    simp only [liveAfter, applyChange, Buf.add]
    split
    · rfl
    · exact live_put_revive cfg hrv w.buf k v
  | update k v => exact live_put_revive cfg hrv w.buf k v
  | remove k => exact live_remove w.buf k
  | open_ hph =>
    -- a closed dictionary is clean and has no writer: the file holds the live contents
    have hq := hi.core.quiet (hi.ph.closedW hph) (hi.ph.dropB hj (Or.inr hph))
    simp [liveAfter, applyChange, readPath_eq_some.mpr hq]
  | _ => rfl

theorem live_run {cfg : Cfg} (hrv : cfg.revive = true) (hj : cfg.joinFirst = true) {acts : List Act} {w w' : World}
    (hi : Inv cfg w) (hr : run cfg w acts = some w') : w'.buf.live = acts.foldl applyChange w.buf.live := by
  induction acts generalizing w with
  | nil => cases hr; rfl
  | cons a as ih =>
    obtain ⟨w1, hs, hr⟩ := folds.cons_ok.mp hr
    have hf := step_facts hi hs
    rw [ih hf.1 hr, hf.2.2, liveAfter_spec hrv hj hi hs]
    rfl

/-! ### the editor only ever issues dictionary calls -/

theorem edStep_some {cfg : Cfg} {e e' : EdWorld} {a : EdAct} (h : edStep cfg e a = some e') :
    run cfg e.w (edExpand e.dirtyLevel a).1 = some e'.w ∧ e'.dirtyLevel = (edExpand e.dirtyLevel a).2 := by
  unfold edStep at h
  split at h
  · cases h; exact ⟨‹_›, rfl⟩
  · cases h

theorem edFolds {cfg : Cfg} : Folds (· = some ·) (edStep cfg) (edRun cfg) :=
  ⟨by simp [edRun], fun e a _ => by rw [edRun]; cases edStep cfg e a <;> simp⟩

/-! ### the editor never lets `sync` adopt -/

/-- what the editor's environment may do: drop the editor, the parts of `Drop`, writer steps, a crash -/
def EnvOk : EdAct → Prop
  | .env a => a = .close ∨ a = .d ∨ a = .w ∨ a = .crash
  | _ => True

/-- while the editor is alive, a positive `dirty_level` means the dictionary is dirty -/
def EdInv (e : EdWorld) : Prop := e.w.phase = .run → 0 < e.dirtyLevel → e.w.buf.dirty = true

theorem edInv_step {cfg : Cfg} {e e' : EdWorld} {a : EdAct} (hi : EdInv e) (ha : EnvOk a)
    (hs : edStep cfg e a = some e') : EdInv e' := by
  obtain ⟨w', dl'⟩ := e'
  obtain ⟨hr, rfl⟩ : run cfg e.w (edExpand e.dirtyLevel a).1 = some w' ∧ dl' = _ := edStep_some hs
  intro (hph : w'.phase = .run) (hpos : 0 < (edExpand e.dirtyLevel a).2)
  show w'.buf.dirty = true
  cases a with
  | learn k v known =>
    cases known with
    | true => cases (step_some (folds.one.mp hr)).2; rfl
    | false =>
      cases (step_some (folds.one.mp hr)).2 with
      | add _ _ hrun =>
        simp only [Buf.add]
        split
        · exact hi hrun hpos
        · rfl
  | unlearn k => cases (step_some (folds.one.mp hr)).2; rfl
  | key =>
    -- `dirty_level` is reset by the flush, or it was 0 and nothing happened
    simp only [edExpand] at hpos hr
    split at hpos
    · exact absurd hpos (by decide)
    · next hz =>
      rw [if_neg hz] at hr
      cases hr
      exact hi hph hpos
  | env a =>
    -- `close` and the parts of `Drop` leave `run` for good; the writer and a crash do not touch the buffer
    rcases ha with rfl | rfl | rfl | rfl
    · cases (step_some (folds.one.mp hr)).2
      simp only at hph
      split at hph <;> cases hph
    · cases (step_some (folds.one.mp hr)).2 <;> cases hph
    · cases (step_some (folds.one.mp hr)).2; exact hi hph hpos
    · cases (step_some (folds.one.mp hr)).2; exact hi hph hpos

theorem edInv_run {cfg : Cfg} {eacts : List EdAct} {e e' : EdWorld} (hi : EdInv e) (ha : ∀ a ∈ eacts, EnvOk a)
    (h : edRun cfg e eacts = some e') : EdInv e' :=
  edFolds.inv (fun ha hi hs => edInv_step hi ha hs) eacts ha hi h

end Chewing.Persist
