import Chewing.Model.Layered
import Chewing.Proofs.KeyedList
/-!
Properties of the de-duplication loop shared by `Layered` and `TrieBuf` (`dedup`):
one entry per text, at the position of the first appearance, every result is one of the candidates
and carries the highest frequency among the candidates with its text; identity on duplicate-free input.
-/
namespace Chewing

def texts (l : List Phrase) : List Text := l.map (·.text)

@[simp] theorem texts_nil : texts [] = [] := rfl
@[simp] theorem texts_cons (p : Phrase) (l : List Phrase) : texts (p :: l) = p.text :: texts l := rfl
@[simp] theorem texts_append (a b : List Phrase) : texts (a ++ b) = texts a ++ texts b := by simp [texts]

theorem mem_texts {t : Text} {l : List Phrase} : t ∈ texts l ↔ ∃ p ∈ l, p.text = t := by
  simp [texts]

theorem any_text_iff (acc : List Phrase) (t : Text) : acc.any (fun q => q.text == t) = true ↔ t ∈ texts acc := by
  simp [texts, List.any_eq_true]

/-- pairwise different texts, as a relation on the phrases -/
theorem texts_nodup_iff (l : List Phrase) : (texts l).Nodup ↔ l.Pairwise (fun p q => p.text ≠ q.text) :=
  List.pairwise_map

theorem texts_map_same {acc : List Phrase} {g : Phrase → Phrase} (hg : ∀ q, (g q).text = q.text) :
    texts (acc.map g) = texts acc := by
  simp [texts, Function.comp_def, hg]

/-! ### first occurrences -/

def firstOccStep (ts : List Text) (t : Text) : List Text := if t ∈ ts then ts else ts ++ [t]
def firstOcc (l : List Text) : List Text := l.foldl firstOccStep []

theorem mem_firstOccStep {ts : List Text} {t x : Text} : x ∈ firstOccStep ts t ↔ x ∈ ts ∨ x = t := by
  unfold firstOccStep
  split
  · rename_i h
    exact ⟨Or.inl, fun hx => hx.elim id (· ▸ h)⟩
  · simp

theorem firstOccStep_nodup {ts : List Text} (h : ts.Nodup) (t : Text) : (firstOccStep ts t).Nodup :=
  nodup_add_if_absent h t

theorem mem_foldl_firstOccStep (l : List Text) {ts : List Text} {x : Text} :
    x ∈ l.foldl firstOccStep ts ↔ x ∈ ts ∨ x ∈ l := by
  induction l generalizing ts with
  | nil => simp
  | cons t l ih => simp only [List.foldl, ih, mem_firstOccStep, List.mem_cons, or_assoc]

theorem foldl_firstOccStep_nodup (l : List Text) {ts : List Text} (h : ts.Nodup) : (l.foldl firstOccStep ts).Nodup := by
  induction l generalizing ts with
  | nil => exact h
  | cons t l ih => exact ih (firstOccStep_nodup h t)

theorem firstOcc_nodup (l : List Text) : (firstOcc l).Nodup := foldl_firstOccStep_nodup l List.nodup_nil

theorem mem_firstOcc {l : List Text} {x : Text} : x ∈ firstOcc l ↔ x ∈ l := by
  rw [firstOcc, mem_foldl_firstOccStep]; simp

/-! ### loops that keep one entry per text

The de-duplication loop (`dedupStep`) and `TrieBuilder::insert` (`Trie.insRepl`) are folds of a step that
appends a phrase whose text is new and otherwise rewrites the entry of that text in place. -/

section Loop
variable {step : List Phrase → Phrase → List Phrase}

theorem texts_foldl_step (h : ∀ acc p, texts (step acc p) = firstOccStep (texts acc) p.text) (l acc : List Phrase) :
    texts (l.foldl step acc) = (texts l).foldl firstOccStep (texts acc) := by
  induction l generalizing acc with
  | nil => rfl
  | cons p l ih => simp [List.foldl, ih, h]

theorem mem_foldl_step (h : ∀ {acc p x}, x ∈ step acc p → x ∈ acc ∨ x = p) (l : List Phrase) {acc : List Phrase}
    {x : Phrase} (hx : x ∈ l.foldl step acc) : x ∈ acc ∨ x ∈ l := by
  induction l generalizing acc with
  | nil => exact Or.inl hx
  | cons p l ih =>
    rcases ih hx with hx | hx
    · exact (h hx).imp_right fun e => by simp [e]
    · exact Or.inr (List.mem_cons_of_mem _ hx)

theorem foldl_step_of_nodup (h : ∀ {acc p}, p.text ∉ texts acc → step acc p = acc ++ [p]) (l acc : List Phrase)
    (hn : (texts (acc ++ l)).Nodup) : l.foldl step acc = acc ++ l := by
  induction l generalizing acc with
  | nil => simp
  | cons p l ih =>
    have hp : p.text ∉ texts acc := fun hm =>
      (List.nodup_append.mp (by simpa using hn)).2.2 _ hm _ List.mem_cons_self rfl
    rw [List.foldl, h hp, ih _ (by simpa using hn)]
    simp

end Loop

/-! ### one iteration of `dedup` -/

theorem phraseMax_cases (p q : Phrase) : phraseMax p q = p ∨ phraseMax p q = q := by
  unfold phraseMax; split <;> simp

theorem phraseMax_freq (p q : Phrase) : p.freq ≤ (phraseMax p q).freq ∧ q.freq ≤ (phraseMax p q).freq := by
  unfold phraseMax phraseCmp
  by_cases h1 : p.freq < q.freq
  · rw [if_pos h1]; exact ⟨Nat.le_of_lt h1, Nat.le_refl _⟩
  · rw [if_neg h1]
    by_cases h2 : q.freq < p.freq
    · rw [if_pos h2]; exact ⟨Nat.le_refl _, Nat.le_of_lt h2⟩
    · rw [if_neg h2]
      have : p.freq = q.freq := by omega
      split <;> simp [this]

/-- what an iteration on `p` does to an entry `q` already collected: the text stays, the frequency does
    not drop, and an entry of `p`'s text ends up with at least `p`'s frequency -/
theorem absorb_spec (p q : Phrase) :
    let r := if q.text == p.text then phraseMax p q else q
    r.text = q.text ∧ q.freq ≤ r.freq ∧ (q.text = p.text → p.freq ≤ r.freq) ∧ (r = p ∨ r = q) := by
  by_cases e : q.text = p.text
  · simp only [e, beq_self_eq_true, if_true, true_imp_iff]
    refine ⟨?_, (phraseMax_freq p q).2, (phraseMax_freq p q).1, phraseMax_cases p q⟩
    rcases phraseMax_cases p q with c | c <;> simp [c, e]
  · simp [e]

theorem dedupStep_eq (acc : List Phrase) (p : Phrase) :
    dedupStep acc p = if p.text ∈ texts acc then acc.map (fun q => if q.text == p.text then phraseMax p q else q)
      else acc ++ [p] := by
  simp only [dedupStep, any_text_iff]

theorem texts_dedupStep (acc : List Phrase) (p : Phrase) : texts (dedupStep acc p) = firstOccStep (texts acc) p.text := by
  rw [dedupStep_eq, firstOccStep]
  split
  · exact texts_map_same fun q => (absorb_spec p q).1
  · simp

theorem mem_dedupStep {acc : List Phrase} {p x : Phrase} (h : x ∈ dedupStep acc p) : x ∈ acc ∨ x = p := by
  rw [dedupStep_eq] at h
  split at h
  · obtain ⟨q, hq, e⟩ := List.mem_map.mp h
    rw [← e]
    rcases (absorb_spec p q).2.2.2 with c | c
    · exact Or.inr c
    · exact Or.inl (by rw [c]; exact hq)
  · simpa using h

/-- a frequency reached for a text stays reached -/
theorem dedupStep_dominates {acc : List Phrase} (p : Phrase) {t : Text} {n : Nat}
    (h : ∃ q ∈ acc, q.text = t ∧ n ≤ q.freq) : ∃ r ∈ dedupStep acc p, r.text = t ∧ n ≤ r.freq := by
  obtain ⟨q, hq, et, hn⟩ := h
  rw [dedupStep_eq]
  split
  · have hs := absorb_spec p q
    exact ⟨_, List.mem_map_of_mem hq, hs.1.trans et, Nat.le_trans hn hs.2.1⟩
  · exact ⟨q, by simp [hq], et, hn⟩

theorem dedupStep_dominates_new (acc : List Phrase) (p : Phrase) :
    ∃ r ∈ dedupStep acc p, r.text = p.text ∧ p.freq ≤ r.freq := by
  rw [dedupStep_eq]
  split
  · rename_i h
    obtain ⟨q, hq, e⟩ := mem_texts.mp h
    have hs := absorb_spec p q
    exact ⟨_, List.mem_map_of_mem hq, hs.1.trans e, hs.2.2.1 e⟩
  · exact ⟨p, by simp, rfl, Nat.le_refl _⟩

/-! ### the loop -/

theorem texts_dedup (l : List Phrase) : texts (dedup l) = firstOcc (texts l) :=
  texts_foldl_step texts_dedupStep l []

theorem dedup_texts_nodup (l : List Phrase) : (texts (dedup l)).Nodup := by
  rw [texts_dedup]; exact firstOcc_nodup _

theorem mem_texts_dedup {l : List Phrase} {t : Text} : t ∈ texts (dedup l) ↔ t ∈ texts l := by
  rw [texts_dedup, mem_firstOcc]

theorem mem_of_mem_dedup {l : List Phrase} {x : Phrase} (h : x ∈ dedup l) : x ∈ l :=
  (mem_foldl_step mem_dedupStep l h).resolve_left (by simp)

theorem foldl_dedupStep_dominates (l : List Phrase) {acc : List Phrase} {t : Text} {n : Nat}
    (h : (∃ q ∈ acc, q.text = t ∧ n ≤ q.freq) ∨ ∃ q ∈ l, q.text = t ∧ n ≤ q.freq) :
    ∃ r ∈ l.foldl dedupStep acc, r.text = t ∧ n ≤ r.freq := by
  induction l generalizing acc with
  | nil => simpa using h
  | cons p l ih =>
    apply ih (acc := dedupStep acc p)
    rcases h with h | ⟨q, hq, et, hn⟩
    · exact Or.inl (dedupStep_dominates p h)
    · rcases List.mem_cons.mp hq with rfl | hq
      · obtain ⟨r, hr, e, f⟩ := dedupStep_dominates_new acc q
        exact Or.inl ⟨r, hr, e.trans et, Nat.le_trans hn f⟩
      · exact Or.inr ⟨q, hq, et, hn⟩

theorem dedup_max {l : List Phrase} {q : Phrase} (h : q ∈ l) :
    ∃ r ∈ dedup l, r.text = q.text ∧ q.freq ≤ r.freq :=
  foldl_dedupStep_dominates l (Or.inr ⟨q, h, rfl, Nat.le_refl _⟩)

theorem dedup_highest {l : List Phrase} {p q : Phrase} (hp : p ∈ dedup l) (hq : q ∈ l) (e : q.text = p.text) :
    q.freq ≤ p.freq := by
  obtain ⟨r, hr, er, f⟩ := dedup_max hq
  -- r and p have the same text and both are in the duplicate-free result, so r = p
  rwa [key_unique ((texts_nodup_iff _).mp (dedup_texts_nodup l)) hr hp (er.trans e)] at f

theorem dedup_of_nodup {l : List Phrase} (h : (texts l).Nodup) : dedup l = l :=
  foldl_step_of_nodup (fun hp => by rw [dedupStep_eq, if_neg hp]) l [] h

end Chewing
