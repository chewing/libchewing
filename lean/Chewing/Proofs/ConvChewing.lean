import Chewing.Proofs.ConvLive
/-!
Soundness of `ChewingEngine::convert` (any strategy, any pick oracle): every alternative is the glue
fold of a chain of graph edges from `0` to `len`, hence a chain of intervals satisfying the invariants.
-/
namespace Chewing.Conv

/-- an alternative is `[]` on the empty buffer, else the glue fold of a k-path (a chain of graph edges) that survived
    `trim_paths` and the sort -/
theorem convertChewing_shape {pick : Nat → List Path → Nat} {d : Dict} {strat : Strategy} {c : Composition}
    {alts : List (List Interval)} (hc : CompValid c) (h : convertChewing pick d strat c = .ok alts) :
    ∀ alt ∈ alts, (c.symbols.length = 0 ∧ alt = []) ∨
      ∃ es path, findIntervals d strat c = .ok es ∧ IsChain es 0 c.symbols.length path ∧ alt = gluePath c path := by
  intro alt halt
  unfold convertChewing at h
  split at h
  · rename_i h0
    cases Outcome.ok.inj h
    simp only [List.mem_singleton] at halt
    exact Or.inl ⟨h0, halt⟩
  · split at h
    · rename_i paths hraw
      unfold rawPaths at hraw
      split at hraw
      · rename_i es hes
        obtain ⟨p0, hp0⟩ := reach_zero hc hes
        have hchain := findKPaths_chain (edgesValid_of_findIntervals hes) hp0 hraw
        unfold finishPaths at h
        split at h
        · cases h
        · split at h
          · rename_i sorted hsorted
            cases Outcome.ok.inj h
            obtain ⟨path, hp, rfl⟩ := List.mem_map.mp halt
            have := trimPaths_sub path ((sortPaths_mem hsorted path).mp hp)
            exact Or.inr ⟨es, path, hes, hchain path this, rfl⟩
          · cases h
          · cases h
      · cases hraw
      · cases hraw
    · cases h
    · cases h

/-- every alternative of every engine is a chain from `0` to `len`, and its intervals satisfy every
    merge-closed `P` that holds of the four kinds of interval the engines start from (the simple engine
    merges nothing) -/
theorem convert_kinds {pick : Nat → List Path → Nat} {eng : Engine} {d : Dict} {c : Composition}
    {alts : List (List Interval)} {P : Interval → Prop} (hc : CompValid c) (hmerge : MergeClosed c P)
    (hkind : ∀ iv, IvKind d eng.strategy c iv → P iv) (h : convert pick eng d c = .ok alts) :
    ∀ alt ∈ alts, IvChain 0 c.symbols.length alt ∧ ∀ iv ∈ alt, P iv := by
  have chewing : ∀ strat, (∀ iv, IvKind d strat c iv → P iv) → convertChewing pick d strat c = .ok alts →
      ∀ alt ∈ alts, IvChain 0 c.symbols.length alt ∧ ∀ iv ∈ alt, P iv := by
    intro strat hkind h alt halt
    rcases convertChewing_shape hc h alt halt with ⟨h0, rfl⟩ | ⟨es, path, hes, hchain, rfl⟩
    · exact ⟨h0.symm, nofun⟩
    · have hE := fun e he => findIntervals_edge hes (edge := e) he
      refine gluePath_spec hmerge (hchain.toIvChain fun e he => (hE e he).1.lt) fun iv hiv => ?_
      obtain ⟨e, he, rfl⟩ := List.mem_map.mp hiv
      exact hkind _ ((hE e (hchain.mem he)).1.ivKind (hE e (hchain.mem he)).2.2.2 hc)
  cases eng with
  | chewing => exact chewing _ hkind h
  | fuzzy => exact chewing _ hkind h
  | simple =>
    cases Outcome.ok.inj h
    intro alt halt
    rw [convertSimple_eq, List.mem_singleton] at halt
    subst halt
    exact ⟨convertSimple_chain hc, fun iv hiv => hkind iv (simple_kinds hc ((sortByStart_perm _).mem_iff.mp hiv))⟩

end Chewing.Conv
