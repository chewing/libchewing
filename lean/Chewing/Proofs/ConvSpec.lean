import Chewing.Model.ConversionSpec
/-!
The dictionary preconditions are decidable checks on the entry list for dictionaries given by entries
(`Dict.ofEntries`), and `ProvS` is `Prov` under `HasWord` (`provS_hasWord`).
-/
namespace Chewing.Conv

theorem mem_ofEntries_lookup {es : List Entry} {key : List Nat} {strat : Strategy} {p : Phrase} :
    p ∈ (Dict.ofEntries es).lookup key strat ↔ (key, p) ∈ es := by
  simp only [Dict.ofEntries, List.mem_map, List.mem_filter, beq_iff_eq]
  constructor
  · rintro ⟨e, ⟨he, hk⟩, rfl⟩
    rw [← hk]
    exact he
  · intro h
    exact ⟨(key, p), ⟨h, rfl⟩, rfl⟩

theorem noEmptyKey_ofEntries {es : List Entry} (h : ∀ e ∈ es, e.1 ≠ []) : NoEmptyKey (Dict.ofEntries es) := by
  intro strat
  rw [List.eq_nil_iff_forall_not_mem]
  intro p hp
  exact h _ (mem_ofEntries_lookup.mp hp) rfl

theorem wellFormed_ofEntries {es : List Entry} (h : ∀ e ∈ es, e.2.text.length = e.1.length) :
    WellFormed (Dict.ofEntries es) := by
  intro key strat p hp
  exact h _ (mem_ofEntries_lookup.mp hp)

theorem scoreBound_ofEntries {es : List Entry} {strat : Strategy} {c : Composition} (hl : c.symbols.length ≤ 128)
    (h : ∀ e ∈ es, e.2.freq ≤ 8388608) : ScoreBound (Dict.ofEntries es) strat c :=
  ⟨hl, fun _ _ hp => h _ (mem_ofEntries_lookup.mp hp)⟩

/-- with a word for every syllable there is no fallback interval: `ProvS` is `Prov` -/
theorem provS_hasWord {d : Dict} {strat : Strategy} {c : Composition} (hw : HasWord d strat c) {iv : Interval}
    (h : ProvS d strat c iv) : Prov d strat c iv := by
  induction h with
  | base hp => exact hp
  | spell hs =>
    obtain ⟨i, k, h1, h2, _, _⟩ := hs
    exact absurd h2 (hw k (List.mem_of_getElem? h1))
  | glue _ _ hg ih₁ ih₂ => exact Prov.glue ih₁ ih₂ hg

theorem hasWord_not_spelled {d : Dict} {strat : Strategy} {c : Composition} (hw : HasWord d strat c) {iv : Interval} :
    ¬ Spelled d strat c iv := by
  rintro ⟨i, k, h1, h2, _, _⟩
  exact hw k (List.mem_of_getElem? h1) h2

end Chewing.Conv
