import Chewing.Proofs.EditorRevalidate
import Chewing.Proofs.EditorFrame
/-!
The anatomy of a key event: `process_keyevent` = the preamble (`C06.preamble`: clock, per-key outputs reset), the
`next` of the state the editor is in followed by the transition (`C06.dispatch`), and the tail (`C06.tail`:
conditional auto-commit, flush of a dirty dictionary, the answer).  `processKey_eq` is the equation, `dispatch_all`
and `tail_cases` the two case principles; `select_api_all` the same for `Editor::select`, which shares the
auto-commit, `commit_api_all` for `Editor::commit`.  `C05.processKey_split` / `C05.tail_spec`: the two equations read
as existence statements, for callers that hold `= .ok`; `tail_keeps` / `processKey_quiet`: what the tail does to a key
answered *ignore* or *bell*.  For every environment.
-/
namespace Chewing.C06

variable {D L : Type} (env : Env D L)

/-- what the key preamble does before the state machine runs -/
def preamble (sh : Shared D L) : Shared D L :=
  { sh with time := sh.time + 1, noticeBuf := [], commitBuf := [] }

theorem preamble_fields (sh : Shared D L) :
    (preamble sh).com = sh.com ∧ (preamble sh).syl = sh.syl ∧ (preamble sh).options = sh.options ∧
    (preamble sh).engine = sh.engine ∧ (preamble sh).nth = sh.nth ∧ (preamble sh).noticeBuf = [] ∧
    (preamble sh).dict = sh.dict ∧ (preamble sh).dirty = sh.dirty ∧ (preamble sh).commitBuf = [] :=
  ⟨rfl, rfl, rfl, rfl, rfl, rfl, rfl, rfl, rfl⟩

/-- the state machine part of a key: new shared state, new state, transition -/
def dispatch (e : Editor D L) (ev : KeyEvent) : Outcome (Shared D L × St) :=
  match e.state with
  | .entering => (enteringNext env (preamble e.shared) ev).map fun (sh', t) => applyTrans sh' .entering t
  | .enteringSyllable =>
    (enteringSyllableNext env (preamble e.shared) ev).map fun (sh', t) => applyTrans sh' .enteringSyllable t
  | .selecting s =>
    (selectingNext env s (preamble e.shared) ev).map fun r => applyTrans r.shared (.selecting r.sel) r.trans
  | .highlighting m =>
    (highlightingNext env m (preamble e.shared) ev).map fun (sh', m', t) => applyTrans sh' (.highlighting m') t

/-- the part of `process_keyevent` after the state's `next`: auto-commit, dictionary flush, result -/
def tail (sh : Shared D L) (st : St) : Outcome (Editor D L × KB) :=
  match (if (st == .entering || st == .enteringSyllable) && sh.last == .absorb then Shared.tryAutoCommit env sh else .ok sh) with
  | .panic p => .panic p
  | .outOfFuel => .outOfFuel
  | .ok sh =>
    .ok ({ shared := if sh.dirty > 0 then { sh with dict := env.reopenFlush sh.dict, dirty := 0 } else sh,
           state := st },
         (if sh.dirty > 0 then { sh with dict := env.reopenFlush sh.dict, dirty := 0 } else sh).last)

theorem processKey_eq (e : Editor D L) (ev : KeyEvent) :
    e.processKey env ev =
      match dispatch env e ev with
      | .panic p => .panic p
      | .outOfFuel => .outOfFuel
      | .ok (sh, st) => tail env sh st := by
  unfold Editor.processKey dispatch preamble tail
  cases e.state <;> rfl

theorem dispatch_all {Q : Shared D L × St → Prop} {e : Editor D L} {ev : KeyEvent}
    (hE : e.state = .entering →
      StepAll (fun sh' t => Q (applyTrans sh' .entering t)) (enteringNext env (preamble e.shared) ev))
    (hS : e.state = .enteringSyllable →
      StepAll (fun sh' t => Q (applyTrans sh' .enteringSyllable t)) (enteringSyllableNext env (preamble e.shared) ev))
    (hL : ∀ s, e.state = .selecting s →
      ResAll (fun r => Q (applyTrans r.shared (.selecting r.sel) r.trans)) (selectingNext env s (preamble e.shared) ev))
    (hH : ∀ m, e.state = .highlighting m →
      ResAll (fun x => Q (applyTrans x.1 (.highlighting x.2.1) x.2.2)) (highlightingNext env m (preamble e.shared) ev)) :
    ResAll Q (dispatch env e ev) := by
  unfold dispatch
  split
  · next hs => exact .map fun a => hE hs a.1 a.2
  · next hs => exact .map fun a => hS hs a.1 a.2
  · next s hs => exact .map (hL s hs)
  · next m hs => exact .map (hH m hs)

/-- … for a property of the shared state that does not read `last`, the one field a transition writes -/
theorem dispatch_shared_all {Q : Shared D L → Prop} (hl : ∀ sh b, Q sh → Q { sh with last := b }) {e : Editor D L}
    {ev : KeyEvent}
    (hE : StepAll (fun sh' _ => Q sh') (enteringNext env (preamble e.shared) ev))
    (hS : StepAll (fun sh' _ => Q sh') (enteringSyllableNext env (preamble e.shared) ev))
    (hL : ∀ s, ResAll (fun r => Q r.shared) (selectingNext env s (preamble e.shared) ev))
    (hH : ∀ m, ResAll (fun x => Q x.1) (highlightingNext env m (preamble e.shared) ev)) :
    ResAll (fun x => Q x.1) (dispatch env e ev) :=
  have hat : ∀ {sh : Shared D L} {st t}, Q sh → Q (applyTrans sh st t).1 := fun {_ _ t} h => by
    cases t <;> exact hl _ _ h
  dispatch_all env (fun _ _ _ e => hat (hE _ _ e)) (fun _ _ _ e => hat (hS _ _ e)) (fun s _ _ e => hat (hL s _ e))
    fun m _ _ e => hat (hH m _ e)

theorem applyTrans_com (sh : Shared D L) (st : St) (t : Trans) : (applyTrans sh st t).1.com = sh.com := by
  cases t <;> rfl

/-- a recorded answer other than *absorb* is the answer of the state's own `spin` (a state switch records
    *absorb*) -/
theorem applyTrans_last {sh : Shared D L} {st : St} {t : Trans} {b : KB} (hb : b ≠ .absorb)
    (h : (applyTrans sh st t).1.last = b) : t = .spin b := by
  cases t with
  | toState s => exact absurd h.symm hb
  | spin b' => exact congrArg Trans.spin h

/-- the flush at the end of a key event writes the dictionary handle and its dirty counter, nothing else: after
    rewriting with this equation every other field of the flushed state is, by `rfl`, that field of `sh` -/
theorem flush_eq (sh : Shared D L) :
    (if sh.dirty > 0 then { sh with dict := env.reopenFlush sh.dict, dirty := 0 } else sh) =
      { sh with dict := if sh.dirty > 0 then env.reopenFlush sh.dict else sh.dict,
                dirty := if sh.dirty > 0 then 0 else sh.dirty } := by
  split <;> rfl

end Chewing.C06

theorem Chewing.C05.processKey_split {D L : Type} (env : Env D L) {e e' : Editor D L} {ev : KeyEvent} {b : KB}
    (h : e.processKey env ev = .ok (e', b)) :
    ∃ sh st, C06.dispatch env e ev = .ok (sh, st) ∧ C06.tail env sh st = .ok (e', b) := by
  rw [C06.processKey_eq] at h
  split at h
  · cases h
  · cases h
  · next sh st hd => exact ⟨sh, st, hd, h⟩

theorem Chewing.C05.tail_spec {D L : Type} (env : Env D L) {sh : Shared D L} {st : St} {e' : Editor D L} {b : KB}
    (h : C06.tail env sh st = .ok (e', b)) :
    e'.state = st ∧ b = e'.shared.last ∧
    ∃ sh2, (if (st == .entering || st == .enteringSyllable) && sh.last == .absorb then Shared.tryAutoCommit env sh else .ok sh) = .ok sh2 ∧
      e'.shared = (if sh2.dirty > 0 then { sh2 with dict := env.reopenFlush sh2.dict, dirty := 0 } else sh2) := by
  unfold C06.tail at h
  split at h
  · cases h
  · cases h
  · next sh2 hq => cases h; exact ⟨rfl, rfl, sh2, hq, rfl⟩

theorem Chewing.C05.tail_com {D L : Type} (env : Env D L) {sh : Shared D L} {st : St} {e' : Editor D L} {b : KB}
    (h : C06.tail env sh st = .ok (e', b)) :
    ∃ sh2, (if (st == .entering || st == .enteringSyllable) && sh.last == .absorb then Shared.tryAutoCommit env sh else .ok sh) = .ok sh2 ∧
      e'.shared.com = sh2.com ∧ e'.shared.options = sh2.options ∧ e'.shared.commitBuf = sh2.commitBuf ∧
      e'.shared.last = sh2.last ∧ e'.shared.syl = sh2.syl := by
  obtain ⟨_, _, sh2, h1, h2⟩ := tail_spec env h
  refine ⟨sh2, h1, ?_⟩
  rw [h2, C06.flush_eq]
  exact ⟨rfl, rfl, rfl, rfl, rfl⟩

namespace Chewing.C06

variable {D L : Type} (env : Env D L)

/-- `try_auto_commit` does nothing while the buffer is within the threshold; beyond it, it writes the commit
    buffer and the pre-edit, answers *commit*, and touches nothing else -/
theorem tryAutoCommit_threshold {sh sh2 : Shared D L} (h : Shared.tryAutoCommit env sh = .ok sh2) :
    (sh.com.len ≤ sh.options.autoCommitThreshold ∧ sh2 = sh) ∨
    (sh.options.autoCommitThreshold < sh.com.len ∧
      ∃ buf com, sh2 = { sh with commitBuf := buf, com := com, last := .commit }) :=
  (tryAutoCommit_cases env sh _ h).imp id fun ⟨_, com, buf, _, hx, hlt, _⟩ => ⟨hlt, buf, com, hx⟩

theorem tryAutoCommit_last {sh sh2 : Shared D L} (h : Shared.tryAutoCommit env sh = .ok sh2) :
    sh2 = sh ∨ sh2.last = .commit :=
  (tryAutoCommit_threshold env h).imp (·.2) fun ⟨_, _, _, e⟩ => e ▸ rfl

/-- the conditional auto-commit after a step (`process_keyevent`, `Editor::select`): it runs only after an
    absorbed step that ends in one of the two editing states, and does something — then answering *commit* —
    only when the buffer exceeds the threshold -/
theorem autoCommit_cases {sh sh2 : Shared D L} {st : St}
    (h : (if (st == .entering || st == .enteringSyllable) && sh.last == .absorb then Shared.tryAutoCommit env sh
      else .ok sh) = .ok sh2) :
    (sh2 = sh ∧
      (st = .entering ∨ st = .enteringSyllable → sh.last = .absorb → sh.com.len ≤ sh.options.autoCommitThreshold)) ∨
    ((st = .entering ∨ st = .enteringSyllable) ∧ sh.last = .absorb ∧ sh.options.autoCommitThreshold < sh.com.len ∧
      Shared.tryAutoCommit env sh = .ok sh2 ∧ sh2.last = .commit) := by
  split at h
  · next hc =>
    simp only [Bool.and_eq_true, Bool.or_eq_true, beq_iff_eq] at hc
    rcases tryAutoCommit_threshold env h with ⟨hle, rfl⟩ | ⟨hlt, _, _, rfl⟩
    · exact .inl ⟨rfl, fun _ _ => hle⟩
    · exact .inr ⟨hc.1, hc.2, hlt, h, rfl⟩
  · next hc =>
    cases h
    refine .inl ⟨rfl, fun h3 h4 => absurd ?_ hc⟩
    rw [h4]; rcases h3 with rfl | rfl <;> rfl

/-- `editorSelect_all` with the state and shared state after the transition named -/
theorem select_api_all {Q : Editor D L × Bool → Prop} {e : Editor D L} {n : Nat}
    (h0 : (∀ s, e.state ≠ .selecting s) → Q (e, false))
    (h : ∀ s s' sh t sh1 st sh2, e.state = .selecting s → Selecting.select env s e.shared n = .ok (s', sh, t) →
      applyTrans sh (.selecting s') t = (sh1, st) →
      (if (st == .entering || st == .enteringSyllable) && sh1.last == .absorb then Shared.tryAutoCommit env sh1
        else .ok sh1) = .ok sh2 →
      Q ({ shared := sh2, state := st }, sh2.last != .bell)) :
    ResAll Q (e.select env n) :=
  editorSelect_all env h0 fun s s' sh t sh2 hs hq hr => h s s' sh t _ _ sh2 hs hq rfl hr

theorem commit_api_all {Q : Editor D L × Bool → Prop} {e : Editor D L}
    (h0 : ¬ (e.state = .entering ∧ e.shared.com.isEmpty = false) → Q (e, false))
    (h : ∀ sh, e.state = .entering → e.shared.com.isEmpty = false → Shared.commit env e.shared = .ok sh →
      Q ({ e with shared := sh }, true)) : ResAll Q (e.commit env) := by
  unfold Editor.commit
  refine .ite (fun hc => .ok (h0 fun ⟨c1, c2⟩ => ?_)) fun hc => ?_
  · rw [c1, c2] at hc; cases hc
  · simp only [Bool.or_eq_true, bne_iff_ne, ne_eq, not_or, Decidable.not_not, Bool.not_eq_true] at hc
    split
    · next sh hq => exact .ok (h sh hc.1 hc.2 hq)
    · exact .panic _
    · exact .fuel

/-- **the part of `process_keyevent` after the state's `next`, case by case**: the state is the one the state
    machine chose, and either the tail only flushed a dirty dictionary and the answer is the recorded one, or the
    buffer was over the threshold after an absorbed step in an editing state: the auto-commit ran, the answer is
    *commit*, and its result was flushed -/
theorem tail_cases {sh : Shared D L} {st : St} {e' : Editor D L} {b : KB} (h : tail env sh st = .ok (e', b)) :
    e'.state = st ∧
    ((e'.shared = (if sh.dirty > 0 then { sh with dict := env.reopenFlush sh.dict, dirty := 0 } else sh) ∧ b = sh.last ∧
        (st = .entering ∨ st = .enteringSyllable → sh.last = .absorb → sh.com.len ≤ sh.options.autoCommitThreshold)) ∨
     ((st = .entering ∨ st = .enteringSyllable) ∧ sh.last = .absorb ∧ sh.options.autoCommitThreshold < sh.com.len ∧
        b = .commit ∧ ∃ sh2, Shared.tryAutoCommit env sh = .ok sh2 ∧
          e'.shared = if sh2.dirty > 0 then { sh2 with dict := env.reopenFlush sh2.dict, dirty := 0 } else sh2)) := by
  obtain ⟨hst, rfl, sh2, hq, hsh⟩ := C05.tail_spec env h
  refine ⟨hst, ?_⟩
  rw [show e'.shared.last = sh2.last by rw [hsh, flush_eq]]
  rcases autoCommit_cases env hq with ⟨rfl, hle⟩ | ⟨hst', hab, hlt, hac, hl⟩
  · exact .inl ⟨hsh, rfl, hle⟩
  · exact .inr ⟨hst', hab, hlt, hl, sh2, hac, hsh⟩

theorem tail_keeps {sh : Shared D L} {st : St} {e' : Editor D L} {b : KB}
    (h : tail env sh st = .ok (e', b)) (hb : b = .ignore ∨ b = .bell) :
    sh.last = b ∧ e'.state = st ∧
      e'.shared = if sh.dirty > 0 then { sh with dict := env.reopenFlush sh.dict, dirty := 0 } else sh := by
  obtain ⟨hst, ⟨hsh, hl, _⟩ | ⟨_, _, _, rfl, _⟩⟩ := tail_cases env h
  · exact ⟨hl.symm, hst, hsh⟩
  · rcases hb with hb | hb <;> cases hb

theorem processKey_quiet {e e' : Editor D L} {ev : KeyEvent} {b : KB} (hb : b = .ignore ∨ b = .bell)
    (h : e.processKey env ev = .ok (e', b)) :
    ∃ sh, dispatch env e ev = .ok (sh, e'.state) ∧ sh.last = b ∧
      e'.shared = if sh.dirty > 0 then { sh with dict := env.reopenFlush sh.dict, dirty := 0 } else sh := by
  obtain ⟨sh, st, hd, ht⟩ := C05.processKey_split env h
  obtain ⟨hl, rfl, hsh⟩ := tail_keeps env ht hb
  exact ⟨sh, hd, hl, hsh⟩

end Chewing.C06
