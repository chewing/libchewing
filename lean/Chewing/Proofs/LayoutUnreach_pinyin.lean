import Chewing.Model.LayoutUnreach
/-! Kernel evaluation of the unreachability check of the three Pinyin variants (known finding F21): every
    exact-match row and every (initial, final, tone) combination of the current tables. -/
namespace Chewing

theorem unreach_pinyin : ((List.range 3).all fun v => pinyinNeverB v (pinyinGaps v)) = true := by
  decide +kernel

end Chewing
