import Chewing.Model.TrieBuf
import Chewing.Proofs.Dedup
import Chewing.Proofs.StableSort
/-!
Lemmas about the abstract trie file: `TrieBuilder::insert` is "last insert of a (key, text) wins",
a built file has one leaf per key and one phrase per text, and what `baseGet` returns in terms of membership.
-/
namespace Chewing
open MapSpec

namespace Trie

def LeafOk (ps : List Phrase) : Prop := ps.Pairwise (fun p q => p.text ≠ q.text)

def SnapOk (t : List Leaf) : Prop := t.Pairwise (fun a b => a.1 ≠ b.1) ∧ ∀ l ∈ t, LeafOk l.2

theorem leafOk_iff (ps : List Phrase) : LeafOk ps ↔ (texts ps).Nodup :=
  (texts_nodup_iff ps).symm

theorem LeafOk.perm {a b : List Phrase} (h : a.Perm b) (ha : LeafOk a) : LeafOk b := by
  rw [leafOk_iff] at *
  exact (h.map _).nodup ha

theorem LeafOk.unique {ps : List Phrase} (h : LeafOk ps) {p q : Phrase} (hp : p ∈ ps) (hq : q ∈ ps)
    (e : p.text = q.text) : p = q :=
  key_unique h hp hq e

end Trie

namespace TrieBuf
open Trie

theorem baseGet_iff {t : List Leaf} (h : SnapOk t) {k : Key} {tx : Text} {v : Val} :
    baseGet t (k, tx) = some v ↔ ∃ l ∈ t, l.1 = k ∧ ∃ p ∈ l.2, p.text = tx ∧ valOf p = v := by
  unfold baseGet
  constructor
  · intro hb
    obtain ⟨l, hf, hb⟩ := Option.bind_eq_some_iff.mp hb
    obtain ⟨p, hp, hv⟩ := Option.map_eq_some_iff.mp hb
    obtain ⟨hl, e⟩ := (find_key_iff h.1).mp hf
    obtain ⟨hp', e'⟩ := (find_key_iff (h.2 l hl)).mp hp
    exact ⟨l, hl, e, p, hp', e', hv⟩
  · rintro ⟨l, hl, e, p, hp, e', hv⟩
    rw [(find_key_iff h.1).mpr ⟨hl, e⟩, Option.bind_some, (find_key_iff (h.2 l hl)).mpr ⟨hp, e'⟩, Option.map_some, hv]

end TrieBuf

namespace Trie

/-! ### `insRepl`: last insert wins -/

theorem insRepl_eq (acc : List Phrase) (p : Phrase) :
    insRepl acc p = if p.text ∈ texts acc then acc.map (fun q => if q.text == p.text then p else q) else acc ++ [p] := by
  simp only [insRepl, any_text_iff]

theorem mem_insRepl {acc : List Phrase} {p x : Phrase} :
    x ∈ insRepl acc p ↔ x = p ∨ (x ∈ acc ∧ x.text ≠ p.text) := by
  rw [insRepl_eq]
  split
  · rename_i h
    obtain ⟨q0, hq0, e0⟩ := mem_texts.mp h
    simp only [List.mem_map]
    constructor
    · rintro ⟨q, hq, rfl⟩
      by_cases c : q.text = p.text
      · simp [c]
      · simp [c, hq]
    · rintro (rfl | ⟨hx, c⟩)
      · exact ⟨q0, hq0, by simp [e0]⟩
      · exact ⟨x, hx, by simp [c]⟩
  · rename_i hn
    simp only [List.mem_append, List.mem_singleton]
    constructor
    · rintro (hx | rfl)
      · exact Or.inr ⟨hx, fun e => hn (mem_texts.mpr ⟨x, hx, e⟩)⟩
      · exact Or.inl rfl
    · rintro (rfl | ⟨hx, _⟩)
      · exact Or.inr rfl
      · exact Or.inl hx

theorem texts_insRepl (acc : List Phrase) (p : Phrase) : texts (insRepl acc p) = firstOccStep (texts acc) p.text := by
  rw [insRepl_eq, firstOccStep]
  split
  · exact texts_map_same fun q => by split <;> simp_all
  · simp

theorem leafOk_foldl_insRepl (l : List Phrase) : LeafOk (l.foldl insRepl []) := by
  rw [leafOk_iff, texts_foldl_step texts_insRepl]
  exact foldl_firstOccStep_nodup _ List.nodup_nil

theorem foldl_insRepl_of_leafOk {b : List Phrase} (hb : LeafOk b) : b.foldl insRepl [] = b :=
  foldl_step_of_nodup (fun hp => by rw [insRepl_eq, if_neg hp]) b [] ((leafOk_iff b).mp hb)

/-! ### keys of a built file -/

theorem mem_dedupKeys {l : List Key} {k : Key} : k ∈ dedupKeys l ↔ k ∈ l := by
  induction l with
  | nil => simp [dedupKeys]
  | cons x r ih =>
    simp only [dedupKeys, List.mem_cons, List.mem_filter, ih, bne_iff_ne, ne_eq]
    by_cases e : k = x <;> simp [e]

theorem dedupKeys_nodup (l : List Key) : (dedupKeys l).Nodup := by
  induction l with
  | nil => simp [dedupKeys]
  | cons x r ih =>
    rw [dedupKeys, List.nodup_cons]
    refine ⟨?_, List.Pairwise.filter _ ih⟩
    simp [List.mem_filter]

theorem find_map_key {β : Type} (f : Key → β) (keys : List Key) (k : Key) :
    (keys.map (fun x => (x, f x))).find? (fun l => l.1 == k) = if k ∈ keys then some (k, f k) else none := by
  induction keys with
  | nil => simp
  | cons x r ih =>
    simp only [List.map_cons, List.find?, List.mem_cons]
    by_cases e : x = k
    · subst e; simp
    · have e' : ¬ k = x := fun h => e h.symm
      have hb : (x == k) = false := by simpa using e
      simp [hb, e', ih]

theorem mem_build {es : List Entry} {l : Leaf} :
    l ∈ build es ↔ l.1 ∈ es.map (·.1) ∧ l.2 = isort leafLt (leafOf es l.1) := by
  simp only [build, List.mem_map, mem_isort, mem_dedupKeys]
  constructor
  · rintro ⟨k, hk, rfl⟩; exact ⟨hk, rfl⟩
  · rintro ⟨hk, e⟩; exact ⟨l.1, hk, Prod.ext rfl e.symm⟩

theorem snapOk_build (es : List Entry) : SnapOk (build es) := by
  constructor
  · exact List.pairwise_map.mpr ((isort_perm keyLt _).symm.nodup (dedupKeys_nodup _))
  · intro l hl
    rw [(mem_build.mp hl).2]
    exact LeafOk.perm (isort_perm leafLt _).symm (leafOk_foldl_insRepl _)

theorem leafOf_nil_of_not_mem {es : List Entry} {k : Key} (h : k ∉ es.map (·.1)) : leafOf es k = [] := by
  have : es.filter (fun e => e.1 == k) = [] :=
    List.filter_eq_nil_iff.mpr fun e he => by simpa using fun c => h (List.mem_map.mpr ⟨e, he, c⟩)
  simp [leafOf, this]

end Trie

namespace TrieBuf
open Trie

theorem baseGet_build (es : List Entry) (k : Key) (tx : Text) (v : Val) :
    baseGet (build es) (k, tx) = some v ↔ ∃ p ∈ leafOf es k, p.text = tx ∧ valOf p = v := by
  rw [baseGet_iff (snapOk_build es)]
  constructor
  · rintro ⟨l, hl, rfl, p, hp, h⟩
    rw [(mem_build.mp hl).2, mem_isort] at hp
    exact ⟨p, hp, h⟩
  · rintro ⟨p, hp, h⟩
    have hk : k ∈ es.map (·.1) := Classical.byContradiction fun c => by
      rw [leafOf_nil_of_not_mem c] at hp; cases hp
    exact ⟨(k, isort leafLt (leafOf es k)), mem_build.mpr ⟨hk, rfl⟩, rfl, p, (mem_isort leafLt).mpr hp, h⟩

end TrieBuf

end Chewing
