import Chewing.Props.C05
import Chewing.Proofs.EditorSteps
/-!
# C04 at the editor level, part 1: what one step of the editor may do to the user's choices and breaks

`Proofs/EditorCursor.lean` (C05) shows that the editor touches its pre-edit buffer only through
`CompositionEditor` methods (`Reach`).  For C04 that is not enough: to say *which keys edit inside a
choice* one has to know which methods a key calls, and where.  This file refines `Reach`:

* `Edit` — the editing calls a step can make (insert symbols at the cursor, Backspace, Delete, glue /
  break at the cursor, clear, choose a candidate for a range, replace the symbol at the cursor), `editOps`
  — the `Composition` calls they are, positions taken from the PRE-state's cursor;
* `Did ks c0 c'` — the composition of `c'` results from that of `c0` by one edit of a kind in `ks`
  (cursor movements, cursor save / restore aside: they do not touch the composition);
* generic consequences, for every `Composition` with C04's invariant: a choice that the edit's kind does not
  edit inside (`kindEdits`, decidable, on the pre-state) is `Carried` — present afterwards with its text,
  over the same symbols (`did_selection`); a break that the kind does not touch (`kindTouches`) is still a
  break at its shifted position (`did_break`); both from the lemmas for one `Composition` call, `carried_op` /
  `break_carried_op`, which `Props/C04Editor.lean` also applies to the `remove_front` of an auto-commit.

`Proofs/EditorChoiceKeys.lean` / `EditorChoiceSel.lean` then show, arm by arm, which kinds every key
of every state and every other public operation can perform (`EStep`).
-/
namespace Chewing.C04

/-! ## A choice carried from one composition to another -/

/-- the choice `t` of `c'` is the choice `s` of `c`: same text, same kind, same length, over the same symbols
    (wherever the range has moved to) -/
structure Carried (c c' : Composition) (s t : Interval) : Prop where
  text : t.text = s.text
  phrase : t.isPhrase = s.isPhrase
  len : t.stop - t.start = s.stop - s.start
  syms : ∀ j, j < s.stop - s.start → c'.symbols[t.start + j]? = c.symbols[s.start + j]?

theorem Carried.refl (c : Composition) (s : Interval) : Carried c c s s := ⟨rfl, rfl, rfl, fun _ _ => rfl⟩

theorem Carried.trans {c1 c2 c3 : Composition} {s t u : Interval} (h1 : Carried c1 c2 s t) (h2 : Carried c2 c3 t u) :
    Carried c1 c3 s u :=
  ⟨h2.text.trans h1.text, h2.phrase.trans h1.phrase, h2.len.trans h1.len,
   fun j hj => (h2.syms j (by rw [h1.len]; exact hj)).trans (h1.syms j hj)⟩

/-- **one `Composition` call**: a choice it does not edit inside (`EditsInside`: including a `replace` of a
    symbol under the choice, which the code does not drop) is carried to `shift c op s`: the positions of the image
    come from the positions of the choice (`back_shift`), and the operation wrote none of them. -/
theorem carried_op {c : Composition} (op : CompOp) {c' : Composition} (h : c.apply op = .ok c')
    {s : Interval} (hs : s ∈ c.selections) (hn : ¬ EditsInside c op s) :
    shift c op s ∈ c'.selections ∧ Carried c c' s (shift c op s) := by
  have hd : ¬ Drops c op s := fun hd => hn (editsInside_of_drops hd)
  have hl := shift_len c op s hd
  refine ⟨selection_survives c op s hs hn c' h, (shift_text c op s).1, (shift_text c op s).2, hl, fun j hj => ?_⟩
  obtain ⟨a, _, e, w⟩ := back_shift c op s hd (k := (shift c op s).start + j) (Nat.le_add_right ..) (by omega)
  rw [symbols_after h, w.resolve_right hn, Option.none_or]
  congr 1
  omega

/-! ## The edits a step of the editor can make -/

/-- the editing calls a step can make on the composition editor -/
inductive Edit where
  /-- nothing (cursor movements, cursor save / restore, mode toggles, list navigation, learning, …) -/
  | none
  /-- `insert` of the symbols one after the other, starting at the cursor (a typed symbol or syllable: one;
      an easy-symbol expansion: several) -/
  | ins (xs : List Sym)
  /-- `remove_before_cursor` with the cursor not at the beginning -/
  | bksp
  /-- `remove_after_cursor` -/
  | del
  /-- `insert_glue` / `insert_break` inside the buffer -/
  | glue | brk
  /-- `clear` (Enter / `commit`: everything is committed; Esc with `esc_clear_all_buffer`; `clear()`) -/
  | clear
  /-- `select`: a candidate chosen for a range -/
  | sel (iv : Interval)
  /-- `replace` of the symbol at the cursor (a symbol chosen from a special-symbol list) -/
  | repl (x : Sym)

/-- the kind of an edit (what `keyKinds` lists per key: decidable data of the pre-state and the key) -/
inductive Kind where
  | none | ins | bksp | del | glue | brk | clear
  | sel (b e : Nat)
  | repl
deriving DecidableEq, Repr

def Edit.kind : Edit → Kind
  | .none => .none
  | .ins _ => .ins
  | .bksp => .bksp
  | .del => .del
  | .glue => .glue
  | .brk => .brk
  | .clear => .clear
  | .sel iv => .sel iv.start iv.stop
  | .repl _ => .repl

/-- `insert(p, x₀); insert(p + 1, x₁); …` -/
def insOps (p : Nat) : List Sym → List CompOp
  | [] => []
  | x :: xs => .insert p x :: insOps (p + 1) xs

/-- the `Composition` calls of an edit made in the state `c` -/
def editOps (c : CompEditor) : Edit → List CompOp
  | .none => []
  | .ins xs => insOps c.cursor xs
  | .bksp => [.remove (c.cursor - 1)]
  | .del => [.remove c.cursor]
  | .glue => [.setGap c.cursor .glue]
  | .brk => [.setGap c.cursor .brk]
  | .clear => [.clear]
  | .sel iv => [.pushSelection iv]
  | .repl x => [.replace c.cursor x]

/-- **`c'`'s composition results from `c0`'s by one edit of a kind in `ks`**, made at `c0`'s cursor -/
def Did (ks : List Kind) (c0 c' : CompEditor) : Prop :=
  ∃ ed : Edit, ed.kind ∈ ks ∧ (ed = .bksp → c0.cursor ≠ 0) ∧ c0.inner.run (editOps c0 ed) = .ok c'.inner

theorem Did.mono {ks ks' : List Kind} {c0 c' : CompEditor} (h : Did ks c0 c') (hsub : ∀ k ∈ ks, k ∈ ks') :
    Did ks' c0 c' := by
  obtain ⟨ed, h1, h2, h3⟩ := h
  exact ⟨ed, hsub _ h1, h2, h3⟩

/-- only the composition of the result matters -/
theorem Did.inner {ks : List Kind} {c0 c1 c2 : CompEditor} (h : Did ks c0 c1) (he : c2.inner = c1.inner) :
    Did ks c0 c2 := by
  obtain ⟨ed, h1, h2, h3⟩ := h
  exact ⟨ed, h1, h2, by rw [he]; exact h3⟩

theorem did_none {ks : List Kind} {c0 c' : CompEditor} (h : c'.inner = c0.inner) : Did (.none :: ks) c0 c' :=
  ⟨.none, .head _, nofun, by simp [editOps, Composition.run, h]⟩

/-- an edit that is one `Composition` call -/
theorem did_one {ks : List Kind} {c0 c' : CompEditor} (ed : Edit) {op : CompOp} (hk : ed.kind ∈ ks)
    (hb : ed = .bksp → c0.cursor ≠ 0) (hop : editOps c0 ed = [op]) (h : c0.inner.apply op = .ok c'.inner) :
    Did ks c0 c' :=
  ⟨ed, hk, hb, by simp only [hop, Composition.run, h]⟩

theorem withInner_inner {r : Outcome Composition} {f : Composition → CompEditor} {e' : CompEditor}
    (hf : ∀ c, (f c).inner = c) (h : CompEditor.withInner r f = .ok e') : r = .ok e'.inner := by
  obtain ⟨c, hc, rfl⟩ := withInner_ok h
  rw [hf]; exact hc

theorem did_insert {ks : List Kind} {c0 c' : CompEditor} {x : Sym} (hk : Kind.ins ∈ ks) (h : c0.insert x = .ok c') :
    Did ks c0 c' :=
  did_one (.ins [x]) hk nofun rfl (withInner_inner (fun _ => rfl) h)

theorem insertChars_run (cs : List Nat) : ∀ (c c' : CompEditor), insertChars c cs = .ok c' →
    c.inner.run (insOps c.cursor (cs.map Sym.chr)) = .ok c'.inner := by
  induction cs with
  | nil => intro c c' h; cases h; rfl
  | cons x xs ih =>
    intro c c' h
    obtain ⟨c1, h1, h⟩ := insertChars_cons_ok.mp h
    obtain ⟨i1, hi1, rfl⟩ := withInner_ok h1
    simp only [List.map_cons, insOps, Composition.run, Composition.apply, hi1]
    exact ih _ c' h

theorem did_insertChars {ks : List Kind} {c0 c' : CompEditor} {cs : List Nat} (hk : Kind.ins ∈ ks)
    (h : insertChars c0 cs = .ok c') : Did ks c0 c' :=
  ⟨.ins (cs.map Sym.chr), hk, nofun, insertChars_run cs c0 c' h⟩

theorem did_removeBefore {ks : List Kind} {c0 c' : CompEditor} (hk : Kind.bksp ∈ ks)
    (h : c0.removeBeforeCursor = .ok c') : Did (.none :: ks) c0 c' := by
  unfold CompEditor.removeBeforeCursor at h
  split at h
  · cases h; exact did_none rfl
  · next h0 => exact did_one .bksp (.tail _ hk) (fun _ => h0) rfl (withInner_inner (fun _ => rfl) h)

theorem did_removeAfter {ks : List Kind} {c0 c' : CompEditor} (hk : Kind.del ∈ ks)
    (h : c0.removeAfterCursor = .ok c') : Did ks c0 c' :=
  did_one .del hk nofun rfl (withInner_inner (fun _ => rfl) h)

/-- `insert_glue` / `insert_break`: nothing at the end of the buffer, else the edit `ed` that sets the gap -/
theorem did_insertGap {ks : List Kind} {c0 c' : CompEditor} {g : Gap} (ed : Edit) (hk : ed.kind ∈ ks)
    (hb : ed ≠ .bksp) (hop : editOps c0 ed = [.setGap c0.cursor g]) (h : c0.insertGap g = .ok c') :
    Did (.none :: ks) c0 c' := by
  unfold CompEditor.insertGap at h
  split at h
  · cases h; exact did_none rfl
  · exact did_one ed (.tail _ hk) (fun e => absurd e hb) hop (withInner_inner (fun _ => rfl) h)

theorem did_clear {ks : List Kind} (c0 : CompEditor) (hk : Kind.clear ∈ ks) : Did ks c0 c0.clear :=
  ⟨.clear, hk, nofun, rfl⟩

theorem did_select {ks : List Kind} {c0 c' : CompEditor} {iv : Interval} (hk : Kind.sel iv.start iv.stop ∈ ks)
    (h : c0.select iv = .ok c') : Did ks c0 c' :=
  let ⟨_, hc, he⟩ := select_ok h
  did_one (.sel iv) hk nofun rfl (he ▸ hc)

theorem did_replace {ks : List Kind} {c0 c' : CompEditor} {x : Sym} (hk : Kind.repl ∈ ks)
    (h : c0.replace x = .ok c') : Did ks c0 c' :=
  did_one (.repl x) hk nofun rfl (withInner_inner (fun _ => rfl) h)

/-! ## Which kinds edit inside a choice / touch a break: decidable, on the pre-state -/

/-- **the edit of kind `k`, made at the cursor of `c`, edits inside the range of the choice `s`** -/
def kindEdits (c : CompEditor) : Kind → Interval → Bool
  | .none, _ => false
  /- typing with the cursor strictly inside the range -/
  | .ins, s => s.start < c.cursor && c.cursor < s.stop
  /- Backspace with the cursor behind a symbol of the range -/
  | .bksp, s => s.start < c.cursor && c.cursor ≤ s.stop
  /- Delete with the cursor on a symbol of the range -/
  | .del, s => s.start ≤ c.cursor && c.cursor < s.stop
  | .glue, _ => false
  /- a break set strictly inside the range -/
  | .brk, s => s.start < c.cursor && c.cursor < s.stop
  | .clear, _ => true
  /- a new choice overlapping the range -/
  | .sel b e, s => s.intersectRange b e
  /- the symbol under the cursor replaced -/
  | .repl, s => s.start ≤ c.cursor && c.cursor < s.stop

/-- **the edit of kind `k`, made at the cursor of `c`, touches the gap `j`** (the gap before symbol `j`) -/
def kindTouches (c : CompEditor) : Kind → Nat → Bool
  | .none, _ => false
  /- typing exactly at the gap -/
  | .ins, j => j == c.cursor
  /- Backspace removing symbol `j` (its gap goes with it), or the first symbol when `j = 1` (gap 1 becomes `Begin`) -/
  | .bksp, j => j + 1 == c.cursor || (c.cursor == 1 && j == 1)
  | .del, j => j == c.cursor || (c.cursor == 0 && j == 1)
  /- Tab at the gap -/
  | .glue, j => j == c.cursor
  | .brk, j => j == c.cursor
  | .clear, _ => true
  /- a new choice spanning the gap -/
  | .sel b e, j => b < j && j < e
  | .repl, j => j == c.cursor

theorem insOps_selection (xs : List Sym) : ∀ (p : Nat) (c c' : Composition) (s : Interval), CompInv c →
    c.run (insOps p xs) = .ok c' → s ∈ c.selections → ¬ (s.start < p ∧ p < s.stop) →
    ∃ t ∈ c'.selections, Carried c c' s t := by
  induction xs with
  | nil =>
    intro p c c' s _ h hs _
    cases Composition.folds.nil_ok.mp h
    exact ⟨s, hs, Carried.refl _ _⟩
  | cons x xs ih =>
    intro p c c' s hc h hs hn
    obtain ⟨c1, h1, h⟩ := Composition.folds.cons_ok.mp h
    obtain ⟨m1, m2⟩ := carried_op (.insert p x) h1 hs hn
    have h3 := hc.sel_nonempty s hs
    obtain ⟨t, t1, t2⟩ := ih (p + 1) c1 c' _ (inv_insert hc h1) h m1 (by
      simp only [shift]
      split <;> (try simp only [Interval.shiftUp]) <;> omega)
    exact ⟨t, t1, m2.trans t2⟩

/-- **a choice the edit does not edit inside is carried** -/
theorem did_selection {ks : List Kind} {c0 c' : CompEditor} (hc : CompInv c0.inner) (h : Did ks c0 c')
    {s : Interval} (hs : s ∈ c0.inner.selections) (hn : ∀ k ∈ ks, kindEdits c0 k s = false) :
    ∃ t ∈ c'.inner.selections, Carried c0.inner c'.inner s t := by
  obtain ⟨ed, hk, hb, hr⟩ := h
  have hn := hn _ hk
  have one : ∀ op : CompOp, editOps c0 ed = [op] → ¬ EditsInside c0.inner op s →
      ∃ t ∈ c'.inner.selections, Carried c0.inner c'.inner s t :=
    fun op hop hne => ⟨_, carried_op op (Composition.folds.one.mp (hop ▸ hr)) hs hne⟩
  cases ed with
  | none =>
    rw [← Composition.folds.nil_ok.mp hr]
    exact ⟨s, hs, Carried.refl _ _⟩
  | ins xs =>
    simp only [Edit.kind, kindEdits, Bool.and_eq_false_iff, decide_eq_false_iff_not] at hn
    exact insOps_selection xs c0.cursor _ _ s hc hr hs (not_and_of_not_or_not hn)
  | bksp =>
    obtain ⟨p, hp⟩ := Nat.exists_eq_succ_of_ne_zero (hb rfl)
    simp only [Edit.kind, kindEdits, hp, Bool.and_eq_false_iff, decide_eq_false_iff_not] at hn
    exact one (.remove p) (by simp only [editOps, hp]; rfl)
      fun ⟨a, b⟩ => hn.elim (· (Nat.lt_succ_of_le a)) (· b)
  | del =>
    simp only [Edit.kind, kindEdits, Bool.and_eq_false_iff, decide_eq_false_iff_not] at hn
    exact one _ rfl (not_and_of_not_or_not hn)
  | glue => exact one _ rfl fun ⟨_, e, _⟩ => nomatch e
  | brk =>
    simp only [Edit.kind, kindEdits, Bool.and_eq_false_iff, decide_eq_false_iff_not] at hn
    exact one _ rfl fun ⟨_, _, a⟩ => not_and_of_not_or_not hn a
  | clear => simp [Edit.kind, kindEdits] at hn
  | sel iv =>
    simp only [Edit.kind, kindEdits] at hn
    exact one _ rfl (by simp only [EditsInside, Drops, Interval.intersect]; rw [hn]; simp)
  | repl x =>
    simp only [Edit.kind, kindEdits, Bool.and_eq_false_iff, decide_eq_false_iff_not] at hn
    exact one _ rfl (not_and_of_not_or_not hn)

/-! ## Breaks -/

/-- the break before symbol `j` of `c` is the break before symbol `j'` of `c'` (the same symbol) -/
def BreakCarried (c c' : Composition) (j j' : Nat) : Prop :=
  c'.gaps[j']? = some Gap.brk ∧ c'.symbols[j']? = c.symbols[j]?

theorem BreakCarried.trans {c1 c2 c3 : Composition} {j1 j2 j3 : Nat} (h1 : BreakCarried c1 c2 j1 j2)
    (h2 : BreakCarried c2 c3 j2 j3) : BreakCarried c1 c3 j1 j3 := ⟨h2.1, h2.2.trans h1.2⟩

/-- **one `Composition` call**: a break whose gap it does not touch (`gapShift`) is carried -/
theorem break_carried_op {c : Composition} (hc : CompInv c) (op : CompOp) {c' : Composition} (h : c.apply op = .ok c')
    {j j' : Nat} (hg : c.gaps[j]? = some Gap.brk) (hj : gapShift c op j = some j') : BreakCarried c c' j j' := by
  obtain ⟨e, w, -, -⟩ := gapShift_spec hj
  exact ⟨break_survives c op c' hc h j j' hg hj, by rw [symbols_after h, w, e, Option.none_or]⟩

theorem insOps_break (xs : List Sym) : ∀ (p : Nat) (c c' : Composition) (j : Nat), CompInv c →
    c.run (insOps p xs) = .ok c' → c.gaps[j]? = some Gap.brk → (xs ≠ [] → j ≠ p) →
    ∃ j', BreakCarried c c' j j' := by
  induction xs with
  | nil =>
    intro p c c' j _ h hg _
    cases Composition.folds.nil_ok.mp h
    exact ⟨j, hg, rfl⟩
  | cons x xs ih =>
    intro p c c' j hc h hg hne
    have hjp := hne (by simp)
    obtain ⟨c1, h1, h⟩ := Composition.folds.cons_ok.mp h
    by_cases hlt : j < p
    · have g1 := break_carried_op hc (.insert p x) h1 hg (j' := j) (by simp [gapShift, hlt]; omega)
      obtain ⟨j', a1⟩ := ih (p + 1) c1 c' j (inv_insert hc h1) h g1.1 (fun _ => by omega)
      exact ⟨j', g1.trans a1⟩
    · have g1 := break_carried_op hc (.insert p x) h1 hg (j' := j + 1) (by simp [gapShift, hlt, hjp])
      obtain ⟨j', a1⟩ := ih (p + 1) c1 c' (j + 1) (inv_insert hc h1) h g1.1 (fun _ => by omega)
      exact ⟨j', g1.trans a1⟩

/-- `remove(i)` leaves every gap in place but gap `i` and, when the first symbol goes, gap 1 (it becomes `Begin`) -/
theorem gapShift_remove {c : Composition} {i j : Nat} (h1 : j ≠ i) (h2 : ¬ (i = 0 ∧ j = 1)) :
    ∃ j', gapShift c (.remove i) j = some j' := by
  simp only [gapShift, if_neg h1]
  split
  · exact ⟨_, rfl⟩
  · next hlt =>
    refine ⟨_, if_neg fun e => ?_⟩
    subst e
    exact h2 ⟨Nat.lt_one_iff.mp (Nat.lt_of_le_of_ne (Nat.not_lt.mp hlt) h1.symm), rfl⟩

/-- **a break the edit does not touch is still a break**, before the same symbol (at the position it has moved to) -/
theorem did_break {ks : List Kind} {c0 c' : CompEditor} (hc : CompInv c0.inner) (h : Did ks c0 c')
    {j : Nat} (hg : c0.inner.gaps[j]? = some Gap.brk) (hn : ∀ k ∈ ks, kindTouches c0 k j = false) :
    ∃ j', BreakCarried c0.inner c'.inner j j' := by
  obtain ⟨ed, hk, hb, hr⟩ := h
  have hn := hn _ hk
  have one : ∀ op : CompOp, editOps c0 ed = [op] → (∃ j', gapShift c0.inner op j = some j') →
      ∃ j', BreakCarried c0.inner c'.inner j j' :=
    fun op hop ⟨j', hj'⟩ => ⟨j', break_carried_op hc op (Composition.folds.one.mp (hop ▸ hr)) hg hj'⟩
  cases ed with
  | none =>
    rw [← Composition.folds.nil_ok.mp hr]
    exact ⟨j, hg, rfl⟩
  | ins xs =>
    simp only [Edit.kind, kindTouches, beq_eq_false_iff_ne] at hn
    exact insOps_break xs c0.cursor _ _ j hc hr hg (fun _ => hn)
  | bksp =>
    obtain ⟨p, hp⟩ := Nat.exists_eq_succ_of_ne_zero (hb rfl)
    simp only [Edit.kind, kindTouches, hp, Bool.or_eq_false_iff, Bool.and_eq_false_iff, beq_eq_false_iff_ne] at hn
    exact one (.remove p) (by simp only [editOps, hp]; rfl)
      (gapShift_remove (fun e => hn.1 (congrArg Nat.succ e)) fun e => hn.2.elim (· (congrArg Nat.succ e.1)) (· e.2))
  | del =>
    simp only [Edit.kind, kindTouches, Bool.or_eq_false_iff, Bool.and_eq_false_iff, beq_eq_false_iff_ne] at hn
    exact one _ rfl (gapShift_remove hn.1 fun e => hn.2.elim (· e.1) (· e.2))
  | glue =>
    simp only [Edit.kind, kindTouches, beq_eq_false_iff_ne] at hn
    exact one _ rfl ⟨j, by simp [gapShift, hn]⟩
  | brk =>
    simp only [Edit.kind, kindTouches, beq_eq_false_iff_ne] at hn
    exact one _ rfl ⟨j, by simp [gapShift, hn]⟩
  | clear => simp [Edit.kind, kindTouches] at hn
  | sel iv =>
    simp only [Edit.kind, kindTouches, Bool.and_eq_false_iff, decide_eq_false_iff_not] at hn
    exact one _ rfl ⟨j, by simp only [gapShift]; rw [if_neg (by omega)]⟩
  | repl x =>
    simp only [Edit.kind, kindTouches, beq_eq_false_iff_ne] at hn
    exact one _ rfl ⟨j, by simp [gapShift, hn]⟩

/-! ## Results of the arms of the state machine -/

section
variable {D L : Type}

/-- every successful result of an arm of a state's `next` leaves a composition editor that results from `c0` by
    ONE edit of a kind in `ks` (and cursor movements) -/
def EStep (ks : List Kind) (c0 : CompEditor) (r : StepRes D L) : Prop := ∀ sh' t, r = .ok (sh', t) → Did ks c0 sh'.com

/-- the same for the arms of `Selecting::next` -/
def ESel (ks : List Kind) (c0 : CompEditor) (r : Outcome (SelRes D L)) : Prop := ∀ x, r = .ok x → Did ks c0 x.shared.com

theorem EStep.mono {ks ks' : List Kind} {c0 : CompEditor} {r : StepRes D L} (h : EStep ks c0 r)
    (hsub : ∀ k ∈ ks, k ∈ ks') : EStep ks' c0 r := fun sh' t hr => (h sh' t hr).mono hsub

theorem ESel.mono {ks ks' : List Kind} {c0 : CompEditor} {r : Outcome (SelRes D L)} (h : ESel ks c0 r)
    (hsub : ∀ k ∈ ks, k ∈ ks') : ESel ks' c0 r := fun x hr => (h x hr).mono hsub

/-- an arm that hands back a composition editor with the composition it found -/
theorem estep_none {ks : List Kind} {c0 : CompEditor} {sh : Shared D L} {t : Trans} (h : sh.com.inner = c0.inner) :
    EStep (.none :: ks) c0 (.ok (sh, t)) := StepAll.ok (did_none h)

theorem esel_none {ks : List Kind} {c0 : CompEditor} {x : SelRes D L} (h : x.shared.com.inner = c0.inner) :
    ESel (.none :: ks) c0 (.ok x) := ResAll.ok (did_none h)

/-- both branches with the same kinds -/
theorem estep_ite {ks : List Kind} {c0 : CompEditor} {c : Prop} [Decidable c] {a b : StepRes D L}
    (h1 : EStep ks c0 a) (h2 : EStep ks c0 b) : EStep ks c0 (if c then a else b) :=
  ite_intro (fun _ => h1) fun _ => h2

/-- an `if` chain of arms against the mirrored `if` chain of their kinds -/
theorem estep_ite2 {k1 k2 : List Kind} {c0 : CompEditor} {c : Prop} [Decidable c] {a b : StepRes D L}
    (h1 : EStep k1 c0 a) (h2 : EStep k2 c0 b) : EStep (if c then k1 else k2) c0 (if c then a else b) := by
  split <;> assumption

theorem esel_ite {ks : List Kind} {c0 : CompEditor} {c : Prop} [Decidable c] {a b : Outcome (SelRes D L)}
    (h1 : ESel ks c0 a) (h2 : ESel ks c0 b) : ESel ks c0 (if c then a else b) :=
  ite_intro (fun _ => h1) fun _ => h2

theorem esel_ite2 {k1 k2 : List Kind} {c0 : CompEditor} {c : Prop} [Decidable c] {a b : Outcome (SelRes D L)}
    (h1 : ESel k1 c0 a) (h2 : ESel k2 c0 b) : ESel (if c then k1 else k2) c0 (if c then a else b) := by
  split <;> assumption

end

end Chewing.C04
