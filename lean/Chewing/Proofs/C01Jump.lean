import Chewing.Proofs.C01Next
/-!
C01, part 10: `jump_to_{first,last,next,prev}_selection_point` while a phrase candidate list is open
(`chewing_cand_list_{first,last,next,prev}`).  The searches `next_selection_point` / `prev_selection_point`
terminate without panic and stay on the run of syllables around the position the list was opened at
(`Anchor`); `jump_to_last_selection_point` shrinks the range at most `end - begin - 1` times;
`jump_to_first_selection_point` is `init` again from that position.
-/
namespace Chewing.C01

variable {D L : Type} {env : Env D L} {G : D → Prop} {w : Prop}

/-! ## `next_selection_point` -/

/-- what `next_selection_point` answers from the range `b..e`: a strictly shorter non-empty range inside it
    that keeps the anchored end -/
def NextPt (s : PhraseSel) (b e : Nat) (r : Option (Nat × Nat)) : Prop :=
  ∀ b' e', r = some (b', e') → b ≤ b' ∧ b' < e' ∧ e' ≤ e ∧ e' + b < e + b' ∧
    (s.forward = true → b' = b) ∧ (s.forward = false → e' = e)

theorem NextPt.some {s : PhraseSel} {b e b' e' : Nat} (h : b ≤ b' ∧ b' < e' ∧ e' ≤ e ∧ e' + b < e + b' ∧
    (s.forward = true → b' = b) ∧ (s.forward = false → e' = e)) : NextPt s b e (some (b', e')) := by
  intro _ _ e; cases e; exact h

/-- fuel sufficiency: every round shortens the range by one symbol, a one-symbol range ends the search -/
theorem nsp_go_ok (d : D) (s : PhraseSel) : ∀ (fuel b e : Nat), b < e → e ≤ s.com.symbols.length → e ≤ b + fuel →
    OkAnd (NextPt s b e) (PhraseSel.nextSelectionPoint.go env s d fuel b e) := by
  intro fuel
  induction fuel with
  | zero => intro b e h1 _ h3; omega
  | succ fuel ih =>
    intro b e h1 h2 h3
    simp only [PhraseSel.nextSelectionPoint.go]
    by_cases hf : s.forward = true
    · rw [if_pos hf, if_neg (by simp only [beq_iff_eq]; omega)]
      refine .ite (fun _ => .ok nofun) fun hb => ?_
      simp only [beq_iff_eq] at hb
      refine .query (rangeHasPhrase_returns s d b (e - 1) (by omega) (by omega)) (.ok (.some ?_))
        ((ih b (e - 1) (by omega) (by omega) (by omega)).mono fun r hr b' e' h => ?_)
      · exact ⟨Nat.le_refl _, by omega, by omega, by omega, fun _ => rfl, fun hh => by rw [hf] at hh; cases hh⟩
      · obtain ⟨a1, a2, a3, a4, a5, _⟩ := hr b' e' h
        exact ⟨a1, a2, by omega, by omega, a5, fun hh => by rw [hf] at hh; cases hh⟩
    · rw [if_neg hf]
      refine .ite (fun _ => .ok nofun) fun hb => ?_
      simp only [beq_iff_eq] at hb
      refine .query (rangeHasPhrase_returns s d (b + 1) e (by omega) h2) (.ok (.some ?_))
        ((ih (b + 1) e (by omega) h2 (by omega)).mono fun r hr b' e' h => ?_)
      · exact ⟨by omega, by omega, Nat.le_refl _, by omega, fun hh => absurd hh hf, fun _ => rfl⟩
      · obtain ⟨a1, a2, a3, a4, _, a6⟩ := hr b' e' h
        exact ⟨by omega, a2, a3, by omega, fun hh => absurd hh hf, a6⟩

/-- **`next_selection_point`**: no panic, terminates within the fuel `len + 2` -/
theorem nextSelectionPoint_ok (d : D) (s : PhraseSel) (hr : RangeOK s) :
    OkAnd (NextPt s s.begin_ s.end_) (PhraseSel.nextSelectionPoint env s d) := by
  unfold PhraseSel.nextSelectionPoint
  exact nsp_go_ok d s _ _ _ hr.lt hr.le (by simp only [Composition.len]; have := hr.le; omega)

/-- moving to the answer of `next_selection_point` keeps the selector well formed -/
theorem nextPt_range {s : PhraseSel} (hr : RangeOK s) {b e : Nat} (h : NextPt s s.begin_ s.end_ (some (b, e))) :
    RangeOK { s with begin_ := b, end_ := e } ∧ Keep s { s with begin_ := b, end_ := e } ∧ e + s.begin_ < s.end_ + b := by
  obtain ⟨a1, a2, a3, a4, a5, a6⟩ := h b e rfl
  refine ⟨⟨a2, Nat.le_trans a3 hr.le, fun j h1 h2 => hr.syl j (Nat.le_trans a1 h1) (Nat.lt_of_lt_of_le h2 a3)⟩,
    ⟨rfl, rfl, rfl, a5, a6⟩, a4⟩

/-! ## `jump_to_last_selection_point` -/

/-- fuel sufficiency: every round shortens the range -/
theorem jumpToLast_go_ok (d : D) : ∀ (fuel : Nat) (s : PhraseSel), RangeOK s → s.end_ ≤ s.begin_ + fuel →
    OkAnd (JumpPost s) (PhraseSel.jumpToLast.go env d fuel s) := by
  intro fuel
  induction fuel with
  | zero => intro s hr h; have := hr.lt; omega
  | succ fuel ih =>
    intro s hr h
    simp only [PhraseSel.jumpToLast.go]
    obtain ⟨r, hq, hp⟩ := nextSelectionPoint_ok (env := env) d s hr
    rw [hq]
    cases r with
    | none => exact .ok ⟨rfl, hr, Keep.refl _⟩
    | some be =>
      obtain ⟨b, e⟩ := be
      dsimp only
      obtain ⟨hr', hk, hlt⟩ := nextPt_range hr hp
      exact (ih { s with begin_ := b, end_ := e } hr' (by show e ≤ b + fuel; omega)).mono fun _ => .step hk rfl

theorem jumpToLast_ok (d : D) (s : PhraseSel) (hr : RangeOK s) : OkAnd (JumpPost s) (PhraseSel.jumpToLast env s d) := by
  unfold PhraseSel.jumpToLast
  exact jumpToLast_go_ok d _ s hr (by simp only [Composition.len]; have := hr.le; omega)

/-! ## `prev_selection_point` -/

/-- what `prev_selection_point` answers from the range `b..e`: a longer range that keeps the anchored end
    and does not pass the break points around `orig` -/
def PrevPt (s : PhraseSel) (b e : Nat) (r : Option (Nat × Nat)) : Prop :=
  ∀ b' e', r = some (b', e') → b' ≤ b ∧ e ≤ e' ∧ e' ≤ s.com.symbols.length ∧
    (s.forward = true → b' = b ∧ e' ≤ s.nextBreakPoint s.orig) ∧
    (s.forward = false → e' = e ∧ s.afterPreviousBreakPoint s.orig ≤ b')

theorem PrevPt.some {s : PhraseSel} {b e b' e' : Nat} (h : b' ≤ b ∧ e ≤ e' ∧ e' ≤ s.com.symbols.length ∧
    (s.forward = true → b' = b ∧ e' ≤ s.nextBreakPoint s.orig) ∧
    (s.forward = false → e' = e ∧ s.afterPreviousBreakPoint s.orig ≤ b')) : PrevPt s b e (some (b', e')) := by
  intro _ _ e; cases e; exact h

/-- fuel sufficiency: every round lengthens the range by one symbol towards the end (forward) or the
    beginning (rearward) of the buffer, where the search ends -/
theorem psp_go_ok (d : D) (s : PhraseSel) : ∀ (fuel b e : Nat), b ≤ e → e ≤ s.com.symbols.length →
    (s.forward = true → s.com.symbols.length < e + fuel) → (s.forward = false → b < fuel) →
    OkAnd (PrevPt s b e) (PhraseSel.prevSelectionPoint.go env s d fuel b e) := by
  intro fuel
  induction fuel with
  | zero =>
    intro b e _ _ h3 h4
    cases hf : s.forward with
    | true => have := h3 hf; omega
    | false => have := h4 hf; omega
  | succ fuel ih =>
    intro b e h1 h2 h3 h4
    simp only [PhraseSel.prevSelectionPoint.go]
    by_cases hf : s.forward = true
    · rw [if_pos hf]
      refine .ite (fun _ => .ok nofun) fun he => .ite (fun _ => .ok nofun) fun hnb => ?_
      simp only [beq_iff_eq, Composition.len] at he
      have := h3 hf
      refine .query (rangeHasPhrase_returns s d b (e + 1) (by omega) (by omega)) (.ok (.some ?_))
        ((ih b (e + 1) (by omega) (by omega) (fun _ => by omega) (fun hh => by rw [hf] at hh; cases hh)).mono
          fun r hr b' e' h => ?_)
      · exact ⟨Nat.le_refl _, by omega, by omega, (fun _ => ⟨rfl, by omega⟩), (fun hh => by rw [hf] at hh; cases hh)⟩
      · obtain ⟨a1, a2, a3, a4, _⟩ := hr b' e' h
        exact ⟨a1, by omega, a3, a4, (fun hh => by rw [hf] at hh; cases hh)⟩
    · rw [if_neg hf]
      have hff : s.forward = false := by cases hx : s.forward <;> simp_all
      refine .ite (fun _ => .ok nofun) fun hb => .ite (fun _ => .ok nofun) fun hnb => ?_
      simp only [beq_iff_eq] at hb
      have := h4 hff
      refine .query (rangeHasPhrase_returns s d (b - 1) e (by omega) h2) (.ok (.some ?_))
        ((ih (b - 1) e (by omega) h2 (fun hh => absurd hh hf) (fun _ => by omega)).mono fun r hr b' e' h => ?_)
      · exact ⟨by omega, Nat.le_refl _, h2, (fun hh => absurd hh hf), (fun _ => ⟨rfl, by omega⟩)⟩
      · obtain ⟨a1, a2, a3, _, a5⟩ := hr b' e' h
        exact ⟨by omega, a2, a3, (fun hh => absurd hh hf), a5⟩

/-- **`prev_selection_point`**: no panic, terminates within the fuel `len + 2` -/
theorem prevSelectionPoint_ok (d : D) (s : PhraseSel) (hr : RangeOK s) :
    OkAnd (PrevPt s s.begin_ s.end_) (PhraseSel.prevSelectionPoint env s d) := by
  unfold PhraseSel.prevSelectionPoint
  have := hr.lt; have := hr.le
  exact psp_go_ok d s _ _ _ (by omega) hr.le (fun _ => by simp only [Composition.len]; omega)
    (fun _ => by simp only [Composition.len]; omega)

/-- the symbol at the anchor is a syllable -/
theorem anchor_syl {s : PhraseSel} (hr : RangeOK s) (ha : Anchor s) : ∃ k, s.com.symbols[s.orig]? = some (Sym.syl k) :=
  hr.syl s.orig (ha.mem hr.lt).1 (ha.mem hr.lt).2

/-- moving to the answer of `prev_selection_point` keeps the selector well formed: the longer range still
    lies on the run of syllables around the anchor -/
theorem prevPt_range {s : PhraseSel} (hr : RangeOK s) (ha : Anchor s) {b e : Nat}
    (h : PrevPt s s.begin_ s.end_ (some (b, e))) :
    RangeOK { s with begin_ := b, end_ := e } ∧ Keep s { s with begin_ := b, end_ := e } := by
  obtain ⟨a1, a2, a3, a4, a5⟩ := h b e rfl
  have hlt := hr.lt
  cases hf : s.forward with
  | true =>
    obtain ⟨hb, hn⟩ := a4 hf
    obtain ⟨_, _, n3, _⟩ := nbp_spec s (c := s.orig) (Nat.le_of_lt ha.orig_lt)
    have hbo := ha.fw hf
    refine ⟨⟨by show b < e; omega, a3, ?_⟩, ⟨rfl, hf.symm, rfl, (fun _ => hb), (fun hh => by rw [hf] at hh; cases hh)⟩⟩
    intro j h1 h2
    exact n3 j (by have : b ≤ j := h1; omega) (by have : j < e := h2; omega)
  | false =>
    obtain ⟨he, hn⟩ := a5 hf
    obtain ⟨_, p2⟩ := apbp_spec s (c := s.orig) (Nat.le_of_lt ha.orig_lt)
    have heo := ha.rw hf
    refine ⟨⟨by show b < e; omega, a3, ?_⟩, ⟨rfl, hf.symm, rfl, (fun hh => by rw [hf] at hh; cases hh), (fun _ => he)⟩⟩
    intro j h1 h2
    have h1' : b ≤ j := h1
    have h2' : j < e := h2
    rcases Nat.lt_or_ge j s.orig with h3 | h3
    · exact p2 j (by omega) h3
    · have hj : j = s.orig := by omega
      have hsy := anchor_syl hr ha
      rw [hj]
      exact hsy

/-! ## the four jumps at the API -/

/-- **`jump_to_{first,last,next,prev}_selection_point`** (`chewing_cand_list_{first,last,next,prev}`) in every
    state — also while a phrase candidate list is open: returns, and the invariant holds again -/
theorem jump_api_ok {e : Editor D L} (hi : EditorInv env G w e) (which : Nat) :
    OkAnd (fun x => EditorInv env G w x.1) (e.jump env which) := by
  unfold Editor.jump
  split
  · next s hst =>
    have hs := hi.selInv hst
    split
    · next p hp =>
      have hpo : PhraseOK env w e.shared p := by have := hs.sel; rw [hp] at this; exact this
      -- the editor with the selector moved to a well-formed range
      have fin : ∀ p' : PhraseSel, PhraseOK env w e.shared p' →
          EditorInv env G w { e with state := .selecting { s with sel := .phrase p', pageNo := 0 } } :=
        fun p' hp' => ⟨hi.sh, ⟨hp', fun _ => .inl ⟨p', rfl⟩⟩⟩
      dsimp only
      split
      · -- first: `init` again from the anchor
        obtain ⟨p', hq, q1, q2, q3, q4, q5, q6, _, _⟩ := init_ok (env := env) p.forward p.strategy p.com p.orig e.shared.dict
          hpo.anchor.orig_lt (anchor_syl hpo.range hpo.anchor)
        rw [hq]
        exact .ok (fin p' ⟨q1.trans hpo.com, q3, by rw [q1]; exact q4, by rw [q1]; exact q5,
          (fun hw c hc => by rw [q2]; rw [q1] at hc; exact hpo.word hw c hc), q6⟩)
      · -- last
        obtain ⟨p', hq, hj⟩ := jumpToLast_ok (env := env) e.shared.dict p hpo.range
        rw [hq]
        exact .ok (fin p' (hpo.move hj.strategy hj.range hj.keep))
      · -- next
        obtain ⟨r, hq, hr⟩ := nextSelectionPoint_ok (env := env) e.shared.dict p hpo.range
        rw [hq]
        cases r with
        | none => exact .ok hi
        | some be =>
          obtain ⟨b, en⟩ := be
          obtain ⟨hr', hk, _⟩ := nextPt_range hpo.range hr
          exact .ok (fin _ (hpo.move rfl hr' hk))
      · -- prev
        obtain ⟨r, hq, hr⟩ := prevSelectionPoint_ok (env := env) e.shared.dict p hpo.range
        rw [hq]
        cases r with
        | none => exact .ok hi
        | some be =>
          obtain ⟨b, en⟩ := be
          obtain ⟨hr', hk⟩ := prevPt_range hpo.range hpo.anchor hr
          exact .ok (fin _ (hpo.move rfl hr' hk))
    · exact .ok hi
  · exact .ok hi

end Chewing.C01
