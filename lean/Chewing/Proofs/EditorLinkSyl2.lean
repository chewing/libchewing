import Chewing.Proofs.EditorLinkSyl
import Chewing.Proofs.EditorSylInv
import Chewing.Proofs.LayoutEditor
import Chewing.Proofs.EditorRevalidate
import Chewing.Proofs.EditorApi
/-!
Stage B of C14 over whole histories, part 2.

* generic part (every environment): where the layout state can go in `Entering` (`syl_enteringNext`; a property of
  buffer and layout state passes from the four states' `next` to `dispatch` through `C06.dispatch_shared_all`), the
  auto-commit tail (`tail_keepsSyl`), the other public entry points (`select_keepsSyl`, `apiEff_nn_syl`);
* for the environment `layoutEnv L base` of a sound layout model `L`: the invariant `BufInv`
  (layout state composable; every syllable symbol of the pre-edit buffer was handed over by `L` from a
  composable layout state, is composable and non-empty) is kept by every key (`processKey_bufInv`), by every
  other operation (`apply_bufInv`) and along `Editor.run` (`run_inv`).
-/
namespace Chewing.LinkSyl
open Chewing.C06 Gen

section Generic
variable {D L : Type} (env : Env D L)

/-! ### the layout state in `Entering` -/

/-- `Entering::next` keeps the layout state, except that the catch-all arm may leave the one after `key_press` -/
theorem syl_enteringNext {P : L → Prop} (sh : Shared D L) (ev : KeyEvent) (h0 : P sh.syl)
    (h1 : P (env.keyPress sh.syl ev).2) : StepAll (fun sh' _ => P sh'.syl) (enteringNext env sh ev) :=
  fun sh' t e => show P sh'.syl from (enteringNext_syl env sh ev sh' t e).elim (fun h => h.1 ▸ h0) fun h => h.1 ▸ h1

/-! ### the tail of `process_keyevent` and the other public entry points -/

/-- no new syllable symbol in the pre-edit buffer, the layout state kept -/
def KeepsSyl (sh sh' : Shared D L) : Prop := NoNewSyl sh.com sh'.com ∧ sh'.syl = sh.syl

theorem KeepsSyl.refl (sh : Shared D L) : KeepsSyl sh sh := ⟨.refl _, rfl⟩

theorem KeepsSyl.trans {a b c : Shared D L} (h1 : KeepsSyl a b) (h2 : KeepsSyl b c) : KeepsSyl a c :=
  ⟨h1.1.trans h2.1, h2.2.trans h1.2⟩

theorem keepsSyl_applyTrans (sh : Shared D L) (st : St) (t : Trans) : KeepsSyl sh (applyTrans sh st t).1 := by
  cases t <;> exact .refl _

theorem autoCommitIf_keepsSyl (sh : Shared D L) {c : Prop} [Decidable c] :
    ResAll (KeepsSyl sh) (if c then Shared.tryAutoCommit env sh else .ok sh) :=
  .ite (fun _ => tryAutoCommit_nn_syl env sh) fun _ => .ok (.refl _)

theorem tail_keepsSyl {sh : Shared D L} {st : St} {e' : Editor D L} {b : KB} (h : tail env sh st = .ok (e', b)) :
    KeepsSyl sh e'.shared := by
  obtain ⟨_, _, sh2, hq, he⟩ := C05.tail_spec env h
  rw [he]
  refine (autoCommitIf_keepsSyl env _ _ hq).trans ?_
  split <;> exact .refl _

/-- `Editor::select(n)`: `Selecting::select`, then the auto-commit -/
theorem select_keepsSyl {e e' : Editor D L} {n : Nat} {okk : Bool} (h : e.select env n = .ok (e', okk)) :
    KeepsSyl e.shared e'.shared :=
  editorSelect_all (Q := fun x => KeepsSyl e.shared x.1.shared) env (fun _ => .refl _)
    (fun s _ sh t _ _ hq hq2 => KeepsSyl.trans ⟨select_nn env s e.shared n _ hq, (select_syl env s e.shared n _ hq).1⟩
      ((keepsSyl_applyTrans sh _ t).trans (autoCommitIf_keepsSyl env _ _ hq2))) _ h

/-- the calls other than a key and `select(n)`: no new syllable symbol; the layout state is kept, cleared, or
    (`set_syllable_editor`) the installed one -/
theorem apiEff_nn_syl {e : Editor D L} {op : Op L} {sh' : Shared D L} {st' : St} (h : ApiEff env e op sh' st') :
    NoNewSyl e.shared.com sh'.com ∧
      (sh'.syl = e.shared.syl ∨ sh'.syl = env.clearSyl e.shared.syl ∨ op = .setLayout sh'.syl) := by
  induction h with
  | stay _ _ hl | options _ _ hl => exact ⟨.refl _, hl.imp id .inl⟩
  | opened _ _ _ hl => exact ⟨(NoNewSyl.pushCursor _).trans (.clampCursor _), hl.imp id .inl⟩
  | cancelled => exact ⟨.popCursor _, .inl rfl⟩
  | committed _ _ _ hq => exact ⟨(NoNewSyl.clear _).trans (.of_eq (commit_com env e.shared _ hq)), .inl (commit_syl env e.shared _ hq)⟩
  | cleared => exact ⟨.clear _, .inr (.inl rfl)⟩
  | sylCleared => exact ⟨.refl _, .inr (.inl rfl)⟩
  | layout => exact ⟨.refl _, .inr (.inr rfl)⟩
  | dict _ _ hf => exact ⟨.of_eq hf.fields.1, .inl hf.fields.2.2.2.2.1⟩
  | left _ ih | relisted _ _ _ _ ih => exact ih
  | closed _ _ _ _ _ _ ih => exact ⟨ih.1.trans (.popCursor _), ih.2⟩
  | _ => exact ⟨.refl _, .inl rfl⟩

end Generic

/-! ### the environment of a layout model -/

section Layout
variable {D : Type} {L : Layout}

/-- `s` was handed over by the layout model `L`: the `Commit` reading or the `Fuzzy` payload of some step of
    `L` (plain or fuzzy key press, any key) from a composable layout state -/
def HandedByC (L : Layout) (s : Nat) : Prop :=
  ∃ c k strat, Comp c ∧ HandedOver (layoutStepFor L strat c k) s

/-- every syllable symbol of the pre-edit buffer was handed over by `L`, is composable and non-empty -/
def SymsOK (L : Layout) (c : CompEditor) : Prop :=
  ∀ s, Sym.syl s ∈ c.inner.symbols → HandedByC L s ∧ Comp s ∧ s ≠ emptyPattern

/-- the invariant: composable layout state, all buffered syllables from the layout -/
def BufInv (L : Layout) (sh : Shared D Nat) : Prop := Comp sh.syl ∧ SymsOK L sh.com

theorem symsOK_of_nn {c c' : CompEditor} (h : NoNewSyl c c') (hc : SymsOK L c) : SymsOK L c' :=
  fun s hs => hc s (h s hs)

/-- one key of `EnteringSyllable` keeps the buffer part of the invariant -/
theorem symsOK_keyEffect {sh sh' : Shared D Nat} {strat : Strategy} {k : KeyEv} (hc : Comp sh.syl)
    (h0 : SymsOK L sh.com)
    (h : sh'.com = sh.com.clear ∨ KeyEffect sh sh' (layoutStepFor L strat sh.syl k)) : SymsOK L sh'.com := by
  rcases h with h | h | ⟨s, com1, hs, hne, hh, hi, hcm⟩
  · rw [h]; exact fun _ hs => nomatch hs
  · exact symsOK_of_nn (NoNewSyl.of_inner h) h0
  · intro s' hs'
    rw [hcm] at hs'
    rcases insert_mem hi _ hs' with e | e
    · injection e with e; subst e
      exact ⟨⟨sh.syl, k, strat, hc, hh⟩, hs, hne⟩
    · exact h0 s' e

theorem dispatch_bufInv (hL : SoundLayout L) (base : Env D Nat)
    (hne : ∀ d strat, (layoutEnv L base).hasPhrase d [emptyPattern] strat = false)
    {e : Editor D Nat} {ev : KeyEvent} {sh : Shared D Nat} {st : St} (h0 : BufInv L e.shared)
    (h : dispatch (layoutEnv L base) e ev = .ok (sh, st)) : BufInv L sh :=
  dispatch_shared_all (Q := fun sh => Comp sh.syl ∧ SymsOK L sh.com) _ (fun _ _ h => h)
    (fun sh' t hr => ⟨syl_enteringNext _ (preamble e.shared) ev h0.1 (comp_liftPress (hL _ _ h0.1).stepOk) sh' t hr,
      symsOK_of_nn (nstep_enteringNext _ _ ev sh' t hr) h0.2⟩)
    (fun sh' t hr =>
      have hs := enteringSyllable_sound hL base (preamble e.shared) ev h0.1 (hne _ _) sh' t hr
      ⟨hs.1, symsOK_keyEffect (sh := preamble e.shared) h0.1 h0.2 hs.2⟩)
    (fun s x hr => ⟨(selKeep_selectingNext _ s _ ev x hr).1 ▸ h0.1, symsOK_of_nn (nsel_selectingNext _ s _ ev x hr) h0.2⟩)
    (fun m x hr => ⟨(highlighting_syl _ m _ ev _ hr).1 ▸ h0.1, symsOK_of_nn (highlighting_nn _ m _ ev x hr) h0.2⟩)
    _ h

theorem processKey_bufInv (hL : SoundLayout L) (base : Env D Nat)
    (hne : ∀ d strat, (layoutEnv L base).hasPhrase d [emptyPattern] strat = false)
    {e e' : Editor D Nat} {ev : KeyEvent} {b : KB} (h0 : BufInv L e.shared)
    (h : e.processKey (layoutEnv L base) ev = .ok (e', b)) : BufInv L e'.shared := by
  obtain ⟨sh, st, h1, h2⟩ := C05.processKey_split _ h
  obtain ⟨a1, a2⟩ := dispatch_bufInv hL base hne h0 h1
  obtain ⟨b1, b2⟩ := tail_keepsSyl _ h2
  exact ⟨b2 ▸ a1, symsOK_of_nn b1 a2⟩

/-- the operations covered: every one; `set_syllable_editor` must install a composable layout state -/
def OpOK : Op Nat → Prop
  | .setLayout l => Comp l
  | _ => True

theorem apply_bufInv (hL : SoundLayout L) (base : Env D Nat)
    (hne : ∀ d strat, (layoutEnv L base).hasPhrase d [emptyPattern] strat = false)
    {e e' : Editor D Nat} (op : Op Nat) (hop : OpOK op) (h0 : BufInv L e.shared)
    (h : e.apply (layoutEnv L base) op = .ok e') : BufInv L e'.shared := by
  refine apply_cases h (fun _ _ _ hr => processKey_bufInv hL base hne h0 hr)
    (fun _ _ _ hr => have ⟨a1, a2⟩ := select_keepsSyl _ hr; ⟨a2 ▸ h0.1, symsOK_of_nn a1 h0.2⟩) fun ha => ?_
  obtain ⟨a1, a2⟩ := apiEff_nn_syl _ ha
  refine ⟨?_, symsOK_of_nn a1 h0.2⟩
  rcases a2 with a | a | a
  · rw [a]; exact h0.1
  · rw [a]; exact comp_clear
  · rw [a] at hop; exact hop

theorem run_inv (hL : SoundLayout L) (base : Env D Nat)
    (hne : ∀ d strat, (layoutEnv L base).hasPhrase d [emptyPattern] strat = false)
    (ops : List (Op Nat)) : ∀ (e e' : Editor D Nat), (∀ op ∈ ops, OpOK op) → BufInv L e.shared →
      e.run (layoutEnv L base) ops = .ok e' → BufInv L e'.shared := fun _ _ =>
  (Editor.folds _).inv (I := fun e => BufInv L e.shared) (apply_bufInv hL base hne _) ops

theorem opOK_keys (keys : List KeyEvent) : ∀ op ∈ keys.map (Op.key (L := Nat)), OpOK op := by
  intro op ho
  obtain ⟨k, _, rfl⟩ := List.mem_map.mp ho
  trivial

end Layout

end Chewing.LinkSyl
