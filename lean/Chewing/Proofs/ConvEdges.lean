import Chewing.Proofs.ConvBasic
import Chewing.Proofs.ListBasics
/-!
What `find_best_phrase` / `find_intervals` guarantee about every edge of the interval graph.
-/
namespace Chewing.Conv

/-- what `find_best_phrase` guarantees about an edge it returns -/
structure EdgeOK (d : Dict) (strat : Strategy) (c : Composition) (e : Edge) : Prop where
  nonempty : slice c e.start e.stop ≠ []
  noBreak : hasBreakInside c e.start e.stop = false
  noConflict : selConflict c e.start e.stop = false
  kind : (∃ cp, e.phrase = .chr cp ∧ slice c e.start e.stop = [Sym.chr cp]) ∨
    (∃ p, e.phrase = .phrase p ∧ (∀ sym ∈ slice c e.start e.stop, sym.isSyl = true) ∧
      ((p ∈ d.lookup (sylPrefix (slice c e.start e.stop)) strat ∧
          phraseOk e.start e.stop p c.selections = .ok true) ∨
        (∃ x ∈ c.selections, e.start = x.start ∧ e.stop = x.stop ∧
          p = { text := x.text, freq := 0, lastUsed := none }) ∨
        (∃ k, slice c e.start e.stop = [Sym.syl k] ∧ p = { text := spell k, freq := 0, lastUsed := none } ∧
          pickBest c.selections e.start e.stop (d.lookup [k] strat) none = .ok none ∧
          forcedSel c e.start e.stop = none)))

theorem pickBest_some {sels : List Interval} {s e : Nat} {ps : List Phrase} {best : Option Phrase} {p : Phrase}
    (h : pickBest sels s e ps best = .ok (some p)) :
    best = some p ∨ (p ∈ ps ∧ phraseOk s e p sels = .ok true) := by
  induction ps generalizing best with
  | nil =>
    simp only [pickBest] at h
    exact Or.inl (Outcome.ok.inj h)
  | cons q qs ih =>
    unfold pickBest at h
    split at h
    · rename_i hq
      cases best with
      | none =>
        simp only [if_true] at h
        rcases ih h with h1 | ⟨h1, h2⟩
        · cases h1
          exact Or.inr ⟨List.mem_cons_self .., hq⟩
        · exact Or.inr ⟨List.mem_cons_of_mem _ h1, h2⟩
      | some b =>
        simp only at h
        split at h
        · rcases ih h with h1 | ⟨h1, h2⟩
          · cases h1
            exact Or.inr ⟨List.mem_cons_self .., hq⟩
          · exact Or.inr ⟨List.mem_cons_of_mem _ h1, h2⟩
        · exact (ih h).imp_right (And.imp_left (List.mem_cons_of_mem _))
    · exact (ih h).imp_right (And.imp_left (List.mem_cons_of_mem _))
    · cases h
    · cases h

theorem forcedSel_some {c : Composition} {s e : Nat} {p : Phrase} (h : forcedSel c s e = some p) :
    ∃ x ∈ c.selections, s = x.start ∧ e = x.stop ∧ p = { text := x.text, freq := 0, lastUsed := none } := by
  unfold forcedSel at h
  rw [Option.map_eq_some_iff] at h
  obtain ⟨x, hx, rfl⟩ := h
  have hm := List.mem_of_find?_eq_some hx
  have hp := List.find?_some hx
  simp only [Bool.and_eq_true, decide_eq_true_eq] at hp
  exact ⟨x, hm, hp.1, hp.2, rfl⟩

theorem spelledSyl_some {l : List Sym} {p : Phrase} (h : spelledSyl l = some p) :
    ∃ k, l = [Sym.syl k] ∧ p = { text := spell k, freq := 0, lastUsed := none } := by
  unfold spelledSyl at h
  split at h
  · exact ⟨_, rfl, (Option.some.inj h).symm⟩
  · cases h

theorem findBestPhrase_ok {d : Dict} {strat : Strategy} {c : Composition} {s e : Nat} {ph : PPhrase}
    (h : findBestPhrase d strat c s e = .ok (some ph)) : EdgeOK d strat c ⟨s, e, ph⟩ := by
  unfold findBestPhrase at h
  split at h
  · cases h
  rename_i hne
  split at h
  · cases h
  rename_i hb
  split at h
  · cases h
  rename_i hc
  have hne' : slice c s e ≠ [] := by simpa using hne
  have hb' : hasBreakInside c s e = false := by simpa using hb
  have hc' : selConflict c s e = false := by simpa using hc
  refine ⟨hne', hb', hc', ?_⟩
  split at h
  · rename_i cp hs
    cases h
    exact Or.inl ⟨cp, rfl, hs⟩
  · rename_i syms hns
    split at h
    · cases h
    rename_i hany
    have hall : ∀ sym ∈ slice c s e, sym.isSyl = true := by
      simpa using hany
    split at h
    · rename_i p hp
      cases h
      rcases pickBest_some hp with h1 | ⟨h1, h2⟩
      · cases h1
      · exact Or.inr ⟨p, rfl, hall, Or.inl ⟨h1, h2⟩⟩
    · rename_i hp
      have h := Outcome.ok.inj h
      rw [Option.map_eq_some_iff] at h
      obtain ⟨p, hp', rfl⟩ := h
      cases hf : forcedSel c s e with
      | some q =>
        rw [hf] at hp'
        cases hp'
        exact Or.inr ⟨_, rfl, hall, Or.inr (Or.inl (forcedSel_some hf))⟩
      | none =>
        rw [hf] at hp'
        obtain ⟨k, hk, rfl⟩ := spelledSyl_some (by simpa using hp')
        refine Or.inr ⟨_, rfl, hall, Or.inr (Or.inr ⟨k, hk, rfl, ?_, rfl⟩)⟩
        rw [hk] at hp
        exact hp
    · cases h
    · cases h

theorem mem_pairs {n b e : Nat} : (b, e) ∈ pairs n ↔ b < n ∧ b ≤ e ∧ e ≤ n := by
  unfold pairs
  simp only [List.mem_flatMap, List.mem_range, List.mem_map, List.mem_range'_1, Prod.mk.injEq]
  constructor
  · rintro ⟨b', hb, e', ⟨h1, h2⟩, rfl, rfl⟩
    omega
  · rintro ⟨h1, h2, h3⟩
    exact ⟨b, h1, e, ⟨h2, by omega⟩, rfl, rfl⟩

theorem collectEdges_mem {d : Dict} {strat : Strategy} {c : Composition} {ps : List (Nat × Nat)} {es : List Edge}
    (h : collectEdges d strat c ps = .ok es) {edge : Edge} (hm : edge ∈ es) :
    (edge.start, edge.stop) ∈ ps ∧ findBestPhrase d strat c edge.start edge.stop = .ok (some edge.phrase) := by
  induction ps generalizing es with
  | nil =>
    simp only [collectEdges] at h
    cases Outcome.ok.inj h
    cases hm
  | cons q qs ih =>
    obtain ⟨b, e⟩ := q
    unfold collectEdges at h
    split at h
    · rename_i r hr
      split at h
      · rename_i es' hes
        have h := Outcome.ok.inj h
        subst h
        cases r with
        | none =>
          obtain ⟨i1, i2⟩ := ih hes hm
          exact ⟨List.mem_cons_of_mem _ i1, i2⟩
        | some ph =>
          rcases List.mem_cons.mp hm with rfl | hm
          · exact ⟨List.mem_cons_self .., hr⟩
          · obtain ⟨i1, i2⟩ := ih hes hm
            exact ⟨List.mem_cons_of_mem _ i1, i2⟩
      · cases h
      · cases h
    · cases h
    · cases h

theorem collectEdges_complete {d : Dict} {strat : Strategy} {c : Composition} {ps : List (Nat × Nat)} {es : List Edge}
    (h : collectEdges d strat c ps = .ok es) {b e : Nat} {ph : PPhrase} (hm : (b, e) ∈ ps)
    (hf : findBestPhrase d strat c b e = .ok (some ph)) : (⟨b, e, ph⟩ : Edge) ∈ es := by
  induction ps generalizing es with
  | nil => cases hm
  | cons q qs ih =>
    obtain ⟨b', e'⟩ := q
    unfold collectEdges at h
    split at h
    · rename_i r hr
      split at h
      · rename_i es' hes
        have h := Outcome.ok.inj h
        subst h
        rcases List.mem_cons.mp hm with heq | hm
        · cases heq
          rw [hf] at hr
          cases Outcome.ok.inj hr
          exact List.mem_cons_self ..
        · have := ih hes hm
          cases r with
          | none => exact this
          | some _ => exact List.mem_cons_of_mem _ this
      · cases h
      · cases h
    · cases h
    · cases h

theorem findIntervals_edge {d : Dict} {strat : Strategy} {c : Composition} {es : List Edge}
    (h : findIntervals d strat c = .ok es) {edge : Edge} (hm : edge ∈ es) :
    EdgeOK d strat c edge ∧ edge.start < c.symbols.length ∧ edge.start ≤ edge.stop ∧ edge.stop ≤ c.symbols.length := by
  obtain ⟨h1, h2⟩ := collectEdges_mem h hm
  have := mem_pairs.mp h1
  exact ⟨findBestPhrase_ok h2, this.1, this.2.1, this.2.2⟩

theorem slice_singleton {c : Composition} {s e : Nat} {x : Sym} (h : slice c s e = [x]) (he : e ≤ c.symbols.length) :
    e = s + 1 ∧ c.symbols[s]? = some x := by
  have hl := slice_length (s := s) he
  have h0 := slice_getElem? (c := c) (s := s) (e := e) (j := 0)
  rw [h] at hl h0
  simp only [List.length_singleton] at hl
  rw [if_pos (by omega)] at h0
  exact ⟨by omega, h0.symm⟩

theorem slice_empty {c : Composition} {s : Nat} : slice c s s = [] := by
  simp [slice]

/-- every edge is non-empty: `find_best_phrase` answers `None` for an empty range whatever the
    dictionary stores under the empty key (F39 repaired) -/
theorem EdgeOK.lt {d : Dict} {strat : Strategy} {c : Composition} {e : Edge} (h : EdgeOK d strat c e) :
    e.start < e.stop := by
  rcases Nat.lt_or_ge e.start e.stop with hlt | hge
  · exact hlt
  · exfalso
    apply h.nonempty
    unfold slice
    rw [show e.stop - e.start = 0 by omega]
    rfl

/-! ### a symbol that no selection covers -/

theorem validSel_text_ne {c : Composition} {x : Interval} (h : ValidSel c x) : x.text ≠ [] := by
  intro he
  have := h.textLen
  have := h.nonempty
  rw [he] at *
  simp at *
  omega

/-- two selections of a valid composition that share a position are the same selection -/
theorem CompValid.sel_eq {c : Composition} (hc : CompValid c) {x y : Interval} (hx : x ∈ c.selections)
    (hy : y ∈ c.selections) (h : max x.start y.start < min x.stop y.stop) : x = y := by
  rcases pairwise_mem hc.disjoint hx hy with h' | h' | h'
  · exact h'
  · exact absurd h (intersect_eq_false.mp h')
  · exact absurd (by omega) (intersect_eq_false.mp h')

theorem pickBest_some_stays {sels : List Interval} {s e : Nat} {ps : List Phrase} {b : Phrase} {r : Option Phrase}
    (h : pickBest sels s e ps (some b) = .ok r) : r.isSome = true := by
  induction ps generalizing b with
  | nil => simp only [pickBest] at h; cases Outcome.ok.inj h; rfl
  | cons q qs ih =>
    unfold pickBest at h
    split at h
    · simp only at h
      split at h
      · exact ih h
      · exact ih h
    · exact ih h
    · cases h
    · cases h

theorem forcedSel_isSome {c : Composition} {x : Interval} (hx : x ∈ c.selections) :
    (forcedSel c x.start x.stop).isSome = true := by
  unfold forcedSel
  rw [Option.isSome_map, List.find?_isSome]
  exact ⟨x, hx, by simp⟩

theorem selConflict_false {c : Composition} {s e : Nat} (h : selConflict c s e = false) :
    ∀ x ∈ c.selections, x.intersectRange s e = true → s ≤ x.start ∧ x.stop ≤ e := by
  intro x hx hi
  unfold selConflict at h
  have := List.any_eq_false.mp h x hx
  simp only [hi, Bool.true_and, Bool.not_eq_true', Bool.not_eq_false] at this
  exact isContainedBy_eq_true.mp (by simpa using this)

theorem phraseOk_of_free {c : Composition} (hc : CompValid c) {i : Nat} (hf : Free c i) (p : Phrase) :
    ∀ sels, (∀ x ∈ sels, x ∈ c.selections) → phraseOk i (i + 1) p sels = .ok true := by
  intro sels
  induction sels with
  | nil => intro _; rfl
  | cons y ys ih =>
    intro hsub
    have hy := hsub y (List.mem_cons_self ..)
    have hv := hc.sels y hy
    have hni := List.any_eq_false.mp hf y hy
    simp only [Interval.intersectRange, decide_eq_true_eq] at hni
    unfold phraseOk
    rw [if_neg (validSel_text_ne hv), if_neg (by have := hv.nonempty; omega)]
    exact ih (fun x hx => hsub x (List.mem_cons_of_mem _ hx))

/-- when the fallback of `find_best_phrase` fires on a valid composition the syllable has no word at all
    under the strategy and no selection covers it -/
theorem fallback_facts {d : Dict} {strat : Strategy} {c : Composition} (hc : CompValid c) {i k : Nat}
    (hconf : selConflict c i (i + 1) = false) (hf : forcedSel c i (i + 1) = none)
    (hp : pickBest c.selections i (i + 1) (d.lookup [k] strat) none = .ok none) :
    d.lookup [k] strat = [] ∧ Free c i := by
  have hfree : Free c i := by
    unfold Free
    rw [List.any_eq_false]
    intro x hx hi
    have hi : x.intersectRange i (i + 1) = true := by simpa using hi
    have hcont := selConflict_false hconf x hx hi
    have hv := hc.sels x hx
    have h1 : x.start = i := by have := hv.nonempty; omega
    have h2 : x.stop = i + 1 := by have := hv.nonempty; omega
    have := forcedSel_isSome (c := c) hx
    rw [h1, h2, hf] at this
    cases this
  refine ⟨?_, hfree⟩
  cases hl : d.lookup [k] strat with
  | nil => rfl
  | cons p ps =>
    rw [hl] at hp
    unfold pickBest at hp
    rw [phraseOk_of_free hc hfree p _ (fun _ h => h)] at hp
    simp only [if_true] at hp
    have := pickBest_some_stays hp
    cases this

/-- a valid selection covers syllables only, so none intersects a character position -/
theorem no_sel_at_char {c : Composition} (hc : CompValid c) {i cp : Nat} (h : c.symbols[i]? = some (Sym.chr cp)) :
    Free c i := by
  unfold Free
  rw [List.any_eq_false]
  intro x hx hi
  have hi := intersectRange_eq_true.mp (by simpa using hi)
  have := (hc.sels x hx).syllables (Sym.chr cp) (mem_slice_iff.mpr ⟨i, by omega, by omega, h⟩)
  simp [Sym.isSyl] at this

theorem hasBreakInside_single (c : Composition) (i : Nat) : hasBreakInside c i (i + 1) = false := by
  simp [hasBreakInside]

theorem selConflict_of_free {c : Composition} {i : Nat} (hf : Free c i) : selConflict c i (i + 1) = false := by
  unfold selConflict
  rw [List.any_eq_false]
  intro y hy
  have := List.any_eq_false.mp hf y hy
  simp [this]

/-! ### the four kinds of an interval before `glue_fn` -/

/-- what both engines build their alternatives from: a character, a word of the dictionary that agrees with
    the selections inside it and spans neither a break nor half a selection, a selection (the Chewing engine
    marks it as a phrase, the simple engine copies its flag), or the spelling of a word-less uncovered syllable -/
inductive IvKind (d : Dict) (strat : Strategy) (c : Composition) : Interval → Prop
  | chr {i cp : Nat} : c.symbols[i]? = some (Sym.chr cp) → IvKind d strat c ⟨i, i + 1, false, [cp]⟩
  | dict {s e : Nat} {p : Phrase} : s < e → e ≤ c.symbols.length → (∀ sym ∈ slice c s e, sym.isSyl = true) →
      p ∈ d.lookup (sylPrefix (slice c s e)) strat → phraseOk s e p c.selections = .ok true →
      hasBreakInside c s e = false → selConflict c s e = false → IvKind d strat c ⟨s, e, true, p.text⟩
  | sel {x : Interval} {b : Bool} : x ∈ c.selections → IvKind d strat c ⟨x.start, x.stop, b, x.text⟩
  | spell {i k : Nat} : c.symbols[i]? = some (Sym.syl k) → d.lookup [k] strat = [] → Free c i →
      IvKind d strat c ⟨i, i + 1, true, spell k⟩

/-- an edge of the interval graph of a valid composition is of one of the four kinds -/
theorem EdgeOK.ivKind {d : Dict} {strat : Strategy} {c : Composition} {e : Edge} (h : EdgeOK d strat c e)
    (hle : e.stop ≤ c.symbols.length) (hc : CompValid c) : IvKind d strat c (toInterval e) := by
  have hlt := h.lt
  obtain ⟨s, t, ph⟩ := e
  have hk := h.kind
  simp only at hk hle hlt
  rcases hk with ⟨cp, rfl, hs⟩ | ⟨p, rfl, hall, ⟨hl, hok⟩ | ⟨x, hx, rfl, rfl, rfl⟩ | ⟨k, hs, rfl, hpick, hforced⟩⟩
  · obtain ⟨rfl, hi⟩ := slice_singleton hs hle
    exact .chr hi
  · exact .dict hlt hle hall hl hok h.noBreak h.noConflict
  · exact .sel hx
  · obtain ⟨rfl, hi⟩ := slice_singleton hs hle
    obtain ⟨hl, hfree⟩ := fallback_facts hc h.noConflict hforced hpick
    exact .spell hi hl hfree

/-- only a word of the dictionary carries a frequency -/
theorem EdgeOK.freq_le {d : Dict} {strat : Strategy} {c : Composition} {e : Edge} (h : EdgeOK d strat c e) {B : Nat}
    (hb : ∀ key, ∀ p ∈ d.lookup key strat, p.freq ≤ B) : e.phrase.freq ≤ B := by
  obtain ⟨s, t, ph⟩ := e
  rcases h.kind with ⟨cp, rfl, _⟩ | ⟨p, rfl, _, ⟨hl, _⟩ | ⟨x, _, _, _, rfl⟩ | ⟨k, _, rfl, _, _⟩⟩
  · exact Nat.zero_le _
  · exact hb _ _ hl
  · exact Nat.zero_le _
  · exact Nat.zero_le _

end Chewing.Conv
