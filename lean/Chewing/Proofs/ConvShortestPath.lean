import Chewing.Proofs.ConvPaths
/-!
`shortest_path` on a graph of valid edges (`start < end ≤ len`) never panics, its two
`while` loops finish within the fuel the model supplies, and it finds a path whenever one exists among
the edges that are not removed (BFS completeness).
-/
namespace Chewing.Conv

def EdgesValid (len : Nat) (es : List Edge) : Prop := ∀ e ∈ es, e.start < e.stop ∧ e.stop ≤ len

theorem edgeIdx_ok {len : Nat} {e : Edge} (h1 : e.start < e.stop) (h2 : e.stop ≤ len) :
    ∃ idx, edgeIdx len e = .ok idx := by
  unfold edgeIdx
  have hmul : (e.start + 1) * len ≤ len * len := Nat.mul_le_mul_right len (by omega)
  rw [Nat.add_mul, Nat.one_mul] at hmul
  rw [if_neg (by omega), if_pos (by omega)]
  exact ⟨_, rfl⟩

def countNone : List (Option Edge) → Nat
  | [] => 0
  | none :: r => countNone r + 1
  | some _ :: r => countNone r

theorem countNone_replicate (n : Nat) : countNone (List.replicate n none) = n := by
  induction n with
  | zero => rfl
  | succ n ih => simp [List.replicate_succ, countNone, ih]

theorem countNone_set {par : List (Option Edge)} {i : Nat} {e : Edge} (h : par[i]? = some none) :
    countNone (par.set i (some e)) + 1 = countNone par := by
  induction par generalizing i with
  | nil => cases h
  | cons x r ih =>
    cases i with
    | zero =>
      simp only [List.getElem?_cons_zero, Option.some.injEq] at h
      subst h
      simp [countNone]
    | succ j =>
      simp only [List.getElem?_cons_succ] at h
      cases x with
      | none => simp only [List.set_cons_succ, countNone]; have := ih h; omega
      | some y => simp only [List.set_cons_succ, countNone]; exact ih h

/-- node `v` has a BFS parent -/
def Vis' (par : List (Option Edge)) (v : Nat) : Prop := ∃ e, par[v]? = some (some e)

/-- the edge is not marked in `removed_edges` -/
def Usable (len : Nat) (removed : List Nat) (e : Edge) : Prop := ∀ idx, edgeIdx len e = .ok idx → idx ∉ removed

/-- postcondition of the `for edge in next_edges` loop -/
structure EdgesPost (len : Nat) (removed : List Nat) (l : List Edge) (par : List (Option Edge)) (q : List Nat)
    (par' : List (Option Edge)) (q' : List Nat) (brk : Bool) : Prop where
  len' : par'.length = len + 1
  mono : ∀ (v : Nat) (e : Edge), par[v]? = some (some e) → par'[v]? = some (some e)
  fresh : ∀ (v : Nat) (e : Edge), par'[v]? = some (some e) → par[v]? = some (some e) ∨ (e ∈ l ∧ e.stop = v ∧ v ∈ q')
  qsub : ∀ v ∈ q, v ∈ q'
  qnew : ∀ v ∈ q', v ∈ q ∨ Vis' par' v
  measure : q'.length + countNone par' = q.length + countNone par
  all : brk = false → ∀ e ∈ l, Usable len removed e → Vis' par' e.stop
  hit : brk = true → Vis' par' len

namespace EdgesPost
variable {len : Nat} {removed : List Nat} {e : Edge} {l : List Edge} {par par' : List (Option Edge)} {q q' : List Nat}
  {brk : Bool}

/-- the loop stops where it stands -/
theorem refl (hpl : par.length = len + 1) (hall : brk = false → ∀ e ∈ l, Usable len removed e → Vis' par e.stop)
    (hhit : brk = true → Vis' par len) : EdgesPost len removed l par q par q brk :=
  ⟨hpl, fun _ _ h => h, fun _ _ h => .inl h, fun _ h => h, fun _ h => .inl h, rfl, hall, hhit⟩

/-- an edge that is removed, or whose target has a parent already, changes nothing -/
theorem cons_skip (post : EdgesPost len removed l par q par' q' brk)
    (he : brk = false → Usable len removed e → Vis' par' e.stop) : EdgesPost len removed (e :: l) par q par' q' brk :=
  ⟨post.len', post.mono, fun v e' h => (post.fresh v e' h).imp_right (And.imp_left (List.mem_cons_of_mem _)),
    post.qsub, post.qnew, post.measure,
    fun hb e' he' hu => (List.mem_cons.mp he').elim (fun h => by subst h; exact he hb hu) (post.all hb e' · hu), post.hit⟩

/-- an edge to a node without a parent makes the edge its parent and queues the node -/
theorem cons_visit (hnone : par[e.stop]? = some none)
    (post : EdgesPost len removed l (par.set e.stop (some e)) (q ++ [e.stop]) par' q' brk) :
    EdgesPost len removed (e :: l) par q par' q' brk := by
  have hset : (par.set e.stop (some e))[e.stop]? = some (some e) :=
    List.getElem?_set_self (List.getElem?_eq_some_iff.mp hnone).1
  have hvis := post.mono _ _ hset
  have hq := post.qsub _ (List.mem_append_right q (List.mem_singleton.mpr rfl))
  refine ⟨post.len', fun v e' h => post.mono v e' ?_, fun v e' h => ?_, fun v h => post.qsub v (List.mem_append_left _ h),
    fun v h => ?_, ?_, fun hb e' he' hu => ?_, post.hit⟩
  · rw [List.getElem?_set_ne]
    · exact h
    · rintro rfl
      rw [hnone] at h
      cases h
  · rcases post.fresh v e' h with h | ⟨h1, h2, h3⟩
    · by_cases hve : e.stop = v
      · subst hve
        rw [hset] at h
        cases h
        exact .inr ⟨List.mem_cons_self .., rfl, hq⟩
      · rw [List.getElem?_set_ne hve] at h
        exact .inl h
    · exact .inr ⟨List.mem_cons_of_mem _ h1, h2, h3⟩
  · rcases post.qnew v h with h | h
    · rcases List.mem_append.mp h with h | h
      · exact .inl h
      · rw [List.mem_singleton.mp h]
        exact .inr ⟨e, hvis⟩
    · exact .inr h
  · have := post.measure
    rw [List.length_append, List.length_singleton] at this
    have := countNone_set (e := e) hnone
    omega
  · rcases List.mem_cons.mp he' with rfl | he'
    · exact ⟨_, hvis⟩
    · exact post.all hb e' he' hu

end EdgesPost

theorem bfsEdges_spec {len : Nat} {removed : List Nat} {l : List Edge} {par : List (Option Edge)} {q : List Nat}
    (hl : ∀ e ∈ l, e.start < e.stop ∧ e.stop ≤ len) (hpl : par.length = len + 1) :
    ∃ par' q' brk, bfsEdges len removed l par q = .ok (par', q', brk) ∧ EdgesPost len removed l par q par' q' brk ∧
      (brk = false → ∀ e ∈ l, Usable len removed e → e.stop ≠ len) := by
  induction l generalizing par q with
  | nil => exact ⟨par, q, false, rfl, .refl hpl (fun _ _ he => nomatch he) nofun, fun _ _ he => nomatch he⟩
  | cons e l ih =>
    have hl' : ∀ e ∈ l, e.start < e.stop ∧ e.stop ≤ len := fun x hx => hl x (List.mem_cons_of_mem _ hx)
    obtain ⟨he1, he2⟩ := hl e (List.mem_cons_self ..)
    obtain ⟨idx, hidx⟩ := edgeIdx_ok he1 he2
    unfold bfsEdges
    rw [hidx]
    simp only
    by_cases hrem : idx ∈ removed
    · rw [if_pos hrem]
      obtain ⟨par', q', brk, hr, post, nb⟩ := ih (par := par) (q := q) hl' hpl
      exact ⟨par', q', brk, hr, post.cons_skip fun _ hu => absurd hrem (hu idx hidx), fun hb e' he' hu =>
        (List.mem_cons.mp he').elim (fun h => absurd hrem ((h ▸ hu) idx hidx)) (nb hb e' · hu)⟩
    · rw [if_neg hrem]
      have hin : e.stop < par.length := hpl ▸ Nat.lt_succ_of_le he2
      have hsome : par[e.stop]? = some par[e.stop] := List.getElem?_eq_getElem hin
      rw [hsome]
      simp only
      cases hslot : par[e.stop] with
      | none =>
        have hnone : par[e.stop]? = some none := by rw [hsome, hslot]
        simp only [Option.isNone_none, if_true]
        by_cases hend : e.stop = len
        · rw [if_pos hend]
          exact ⟨_, _, true, rfl, .cons_visit hnone (.refl (List.length_set.trans hpl) nofun fun _ =>
            hend ▸ ⟨e, List.getElem?_set_self hin⟩), nofun⟩
        · rw [if_neg hend]
          obtain ⟨par', q', brk, hr, post, nb⟩ := ih (par := par.set e.stop (some e)) (q := q ++ [e.stop]) hl'
            (List.length_set.trans hpl)
          exact ⟨par', q', brk, hr, post.cons_visit hnone,
            fun hb e' he' hu => (List.mem_cons.mp he').elim (· ▸ hend) (nb hb e' · hu)⟩
      | some e0 =>
        have hold : par[e.stop]? = some (some e0) := by rw [hsome, hslot]
        simp only [Option.isNone_some, Bool.false_eq_true, if_false]
        by_cases hend : e.stop = len
        · rw [if_pos hend]
          exact ⟨_, _, true, rfl, .refl hpl nofun fun _ => hend ▸ ⟨e0, hold⟩, nofun⟩
        · rw [if_neg hend]
          obtain ⟨par', q', brk, hr, post, nb⟩ := ih (par := par) (q := q) hl' hpl
          exact ⟨par', q', brk, hr, post.cons_skip fun _ _ => ⟨_, post.mono _ _ hold⟩,
            fun hb e' he' hu => (List.mem_cons.mp he').elim (· ▸ hend) (nb hb e' · hu)⟩

/-- invariant of the BFS parent array: an entry is a graph edge ending at its index -/
def ParOK (E : List Edge) (par : List (Option Edge)) : Prop :=
  ∀ v e, par[v]? = some (some e) → e ∈ E ∧ e.stop = v

theorem outEdges_sub {es : List Edge} {node : Nat} : ∀ e ∈ outEdges es node, e ∈ es :=
  fun _ he => (List.mem_filter.mp he).1

/-- invariant of the `'bfs` loop -/
structure BfsInv (es : List Edge) (len : Nat) (removed : List Nat) (source : Nat)
    (par : List (Option Edge)) (q : List Nat) : Prop where
  len' : par.length = len + 1
  chain : ∀ (v : Nat) (e : Edge), par[v]? = some (some e) → e.start = source ∨ Vis' par e.start
  qvis : ∀ v ∈ q, v = source ∨ Vis' par v
  done : ∀ v, (v = source ∨ Vis' par v) → v ∈ q ∨ ∀ e ∈ es, e.start = v → Usable len removed e → Vis' par e.stop
  parOK : ParOK es par

/-- what the `'bfs` loop establishes -/
structure BfsPost (es : List Edge) (len : Nat) (removed : List Nat) (source : Nat) (par : List (Option Edge)) : Prop where
  len' : par.length = len + 1
  chain : ∀ (v : Nat) (e : Edge), par[v]? = some (some e) → e.start = source ∨ Vis' par e.start
  closedOrHit : (∀ v, (v = source ∨ Vis' par v) → ∀ e ∈ es, e.start = v → Usable len removed e → Vis' par e.stop) ∨
    Vis' par len
  parOK : ParOK es par

theorem bfsLoop_spec {es : List Edge} {len : Nat} {removed : List Nat} {source : Nat} (hv : EdgesValid len es) :
    ∀ (fuel : Nat) (par : List (Option Edge)) (q : List Nat), BfsInv es len removed source par q →
      q.length + countNone par ≤ fuel →
      ∃ par', bfsLoop es len removed fuel par q = .ok par' ∧ BfsPost es len removed source par' := by
  have hnil : ∀ (fuel : Nat) (par : List (Option Edge)), BfsInv es len removed source par [] →
      ∃ par', bfsLoop es len removed fuel par [] = .ok par' ∧ BfsPost es len removed source par' :=
    fun fuel par inv => ⟨par, by cases fuel <;> rfl, inv.len', inv.chain,
      .inl fun v hvis => (inv.done v hvis).resolve_left nofun, inv.parOK⟩
  intro fuel
  induction fuel with
  | zero =>
    intro par q inv hf
    cases q with
    | nil => exact hnil _ par inv
    | cons n q => simp at hf
  | succ f ih =>
    intro par q inv hf
    cases q with
    | nil => exact hnil _ par inv
    | cons node q0 =>
      have hout : ∀ e ∈ outEdges es node, e.start < e.stop ∧ e.stop ≤ len := fun e he => hv e (outEdges_sub e he)
      obtain ⟨par', q', brk, hr, post, _⟩ := bfsEdges_spec (removed := removed) (q := q0) hout inv.len'
      simp only [bfsLoop]
      rw [hr]
      simp only
      have hnode : node = source ∨ Vis' par node := inv.qvis node (List.mem_cons_self ..)
      have monoVis : ∀ v, Vis' par v → Vis' par' v := fun v ⟨e, he⟩ => ⟨e, post.mono v e he⟩
      have chain' : ∀ (v : Nat) (e : Edge), par'[v]? = some (some e) → e.start = source ∨ Vis' par' e.start := by
        intro v e h
        rcases post.fresh v e h with h | ⟨h1, _, _⟩
        · rcases inv.chain v e h with h | h
          · exact Or.inl h
          · exact Or.inr (monoVis _ h)
        · have hst : e.start = node := by simpa using (List.mem_filter.mp h1).2
          rw [hst]
          rcases hnode with h | h
          · exact Or.inl h
          · exact Or.inr (monoVis _ h)
      have parOK' : ParOK es par' := fun v e h =>
        (post.fresh v e h).elim (inv.parOK v e) fun ⟨h1, h2, _⟩ => ⟨outEdges_sub e h1, h2⟩
      cases brk with
      | true =>
        simp only [if_true]
        exact ⟨par', rfl, post.len', chain', Or.inr (post.hit rfl), parOK'⟩
      | false =>
        simp only [Bool.false_eq_true, if_false]
        refine ih par' q' ⟨post.len', chain', ?_, ?_, parOK'⟩ ?_
        · intro v h
          rcases post.qnew v h with h | h
          · rcases inv.qvis v (List.mem_cons_of_mem _ h) with h | h
            · exact Or.inl h
            · exact Or.inr (monoVis _ h)
          · exact Or.inr h
        · intro v hvis
          -- was `v` already visited before this iteration?
          have hcases : (v = source ∨ Vis' par v) ∨ v ∈ q' := by
            rcases hvis with h | ⟨e, he⟩
            · exact Or.inl (Or.inl h)
            · rcases post.fresh v e he with h | ⟨_, _, h3⟩
              · exact Or.inl (Or.inr ⟨e, h⟩)
              · exact Or.inr h3
          rcases hcases with hold | hq
          · rcases inv.done v hold with h | h
            · rcases List.mem_cons.mp h with rfl | h
              · right
                intro e he hst hu
                exact post.all rfl e (List.mem_filter.mpr ⟨he, by simpa using hst⟩) hu
              · exact Or.inl (post.qsub v h)
            · right
              intro e he hst hu
              exact monoVis _ (h e he hst hu)
          · exact Or.inl hq
        · have := post.measure
          simp only [List.length_cons] at hf
          omega

/-- the walk back from `node`: it ends (the node strictly decreases along parent edges), every path it
    returns is a chain from `source`, and it returns one when `node` was reached -/
theorem walkBack_spec {es : List Edge} {len : Nat} {removed : List Nat} {par : List (Option Edge)} {source : Nat}
    (hv : EdgesValid len es) (post : BfsPost es len removed source par) :
    ∀ (fuel node : Nat) (acc : Path), node ≤ len → node + 1 ≤ fuel → IsChain es node len acc →
      ∃ r, walkBack par source fuel node acc = .ok r ∧ (∀ p, r = some p → IsChain es source len p) ∧
        ((node = source ∨ Vis' par node) → r ≠ none) := by
  intro fuel
  induction fuel with
  | zero => intro node acc _ h; omega
  | succ f ih =>
    intro node acc h1 h2 hacc
    unfold walkBack
    by_cases hs : node = source
    · rw [if_pos hs]
      exact ⟨_, rfl, fun p hp => Option.some.inj hp ▸ hs ▸ hacc, fun _ => nofun⟩
    · rw [if_neg hs]
      simp only
      have hin : node < par.length := by have := post.len'; omega
      have hsome : par[node]? = some par[node] := List.getElem?_eq_getElem hin
      rw [hsome]
      cases hslot : par[node] with
      | none =>
        refine ⟨none, rfl, nofun, fun hvis _ => ?_⟩
        rcases hvis with h | ⟨e, he⟩
        · exact hs h
        · rw [hsome, hslot] at he; cases he
      | some e =>
        simp only
        have he : par[node]? = some (some e) := by rw [hsome, hslot]
        obtain ⟨hes, hst⟩ := post.parOK node e he
        have := hv e hes
        obtain ⟨r, hr, hc, hn⟩ := ih e.start (e :: acc) (by omega) (by omega) ⟨hes, rfl, hst ▸ hacc⟩
        exact ⟨r, hr, hc, fun _ => hn (post.chain node e he)⟩

theorem bfsInv_init (es : List Edge) (len : Nat) (removed : List Nat) (source : Nat) :
    BfsInv es len removed source (List.replicate (len + 1) none) [source] := by
  have hnone : ∀ (v : Nat) (e : Edge), (List.replicate (len + 1) (none : Option Edge))[v]? = some (some e) → False := by
    intro v e h
    rw [List.getElem?_replicate] at h
    split at h <;> cases h
  refine ⟨by simp, fun v e h => (hnone v e h).elim, ?_, ?_, ?_⟩
  · intro v h; exact Or.inl (List.mem_singleton.mp h)
  · intro v h
    rcases h with h | ⟨e, he⟩
    · exact Or.inl (List.mem_singleton.mpr h)
    · exact (hnone v e he).elim
  · exact fun v e h => (hnone v e h).elim

/-- `shortest_path` never panics and never runs out of the fuel the model supplies (`len + 2` dequeues: the
    measure is queue length + unvisited nodes; `len + 1` steps back); what it returns is a chain of graph edges
    from `source` to `len`; and it returns one whenever one exists among the edges that are not removed -/
theorem shortestPath_spec {es : List Edge} {len : Nat} (hv : EdgesValid len es) (removed : List Nat) (source : Nat) :
    ∃ r, shortestPath es len removed source = .ok r ∧ (∀ p, r = some p → IsChain es source len p) ∧
      ∀ p, IsChain es source len p → (∀ e ∈ p, Usable len removed e) → r ≠ none := by
  obtain ⟨par, hpar, post⟩ := bfsLoop_spec (removed := removed) (source := source) hv (len + 2) _ _
    (bfsInv_init es len removed source) (by simp [countNone_replicate]; omega)
  obtain ⟨r, hr, hchain, hfound⟩ := walkBack_spec hv post (len + 1) len [] (Nat.le_refl _) (Nat.le_refl _)
    (show len = len from rfl)
  refine ⟨r, by unfold shortestPath; rw [hpar]; exact hr, hchain, fun p hp hu => hfound ?_⟩
  rcases post.closedOrHit with hclosed | hhit
  · -- the visited set is closed under usable edges: follow the chain
    suffices ∀ (a : Nat) (p : Path), IsChain es a len p → (∀ e ∈ p, Usable len removed e) →
        (a = source ∨ Vis' par a) → (len = source ∨ Vis' par len) from this source p hp hu (Or.inl rfl)
    intro a p
    induction p generalizing a with
    | nil => intro hc _ ha; cases hc; exact ha
    | cons e r ih =>
      intro hc hu ha
      obtain ⟨h1, h2, h3⟩ := hc
      exact ih e.stop h3 (fun x hx => hu x (List.mem_cons_of_mem _ hx))
        (Or.inr (hclosed a ha e h1 h2 (hu e (List.mem_cons_self ..))))
  · exact Or.inr hhit

theorem shortestPath_total {es : List Edge} {len : Nat} (hv : EdgesValid len es) (removed : List Nat)
    {source : Nat} (_hs : source ≤ len) : ∃ r, shortestPath es len removed source = .ok r :=
  (shortestPath_spec hv removed source).imp fun _ h => h.1

theorem shortestPath_chain {es : List Edge} {len : Nat} (hv : EdgesValid len es) {removed : List Nat} {source : Nat}
    {p : Path} (h : shortestPath es len removed source = .ok (some p)) : IsChain es source len p := by
  obtain ⟨r, hr, hc, _⟩ := shortestPath_spec hv removed source
  rw [h] at hr
  exact hc p (Outcome.ok.inj hr).symm

theorem shortestPath_complete {es : List Edge} {len : Nat} (hv : EdgesValid len es) (removed : List Nat)
    {source : Nat} {p : Path} (hp : IsChain es source len p) (hu : ∀ e ∈ p, Usable len removed e) :
    ∃ p', shortestPath es len removed source = .ok (some p') := by
  obtain ⟨r, hr, _, hn⟩ := shortestPath_spec hv removed source
  cases r with
  | none => exact absurd rfl (hn p hp hu)
  | some p' => exact ⟨p', hr⟩

end Chewing.Conv
