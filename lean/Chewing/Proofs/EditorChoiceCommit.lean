import Chewing.Props.C02
import Chewing.Proofs.ConvDisplay
/-!
A pure list lemma about the auto-commit loop of the editor: a user choice (an interval `t` lying inside
one interval of the conversion, shown with its own text) that the auto-commit reaches — its first
symbol is among the removed ones — is committed WHOLE and the committed text carries the chosen text at
the choice's position.
-/
namespace Chewing.C04
open Chewing.C02

/-- splitting a chain at the `k`-th interval: the first `k` intervals form a chain from `a` to `a` plus
    their summed length, the others a chain from there to `b` -/
theorem chain_split {a b : Nat} {l : List Interval} (h : Conv.IvChain a b l) (k : Nat) :
    Conv.IvChain a (a + sumLen (l.take k)) (l.take k) ∧ Conv.IvChain (a + sumLen (l.take k)) b (l.drop k) := by
  induction l generalizing a k with
  | nil => simp only [List.take_nil, List.drop_nil, sumLen, Nat.add_zero]; exact ⟨rfl, h⟩
  | cons x r ih =>
    cases k with
    | zero => simp only [List.take_zero, List.drop_zero, sumLen, Nat.add_zero]; exact ⟨rfl, h⟩
    | succ k =>
      obtain ⟨rfl, h2, h3⟩ := h
      obtain ⟨i1, i2⟩ := ih h3 k
      rw [List.take_succ_cons, sumLen, Interval.len, ← Nat.add_assoc, Nat.add_sub_cancel' (Nat.le_of_lt h2)]
      exact ⟨⟨rfl, h2, i1⟩, i2⟩

/-- the first `k` intervals of a chain from 0 form a chain from 0 to their summed length -/
theorem chain_take {len : Nat} {ivs : List Interval} (h : Conv.IvChain 0 len ivs) (k : Nat) :
    Conv.IvChain 0 (sumLen (ivs.take k)) (ivs.take k) ∧ Conv.IvChain (sumLen (ivs.take k)) len (ivs.drop k) := by
  have := chain_split h k
  rwa [Nat.zero_add] at this

/-- **a choice reached by the auto-commit is committed whole, with its text** -/
theorem committed_choice {len : Nat} {ivs : List Interval} (hchain : Conv.IvChain 0 len ivs)
    (hlen : ∀ iv ∈ ivs, iv.text.length = iv.stop - iv.start)
    {thr : Nat} {buf : Text} {n : Nat} (hpre : thr < len)
    (htake : Shared.autoCommitTake len thr ivs [] 0 = .ok (buf, n))
    {t : Interval} (hwhole : ∃ iv ∈ ivs, iv.start ≤ t.start ∧ t.stop ≤ iv.stop)
    (hshown : Conv.textAt ivs t.start t.stop = t.text)
    (hreach : t.start < n) :
    t.stop ≤ n ∧ (buf.drop t.start).take (t.stop - t.start) = t.text := by
  obtain ⟨k, _, _, hbuf, hn, _⟩ := C02.auto_commit_take len thr ivs buf n hpre htake
  obtain ⟨hP, hR⟩ := chain_take hchain k
  rw [← hn] at hP hR
  obtain ⟨iv, hm, h1, h2⟩ := hwhole
  -- the interval containing the choice is among the committed ones
  have hstop : t.stop ≤ n := by
    rw [← List.take_append_drop k ivs] at hm
    rcases List.mem_append.mp hm with hm | hm
    · exact Nat.le_trans h2 (hP.mem_bounds hm).2.2
    · exact absurd (Nat.le_trans (hR.mem_bounds hm).1 h1) (Nat.not_le.mpr hreach)
  refine ⟨hstop, ?_⟩
  have hPl : (Conv.display (ivs.take k)).length = n :=
    Conv.display_length hP fun iv hm => hlen iv (List.mem_of_mem_take hm)
  have hd : Conv.display ivs = Conv.display (ivs.take k) ++ Conv.display (ivs.drop k) := by
    simp only [Conv.display, ← List.flatMap_append, List.take_append_drop]
  rw [← hshown, show buf = Conv.display (ivs.take k) from hbuf]
  unfold Conv.textAt
  rw [hd, List.drop_append_of_le_length (hPl ▸ Nat.le_of_lt hreach), List.take_append_of_le_length]
  rw [List.length_drop, hPl]
  exact Nat.sub_le_sub_right hstop _

end Chewing.C04
