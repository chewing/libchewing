import Chewing.Proofs.TrieBufAbs
/-!
The representation invariant of `TrieBuf` and what follows from it.  Everything goes through ONE fact,
`entries_agrees`: in a state satisfying the invariant `entries()` enumerates the denoted map.  The
candidates of a lookup are the enumerated entries whose key matches (`entriesIterFor_uniform`), so the
answers of the lookups, exact and prefix, are corollaries (`Proofs/TrieBufObs.lean`), and so is the snapshot lemma
(`build_abs`: the file the writer produces from `entries()` denotes the same map).  `entries_agrees` and what
follows from it need only `LInv` (pending tree keyed, snapshot well formed: declared here under `DictLink`'s name
because C10's protocol, which has no `file` / `inflight`, uses exactly that part).  Then the refinement
step: every operation preserves the invariant and acts on the denoted map as `MapSpec.Map.apply`.
-/
namespace Chewing
open MapSpec

namespace TrieBuf
open Trie

/-- representation invariant (sequential schedules) -/
structure Inv (s : State) : Prop where
  /-- the pending tree is a map -/
  bt : KeysOk s.btree
  snap : SnapOk s.snap
  file : SnapOk s.file
  infl : ∀ t, s.inflight = some t → SnapOk t
  /-- re-reading the file does not change what the dictionary denotes -/
  fileAgree : absOver s.file s = abs s
  /-- nor does putting the writer's output on disk -/
  inflAgree : ∀ t, s.inflight = some t → absOver t s = abs s
  /-- unmodified since `checkpoint()`: the writer's output *is* the denoted map -/
  inflClean : ∀ t, s.inflight = some t → s.dirty = false → ∀ k, baseGet t k = abs s k
  /-- unmodified and no writer: the file is the denoted map -/
  cleanFile : s.dirty = false → s.inflight = none → ∀ k, baseGet s.file k = abs s k

/-- the part of the representation invariant that concerns the layers, which is all the answers rest on (the rest
    of `TrieBuf.Inv` is about the sequential writer's `file` / `inflight`, which C10's protocol replaces) -/
structure _root_.Chewing.DictLink.LInv (s : TrieBuf.State) : Prop where
  bt : TrieBuf.KeysOk s.btree
  snap : Trie.SnapOk s.snap

open DictLink (LInv)

theorem Inv.linv {s : State} (h : Inv s) : LInv s := ⟨h.bt, h.snap⟩

theorem absOver_eq_some {b : List Leaf} {s : State} (hb : SnapOk b) (hk : KeysOk s.btree) {k : Key} {t : Text} {v : Val} :
    absOver b s (k, t) = some v ↔
      (k, t) ∉ s.grave ∧
        (((k, t), v) ∈ s.btree ∨
          ((∀ w, ((k, t), w) ∉ s.btree) ∧ ∃ l ∈ b, l.1 = k ∧ ∃ p ∈ l.2, p.text = t ∧ valOf p = v)) := by
  unfold absOver
  by_cases hg : (k, t) ∈ s.grave
  · rw [if_pos (by simpa using hg)]
    exact ⟨nofun, fun h => absurd hg h.1⟩
  · rw [if_neg (by simpa using hg), Option.or_eq_some_iff, btGet_iff hk, btGet_eq_none, baseGet_iff hb]
    exact (and_iff_right hg).symm

theorem mem_filter_grave {s : State} {k : Key} {l : List Phrase} {p : Phrase} :
    p ∈ l.filter (fun p => !(s.grave.contains (k, p.text))) ↔ p ∈ l ∧ (k, p.text) ∉ s.grave := by
  simp only [List.mem_filter, List.contains_eq_mem, Bool.not_eq_true', decide_eq_false_iff_not]

theorem mkPhrase_text (t : Text) (v : Val) : (mkPhrase t v).text = t := rfl

/-! ### the enumeration -/

theorem mem_btEntries {bt : List (PKey × Val)} {e : Entry} :
    e ∈ btEntries bt ↔ ∃ v, ((e.1, e.2.text), v) ∈ bt ∧ e.2 = mkPhrase e.2.text v := by
  unfold btEntries
  simp only [List.mem_map]
  constructor
  · rintro ⟨x, hx, rfl⟩; exact ⟨x.2, hx, rfl⟩
  · rintro ⟨v, hv, he⟩
    exact ⟨((e.1, e.2.text), v), hv, by rw [← he]⟩

/-- an enumerated entry, layer by layer: no tombstone of its key, and either persisted without a pending
    entry of its key (fix 22d24c7, F10) or pending -/
theorem mem_entries {s : State} {e : Entry} :
    e ∈ entries s ↔ (e.1, e.2.text) ∉ s.grave ∧
      (((∃ l ∈ s.snap, l.1 = e.1 ∧ e.2 ∈ l.2) ∧ ∀ w, ((e.1, e.2.text), w) ∉ s.btree) ∨
        ∃ v, ((e.1, e.2.text), v) ∈ s.btree ∧ e.2 = mkPhrase e.2.text v) := by
  unfold entries
  simp only [List.mem_filter, List.mem_append, mem_trie_entries, mem_btEntries, List.contains_eq_mem,
    Bool.not_eq_true', decide_eq_false_iff_not, btHas_false]
  exact And.comm

theorem pairwise_btEntries {bt : List (PKey × Val)} (h : KeysOk bt) :
    (btEntries bt).Pairwise (fun a b => pkeyOf a ≠ pkeyOf b) :=
  List.pairwise_map.mpr (h.imp fun hab e => hab e)

theorem entries_agrees {s : State} (hs : LInv s) : IsEntries (abs s) (entries s) := by
  refine ⟨?_, ?_, ?_⟩
  · show ((entries s).map pkeyOf).Nodup
    refine List.pairwise_map.mpr (List.Pairwise.filter _ (List.pairwise_append.mpr
      ⟨List.Pairwise.filter _ (pairwise_trie_entries hs.snap), pairwise_btEntries hs.bt, ?_⟩))
    intro a ha b hb e
    -- a persisted entry that is listed has no pending entry of its key
    simp only [List.mem_filter, Bool.not_eq_true', btHas_false] at ha
    obtain ⟨w, hw, _⟩ := mem_btEntries.mp hb
    exact ha.2 w (by rw [show (a.1, a.2.text) = (b.1, b.2.text) from e]; exact hw)
  · intro e he
    obtain ⟨hg, h⟩ := mem_entries.mp he
    refine (absOver_eq_some hs.snap hs.bt).mpr ⟨hg, ?_⟩
    rcases h with ⟨⟨l, hl, el, hpl⟩, hn⟩ | ⟨v, hv, hpv⟩
    · exact Or.inr ⟨hn, l, hl, el, e.2, hpl, rfl, rfl⟩
    · rw [hpv, valOf_mkPhrase]; exact Or.inl hv
  · intro k t v hv
    obtain ⟨hg, h⟩ := (absOver_eq_some hs.snap hs.bt).mp hv
    rcases h with h | ⟨hn, l, hl, el, p, hp, rfl, _⟩
    · exact ⟨(k, mkPhrase t v), mem_entries.mpr ⟨hg, Or.inr ⟨v, h, rfl⟩⟩, rfl, rfl⟩
    · exact ⟨(k, p), mem_entries.mpr ⟨hg, Or.inl ⟨⟨l, hl, el, hp⟩, hn⟩⟩, rfl, rfl⟩

/-! ### candidates of a lookup: the enumerated entries whose key matches -/

/-- on the entries of one key a filter on the entry is a filter on its phrase: selecting the key commutes with it -/
theorem filter_key_entries (nt : Entry → Bool) (f : Phrase → Bool) (k : Key)
    (hf : ∀ e : Entry, e.1 = k → nt e = f e.2) (es : List Entry) :
    ((es.filter nt).filter (fun e => e.1 == k)).map (·.2) = ((es.filter (fun e => e.1 == k)).map (·.2)).filter f := by
  rw [List.filter_map, List.filter_filter, List.filter_filter]
  congr 1
  apply List.filter_congr
  intro e _
  cases hk : e.1 == k
  · simp
  · simp [hf e (beq_iff_eq.mp hk)]

theorem bt_entries_of_key (bt : List (PKey × Val)) (k : Key) :
    ((btEntries bt).filter (fun e => e.1 == k)).map (·.2) = btreeRange bt k := by
  unfold btEntries btreeRange
  rw [List.filter_map, List.map_map]
  rfl

/-- the phrases a snapshot inserts under `k` are the candidates of the exact lookup of `k` -/
theorem entries_of_key (s : State) (k : Key) :
    ((entries s).filter (fun e => e.1 == k)).map (·.2) = entriesIterFor s k .standard := by
  unfold entries entriesIterFor
  rw [filter_key_entries (fun e => !(s.grave.contains (e.1, e.2.text))) (fun p => !(s.grave.contains (k, p.text))) k
      (by intro e he; simp [he]),
    List.filter_append, List.map_append,
    filter_key_entries (fun e => !(btHas s.btree (e.1, e.2.text))) (fun p => !(btHas s.btree (k, p.text))) k
      (by intro e he; simp [he]),
    trie_entries_of_pred _ (· == k), bt_entries_of_key]
  rfl

/-- both strategies in one formula: the candidates of a lookup are the phrases of the enumerated entries
    whose key matches the query under the strategy's predicate (`==` / per-syllable prefix) -/
theorem entriesIterFor_uniform (s : State) (k : Key) (st : Strategy) :
    entriesIterFor s k st = ((entries s).filter (fun e => keyMatch st e.1 k)).map (·.2) := by
  cases st with
  | standard => exact (entries_of_key s k).symm
  | fuzzyPartialPrefix => rfl

theorem mem_cands {s : State} {k : Key} {p : Phrase} : p ∈ entriesIterFor s k .standard ↔ (k, p) ∈ entries s := by
  rw [← entries_of_key, mem_match_entries (mt := fun a b => a == b)]
  simp

/-- **from the enumeration to the exact lookup**: the entries of one key of a correct enumeration are a
    correct answer for that key -/
theorem lookup_of_entries {m : Map} {es : List Entry} (h : IsEntries m es) (k : Key) :
    IsLookup m k ((es.filter (fun e => e.1 == k)).map (·.2)) := by
  refine ⟨nodup_texts_of_key h.1 k, ?_, ?_⟩
  · intro p hp
    obtain ⟨key, hk, he⟩ := mem_match_entries (mt := fun a b => a == b).mp hp
    rw [← beq_iff_eq.mp hk]
    exact h.2.1 _ he
  · intro t v hv
    obtain ⟨e, he, rfl, rfl⟩ := h.2.2 k t v hv
    exact ⟨e.2, mem_match_entries (mt := fun a b => a == b).mpr ⟨e.1, by simp, he⟩, rfl⟩

theorem lookup_mem_texts {m : Map} {k : Key} {l : List Phrase} (h : IsLookup m k l) {t : Text} :
    t ∈ texts l ↔ ∃ v, m (k, t) = some v := by
  rw [Chewing.mem_texts]
  constructor
  · rintro ⟨p, hp, rfl⟩; exact ⟨_, h.2.1 p hp⟩
  · rintro ⟨v, hv⟩; exact h.2.2 t v hv

theorem cands_agree {s : State} (hs : LInv s) (k : Key) : IsLookup (abs s) k (entriesIterFor s k .standard) := by
  rw [← entries_of_key]; exact lookup_of_entries (entries_agrees hs) k

/-- the candidates of an exact lookup have pairwise different texts, in **every** state: a persisted
    phrase that has a pending entry is dropped (fix 22d24c7, F10) -/
theorem leafOk_cands {s : State} (hs : LInv s) (k : Key) : LeafOk (entriesIterFor s k .standard) :=
  (leafOk_iff _).mpr (cands_agree hs k).1

theorem cands_text_iff {s : State} (hs : LInv s) {k : Key} {t : Text} :
    t ∈ texts (entriesIterFor s k .standard) ↔ ∃ v, abs s (k, t) = some v :=
  lookup_mem_texts (cands_agree hs k)

/-- `add_phrase` is accepted exactly when the key is not live -/
theorem addOk_eq {s : State} (hs : LInv s) (k : Key) (t : Text) : addOk s k t = (abs s).addOk k t := by
  unfold addOk Map.addOk
  rw [Bool.eq_iff_iff, Bool.not_eq_true', ← Bool.not_eq_true, any_text_iff, cands_text_iff hs,
    Option.isNone_iff_eq_none]
  cases abs s (k, t) <;> simp

/-! ### the snapshot -/

theorem baseGet_build_of_entries {m : Map} {es : List Entry} (h : IsEntries m es) (key : PKey) :
    baseGet (build es) key = m key := by
  obtain ⟨k, t⟩ := key
  have hl := lookup_of_entries h k
  apply Option.ext
  intro v
  rw [baseGet_build, leafOf, foldl_insRepl_of_leafOk ((leafOk_iff _).mpr hl.1)]
  constructor
  · rintro ⟨p, hp, rfl, rfl⟩; exact hl.2.1 p hp
  · intro hv
    obtain ⟨p, hp, rfl⟩ := hl.2.2 t v hv
    exact ⟨p, hp, rfl, Option.some.inj ((hl.2.1 p hp).symm.trans hv)⟩

/-- **snapshot lemma**: the file written from `entries()` holds, for every key, exactly the value
    the dictionary denotes -/
theorem build_abs {s : State} (hs : Inv s) (key : PKey) : baseGet (build (entries s)) key = abs s key :=
  baseGet_build_of_entries (entries_agrees hs.linv) key

/-! ### invariant preservation and the refinement step -/

theorem absOver_empty (b : List Leaf) {s : State} (h1 : s.btree = []) (h2 : s.grave = []) (k : PKey) :
    absOver b s k = baseGet b k := by
  simp [absOver, btGet, h1, h2]

theorem inv_of_empty {s : State} (hsnap : SnapOk s.snap) (hfile : s.file = s.snap) (hi : s.inflight = none)
    (h1 : s.btree = []) (h2 : s.grave = []) : Inv s := by
  refine ⟨by rw [h1]; exact List.Pairwise.nil, hsnap, by rw [hfile]; exact hsnap, by simp [hi],
    by unfold abs; rw [hfile], by simp [hi], by simp [hi], ?_⟩
  intro _ _ k
  unfold abs
  rw [hfile, absOver_empty _ h1 h2]

theorem inv_initMem : Inv initMem :=
  inv_of_empty ⟨List.Pairwise.nil, by simp [initMem]⟩ rfl rfl rfl rfl

theorem inv_initFile : Inv initFile :=
  inv_of_empty ⟨List.Pairwise.nil, by simp [initFile, initMem]⟩ rfl rfl rfl rfl

theorem abs_put {s : State} (hs : Inv s) (k : PKey) (v : Val) : abs (put s k v) = (abs s).set k (some v) :=
  absOver_put s.snap hs.bt k v

theorem abs_removeSt (s : State) (k : PKey) : abs (removeSt s k) = (abs s).set k none :=
  absOver_remove s.snap s k

/-- a modification that writes one key of the denoted map over every persisted layer, and leaves the
    dictionary dirty, preserves the invariant -/
theorem inv_of_write {s s' : State} (hs : Inv s) (hbt : KeysOk s'.btree) (hsnap : s'.snap = s.snap)
    (hfile : s'.file = s.file) (hinfl : s'.inflight = s.inflight) (hd : s'.dirty = true) {k : PKey} {v : Option Val}
    (h : ∀ b, absOver b s' = (absOver b s).set k v) : Inv s' := by
  refine ⟨hbt, hsnap ▸ hs.snap, hfile ▸ hs.file, hinfl ▸ hs.infl, ?_, ?_, ?_, ?_⟩
  · rw [abs, hsnap, hfile, h, h, hs.fileAgree]; rfl
  · intro t ht
    rw [abs, hsnap, h, h, hs.inflAgree t (hinfl ▸ ht)]; rfl
  · intro t _ hc; rw [hd] at hc; cases hc
  · intro hc; rw [hd] at hc; cases hc

theorem inv_put {s : State} (hs : Inv s) (k : PKey) (v : Val) : Inv (put s k v) :=
  inv_of_write hs (keysOk_btInsert hs.bt k v) rfl rfl rfl rfl fun b => absOver_put b hs.bt k v

theorem inv_removeSt {s : State} (hs : Inv s) (k : PKey) : Inv (removeSt s k) :=
  inv_of_write hs (keysOk_btErase hs.bt k) rfl rfl rfl rfl fun b => absOver_remove b _ k

/-! `checkpoint` and `sync`, case by case -/

theorem checkpoint_fire {s : State} (hi : s.inflight = none) (hf : s.fileBacked = true) (hd : s.dirty = true) :
    checkpoint s = { s with inflight := some (build (entries s)), dirty := false } := by
  simp [checkpoint, hi, hf, hd]

theorem checkpoint_skip {s : State} (h : s.inflight ≠ none ∨ s.fileBacked = false ∨ s.dirty = false) :
    checkpoint s = s := by
  unfold checkpoint
  rcases h with h | h | h
  · cases hi : s.inflight with
    | none => exact absurd hi h
    | some t => simp
  · simp [h]
  · simp [h]

theorem checkpoint_cases (s : State) :
    (s.inflight = none ∧ s.fileBacked = true ∧ s.dirty = true) ∨ checkpoint s = s := by
  cases hi : s.inflight with
  | some t => exact Or.inr (checkpoint_skip (Or.inl (by simp [hi])))
  | none =>
    cases hf : s.fileBacked with
    | false => exact Or.inr (checkpoint_skip (Or.inr (Or.inl hf)))
    | true =>
      cases hd : s.dirty with
      | false => exact Or.inr (checkpoint_skip (Or.inr (Or.inr hd)))
      | true => exact Or.inl ⟨rfl, rfl, rfl⟩

/-- the four outcomes of `sync`: a finished writer's file is put on disk and — unless the dictionary was
    modified meanwhile — adopted; without a writer a file-backed dictionary re-reads its file -/
theorem sync_cases (P : State → Prop) (s : State)
    (hdirty : ∀ t, s.inflight = some t → s.dirty = true → P { s with inflight := none, file := t })
    (hclean : ∀ t, s.inflight = some t → s.dirty = false →
      P { s with inflight := none, file := t, snap := t, btree := [], grave := [] })
    (hfile : s.inflight = none → s.fileBacked = true → P { s with snap := s.file })
    (hmem : s.inflight = none → s.fileBacked = false → P s) : P (sync s) := by
  unfold sync
  cases hi : s.inflight with
  | some t =>
    cases hd : s.dirty with
    | true => simpa [hd] using hdirty t hi hd
    | false => simpa [hd] using hclean t hi hd
  | none =>
    cases hf : s.fileBacked with
    | true => simpa [hi, hf] using hfile hi hf
    | false => simpa [hi, hf] using hmem hi hf

theorem absOver_of_clean {t : List Leaf} {s : State} (h : ∀ k, baseGet t k = abs s k) : absOver t s = abs s := by
  funext k
  unfold absOver
  rw [h k]
  unfold abs absOver
  split
  · rfl
  · cases btGet s.btree k <;> rfl

theorem inv_checkpoint {s : State} (hs : Inv s) : Inv (checkpoint s) ∧ abs (checkpoint s) = abs s := by
  rcases checkpoint_cases s with ⟨hi, hf, hd⟩ | e
  · rw [checkpoint_fire hi hf hd]
    refine ⟨⟨hs.bt, hs.snap, hs.file, ?_, hs.fileAgree, ?_, ?_, ?_⟩, rfl⟩
    · intro t ht; exact Option.some.inj ht ▸ snapOk_build _
    · intro t ht; exact Option.some.inj ht ▸ absOver_of_clean (build_abs hs)
    · intro t ht _; exact Option.some.inj ht ▸ build_abs hs
    · intro _ hn; cases hn
  · rw [e]; exact ⟨hs, rfl⟩

theorem inv_sync {s : State} (hs : Inv s) : Inv (sync s) ∧ abs (sync s) = abs s := by
  refine sync_cases (fun s' => Inv s' ∧ abs s' = abs s) s ?_ ?_ ?_ ?_
  · intro t hi hd
    refine ⟨⟨hs.bt, hs.snap, hs.infl t hi, by simp, hs.inflAgree t hi, by simp, by simp, ?_⟩, rfl⟩
    intro hd'; rw [show s.dirty = false from hd'] at hd; cases hd
  · intro t hi hd
    refine ⟨inv_of_empty (hs.infl t hi) rfl rfl rfl rfl, ?_⟩
    funext k
    exact (absOver_empty t rfl rfl k).trans (hs.inflClean t hi hd k)
  · intro hi _
    have habs : abs { s with snap := s.file } = abs s := hs.fileAgree
    refine ⟨⟨hs.bt, hs.file, hs.file, hs.infl, rfl, ?_, ?_, ?_⟩, habs⟩
    · intro t ht; rw [show s.inflight = some t from ht] at hi; cases hi
    · intro t ht; rw [show s.inflight = some t from ht] at hi; cases hi
    · intro hd _ k
      rw [habs]
      exact hs.cleanFile hd hi k
  · exact fun _ _ => ⟨hs, rfl⟩

theorem sync_inflight (s : State) : (sync s).inflight = none :=
  sync_cases (fun s' => s'.inflight = none) s (fun _ _ _ => rfl) (fun _ _ _ => rfl) (fun hi _ => hi) (fun hi _ => hi)

theorem sync_fileBacked (s : State) : (sync s).fileBacked = s.fileBacked :=
  sync_cases (fun s' => s'.fileBacked = s.fileBacked) s (fun _ _ _ => rfl) (fun _ _ _ => rfl) (fun _ _ => rfl)
    (fun _ _ => rfl)

theorem closeOpen_mem {s : State} (hf : s.fileBacked = false) : closeOpen s = s := by
  simp [closeOpen, hf]

/-- what `closeOpen` finds in the file: a clean state whose file (or writer output) is the denoted map -/
theorem closeOpen_file {s : State} (hs : Inv s) (hf : s.fileBacked = true) :
    ∃ f, closeOpen s = { initFile with snap := f, file := f } ∧ SnapOk f ∧ ∀ k, baseGet f k = abs s k := by
  have h1 := inv_sync hs
  have hi := sync_inflight s
  have hfb : (sync s).fileBacked = true := by rw [sync_fileBacked, hf]
  cases hd : (sync s).dirty with
  | true =>
    refine ⟨build (entries (sync s)), ?_, snapOk_build _, ?_⟩
    · simp [closeOpen, hf, checkpoint_fire hi hfb hd]
    · intro k; rw [build_abs h1.1, h1.2]
  | false =>
    refine ⟨(sync s).file, ?_, h1.1.file, ?_⟩
    · simp [closeOpen, hf, checkpoint_skip (Or.inr (Or.inr hd)), hi]
    · intro k; rw [h1.1.cleanFile hd hi k, h1.2]

theorem inv_closeOpen {s : State} (hs : Inv s) : Inv (closeOpen s) ∧ abs (closeOpen s) = abs s := by
  cases hf : s.fileBacked with
  | true =>
    obtain ⟨f, e, hok, hv⟩ := closeOpen_file hs hf
    rw [e]
    refine ⟨inv_of_empty hok rfl rfl rfl rfl, ?_⟩
    funext k
    exact (absOver_empty f rfl rfl k).trans (hv k)
  | false => rw [closeOpen_mem hf]; exact ⟨hs, rfl⟩

/-- what an operation can do to the state: nothing, write a key, remove a key, `checkpoint`, `sync`,
    close and open -/
theorem apply_cases (P : State → Prop) (s : State) (op : Op) (hid : P s) (hput : ∀ k v, P (put s k v))
    (hrem : ∀ k, P (removeSt s k)) (hcp : P (checkpoint s)) (hsync : P (sync s)) (hco : P (closeOpen s)) :
    P (apply s op) := by
  cases op with
  | add k t f tm =>
    simp only [apply]
    split
    · exact hput _ _
    · exact hid
  | update k t f tm => exact hput _ _
  | remove k t => exact hrem _
  | flush => exact hcp
  | reopen => exact hsync
  | closeOpen => exact hco

theorem inv_apply {s : State} (hs : Inv s) (op : Op) : Inv (apply s op) :=
  apply_cases Inv s op hs (inv_put hs) (inv_removeSt hs) (inv_checkpoint hs).1 (inv_sync hs).1 (inv_closeOpen hs).1

theorem abs_apply {s : State} (hs : Inv s) (op : Op) : abs (apply s op) = (abs s).apply op := by
  cases op with
  | add k t f tm =>
    simp only [apply, Map.apply, addOk_eq hs.linv]
    split
    · exact abs_put hs _ _
    · rfl
  | update k t f tm => exact abs_put hs _ _
  | remove k t => exact abs_removeSt _ _
  | flush => exact (inv_checkpoint hs).2
  | reopen => exact (inv_sync hs).2
  | closeOpen => exact (inv_closeOpen hs).2

end TrieBuf

end Chewing
