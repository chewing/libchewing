import Chewing.Proofs.EditorBound
import Chewing.Proofs.EditorKey
/-!
Helper lemmas for C02 (what is committed is what was displayed).

* `sumLen`, `Tiles`, `ConvTiles`: the hypothesis on the conversion engine (C03's theorem) under which
  characters can be counted;
* `autoCommitTake` characterised by induction over the interval list;
* `NoCommit` / `CommitShape`: the commit buffer is written only on paths that report *commit*: in `Entering` one
  character from an empty pre-edit or the whole buffer on Enter, in the other three states never.
-/
namespace Chewing.C02

variable {D L : Type} (env : Env D L)

/-! ### conversion / display depend on (engine, dictionary, composition, nth) only -/

theorem conversion_congr {a b : Shared D L} (h1 : a.engine = b.engine) (h2 : a.dict = b.dict)
    (h3 : a.com.inner = b.com.inner) (h4 : a.nth = b.nth) :
    Shared.conversion env a = Shared.conversion env b := by
  unfold Shared.conversion
  rw [h1, h2, h3, h4]

theorem display_congr {a b : Shared D L} (h1 : a.engine = b.engine) (h2 : a.dict = b.dict)
    (h3 : a.com.inner = b.com.inner) (h4 : a.nth = b.nth) :
    Shared.display env a = Shared.display env b := by
  unfold Shared.display
  rw [conversion_congr env h1 h2 h3 h4]

/-- every alternative the editor can show is one the engine returned -/
theorem conversion_mem {sh : Shared D L} {ivs : List Interval} (h : Shared.conversion env sh = .ok ivs) :
    ∃ paths, env.convert sh.engine sh.dict sh.com.inner = .ok paths ∧ ivs ∈ paths := by
  unfold Shared.conversion at h
  split at h
  · next paths hp =>
    refine ⟨paths, hp, ?_⟩
    by_cases h1 : sh.nth > 0
    · rw [if_pos h1] at h
      by_cases h2 : (paths.length == 0) = true
      · rw [if_pos h2] at h; cases h
      · rw [if_neg h2] at h
        split at h
        · next p hq => cases h; exact List.mem_of_getElem? hq
        · cases h
    · rw [if_neg h1] at h
      split at h
      · next p hq => cases h; exact List.mem_of_mem_head? hq
      · cases h
  · cases h
  · cases h

/-! ### counting: interval lengths, tilings -/

theorem len_eq (c : CompEditor) : c.len = c.inner.symbols.length := rfl

/-- number of symbols covered by a list of intervals -/
def sumLen : List Interval → Nat
  | [] => 0
  | iv :: rest => iv.len + sumLen rest

/-- concatenated texts -/
def textOf (ivs : List Interval) : Text := ivs.flatMap (·.text)

theorem sumLen_append (a b : List Interval) : sumLen (a ++ b) = sumLen a + sumLen b := by
  induction a with
  | nil => simp [sumLen]
  | cons x xs ih => simp [sumLen, ih, Nat.add_assoc]

theorem sumLen_take_succ (ivs : List Interval) (j : Nat) (iv : Interval) (h : ivs[j]? = some iv) :
    sumLen (ivs.take (j + 1)) = sumLen (ivs.take j) + iv.len := by
  rw [List.take_add_one, h, sumLen_append]; rfl

/-- `ivs` tiles `[a, n)`: consecutive non-empty intervals from `a` to `n`, each with exactly one
    character per symbol.  (For the real engines this is C03's theorem.) -/
def Tiles : Nat → Nat → List Interval → Prop
  | a, n, [] => a = n
  | a, n, iv :: rest => iv.start = a ∧ a < iv.stop ∧ iv.text.length = iv.stop - iv.start ∧ Tiles iv.stop n rest

instance : (a n : Nat) → (ivs : List Interval) → Decidable (Tiles a n ivs)
  | a, n, [] => inferInstanceAs (Decidable (a = n))
  | a, n, iv :: rest =>
    have := instDecidableTiles iv.stop n rest
    inferInstanceAs (Decidable (iv.start = a ∧ a < iv.stop ∧ iv.text.length = iv.stop - iv.start ∧ Tiles iv.stop n rest))

/-- hypothesis on the conversion engine: every alternative it returns for a composition tiles the
    buffer with one character per symbol -/
def ConvTiles (env : Env D L) : Prop :=
  ∀ (k : EngineKind) (d : D) (c : Composition) (paths : List (List Interval)),
    env.convert k d c = .ok paths → ∀ p ∈ paths, Tiles 0 c.symbols.length p

theorem Tiles.le {a n : Nat} {ivs : List Interval} (h : Tiles a n ivs) : a ≤ n := by
  induction ivs generalizing a with
  | nil => exact Nat.le_of_eq h
  | cons iv rest ih => exact Nat.le_trans (Nat.le_of_lt h.2.1) (ih h.2.2.2)

/-- in a tiling, a prefix covers as many symbols as it has characters, and never more than the buffer -/
theorem Tiles.take {a n : Nat} {ivs : List Interval} (h : Tiles a n ivs) (k : Nat) :
    (textOf (ivs.take k)).length = sumLen (ivs.take k) ∧ a + sumLen (ivs.take k) ≤ n := by
  induction ivs generalizing a k with
  | nil => exact ⟨by rw [List.take_nil]; rfl, by rw [List.take_nil]; exact Nat.le_of_eq h⟩
  | cons iv rest ih =>
    cases k with
    | zero => exact ⟨rfl, h.le⟩
    | succ k =>
      obtain ⟨h1, h2, h3, h4⟩ := h
      obtain ⟨i1, i2⟩ := ih h4 k
      constructor
      · show (iv.text ++ textOf (rest.take k)).length = (iv.stop - iv.start) + sumLen (rest.take k)
        rw [List.length_append, h3, i1]
      · show a + ((iv.stop - iv.start) + sumLen (rest.take k)) ≤ n
        omega

/-- a complete tiling covers exactly the buffer -/
theorem Tiles.total {a n : Nat} {ivs : List Interval} (h : Tiles a n ivs) :
    a + sumLen ivs = n ∧ (textOf ivs).length = sumLen ivs := by
  induction ivs generalizing a with
  | nil => exact ⟨h, rfl⟩
  | cons iv rest ih =>
    obtain ⟨h1, h2, h3, h4⟩ := h
    obtain ⟨i1, i2⟩ := ih h4
    constructor
    · show a + ((iv.stop - iv.start) + sumLen rest) = n
      omega
    · show (iv.text ++ textOf rest).length = (iv.stop - iv.start) + sumLen rest
      rw [List.length_append, h3, i2]

/-- the first interval of a tiling of a non-empty range carries text -/
theorem Tiles.take_text_ne {a n : Nat} {ivs : List Interval} (h : Tiles a n ivs) (hlt : a < n) {k : Nat}
    (hk : 0 < k) : textOf (ivs.take k) ≠ [] := by
  cases ivs with
  | nil => exact absurd h (Nat.ne_of_lt hlt)
  | cons iv rest =>
    obtain ⟨h1, h2, h3, _⟩ := h
    cases k with
    | zero => exact absurd hk (Nat.lt_irrefl 0)
    | succ k =>
      intro hc
      have ht : iv.text = [] := (List.append_eq_nil_iff.mp hc).1
      rw [ht] at h3
      change 0 = _ at h3
      omega

/-! ### the loop of `try_auto_commit` -/

/-- **`autoCommitTake` characterised.**  Started with `remove` symbols already counted and the
    threshold not yet reached, the loop returns the concatenated texts and the summed lengths of the
    first `k` intervals, where `k` is the LEAST number of leading intervals whose removal brings the
    length down to the threshold — or all intervals if no prefix does.  (`k ≥ 1` unless the list is
    empty: the Rust loop pushes before it tests.) -/
theorem autoCommitTake_spec (len thr : Nat) (ivs : List Interval) :
    ∀ (buf : Text) (remove : Nat) (buf' : Text) (remove' : Nat),
      thr < len - remove →
      Shared.autoCommitTake len thr ivs buf remove = .ok (buf', remove') →
      ∃ k, k ≤ ivs.length ∧ (ivs = [] ∨ 0 < k) ∧
        buf' = buf ++ textOf (ivs.take k) ∧
        remove' = remove + sumLen (ivs.take k) ∧
        remove' ≤ len ∧
        (∀ j, j < k → thr < len - (remove + sumLen (ivs.take j))) ∧
        (k = ivs.length ∨ len - remove' ≤ thr) ∧
        (∀ iv ∈ ivs.take k, iv.start ≤ iv.stop) := by
  induction ivs with
  | nil =>
    intro buf remove buf' remove' hpre h
    cases h
    exact ⟨0, Nat.le_refl _, .inl rfl, (List.append_nil _).symm, rfl, by omega, fun _ hj => absurd hj (Nat.not_lt_zero _),
      .inl rfl, fun _ h => nomatch h⟩
  | cons iv rest ih =>
    intro buf remove buf' remove' hpre h
    unfold Shared.autoCommitTake at h
    split at h
    · cases h
    · next hord =>
      dsimp only at h
      split at h
      · cases h
      · next hle =>
        split at h
        · next hthr =>
          cases h
          refine ⟨1, Nat.succ_le_succ (Nat.zero_le _), .inr Nat.one_pos, ?_, rfl, Nat.le_of_not_lt hle, ?_, .inr hthr, ?_⟩
          · exact congrArg (buf ++ ·) (List.append_nil _).symm
          · intro j hj; cases Nat.lt_one_iff.mp hj; exact hpre
          · intro x hx; cases List.mem_singleton.mp hx; exact Nat.le_of_not_lt hord
        · next hthr =>
          obtain ⟨k, hk, _, rfl, rfl, hle', hmin, hfin, hord'⟩ :=
            ih (buf ++ iv.text) (remove + iv.len) buf' remove' (Nat.lt_of_not_le hthr) h
          refine ⟨k + 1, Nat.succ_le_succ hk, .inr (Nat.succ_pos k), List.append_assoc .., Nat.add_assoc .., hle', ?_,
            hfin.imp (congrArg (· + 1)) id, ?_⟩
          · intro j hj
            cases j with
            | zero => exact hpre
            | succ j => exact Nat.add_assoc .. ▸ hmin j (Nat.lt_of_succ_lt_succ hj)
          · intro x hx
            rcases List.mem_cons.mp hx with rfl | hx
            · exact Nat.le_of_not_lt hord
            · exact hord' x hx

/-! ### `try_auto_commit` -/

theorem tryAutoCommit_noop {sh : Shared D L} (h : sh.com.len ≤ sh.options.autoCommitThreshold) :
    Shared.tryAutoCommit env sh = .ok sh := by
  unfold Shared.tryAutoCommit
  simp only [h, if_true]

/-- what `try_auto_commit` does when the buffer exceeds the threshold -/
theorem tryAutoCommit_spec {sh sh' : Shared D L} (h : Shared.tryAutoCommit env sh = .ok sh')
    (hlen : sh.options.autoCommitThreshold < sh.com.len) :
    ∃ ivs k com, Shared.conversion env sh = .ok ivs ∧ k ≤ ivs.length ∧ (ivs = [] ∨ 0 < k) ∧
      sh.com.removeFront (sumLen (ivs.take k)) = .ok com ∧
      sh' = { sh with commitBuf := textOf (ivs.take k), com := com, last := .commit } ∧
      sumLen (ivs.take k) ≤ sh.com.len ∧
      (∀ j, j < k → sh.options.autoCommitThreshold < sh.com.len - sumLen (ivs.take j)) ∧
      (k = ivs.length ∨ sh.com.len - sumLen (ivs.take k) ≤ sh.options.autoCommitThreshold) := by
  obtain ⟨hle, -⟩ | ⟨_, com, buf, hrf, rfl, -, ivs, hc, ht⟩ := tryAutoCommit_cases env sh _ h
  · exact absurd hlen (Nat.not_lt.mpr hle)
  obtain ⟨k, hk, hpos, hb, hr, hle, hmin, hfin, _⟩ :=
    autoCommitTake_spec sh.com.len sh.options.autoCommitThreshold ivs [] 0 buf _ (by omega) ht
  simp only [List.nil_append, Nat.zero_add] at hb hr hmin
  subst hb hr
  exact ⟨ivs, k, com, hc, hk, hpos, hrf, rfl, hle, hmin, hfin⟩

/-! ### the commit buffer is written only on paths that report *commit* -/

/-- a step result that does not report commit and leaves the commit buffer as in `b0` -/
def NoCommit (b0 : Text) (r : StepRes D L) : Prop :=
  ∀ sh' t, r = .ok (sh', t) → t ≠ .spin .commit ∧ sh'.commitBuf = b0

theorem learnInRangeNotify_commitBuf (sh : Shared D L) (a b : Nat) :
    ResAll (fun x => x.1.commitBuf = sh.commitBuf) (Shared.learnInRangeNotify env sh a b) :=
  learnInRangeNotify_keeps env (·.commitBuf) (fun _ _ _ _ => rfl) sh a b

theorem nocommit_startSelecting (sh : Shared D L) : NoCommit sh.commitBuf (startSelecting env sh) :=
  startSelecting_opensOn env ⟨nofun, rfl⟩ fun _ _ _ => ⟨nofun, rfl⟩

/-- how an arm of `Entering::next` started from `sh0` may leave the commit buffer: untouched unless it
    reports *commit*; then either the pre-edit was empty and ONE character was committed (the
    pre-edit stays as it was), or it is `SharedState::commit` of `sh0` (the whole buffer) — and the
    latter only where `w` holds (`w` will be "the key is Enter") -/
def CommitShape (w : Prop) (Q : Nat → Prop) (sh0 : Shared D L) (r : StepRes D L) : Prop :=
  ∀ sh' t, r = .ok (sh', t) →
    (t ≠ .spin .commit ∧ sh'.commitBuf = sh0.commitBuf) ∨
    (t = .spin .commit ∧
      ((sh0.com.isEmpty = true ∧ sh'.com = sh0.com ∧
          ∃ ch, Q ch ∧ (sh'.commitBuf = [ch] ∨ sh'.commitBuf = sh0.commitBuf ++ [ch])) ∨
       (w ∧ Shared.commit env sh0 = .ok sh')))

variable {w : Prop} {Q : Nat → Prop}

/-- the characters a key may commit directly from an empty pre-edit: its own character, the full-width
    form of its own character, or — Space as selection key — a half- or full-width space -/
def DirectChar (ev : KeyEvent) (ch : Nat) : Prop :=
  ch = ev.unicode ∨ fullWidthSymbolInput ev.unicode = some ch ∨ (ev.code = KC.space ∧ (ch = 32 ∨ ch = 12288))

theorem cshape_ite {sh0 : Shared D L} {c : Prop} [Decidable c] {a b : StepRes D L}
    (h1 : CommitShape env w Q sh0 a) (h2 : CommitShape env w Q sh0 b) : CommitShape env w Q sh0 (if c then a else b) :=
  ite_intro (fun _ => h1) fun _ => h2

theorem cshape_newPhraseSimple (sh0 sh : Shared D L) (hb : sh.commitBuf = sh0.commitBuf) :
    CommitShape env w Q sh0 (newPhraseSimple sh) :=
  newPhraseSimple_all fun _ => .inl ⟨nofun, hb⟩

/-- `Entering`: every arm; a whole-buffer commit only in the arm guarded by `code == Enter` -/
theorem cshape_enteringNext (sh : Shared D L) (ev : KeyEvent) :
    CommitShape env (ev.code = KC.enter) (DirectChar ev) sh (enteringNext env sh ev) := fun sh' t e => by
  -- the character arms, also run on `sh` with a new syllable state (`sh0`)
  have hc {sh0 sh' : Shared D L} {k} (h : CharEff sh0 ev sh' k) (h1 : sh0.com = sh.com) (h2 : sh0.commitBuf = sh.commitBuf) :
      CommitShape env (ev.code = KC.enter) (DirectChar ev) sh (.ok (sh', .spin k)) := fun _ _ e => by
    cases e
    cases h with
    | direct ch he hd => exact .inr ⟨rfl, .inl ⟨h1 ▸ he, h1, ch, hd.elim .inl fun h => .inr (.inl h), .inl rfl⟩⟩
    | _ => exact .inl ⟨nofun, h2⟩
  cases enteringNext_eff env sh ev sh' t e with
  | char h => exact hc h rfl rfl _ _ rfl
  | rejected _ _ _ h => exact hc h rfl rfl _ _ rfl
  | space ch hk hch he =>
    have hsp := ((Bool.and_eq_true _ _).mp ((Bool.and_eq_true _ _).mp hk).1).1
    exact .inr ⟨rfl, .inl ⟨he, rfl, ch, .inr (.inr ⟨eq_of_beq hsp, hch⟩), .inr rfl⟩⟩
  | commit _ hk h => exact .inr ⟨rfl, .inr ⟨eq_of_beq hk, h⟩⟩
  | _ => exact .inl ⟨nofun, rfl⟩

/-! the other three states never report *commit* and never write the commit buffer -/

theorem nocommit_enteringSyllableNext (sh : Shared D L) (ev : KeyEvent) :
    NoCommit sh.commitBuf (enteringSyllableNext env sh ev) :=
  enteringSyllableNext_all env (fun _ => ⟨nofun, rfl⟩) (fun _ => ⟨nofun, rfl⟩) (fun _ => ⟨nofun, rfl⟩) ⟨nofun, rfl⟩
    ⟨nofun, rfl⟩ fun _ _ =>
    syllableAnswer_all env (fun _ _ => ⟨nofun, rfl⟩) (fun _ _ => ⟨nofun, rfl⟩) (fun _ _ _ _ _ => ⟨nofun, rfl⟩)
      (fun _ _ _ => ⟨nofun, rfl⟩) (fun _ _ _ _ _ => newPhraseSimple_all fun _ => ⟨nofun, rfl⟩)
      (fun _ _ _ _ _ => ⟨nofun, rfl⟩) (fun _ _ => ⟨nofun, rfl⟩) fun _ _ _ => ⟨nofun, rfl⟩

theorem select_nocommit (s : Selecting) (sh : Shared D L) (n : Nat) :
    ResAll (fun x => x.2.2 ≠ .spin .commit ∧ x.2.1.commitBuf = sh.commitBuf) (Selecting.select env s sh n) :=
  select_all env (fun _ _ _ => ⟨nofun, rfl⟩) (fun _ _ _ _ _ _ _ _ => ⟨nofun, rfl⟩) (fun _ _ _ _ _ => ⟨nofun, rfl⟩)
    (fun _ _ _ _ _ _ _ => ⟨nofun, rfl⟩) (fun _ _ _ _ _ => ⟨nofun, rfl⟩) fun _ _ _ => ⟨nofun, rfl⟩

theorem nocommitSel_selectingNext (s : Selecting) (sh : Shared D L) (ev : KeyEvent) :
    ResAll (fun x => x.trans ≠ .spin .commit ∧ x.shared.commitBuf = sh.commitBuf) (selectingNext env s sh ev) :=
  selectingNext_all env ⟨nofun, rfl⟩ ⟨nofun, rfl⟩ (fun _ _ => ⟨nofun, rfl⟩)
    (selDownSpace_all env (fun _ _ _ => ⟨nofun, rfl⟩) (fun _ _ _ _ _ _ => ⟨nofun, rfl⟩) fun _ _ => ⟨nofun, rfl⟩)
    (fun _ => selMove_all env (fun _ => ⟨nofun, rfl⟩) fun _ _ _ _ =>
      closeIfEmpty_all env (fun _ => ⟨nofun, rfl⟩) fun _ _ _ => ⟨nofun, rfl⟩)
    (selPrevPage_all env (fun _ => ⟨nofun, rfl⟩) fun _ _ _ => ⟨nofun, rfl⟩)
    (selNextPage_all env (fun _ _ _ => ⟨nofun, rfl⟩) fun _ _ _ => ⟨nofun, rfl⟩)
    (selDigit_all env (select_nocommit env s sh _)) ⟨nofun, rfl⟩ ⟨nofun, rfl⟩

theorem highlighting_nocommit (m : Nat) (sh : Shared D L) (ev : KeyEvent) :
    ResAll (fun x => x.2.2 ≠ .spin .commit ∧ x.1.commitBuf = sh.commitBuf) (highlightingNext env m sh ev) :=
  highlightingNext_all env (fun _ => ⟨nofun, rfl⟩) (fun _ => ⟨nofun, rfl⟩)
    (fun _ _ e => ⟨nofun, learnInRangeNotify_commitBuf env _ _ _ _ e⟩) ⟨nofun, rfl⟩

/-! ### the end of `process_keyevent` -/

/-- the dictionary flush at the end of `process_keyevent` -/
def flush (sh : Shared D L) : Shared D L :=
  if sh.dirty > 0 then { sh with dict := env.reopenFlush sh.dict, dirty := 0 } else sh

theorem flush_fields (sh : Shared D L) :
    (flush env sh).commitBuf = sh.commitBuf ∧ (flush env sh).com = sh.com ∧ (flush env sh).last = sh.last ∧
    (flush env sh).nth = sh.nth ∧ (flush env sh).options = sh.options ∧ (flush env sh).engine = sh.engine := by
  unfold flush; split <;> exact ⟨rfl, rfl, rfl, rfl, rfl, rfl⟩

theorem applyTrans_nocommit {sh : Shared D L} {st : St} {t : Trans} (hn : t ≠ .spin .commit) :
    (applyTrans sh st t).1.last ≠ .commit ∧ (applyTrans sh st t).1.commitBuf = sh.commitBuf := by
  cases t with
  | toState s => exact ⟨nofun, rfl⟩
  | spin b => exact ⟨fun c => hn (congrArg Trans.spin c), rfl⟩

/-! ### the Enter arm; the state machine part of a key by the way it leaves the commit buffer

`C02.enter_arm` and `C02.key_step_cases` (`Props/C02.lean`) are `enter_arm_aux` and, through `key_cases`,
`dispatch_shape_aux`: they stand here because `Props/C05.lean`, which `Props/C02.lean` imports, needs them. -/

theorem enter_arm_aux (sh : Shared D L) {ev : KeyEvent} (hk : ev.code = KC.enter) :
    enteringNext env sh ev = if sh.com.isEmpty then .ok (sh, .spin .ignore) else enteringEnter env sh := by
  unfold enteringNext
  simp [hk, KC.enter, KC.backspace, KC.unknown, KC.tab, KC.del, KC.home, KC.left, KC.right, KC.up, KC.space,
    KC.down, KC.end_, KC.pageUp, KC.pageDown, KC.esc, isDigitCode, isIdleKey]

open Chewing.C06 in
/-- the state machine part of a key, by the way it leaves the commit buffer:
    nothing committed and the buffer empty; or (state `Entering` only) one character committed with an
    empty pre-edit; or (state `Entering`, key Enter) `shared.commit()` -/
theorem dispatch_shape_aux {e : Editor D L} {ev : KeyEvent} {sh : Shared D L} {st : St}
    (h : dispatch env e ev = .ok (sh, st)) :
    (sh.last ≠ .commit ∧ sh.commitBuf = []) ∨
    (sh.last = .commit ∧ e.state = .entering ∧ st = .entering ∧
      ((e.shared.com.isEmpty = true ∧ sh.com = e.shared.com ∧ ∃ ch, DirectChar ev ch ∧ sh.commitBuf = [ch]) ∨
       (ev.code = KC.enter ∧ e.shared.com.isEmpty = false ∧ Shared.commit env (preamble e.shared) = .ok sh))) := by
  -- a step that does not report commit: neither does the key, and the buffer the preamble emptied stays empty
  have nc : ∀ {sh' : Shared D L} {st0 : St} {t : Trans}, t ≠ .spin .commit ∧ sh'.commitBuf = [] →
      (applyTrans sh' st0 t).1.last ≠ .commit ∧ (applyTrans sh' st0 t).1.commitBuf = [] := fun hn =>
    ⟨(applyTrans_nocommit hn.1).1, (applyTrans_nocommit hn.1).2.trans hn.2⟩
  refine dispatch_all env (Q := fun x => (x.1.last ≠ .commit ∧ x.1.commitBuf = []) ∨
      (x.1.last = .commit ∧ e.state = .entering ∧ x.2 = .entering ∧
        ((e.shared.com.isEmpty = true ∧ x.1.com = e.shared.com ∧ ∃ ch, DirectChar ev ch ∧ x.1.commitBuf = [ch]) ∨
         (ev.code = KC.enter ∧ e.shared.com.isEmpty = false ∧ Shared.commit env (preamble e.shared) = .ok x.1))))
    (fun hs sh' t hr => ?_) (fun _ sh' t hr => .inl (nc (nocommit_enteringSyllableNext env _ ev sh' t hr)))
    (fun _ _ x hr => .inl (nc (nocommitSel_selectingNext env _ _ ev x hr)))
    (fun _ _ _ hr => .inl (nc (highlighting_nocommit env _ _ ev _ hr))) _ h
  rcases cshape_enteringNext env (preamble e.shared) ev sh' t hr with hn | ⟨rfl, hcase⟩
  · exact .inl (nc hn)
  · refine .inr ⟨rfl, hs, rfl, hcase.imp (fun ⟨he, hcom, ch, hq, hch⟩ => ⟨he, hcom, ch, hq, hch.elim id id⟩)
      fun ⟨hk, hcm⟩ => ⟨hk, ?_, ?_⟩⟩
    · cases he : e.shared.com.isEmpty with
      | false => rfl
      | true =>
        rw [enter_arm_aux env _ hk, show (preamble e.shared).com.isEmpty = true from he] at hr
        cases hr
    · obtain ⟨_, _, _, _, rfl⟩ := commit_spec env hcm
      exact hcm

end Chewing.C02
