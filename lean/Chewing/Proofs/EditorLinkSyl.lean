import Chewing.Proofs.C01Inv
import Chewing.Proofs.EditorKey
import Chewing.Proofs.EditorCursor
/-!
Stage B of C14 over whole histories, part 1: **syllable symbols enter the pre-edit buffer only through
`EnteringSyllable::next`** (`syllableAnswer`).

`NoNewSyl c c'` : every syllable symbol of the composition editor `c'` is already a symbol of `c`
(characters may have come and gone, symbols may have been removed).  For every arm of the states
`Entering`, `Selecting`, `Highlighting` and for the auto-commit, the composition editor after the call is
`NoNewSyl` of the one before — for EVERY environment: what the arms insert or write over a symbol is always
a `Sym.chr`.  The arms are those of the case principles of `Proofs/EditorSteps.lean`; for
`Selecting::select` the arm `hsym` of `select_all` says where the inserted symbol comes from — a symbol
selector — and such a symbol is a character (`symSel_select_chr`, `specialSelect_chr`).

Part 2 (`Proofs/EditorLinkSyl2.lean`) adds the state `EnteringSyllable` (`enteringSyllable_sound`), the
layout state and the other public entry points of `Editor`, and lifts all over `Editor.run`.
-/
namespace Chewing.LinkSyl
open Chewing.C04

/-- every syllable symbol of `c'` is already a symbol of `c` -/
def NoNewSyl (c c' : CompEditor) : Prop :=
  ∀ s, Sym.syl s ∈ c'.inner.symbols → Sym.syl s ∈ c.inner.symbols

namespace NoNewSyl

theorem refl (c : CompEditor) : NoNewSyl c c := fun _ h => h

theorem trans {a b c : CompEditor} (h1 : NoNewSyl a b) (h2 : NoNewSyl b c) : NoNewSyl a c :=
  fun s h => h1 s (h2 s h)

theorem of_symbols {c c' : CompEditor} (h : c'.inner.symbols = c.inner.symbols) : NoNewSyl c c' := by
  intro s hs; rw [h] at hs; exact hs

theorem of_inner {c c' : CompEditor} (h : c'.inner = c.inner) : NoNewSyl c c' := of_symbols (by rw [h])

theorem of_eq {c c' : CompEditor} (h : c' = c) : NoNewSyl c c' := by rw [h]; exact refl _

theorem pushCursor (c : CompEditor) : NoNewSyl c c.pushCursor := of_symbols rfl
theorem popCursor (c : CompEditor) : NoNewSyl c c.popCursor := by
  unfold CompEditor.popCursor; split <;> exact of_symbols rfl
theorem clampCursor (c : CompEditor) : NoNewSyl c c.clampCursor := by
  unfold CompEditor.clampCursor; split <;> exact of_symbols rfl
theorem moveCursor (c : CompEditor) (n : Nat) : NoNewSyl c (c.moveCursor n) := of_symbols rfl
theorem clear (c : CompEditor) : NoNewSyl c c.clear := by
  intro s h; cases h
theorem moveToEnd (c : CompEditor) : NoNewSyl c c.moveToEnd := of_symbols rfl
theorem moveToBeginning (c : CompEditor) : NoNewSyl c c.moveToBeginning := of_symbols rfl
theorem moveLeft (c : CompEditor) : NoNewSyl c c.moveLeft := of_symbols rfl
theorem moveRight (c : CompEditor) : NoNewSyl c c.moveRight := of_symbols rfl

theorem insert {c c' : CompEditor} {x : Sym} (hx : x.isSyl = false) (h : c.insert x = .ok c') : NoNewSyl c c' :=
  fun _ hs => (insert_mem h _ hs).elim (fun e => nomatch e ▸ hx) id

theorem replace {c c' : CompEditor} {x : Sym} (hx : x.isSyl = false) (h : c.replace x = .ok c') : NoNewSyl c c' :=
  fun _ hs => (replace_mem h _ hs).elim (fun e => nomatch e ▸ hx) id

theorem select {c c' : CompEditor} {iv : Interval} (h : c.select iv = .ok c') : NoNewSyl c c' := by
  obtain ⟨k, hk, rfl⟩ := select_ok h
  exact of_symbols (pushSelection_symbols hk)

theorem removeFront {c c' : CompEditor} {n : Nat} (h : c.removeFront n = .ok c') : NoNewSyl c c' := by
  obtain ⟨k, hk, rfl⟩ := withInner_ok h
  intro s (hs : _ ∈ k.symbols)
  rw [(removeFront_symbols hk).2] at hs
  exact List.mem_of_mem_drop hs

theorem removeAt {k k' : Composition} {i : Nat} (hk : k.remove i = .ok k') (y : Sym) (hy : y ∈ k'.symbols) :
    y ∈ k.symbols := by
  rw [(remove_symbols hk).2] at hy
  exact (List.mem_append.mp hy).elim List.mem_of_mem_take List.mem_of_mem_drop

theorem removeAfterCursor {c c' : CompEditor} (h : c.removeAfterCursor = .ok c') : NoNewSyl c c' := by
  obtain ⟨k, hk, rfl⟩ := withInner_ok h
  exact fun _ => removeAt hk _

theorem removeBeforeCursor {c c' : CompEditor} (h : c.removeBeforeCursor = .ok c') : NoNewSyl c c' := by
  unfold CompEditor.removeBeforeCursor at h
  split at h
  · cases h; exact refl _
  · obtain ⟨k, hk, rfl⟩ := withInner_ok h
    exact fun _ => removeAt hk _

theorem insertGap {c c' : CompEditor} {g : Gap} (h : c.insertGap g = .ok c') : NoNewSyl c c' := by
  unfold CompEditor.insertGap at h
  split at h
  · cases h; exact refl _
  · obtain ⟨k, hk, rfl⟩ := withInner_ok h
    exact of_symbols (setGap_symbols hk)

theorem insertGlue {c c' : CompEditor} (h : c.insertGlue = .ok c') : NoNewSyl c c' := insertGap h
theorem insertBreak {c c' : CompEditor} (h : c.insertBreak = .ok c') : NoNewSyl c c' := insertGap h

/-- the calls `Entering` makes on a key it absorbs remove symbols, set a gap or move the cursor -/
theorem keyEdit {c c' : CompEditor} {op : CedOp} (hk : op.keyEdit = true) (h : c.apply op = .ok c') : NoNewSyl c c' := by
  cases op with
  | removeBeforeCursor => exact removeBeforeCursor h
  | removeAfterCursor => exact removeAfterCursor h
  | insertGlue => exact insertGlue h
  | insertBreak => exact insertBreak h
  | clear => cases h; exact clear _
  | moveToBeginning | moveLeft | moveRight | moveToEnd => cases h; exact of_symbols rfl
  | _ => cases hk

end NoNewSyl

variable {D L : Type} (env : Env D L)

/-- `insertChars` inserts characters only -/
theorem nn_insertChars (cs : List Nat) : ∀ (c c' : CompEditor), insertChars c cs = .ok c' → NoNewSyl c c' := by
  induction cs with
  | nil => intro c c' h; cases h; exact .refl _
  | cons x xs ih =>
    intro c c' h
    obtain ⟨c1, h1, h⟩ := insertChars_cons_ok.mp h
    exact (NoNewSyl.insert rfl h1).trans (ih c1 c' h)

/-! ### step results -/

/-- every successful result of a state's `next` arm has no syllable symbol that `c0` had not -/
def NStep (c0 : CompEditor) (r : StepRes D L) : Prop := ∀ sh' t, r = .ok (sh', t) → NoNewSyl c0 sh'.com

/-- a candidate list is opened with the cursor saved and clamped -/
theorem nn_open (c : CompEditor) : NoNewSyl c c.pushCursor.clampCursor := (NoNewSyl.pushCursor _).trans (.clampCursor _)

theorem nstep_newPhraseSimple (sh : Shared D L) : NStep sh.com (newPhraseSimple sh) :=
  newPhraseSimple_all fun _ => .pushCursor _

theorem nstep_startSelecting (sh : Shared D L) : NStep sh.com (startSelecting env sh) :=
  startSelecting_opensOn env (.refl _) fun _ _ _ => nn_open _

/-- `Entering::next` brings no syllable symbol into the pre-edit buffer -/
theorem nstep_enteringNext (sh : Shared D L) (ev : KeyEvent) : NStep sh.com (enteringNext env sh ev) := fun sh' t e => by
  have hc {sh0 sh' : Shared D L} {k} (h : CharEff sh0 ev sh' k) : NoNewSyl sh0.com sh'.com := by
    cases h with
    | insert _ _ h => exact .insert rfl h
    | _ => exact .refl _
  cases enteringNext_eff env sh ev sh' t e with
  | char h => exact hc h
  | rejected _ _ _ h => exact (hc h :)
  | edit _ _ hk h => exact .keyEdit hk h
  | expand x _ _ h => exact nn_insertChars x _ _ h
  | opened => exact nn_open _
  | commit _ _ h => exact (NoNewSyl.clear _).trans (.of_eq (commit_com env sh _ h))
  | _ => exact .refl _

/-! ### Selecting -/

theorem map_chr_isSyl {o : Option Nat} {sym : Sym} (h : o.map Sym.chr = some sym) : sym.isSyl = false := by
  cases o <;> cases h; rfl

/-- what the symbol selector returns is a character -/
theorem symSel_select_chr {y y' : SymSel} {n : Nat} {sym : Sym} (h : y.select n = .ok (some sym, y')) :
    sym.isSyl = false := by
  unfold SymSel.select at h
  split at h
  · split at h
    · cases h
    · split at h
      · cases h; rfl
      · cases h
    · cases h
  · split at h
    · injection h with h; injection h with h _; exact map_chr_isSyl h
    · cases h

/-- what the special-symbol selector returns is a character -/
theorem specialSelect_chr {sym out : Sym} {n : Nat} (h : specialSelect sym n = .ok (some out)) :
    out.isSyl = false := by
  unfold specialSelect at h
  split at h
  · injection h with h; exact map_chr_isSyl h
  · cases h
  · cases h
  · cases h

/-- `Selecting::select`: `select` of an interval, or `insert` / `replace` of a CHARACTER -/
theorem select_nn (s : Selecting) (sh : Shared D L) (n : Nat) :
    ResAll (fun x => NoNewSyl sh.com x.2.1.com) (Selecting.select env s sh n) :=
  select_all env (fun _ _ _ => .refl _)
    (fun _ _ _ com _ _ _ hq => by
      have hn := (NoNewSyl.select hq).trans (.popCursor _)
      show NoNewSyl sh.com (if _ then _ else _)
      split
      · exact hn.trans (.moveRight _)
      · exact hn)
    (fun _ sym com ho hq => by
      have hsym : sym.isSyl = false := by
        obtain ⟨_, _, _, h, _⟩ | ⟨_, _, h, _⟩ := ho
        · exact symSel_select_chr h
        · exact specialSelect_chr h
      refine .trans ?_ (.popCursor com)
      split at hq
      · exact .insert hsym hq
      · exact .replace hsym hq)
    (fun _ _ _ _ _ _ _ => .refl _) (fun _ _ _ _ _ => .popCursor _) fun _ _ _ => .refl _

theorem nsel_selMove (s : Selecting) (sh : Shared D L) (isJ : Bool) :
    ResAll (fun x => NoNewSyl sh.com x.shared.com) (selMove env s sh isJ) :=
  selMove_all env (fun _ => .refl _) fun c _ hc _ =>
    have hn : NoNewSyl sh.com c := by
      rcases hc with rfl | rfl
      · exact .moveCursor _ _
      · exact (NoNewSyl.moveCursor _ _).trans (.clampCursor _)
    closeIfEmpty_all env (fun _ => hn.trans (.popCursor _)) fun _ _ _ => hn

theorem nsel_selectingNext (s : Selecting) (sh : Shared D L) (ev : KeyEvent) :
    ResAll (fun x => NoNewSyl sh.com x.shared.com) (selectingNext env s sh ev) :=
  selectingNext_all env (.refl _) (.popCursor _) (fun _ _ => .popCursor _)
    (selDownSpace_all env (fun _ _ _ => .refl _) (fun _ _ _ _ _ _ => .refl _) fun _ _ => .refl _)
    (nsel_selMove env s sh) (selPrevPage_all env (fun _ => .refl _) fun _ _ _ => .refl _)
    (selNextPage_all env (fun _ _ _ => .refl _) fun _ _ _ => .refl _)
    (selDigit_all env (select_nn env s sh _))
    ((NoNewSyl.popCursor _).trans (.popCursor _)) (.refl _)

/-! ### Highlighting -/

theorem highlighting_nn (m : Nat) (sh : Shared D L) (ev : KeyEvent) :
    ResAll (fun x => NoNewSyl sh.com x.1.com) (highlightingNext env m sh ev) :=
  highlightingNext_all env (fun _ => .refl _) (fun _ => .refl _)
    (fun _ _ e => (NoNewSyl.moveCursor _ m).trans (.of_eq (learnInRangeNotify_com env _ _ _ _ e))) (.refl _)

/-! ### auto-commit -/

theorem tryAutoCommit_nn_syl (sh : Shared D L) :
    ResAll (fun x => NoNewSyl sh.com x.com ∧ x.syl = sh.syl) (Shared.tryAutoCommit env sh) := fun _ e => by
  obtain ⟨-, rfl⟩ | ⟨_, _, _, h, rfl, -⟩ := tryAutoCommit_cases env sh _ e
  · exact ⟨.refl _, rfl⟩
  · exact ⟨.removeFront h, rfl⟩

theorem tryAutoCommit_nn (sh : Shared D L) :
    ResAll (fun x => NoNewSyl sh.com x.com) (Shared.tryAutoCommit env sh) :=
  fun x e => (tryAutoCommit_nn_syl env sh x e).1

theorem tryAutoCommit_syl (sh : Shared D L) :
    ResAll (fun x => x.syl = sh.syl) (Shared.tryAutoCommit env sh) :=
  fun x e => (tryAutoCommit_nn_syl env sh x e).2

end Chewing.LinkSyl
