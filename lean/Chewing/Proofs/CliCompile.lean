import Chewing.Proofs.CliParse
import Chewing.Proofs.CliRaw
/-!
The compiler loop on text: which lines are reported, what is inserted, and what happens to a dump that is
compiled again.  The text-level run is the byte-level run of `Proofs/CliRaw.lean` on a file all of whose lines
are valid UTF-8.
-/
namespace Chewing.Cli

/-- the lines `run` parses: with `--csv` the first one is skipped -/
def body (f : Flags) (src : List Text) : List Text := if f.csv then src.drop 1 else src

def okRec (f : Flags) (l : Text) : Option Rec :=
  match parseLine f.delim f.keep l with
  | .ok r => some r
  | .error _ => none

/-- the records of the lines that parse, in file order -/
def validRecs (f : Flags) (src : List Text) : List Rec := (body f src).filterMap (okRec f)

theorem parseAll_eq_raw (f : Flags) : ∀ (ls : List Text) (idx : Nat),
    parseAll f idx ls = parseAllRaw f idx (ls.map some)
  | [], _ => rfl
  | l :: ls, idx => by
    rw [parseAll, List.map_cons, parseAllRaw, parseAll_eq_raw f ls (idx + 1)]
    rfl

theorem compileRun_eq_raw (f : Flags) (src : List Text) : compileRun f src = compileRaw f (src.map some) := by
  unfold compileRun compileRaw
  rw [parseAll_eq_raw]

theorem validRawRecs_map_some (f : Flags) (src : List Text) : validRawRecs f (src.map some) = validRecs f src := by
  unfold validRawRecs validRecs rawBody body
  cases f.csv <;> simp only [Bool.false_eq_true, if_false, if_true, ← List.map_drop, List.filterMap_map] <;> rfl

theorem compileRun_inserted (f : Flags) (src : List Text) :
    (compileRun f src).inserted =
      if (compileRun f src).reported ≠ [] ∧ f.skip = false then none else some (validRecs f src) := by
  rw [compileRun_eq_raw, compileRaw_inserted, validRawRecs_map_some]

theorem mem_reported (f : Flags) (src : List Text) (n : Nat) (e : LineErr) :
    (n, e) ∈ (compileRun f src).reported ↔
      ∃ i l, src[i]? = some l ∧ (f.csv = true → i ≠ 0) ∧ n = i + 1 ∧ parseLine f.delim f.keep l = .error e := by
  rw [compileRun_eq_raw, mem_raw_reported]
  constructor
  · rintro ⟨i, l, h1, h2⟩
    rw [List.getElem?_map] at h1
    obtain ⟨t, ht, rfl⟩ := Option.map_eq_some_iff.mp h1
    exact ⟨i, t, ht, h2⟩
  · rintro ⟨i, l, h1, h2⟩
    exact ⟨i, some l, by rw [List.getElem?_map, h1]; rfl, h2⟩

theorem mem_body {f : Flags} {src : List Text} {i : Nat} {l : Text} (h : src[i]? = some l)
    (hi : f.csv = true → i ≠ 0) : l ∈ body f src := by
  unfold body
  split
  · obtain ⟨k, rfl⟩ := Nat.exists_eq_succ_of_ne_zero (hi ‹_›)
    exact List.mem_of_getElem? (i := k) (by rw [List.getElem?_drop, Nat.add_comm]; exact h)
  · exact List.mem_of_getElem? h

theorem compileRun_of_parsed (f : Flags) (src : List Text) (recs : List Rec)
    (h : (body f src).map (parseLine f.delim f.keep) = recs.map .ok) :
    compileRun f src = { reported := [], inserted := some recs } := by
  have hrep : (compileRun f src).reported = [] := by
    apply List.eq_nil_iff_forall_not_mem.mpr
    rintro ⟨n, e⟩ hm
    obtain ⟨i, l, h1, h2, _, h3⟩ := (mem_reported f _ n e).mp hm
    have := h ▸ List.mem_map_of_mem (f := parseLine f.delim f.keep) (mem_body h1 h2)
    rw [h3] at this
    simp at this
  have hv : validRecs f src = recs := by
    show (body f src).filterMap ((fun x => match x with | .ok r => some r | .error _ => none) ∘ parseLine f.delim f.keep) = _
    rw [← List.filterMap_map, h, List.filterMap_map]
    exact (List.filterMap_some : recs.filterMap some = recs)
  have hins := compileRun_inserted f src
  rw [hrep, hv] at hins
  cases hcr : compileRun f src with
  | mk rep ins =>
    rw [hcr] at hrep hins
    simp only at hrep hins
    rw [hrep, hins]
    simp

theorem parseLine_zeroFreq {d : Nat} {keep : Bool} {l : Text} {r : Rec} (h : parseLine d keep l = .ok r) :
    zeroFreq keep r = r := by
  obtain ⟨f0, fs, n, syls, _, _, _, hf, _, _, _, rfl⟩ := parseLine_ok_iff.mp h
  obtain ⟨f1, m, _, _, rfl⟩ := parseFreq_ok_iff.mp hf
  rw [zeroFreq_eq]
  by_cases hw : ((trimQ f0).length == 1 && !keep) = true <;> simp [hw]

theorem mem_validRecs {f : Flags} {src : List Text} {r : Rec} (h : r ∈ validRecs f src) :
    ∃ l ∈ src, parseLine f.delim f.keep l = .ok r := by
  obtain ⟨l, hl, hok⟩ := List.mem_filterMap.mp h
  refine ⟨l, ?_, ?_⟩
  · unfold body at hl
    split at hl
    · exact List.mem_of_mem_drop hl
    · exact hl
  · unfold okRec at hok
    split at hok
    · cases hok; assumption
    · cases hok

theorem validRecs_zeroFreq {f : Flags} {src : List Text} {r : Rec} (h : r ∈ validRecs f src) :
    zeroFreq f.keep r = r :=
  let ⟨_, _, hp⟩ := mem_validRecs h
  parseLine_zeroFreq hp

/-- records that dump and parse back unchanged under the flag `keep` -/
def Dumpable (keep : Bool) (r : Rec) : Prop := WellFormedRecord r ∧ zeroFreq keep r = r

/-- compiling the dump of dumpable entries reports nothing and inserts exactly those entries, in
    dump order (plain dump read without `--csv`, CSV dump read with it) -/
theorem compileRun_dump (f : Flags) (es : List Rec) (h : ∀ r ∈ es, Dumpable f.keep r) :
    compileRun f (dump f.csv es) = { reported := [], inserted := some es } := by
  apply compileRun_of_parsed
  cases hc : f.csv with
  | false =>
    simp only [body, dump, hc, Bool.false_eq_true, if_false, List.map_map]
    refine List.map_congr_left fun r hr => ?_
    simp only [Function.comp, Flags.delim, hc, Bool.false_eq_true, if_false]
    rw [parse_dump_ssv f.keep r (h r hr).1, (h r hr).2]
  | true =>
    simp only [body, dump, hc, if_true, List.drop_succ_cons, List.drop_zero, List.map_map]
    refine List.map_congr_left fun r hr => ?_
    simp only [Function.comp, Flags.delim, hc, if_true]
    rw [parse_dump_csv f.keep r (h r hr).1, (h r hr).2]

end Chewing.Cli
