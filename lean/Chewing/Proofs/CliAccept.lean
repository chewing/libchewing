import Chewing.Proofs.CliQuoted
/-!
The malformed-source stream: exactly which lines `parse_line` accepts (hence which ones the compiler
reports).  A line is accepted iff
1. it has two non-empty delimiter-separated fields,
2. the first strips to a non-empty phrase without comma / whitespace,
3. the second strips to a `u32` (looked at for every phrase, with or without `--keep-word-freq`),
4. every syllable field — the separator-split fields after the first two, stripped, the empty ones dropped, up
   to the first one starting with `#` — is a Bopomofo syllable in order,
5. there is at least one syllable field, and as many as the phrase has characters.
(2, 3 for one-character phrases and 5 are the fixes of F27.)
-/
namespace Chewing.Cli
open Gen

/-- the syllable fields of a line as `parse_line` sees them -/
def sylFields (l : Text) : List Text :=
  (normToks ((tokens sylSep l).drop 2)).takeWhile (fun s => s.head? != some cliComment)

/-- What the syllable loop returns, in one statement: the fields up to the first comment field are parsed one
    by one; the first that fails gives the cause. -/
theorem parseSylsN_spec : ∀ ts : List Text,
    match parseSylsN ts with
    | .ok v => (ts.takeWhile (fun s => s.head? != some cliComment)).map Chewing.parse = v.map .ok
    | .error e => (e = .bopomofo ∨ e = .syllable) ∧
        ∃ s ∈ ts.takeWhile (fun s => s.head? != some cliComment), ∃ e', Chewing.parse s = .error e'
  | [] => rfl
  | s :: ts => by
    have ih := parseSylsN_spec ts
    unfold parseSylsN
    by_cases hc : (s.head? == some cliComment) = true
    · simp [hc, List.takeWhile, bne]
    · have hne : (s.head? != some cliComment) = true := by simp [bne, hc]
      simp only [hc, List.takeWhile, hne]
      cases hp : Chewing.parse s with
      | error be => cases be <;> exact ⟨by simp, s, List.mem_cons_self, _, hp⟩
      | ok v =>
        cases hr : parseSylsN ts with
        | ok vs => rw [hr] at ih; simp [hp, ih]
        | error e =>
          rw [hr] at ih
          obtain ⟨he, x, hx, hx'⟩ := ih
          exact ⟨he, x, List.mem_cons_of_mem _ hx, hx'⟩

theorem parseSylsN_ok_iff (ts : List Text) : (∃ v, parseSylsN ts = .ok v) ↔
    ∀ s ∈ ts.takeWhile (fun s => s.head? != some cliComment), ∃ c, Chewing.parse s = .ok c := by
  have h := parseSylsN_spec ts
  cases hr : parseSylsN ts with
  | ok v =>
    rw [hr] at h
    refine ⟨fun _ s hs => ?_, fun _ => ⟨v, rfl⟩⟩
    obtain ⟨c, _, hc⟩ := List.mem_map.mp (h ▸ List.mem_map_of_mem (f := Chewing.parse) hs)
    exact ⟨c, hc.symm⟩
  | error e =>
    rw [hr] at h
    obtain ⟨_, s, hs, e', he'⟩ := h
    refine ⟨nofun, fun hall => ?_⟩
    obtain ⟨c, hc⟩ := hall s hs
    rw [he'] at hc; cases hc

theorem parseSyls_error {l : Text} {e : LineErr} (h : parseSyls ((tokens sylSep l).drop 2) = .error e) :
    (e = .bopomofo ∨ e = .syllable) ∧ ∃ s ∈ sylFields l, ∃ e', Chewing.parse s = .error e' := by
  have := parseSylsN_spec (normToks ((tokens sylSep l).drop 2))
  rwa [← parseSyls_norm, h] at this

theorem parseSyls_length {l : Text} {syls : List Nat} (h : parseSyls ((tokens sylSep l).drop 2) = .ok syls) :
    syls.length = (sylFields l).length := by
  have := parseSylsN_spec (normToks ((tokens sylSep l).drop 2))
  rw [← parseSyls_norm, h] at this
  simpa [sylFields] using (congrArg List.length this).symm

theorem parseFreq_accepts_iff (keep : Bool) (p f0 : Text) (fs : List Text) :
    (∃ n, parseFreq keep p (f0 :: fs) = .ok n) ↔ ∃ f1, fs.head? = some f1 ∧ (parseU32 (trimQ f1)).isSome = true := by
  constructor
  · rintro ⟨n, hn⟩
    obtain ⟨f1, m, h1, h2, _⟩ := parseFreq_ok_iff.mp hn
    exact ⟨f1, h1, by simp [h2]⟩
  · rintro ⟨f1, h1, h2⟩
    obtain ⟨m, hm⟩ := Option.isSome_iff_exists.mp h2
    exact ⟨_, parseFreq_ok_iff.mpr ⟨f1, m, h1, hm, rfl⟩⟩

theorem parseFreq_error {keep : Bool} {p f0 : Text} {fs : List Text} {e : LineErr}
    (h : parseFreq keep p (f0 :: fs) = .error e) :
    (e = .noFreq ∧ fs = []) ∨ (e = .badFreq ∧ ∃ f1 fs', fs = f1 :: fs' ∧ parseU32 (trimQ f1) = none) := by
  unfold parseFreq at h
  cases fs with
  | nil => cases h; exact .inl ⟨rfl, rfl⟩
  | cons f1 fs' =>
    simp only [List.getElem?_cons_succ, List.getElem?_cons_zero] at h
    split at h
    · cases h
    · cases h; exact .inr ⟨rfl, f1, fs', rfl, ‹_›⟩

theorem accepted_iff (d : Nat) (keep : Bool) (l : Text) :
    (∃ r, parseLine d keep l = .ok r) ↔
      ∃ f0 f1 fs, tokens (· == d) l = f0 :: f1 :: fs ∧
        trimQ f0 ≠ [] ∧ (∀ c ∈ trimQ f0, sylSep c = false) ∧ (parseU32 (trimQ f1)).isSome = true ∧
        (∀ s ∈ sylFields l, ∃ c, Chewing.parse s = .ok c) ∧
        sylFields l ≠ [] ∧ (sylFields l).length = (trimQ f0).length := by
  constructor
  · rintro ⟨r, hr⟩
    obtain ⟨f0, fs, n, syls, ht, hne, hsep, hf, hs, hsne, hlen, _⟩ := parseLine_ok_iff.mp hr
    obtain ⟨f1, hf1, hu⟩ := (parseFreq_accepts_iff keep (trimQ f0) f0 fs).mp ⟨n, hf⟩
    cases fs with
    | nil => simp at hf1
    | cons g1 rest =>
      simp at hf1; subst hf1
      have hL := parseSyls_length hs
      refine ⟨f0, g1, rest, ht, hne, hsep, hu, ?_, ?_, by rw [← hL]; exact hlen⟩
      · unfold sylFields
        apply (parseSylsN_ok_iff _).mp
        exact ⟨syls, by rw [← parseSyls_norm]; exact hs⟩
      · intro e
        rw [e] at hL
        exact hsne (List.eq_nil_of_length_eq_zero hL)
  · rintro ⟨f0, f1, fs, ht, hne, hsep, hu, hall, hsne, hlen⟩
    obtain ⟨n, hn⟩ := (parseFreq_accepts_iff keep (trimQ f0) f0 (f1 :: fs)).mpr ⟨f1, rfl, hu⟩
    obtain ⟨syls, hsy⟩ := (parseSylsN_ok_iff _).mpr hall
    rw [← parseSyls_norm] at hsy
    have hL := parseSyls_length hsy
    refine ⟨_, parseLine_ok_iff.mpr ⟨f0, f1 :: fs, n, syls, ht, hne, hsep, hn, hsy, ?_, by rw [hL]; exact hlen, rfl⟩⟩
    intro e
    rw [e] at hL
    exact hsne (List.eq_nil_of_length_eq_zero hL.symm)

theorem rejected_iff_not_accepted (d : Nat) (keep : Bool) (l : Text) :
    (∃ e, parseLine d keep l = .error e) ↔ ¬ ∃ r, parseLine d keep l = .ok r := by
  cases h : parseLine d keep l with
  | ok r => simp
  | error e => simp

/-- acceptance does not depend on `--keep-word-freq` (since the fix of F27 `word-freq-unchecked`) -/
theorem accepted_keep_irrelevant (d : Nat) (k k' : Bool) (l : Text) :
    (∃ r, parseLine d k l = .ok r) ↔ ∃ r, parseLine d k' l = .ok r := by
  rw [accepted_iff, accepted_iff]

/-- A rejected line: the checks of `parse_line` in the order of the code, each with its cause and what it found. -/
theorem rejected_cases {d : Nat} {keep : Bool} {l : Text} {e : LineErr} (h : parseLine d keep l = .error e) :
    (e = .noPhrase ∧ tokens (· == d) l = []) ∨
    ∃ f0 fs, tokens (· == d) l = f0 :: fs ∧
      ((e = .emptyPhrase ∧ trimQ f0 = []) ∨
       (e = .phraseSep ∧ ∃ c ∈ trimQ f0, sylSep c = true) ∨
       (e = .noFreq ∧ fs = []) ∨
       (e = .badFreq ∧ ∃ f1 fs', fs = f1 :: fs' ∧ parseU32 (trimQ f1) = none) ∨
       ((e = .bopomofo ∨ e = .syllable) ∧ ∃ s ∈ sylFields l, ∃ e', Chewing.parse s = .error e') ∨
       (e = .noSyllables ∧ sylFields l = []) ∨
       (e = .lengthMismatch ∧ (sylFields l).length ≠ (trimQ f0).length)) := by
  unfold parseLine at h
  split at h
  · cases h; exact .inl ⟨rfl, ‹_›⟩
  rename_i f0 fs ht
  refine .inr ⟨f0, fs, ht, ?_⟩
  split at h
  · cases h; exact .inl ⟨rfl, List.isEmpty_iff.mp ‹_›⟩
  split at h
  · cases h; exact .inr (.inl ⟨rfl, List.any_eq_true.mp ‹_›⟩)
  split at h
  · cases h
    rcases parseFreq_error ‹_› with hf | hf
    · exact .inr (.inr (.inl hf))
    · exact .inr (.inr (.inr (.inl hf)))
  split at h
  · cases h; exact .inr (.inr (.inr (.inr (.inl (parseSyls_error ‹_›)))))
  rename_i syls hsy
  have hL := parseSyls_length hsy
  split at h
  · cases h
    refine .inr (.inr (.inr (.inr (.inr (.inl ⟨rfl, List.eq_nil_of_length_eq_zero ?_⟩)))))
    rw [← hL, List.isEmpty_iff.mp ‹syls.isEmpty = true›]; rfl
  split at h
  · cases h
    refine .inr (.inr (.inr (.inr (.inr (.inr ⟨rfl, ?_⟩)))))
    rw [← hL]; simpa using ‹(syls.length != (trimQ f0).length) = true›
  · cases h

theorem rejected_cause (d : Nat) (keep : Bool) (l : Text) (e : LineErr) (h : parseLine d keep l = .error e) :
    (e = .noPhrase → tokens (· == d) l = []) ∧
    (e = .emptyPhrase → ∃ f0 fs, tokens (· == d) l = f0 :: fs ∧ trimQ f0 = []) ∧
    (e = .phraseSep → ∃ f0 fs, tokens (· == d) l = f0 :: fs ∧ ∃ c ∈ trimQ f0, sylSep c = true) ∧
    (e = .noFreq → ∃ f0, tokens (· == d) l = [f0]) ∧
    (e = .badFreq → ∃ f0 f1 fs, tokens (· == d) l = f0 :: f1 :: fs ∧ parseU32 (trimQ f1) = none) ∧
    (e = .bopomofo ∨ e = .syllable → ∃ s ∈ sylFields l, ∃ e', Chewing.parse s = .error e') ∧
    (e = .noSyllables → sylFields l = []) ∧
    (e = .lengthMismatch → ∃ f0 fs, tokens (· == d) l = f0 :: fs ∧ (sylFields l).length ≠ (trimQ f0).length) ∧
    e ≠ .invalidUtf8 := by
  -- once the cause is known, all clauses but its own hold for want of their premise
  rcases rejected_cases h with ⟨rfl, h1⟩ | ⟨f0, fs, ht, ⟨rfl, h1⟩ | ⟨rfl, h1⟩ | ⟨rfl, rfl⟩ | ⟨rfl, f1, fs', rfl, h1⟩ |
    ⟨rfl | rfl, h1⟩ | ⟨rfl, h1⟩ | ⟨rfl, h1⟩⟩
  all_goals simp only [reduceCtorEq, false_imp_iff, true_imp_iff, true_and, and_true, ne_eq, not_false_eq_true,
    or_false, false_or, or_self]
  · exact h1
  · exact ⟨f0, fs, ht, h1⟩
  · exact ⟨f0, fs, ht, h1⟩
  · exact ⟨f0, ht⟩
  · exact ⟨f0, f1, fs', ht, h1⟩
  · exact h1
  · exact h1
  · exact h1
  · exact ⟨f0, fs, ht, h1⟩

end Chewing.Cli
