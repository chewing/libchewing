/-!
# Lifting an exhaustive transition comparison to all input lists

Two deterministic machines over the same observable state (`step : σ → ι → Option (ο × σ)`, `none` = panic)
that agree on every transition out of a set of states which contains the initial state and is closed under
the FIRST machine's steps produce equal runs on every input list (over the compared input alphabet).
The premise is exactly what an exhaustive BFS correspondence run establishes (first machine = the
implementation explored through `clone()`, second = the model; the set = the visited states; closure = the
work list ran empty; agreement = zero DIFF lines).
-/
namespace Chewing

/-- run a machine from `s` over a list of inputs: (output, state after) per step; `none` = a step panics -/
def runM {σ ι ο : Type} (step : σ → ι → Option (ο × σ)) : σ → List ι → Option (List (ο × σ))
  | _, [] => some []
  | s, i :: is =>
    match step s i with
    | none => none
    | some (o, s') => (runM step s' is).map fun tr => (o, s') :: tr

theorem bisim_lift {σ ι ο : Type} (f g : σ → ι → Option (ο × σ)) (S : σ → Prop) (I : ι → Prop)
    (hclosed : ∀ s i o s', S s → I i → f s i = some (o, s') → S s')
    (hagree : ∀ s i, S s → I i → f s i = g s i) :
    ∀ (is : List ι) (s : σ), S s → (∀ i ∈ is, I i) → runM f s is = runM g s is := by
  intro is
  induction is with
  | nil => intro s _ _; rfl
  | cons i is ih =>
    intro s hs hI
    have hi : I i := hI i (List.mem_cons_self ..)
    have hI' : ∀ j ∈ is, I j := fun j hj => hI j (List.mem_cons_of_mem _ hj)
    unfold runM
    rw [← hagree s i hs hi]
    cases hf : f s i with
    | none => rfl
    | some p =>
      obtain ⟨o, s'⟩ := p
      simp only
      rw [ih s' (hclosed s i o s' hs hi hf) hI']

theorem runM_cons_some {σ ι ο : Type} {step : σ → ι → Option (ο × σ)} {s : σ} {i : ι} {is : List ι} {tr : List (ο × σ)}
    (h : runM step s (i :: is) = some tr) :
    ∃ o s' tr', step s i = some (o, s') ∧ runM step s' is = some tr' ∧ tr = (o, s') :: tr' := by
  unfold runM at h
  split at h
  · cases h
  · next o s' hf =>
    obtain ⟨tr', hr, rfl⟩ := Option.map_eq_some_iff.mp h
    exact ⟨o, s', tr', hf, hr, rfl⟩

/-- every state a run goes through lies in the closed set -/
theorem runM_states {σ ι ο : Type} (f : σ → ι → Option (ο × σ)) (S : σ → Prop) (I : ι → Prop)
    (hclosed : ∀ s i o s', S s → I i → f s i = some (o, s') → S s') :
    ∀ (is : List ι) (s : σ) (tr : List (ο × σ)), S s → (∀ i ∈ is, I i) → runM f s is = some tr →
      ∀ x ∈ tr, S x.2 := by
  intro is
  induction is with
  | nil => intro s tr _ _ h x hx; cases h; cases hx
  | cons i is ih =>
    intro s tr hs hI h x hx
    obtain ⟨o, s', tr', hf, hr, rfl⟩ := runM_cons_some h
    have hs' := hclosed s i o s' hs (hI i (List.mem_cons_self ..)) hf
    rcases List.mem_cons.mp hx with rfl | hx'
    · exact hs'
    · exact ih s' tr' hs' (fun j hj => hI j (List.mem_cons_of_mem _ hj)) hr x hx'

end Chewing
