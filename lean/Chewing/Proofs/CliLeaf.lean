import Chewing.Proofs.CliSql
/-!
What the model assumes of `slice::sort_by` in `TrieBuilder::write`, reduced for the leaves of well-formed
sources (all phrases of a leaf have as many characters as the key has syllables):

* a leaf of one-character phrases is left in insertion order by *any* stable sort — the comparator says
  `Equal` for every pair (`phraseSort_single`);
* on a leaf of longer phrases the comparator is a total order (frequency descending, then
  text descending), so the sorted leaf is the same for *any* sorting algorithm (`C20.leaf_sort_multi_unique`).

Leaves mixing one-character and longer phrases (a syllable / character count mismatch, F27) are the subject of
`C20.leaf_sort_stable_unique`: there every *stable* sort gives the model's leaf.
-/
namespace Chewing.Cli

theorem stableSort_of_all_equal {α : Type} {lt : α → α → Bool} {l : List α}
    (h : ∀ a ∈ l, ∀ b ∈ l, lt a b = false) : stableSort lt l = l := by
  rw [stableSort_eq_sortBy]
  exact TrieCodec.sortBy_id lt l h

theorem phraseLess_single {a b : PF} (ha : a.1.length = 1) (hb : b.1.length = 1) : phraseLess a b = false := by
  simp [phraseLess, phraseLessM, ha, hb]

/-- **a leaf of one-character phrases keeps its insertion order** -/
theorem phraseSort_single {ps : List PF} (h : ∀ p ∈ ps, p.1.length = 1) : phraseSort ps = ps :=
  stableSort_of_all_equal fun a ha b hb => phraseLess_single (h a ha) (h b hb)

/-- on phrases longer than one character: frequency descending, then text descending -/
theorem phraseLess_multi {a b : PF} (ha : a.1.length ≠ 1) (hb : b.1.length ≠ 1) :
    phraseLess a b = if a.2 == b.2 then textLt b.1 a.1 else decide (b.2 < a.2) := by
  simp [phraseLess, phraseLessM, ha, hb]

theorem notAfter_iff {a b : PF} (ha : a.1.length ≠ 1) (hb : b.1.length ≠ 1) :
    phraseLess b a = false ↔ descLe a b := by
  unfold descLe
  rw [phraseLess_multi hb ha]
  by_cases e : b.2 = a.2
  · simp [e]
  · have : (b.2 == a.2) = false := by simpa using e
    simp only [this, Bool.false_eq_true, if_false, decide_eq_false_iff_not]
    omega

theorem phraseSort_sorted {ps : List PF} (hm : ∀ p ∈ ps, p.1.length ≠ 1) :
    (phraseSort ps).Pairwise (fun a b => phraseLess b a = false) := by
  unfold phraseSort
  rw [stableSort_eq_sortBy]
  exact TrieCodec.sortBy_sorted (S := fun p => p.1.length ≠ 1)
    ⟨fun a b _ _ => phraseLess_asymm a b, fun a b c ma mb mc h1 h2 =>
      (notAfter_iff ma mc).mpr (descLe_trans ((notAfter_iff ma mb).mp h1) ((notAfter_iff mb mc).mp h2))⟩ ps hm

end Chewing.Cli
