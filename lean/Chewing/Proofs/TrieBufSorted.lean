import Chewing.Proofs.TrieBufHist
/-!
The pending list of the `TrieBuf` model is always strictly increasing in the order of `PhraseKey`
(`(Cow<[Syllable]>, Cow<str>)`: lexicographic on syllable codes, then on code points), i.e. it *is*
the iteration order of the `BTreeMap` it stands for.  First the comparison itself: `cmpList` is core's order on
`List Nat` (`cmpList_lt_iff`, `cmpList_eq_iff`; `Proofs/TrieLink.lean` uses the former too), and `pkeyLt` through it
(`pkeyLt_iff`).
-/
namespace Chewing
open MapSpec

/-- the three outcomes of comparing two non-empty lists, by their heads -/
theorem cmpList_cons (x y : Nat) (a b : List Nat) (o : Ordering) :
    cmpList (x :: a) (y :: b) = o ↔
      (x < y ∧ o = .lt) ∨ (y < x ∧ o = .gt) ∨ (x = y ∧ cmpList a b = o) := by
  rw [cmpList]
  rcases Nat.lt_trichotomy x y with h | rfl | h
  · simp [h, Nat.lt_asymm h, Nat.ne_of_lt h, eq_comm]
  · simp
  · simp [h, Nat.lt_asymm h, Nat.ne_of_gt h, eq_comm]

theorem cmpList_eq_iff : ∀ {a b : List Nat}, cmpList a b = .eq ↔ a = b
  | [], [] => by simp [cmpList]
  | [], _ :: _ => by simp [cmpList]
  | _ :: _, [] => by simp [cmpList]
  | x :: a, y :: b => by simp [cmpList_cons, cmpList_eq_iff (a := a) (b := b)]

/-- "compares `Less`" is core's order of `List Nat` -/
theorem cmpList_lt_iff : ∀ {a b : List Nat}, cmpList a b = .lt ↔ a < b
  | [], [] => by simp [cmpList]
  | [], _ :: _ => by simp [cmpList]
  | _ :: _, [] => by simp [cmpList]
  | x :: a, y :: b => by simp [cmpList_cons, List.cons_lt_cons_iff, cmpList_lt_iff (a := a)]

namespace TrieBuf

/-- the order of `PhraseKey` is core's order on the syllable codes, then on the code points -/
theorem pkeyLt_iff {a b : PKey} : pkeyLt a b = true ↔ a.1 < b.1 ∨ (a.1 = b.1 ∧ a.2 < b.2) := by
  rw [← cmpList_lt_iff, ← cmpList_lt_iff, ← cmpList_eq_iff, pkeyLt]
  cases cmpList a.1 b.1 <;> simp

theorem pkeyLt_irrefl (a : PKey) : pkeyLt a a = false :=
  Bool.eq_false_iff.mpr fun h => (pkeyLt_iff.mp h).elim (List.lt_irrefl _) fun h => List.lt_irrefl _ h.2

theorem pkeyLt_trans {a b c : PKey} (h1 : pkeyLt a b = true) (h2 : pkeyLt b c = true) : pkeyLt a c = true := by
  rw [pkeyLt_iff] at *
  rcases h1 with h1 | ⟨e1, h1⟩ <;> rcases h2 with h2 | ⟨e2, h2⟩
  · exact .inl (List.lt_trans h1 h2)
  · exact .inl (e2 ▸ h1)
  · exact .inl (e1 ▸ h2)
  · exact .inr ⟨e1.trans e2, List.lt_trans h1 h2⟩

theorem pkeyLt_total {a b : PKey} (h : pkeyLt a b = false) (hne : a ≠ b) : pkeyLt b a = true := by
  rw [← Bool.not_eq_true, pkeyLt_iff, not_or, not_and] at h
  rw [pkeyLt_iff]
  rcases List.le_iff_lt_or_eq.mp (List.not_lt.mp h.1) with h1 | h1
  · exact .inl h1
  · exact .inr ⟨h1, (List.le_iff_lt_or_eq.mp (List.not_lt.mp (h.2 h1.symm))).resolve_right
      fun e => hne (Prod.ext h1.symm e.symm)⟩

/-- strictly increasing keys: the iteration order of a `BTreeMap<PhraseKey, _>` -/
def Sorted (bt : List (PKey × Val)) : Prop := bt.Pairwise (fun a b => pkeyLt a.1 b.1 = true)

theorem Sorted.keysOk {bt : List (PKey × Val)} (h : Sorted bt) : KeysOk bt := by
  refine List.Pairwise.imp ?_ h
  intro a b hab e
  rw [e, pkeyLt_irrefl] at hab
  exact absurd hab (by simp)

theorem sorted_place {bt : List (PKey × Val)} (h : Sorted bt) (x : PKey × Val) (hx : ∀ e ∈ bt, e.1 ≠ x.1) :
    Sorted (place (fun a b => pkeyLt a.1 b.1) x bt) :=
  place_pairwise (fun _ _ c => c) (fun y hy c => pkeyLt_total c (hx y hy)) (fun _ _ _ _ => pkeyLt_trans) h

theorem sorted_btInsert {bt : List (PKey × Val)} (h : Sorted bt) (k : PKey) (v : Val) : Sorted (btInsert bt k v) := by
  unfold btInsert
  apply sorted_place (List.Pairwise.filter _ h)
  intro e he
  simp only [List.mem_filter, bne_iff_ne, ne_eq] at he
  exact he.2

theorem sorted_apply {s : State} (h : Sorted s.btree) (op : Op) : Sorted (apply s op).btree := by
  refine apply_cases (fun s' => Sorted s'.btree) s op h (fun _ _ => sorted_btInsert h _ _)
    (fun _ => List.Pairwise.filter _ h) ?_ ?_ ?_
  · rcases checkpoint_cases s with ⟨hi, hf, hd⟩ | e
    · rw [checkpoint_fire hi hf hd]; exact h
    · rw [e]; exact h
  · exact sync_cases (fun s' => Sorted s'.btree) s (fun _ _ _ => h) (fun _ _ _ => List.Pairwise.nil) (fun _ _ => h)
      (fun _ _ => h)
  · unfold closeOpen
    split
    · exact List.Pairwise.nil
    · exact h

theorem sorted_run {s : State} (h : Sorted s.btree) (ops : List Op) : Sorted (run s ops).btree :=
  List.foldlRecOn (motive := fun s => Sorted s.btree) ops apply h fun _ hs op _ => sorted_apply hs op

end TrieBuf

end Chewing
