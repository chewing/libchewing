import Chewing.Proofs.C01Editor
/-!
C01, part 6: keys under an open candidate list — the arms of `Selecting::next` that do not consult the
candidates (modifier combinations, Backspace, CapsLock, Up, Esc, Del, every key without a meaning there).
The remaining arms (Down/Space, j/k, page keys, digits) are named by `selHardKey`.
-/
namespace Chewing.C01
open Chewing.C06

variable {D L : Type} {env : Env D L} {G : D → Prop} {w : Prop}

/-- the keys whose arm of `Selecting::next` reads or changes the candidate list -/
def selHardKey (ev : KeyEvent) : Bool :=
  !(ev.mods.ctrl || ev.mods.shift) && !(ev.code == KC.backspace) && !(ev.code == KC.unknown && ev.mods.capslock) &&
  !(ev.code == KC.up) &&
  (ev.code == KC.down || ev.code == KC.space || ev.code == KC.j || ev.code == KC.k || ev.code == KC.left ||
   ev.code == KC.pageUp || ev.code == KC.right || ev.code == KC.pageDown || isDigitCode ev.code)

/-- result of `Selecting::next`: invariant of the shared state, of the list if it stays open, and of the
    state it switches to -/
def SelResOK (env : Env D L) (G : D → Prop) (w : Prop) (r : Outcome (SelRes D L)) : Prop :=
  OkAnd (fun x => ShInv env G w x.shared ∧ (∀ b, x.trans = .spin b → SelInv env w x.shared x.sel) ∧
    ∀ st, x.trans = .toState st → StInv env w x.shared st) r

theorem selResOK_ite {c : Prop} [Decidable c] {a b : Outcome (SelRes D L)} (h1 : c → SelResOK env G w a)
    (h2 : ¬ c → SelResOK env G w b) : SelResOK env G w (if c then a else b) :=
  OkAnd.ite h1 h2

/-- the two kinds of result of a step under an open list: the list stays open on an unchanged shared state … -/
theorem selPost_spin {sh : Shared D L} {s : Selecting} {b : KB} (h : ShInv env G w sh) (hs : SelInv env w sh s) :
    ShInv env G w sh ∧ (∀ b', Trans.spin b = .spin b' → SelInv env w sh s) ∧
      ∀ st, Trans.spin b = .toState st → StInv env w sh st :=
  ⟨h, fun _ _ => hs, nofun⟩

/-- … or it is closed -/
theorem selPost_entering {sh : Shared D L} {s : Selecting} (h : ShInv env G w sh) :
    ShInv env G w sh ∧ (∀ b', Trans.toState .entering = .spin b' → SelInv env w sh s) ∧
      ∀ st, Trans.toState .entering = .toState st → StInv env w sh st :=
  ⟨h, nofun, fun _ e => by cases e; trivial⟩

theorem selectingNext_easy {sh : Shared D L} {s : Selecting} (h : ShInv env G w sh) (hs : SelInv env w sh s)
    (ev : KeyEvent) (hkey : selHardKey ev = false) : SelResOK env G w (selectingNext env s sh ev) := by
  have leafSpin : ∀ {b}, SelResOK env G w (.ok ⟨sh, s, .spin b⟩) := .ok (selPost_spin h hs)
  have leafTo : ∀ {sh' : Shared D L}, ShInv env G w sh' → SelResOK env G w (.ok ⟨sh', s, .toState .entering⟩) :=
    fun h' => .ok (selPost_entering h')
  unfold selectingNext
  refine .ite (fun _ => leafSpin) fun c1 => .ite (fun _ => leafTo (cancel_inv h)) fun c2 =>
    .ite (fun _ => leafTo (cancel_inv (h.congr rfl))) fun c3 => .ite (fun _ => leafTo (cancel_inv h)) fun c4 => ?_
  -- none of the four easy arms above was taken, so `hkey` says that no hard key was pressed
  rw [Bool.not_eq_true] at c1 c2 c3 c4
  unfold selHardKey at hkey
  rw [c1, c2, c3, c4] at hkey
  have hno : (ev.code == KC.down || ev.code == KC.space || ev.code == KC.j || ev.code == KC.k || ev.code == KC.left ||
      ev.code == KC.pageUp || ev.code == KC.right || ev.code == KC.pageDown || isDigitCode ev.code) = false := hkey
  simp only [Bool.or_eq_false_iff] at hno
  obtain ⟨⟨⟨⟨⟨⟨⟨⟨k1, k2⟩, k3⟩, k4⟩, k5⟩, k6⟩, k7⟩, k8⟩, k9⟩ := hno
  exact .ite (fun c => by rw [k1, k2] at c; cases c) fun _ => .ite (fun c => by rw [k3] at c; cases c) fun _ =>
    .ite (fun c => by rw [k4] at c; cases c) fun _ => .ite (fun c => by rw [k5, k6] at c; cases c) fun _ =>
    .ite (fun c => by rw [k7, k8] at c; cases c) fun _ => .ite (fun c => by rw [k9] at c; cases c) fun _ =>
    .ite (fun _ => leafTo ((cancel_inv h).setComSame (ced_popCursor (cancel_inv h).ced) (by rw [popCursor_inner])))
      fun _ => .ite (fun _ => leafSpin) fun _ => leafSpin

theorem selInv_preamble {e : Editor D L} (hi : EditorInv env G w e) {s : Selecting} (hst : e.state = .selecting s) :
    SelInv env w (preamble e.shared) s :=
  StInv.same (st := .selecting s) (hi.selInv hst) rfl rfl

end Chewing.C01
