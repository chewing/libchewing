import Chewing.Proofs.WalkLookup
import Chewing.Proofs.WalkValid
/-!
The thread set of `lookup_first_n_phrases` on a table that passed `validate_index` never has more
than `n` members: the threads are distinct records, in ascending index order (`ThInv`), because the
child ranges of node records ascend with the record index (`Mono`).
-/
namespace Chewing.TrieWalk

variable {P : Type}

/-- thread list invariant: views of distinct node records in ascending index order -/
structure ThInv (t : Tbl P) (th : List Node) : Prop where
  sorted : th.Pairwise fun x y => x.1 < y.1
  mem : ∀ x ∈ th, x.1 < t.n ∧ x.2 = t.get x.1 ∧ NodeIsh t x.1

theorem sorted_length_le : ∀ (l : List Nat) (k n : Nat), l.Pairwise (· < ·) → (∀ x ∈ l, k ≤ x ∧ x < n) →
    l.length ≤ n - k
  | [], _, _, _, _ => Nat.zero_le _
  | x :: xs, k, n, hp, hb => by
    rw [List.pairwise_cons] at hp
    have hx := hb x List.mem_cons_self
    have := sorted_length_le xs (k + 1) n hp.2 (fun y hy => by
      have := hp.1 y hy
      have := hb y (List.mem_cons_of_mem _ hy)
      omega)
    simp only [List.length_cons]
    omega

theorem ThInv.length_le {t : Tbl P} {th : List Node} (h : ThInv t th) : th.length ≤ t.n := by
  have := sorted_length_le (th.map (·.1)) 0 t.n
    (by rw [List.pairwise_map]; exact h.sorted)
    (by
      intro x hx
      rw [List.mem_map] at hx
      obtain ⟨y, hy, rfl⟩ := hx
      exact ⟨Nat.zero_le _, (h.mem y hy).1⟩)
  simpa using this

theorem mem_kept {t : Tbl P} {pred : Nat → Bool} (hp : pred 0 = false) {nd c : Node} (hc : c ∈ kept t pred nd) :
    nd.2.a ≤ c.1 ∧ c.1 < nd.2.a + nd.2.b ∧ c.2 = t.get c.1 ∧ c.2.s ≠ 0 := by
  rw [kept, List.mem_filter, List.mem_map] at hc
  obtain ⟨⟨i, hi, rfl⟩, hpc⟩ := hc
  rw [List.mem_range'_1] at hi
  refine ⟨hi.1, hi.2, rfl, fun hz => ?_⟩
  rw [hz, hp] at hpc
  cases hpc

/-- one round of the thread loop keeps the invariant; every new thread lies in the child range of an old one -/
theorem expand_inv {t : Tbl P} (hm : Mono t) {pred : Nat → Bool} (hp : pred 0 = false) :
    ∀ (th th' : List Node), ThInv t th → expand t pred th = .ok (some th') →
      ThInv t th' ∧ ∀ y ∈ th', ∃ x ∈ th, x.2.a ≤ y.1 ∧ y.1 < x.2.a + x.2.b
  | [], th', _, h => by
    cases h
    exact ⟨⟨List.Pairwise.nil, nofun⟩, nofun⟩
  | nd :: rest, th', hinv, h => by
    obtain ⟨hn, more, hr, rfl⟩ := expand_cons_some h
    have hsorted := List.pairwise_cons.mp hinv.sorted
    have hrest : ThInv t rest := ⟨hsorted.2, fun x hx => hinv.mem x (List.mem_cons_of_mem _ hx)⟩
    obtain ⟨ihinv, ihmem⟩ := expand_inv hm hp rest more hrest hr
    have hnd := hinv.mem nd List.mem_cons_self
    refine ⟨⟨?_, ?_⟩, ?_⟩
    · rw [List.pairwise_append]
      refine ⟨?_, ihinv.sorted, ?_⟩
      · apply List.Pairwise.filter
        rw [List.pairwise_map]
        exact List.pairwise_lt_range'
      · -- a kept child of `nd` lies below the child range of every later thread `x` (`Mono`)
        intro c hc y hy
        obtain ⟨x, hx, hx1, _⟩ := ihmem y hy
        have hxm := hrest.mem x hx
        have := hm nd.1 x.1 (hsorted.1 x hx) hxm.1 hnd.2.2 hxm.2.2
        rw [← hnd.2.1, ← hxm.2.1] at this
        have := (mem_kept hp hc).2.1
        omega
    · intro c hc
      rcases List.mem_append.mp hc with hc | hc
      · obtain ⟨_, h2, h3, h4⟩ := mem_kept hp hc
        exact ⟨by omega, h3, Or.inr (h3 ▸ h4)⟩
      · exact ihinv.mem c hc
    · intro y hy
      rcases List.mem_append.mp hy with hy | hy
      · obtain ⟨h1, h2, _, _⟩ := mem_kept hp hy
        exact ⟨nd, List.mem_cons_self, h1, h2⟩
      · obtain ⟨x, hx, hx'⟩ := ihmem y hy
        exact ⟨x, List.mem_cons_of_mem _ hx, hx'⟩

theorem walk_inv {t : Tbl P} (hm : Mono t) {pred : Nat → Nat → Bool} :
    ∀ (q : List Nat) (th th' : List Node), (∀ syl ∈ q, pred 0 syl = false) → ThInv t th →
      walk t pred q th = .ok (some th') → ThInv t th'
  | [], th, th', _, hinv, h => by
    cases h
    exact hinv
  | syl :: q, th, th', hp, hinv, h => by
    obtain ⟨th1, h1, h2⟩ := walk_cons_some h
    exact walk_inv hm q th1 th' (fun s hs => hp s (List.mem_cons_of_mem _ hs))
      (expand_inv hm (pred := fun n => pred n syl) (hp syl List.mem_cons_self) th th1 hinv h1).1 h2

theorem threads_length_linear {t : Tbl P} (hv : validate t = true) (pred : Nat → Nat → Bool) (q : List Nat)
    (th : List Node) (hp : ∀ syl ∈ q, pred 0 syl = false) (h : threads t pred q = .ok (some th)) :
    th.length ≤ t.n := by
  obtain ⟨hn, hw⟩ := threads_some h
  have hinit : ThInv t [(0, t.get 0)] :=
    ⟨List.pairwise_singleton _ _, fun x hx => by
      cases List.mem_singleton.mp hx
      exact ⟨hn, rfl, Or.inl rfl⟩⟩
  exact (walk_inv (valid_mono hv) q _ th hp hinit hw).length_le

end Chewing.TrieWalk
