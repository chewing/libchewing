import Chewing.Proofs.Outcome
import Chewing.Model.Editor
import Chewing.Proofs.Runs
/-!
Case principles for the editor state machine.  Every property of a key step has the shape "whatever a
state's `next` returns satisfies `P`" (`StepAll P`).  For each function of `Model/Editor.lean` on the way from
`process_keyevent` to a result there is one lemma here that reduces `StepAll P (f …)` to `P` on the results `f`
builds itself (with the conditions under which it builds them) and `StepAll P` of the functions it calls.  A
property of the state machine is then proved by going through these lemmas once, giving `P` of each result
(for `Entering` that is done once and for all: `EditorEffect`).
-/
namespace Chewing

variable {D L : Type} (env : Env D L)

/-- every (shared state, transition) `r` can return satisfies `P` -/
def StepAll (P : Shared D L → Trans → Prop) (r : StepRes D L) : Prop := ∀ sh' t, r = .ok (sh', t) → P sh' t

variable {P : Shared D L → Trans → Prop}

theorem StepAll.ok {sh : Shared D L} {t : Trans} (h : P sh t) : StepAll P (.ok (sh, t)) := by
  intro sh' t' e; cases e; exact h

theorem StepAll.panic (p : String) : StepAll P (.panic p) := fun _ _ e => nomatch e

theorem StepAll.fuel : StepAll P .outOfFuel := fun _ _ e => nomatch e

theorem StepAll.ite {c : Prop} [Decidable c] {a b : StepRes D L} (h1 : c → StepAll P a) (h2 : ¬ c → StepAll P b) :
    StepAll P (if c then a else b) := ite_intro h1 h2

theorem StepAll.mono {Q : Shared D L → Trans → Prop} {r : StepRes D L} (h : StepAll P r)
    (hpq : ∀ sh t, P sh t → Q sh t) : StepAll Q r := fun sh' t e => hpq _ _ (h sh' t e)

theorem withCom_all {sh : Shared D L} {r : Outcome CompEditor} {k : Shared D L → StepRes D L}
    (h : ∀ c, r = .ok c → StepAll P (k { sh with com := c })) : StepAll P (withCom sh r k) := by
  unfold withCom
  split
  · exact h _ rfl
  · exact .panic _
  · exact .fuel

/-- the commonest use: the edited composition is put back and the key absorbed -/
theorem withCom_absorb_all {sh : Shared D L} {r : Outcome CompEditor}
    (h : ∀ c, r = .ok c → P { sh with com := c } (.spin .absorb)) :
    StepAll P (withCom sh r fun sh => .ok (sh, .spin .absorb)) :=
  withCom_all fun c e => .ok (h c e)

theorem commitOrInsert_all {sh : Shared D L} {ch : Nat}
    (h1 : sh.com.isEmpty = true → P { sh with commitBuf := [ch] } (.spin .commit))
    (h2 : ∀ c, ¬ sh.com.isEmpty = true → sh.com.insert (.chr ch) = .ok c → P { sh with com := c } (.spin .absorb)) :
    StepAll P (commitOrInsert sh ch) :=
  .ite (fun e => .ok (h1 e)) fun e => withCom_absorb_all (h2 · e)

theorem inputChar_all {sh : Shared D L} {ev : KeyEvent}
    (h : ∀ ch, ch = ev.unicode ∨ fullWidthSymbolInput ev.unicode = some ch → StepAll P (commitOrInsert sh ch))
    (hb : P sh (.spin .bell)) : StepAll P (inputChar sh ev) := by
  unfold inputChar fullOrBell
  split
  · exact h _ (.inl rfl)
  · split
    · next e => exact h _ (.inr e)
    · exact .ok hb

theorem chineseFallback_all {sh : Shared D L} {ev : KeyEvent}
    (hs : ∀ s c, sh.com.insert (.chr s) = .ok c → P { sh with com := c } (.spin .absorb))
    (hi : StepAll P (inputChar sh ev)) (hb : P sh (.spin .bell)) : StepAll P (chineseFallback sh ev) := by
  unfold chineseFallback
  split
  · exact withCom_absorb_all (hs _)
  · exact .ite (fun _ => hi) fun _ => .ok hb

theorem newPhrase_all {sh : Shared D L}
    (h : ∀ p, PhraseSel.init env (!sh.options.phraseChoiceRearward) sh.options.lookupStrategy
        sh.com.pushCursor.clampCursor.inner sh.com.pushCursor.clampCursor.cursor sh.dict = .ok p →
      P { sh with com := sh.com.pushCursor.clampCursor }
        (.toState (.selecting { pageNo := 0, action := .replace, sel := .phrase p }))) :
    StepAll P (newPhrase env sh) := by
  unfold newPhrase
  dsimp only
  split
  · next hp => exact .ok (h _ hp)
  · exact .panic _
  · exact .fuel

theorem openPhrase_all {sh : Shared D L}
    (h : ∀ s, newPhrase env sh = .ok ({ sh with com := sh.com.pushCursor.clampCursor }, .toState (.selecting s)) →
      (∀ cs, Selecting.candidates env s { sh with com := sh.com.pushCursor.clampCursor } = .ok cs → cs ≠ []) →
      P { sh with com := sh.com.pushCursor.clampCursor } (.toState (.selecting s)))
    (hi : P (Shared.cancelSelecting { sh with com := sh.com.pushCursor.clampCursor }) (.spin .ignore)) :
    StepAll P (openPhrase env sh) := by
  intro sh' t e
  unfold openPhrase at e
  split at e
  · next sh1 s hn =>
    cases newPhrase_all (P := fun x _ => x = { sh with com := sh.com.pushCursor.clampCursor }) env (fun _ _ => rfl) _ _ hn
    split at e
    · cases e; exact hi
    · next hne hcs => cases e; exact h s hn fun cs hc hnil => hne (by cases hcs.symm.trans hc; exact hnil)
    · cases e
    · cases e
  · -- `new_phrase` always answers with a list
    next hne =>
    obtain ⟨s, rfl⟩ := newPhrase_all (P := fun _ t => ∃ s, t = .toState (.selecting s)) env (fun _ _ => ⟨_, rfl⟩) sh' t e
    exact absurd e (hne _ _)

theorem newPhraseSimple_all {sh : Shared D L} (h : ∀ s, P { sh with com := sh.com.pushCursor } (.toState (.selecting s))) :
    StepAll P (newPhraseSimple sh) := by
  unfold newPhraseSimple
  dsimp only
  split
  · exact .ok (h _)
  · exact .panic _
  · exact .fuel

theorem newSpecialSymbol_all {sh : Shared D L} {sym : Sym}
    (h : ∀ s, s.pageNo = 0 → (∀ p, s.sel ≠ .phrase p) →
      P { sh with com := sh.com.pushCursor.clampCursor } (.toState (.selecting s))) :
    StepAll P (newSpecialSymbol sh sym) := by
  unfold newSpecialSymbol
  dsimp only
  split
  · exact .ok (h _ rfl fun _ => nofun)
  · exact .ok (h _ rfl fun _ => nofun)
  · exact .panic _
  · exact .fuel

theorem openSymbol_all {sh : Shared D L}
    (h : (∀ cs, Selecting.candidates env (newSymbol sh) sh = .ok cs → cs ≠ []) →
      P sh (.toState (.selecting (newSymbol sh))))
    (hi : P sh (.spin .ignore)) : StepAll P (openSymbol env sh) := by
  unfold openSymbol
  split
  · exact .ok hi
  · next hne hcs => exact .ok (h fun cs hc hnil => hne (by cases hcs.symm.trans hc; exact hnil))
  · exact .panic _
  · exact .fuel

theorem openSpecialSymbol_all {sh : Shared D L} {sym : Sym}
    (h : ∀ s, s.pageNo = 0 → (∀ p, s.sel ≠ .phrase p) →
      (∀ cs, Selecting.candidates env s { sh with com := sh.com.pushCursor.clampCursor } = .ok cs → cs ≠ []) →
      P { sh with com := sh.com.pushCursor.clampCursor } (.toState (.selecting s)))
    (hi : P (Shared.cancelSelecting { sh with com := sh.com.pushCursor.clampCursor }) (.spin .ignore)) :
    StepAll P (openSpecialSymbol env sh sym) := by
  intro sh' t e
  unfold openSpecialSymbol at e
  split at e
  · next sh1 s hn =>
    have hs := newSpecialSymbol_all (sh := sh)
      (P := fun x t => x = { sh with com := sh.com.pushCursor.clampCursor } ∧
        ∀ s, t = .toState (.selecting s) → s.pageNo = 0 ∧ ∀ p, s.sel ≠ .phrase p)
      (fun _ h0 hnp => ⟨rfl, fun _ e => by cases e; exact ⟨h0, hnp⟩⟩) _ _ hn
    cases hs.1
    obtain ⟨h0, hnp⟩ := hs.2 s rfl
    split at e
    · cases e; exact hi
    · next hne hcs => cases e; exact h s h0 hnp fun cs hc hnil => hne (by cases hcs.symm.trans hc; exact hnil)
    · cases e
    · cases e
  · next hne =>
    obtain ⟨s, rfl⟩ := newSpecialSymbol_all (P := fun _ t => ∃ s, t = .toState (.selecting s)) (fun _ _ _ => ⟨_, rfl⟩) sh' t e
    exact absurd e (hne _ _)

theorem startSelecting_calls {sh : Shared D L}
    (hphr : ∀ sym, sh.com.symbolForSelect = some sym → sym.isSyl = true → StepAll P (openPhrase env sh))
    (hspc : ∀ sym, sh.com.symbolForSelect = some sym → ¬ sym.isSyl = true → StepAll P (openSpecialSymbol env sh sym))
    (hi : sh.com.symbolForSelect = none → P sh (.spin .ignore)) : StepAll P (startSelecting env sh) := by
  unfold startSelecting
  split
  · next sym hs => exact .ite (hphr sym hs) (hspc sym hs)
  · next hs => exact .ok (hi hs)

/-- `hsp`: on an empty buffer a space (half- or full-width) is committed at once -/
theorem startSelectingOrInputSpace_calls {sh : Shared D L}
    (hphr : ∀ sym, sh.com.symbolForSelect = some sym → sym.isSyl = true → StepAll P (openPhrase env sh))
    (hspc : ∀ sym, sh.com.symbolForSelect = some sym → ¬ sym.isSyl = true → StepAll P (openSpecialSymbol env sh sym))
    (hsp : ∀ ch, ch = 32 ∨ ch = 12288 → sh.com.isEmpty = true →
      P { sh with commitBuf := sh.commitBuf ++ [ch] } (.spin .commit))
    (hi : sh.com.symbolForSelect = none → P sh (.spin .ignore)) :
    StepAll P (startSelectingOrInputSpace env sh) := by
  unfold startSelectingOrInputSpace
  split
  · next sym hs => exact .ite (hphr sym hs) (hspc sym hs)
  · next hs => exact .ite (fun he => .ok (hsp _ (by split <;> simp) he)) fun _ => .ok (hi hs)

theorem learnTrans_all {r : Outcome (Shared D L × Bool)}
    (h : ∀ sh1 okk, r = .ok (sh1, okk) → P sh1 (.spin (if okk then .absorb else .bell))) :
    StepAll P (learnTrans r) := by
  unfold learnTrans
  split
  · next sh1 okk => exact .ok (h sh1 okk rfl)
  · exact .panic _
  · exact .fuel

/-! ### `Entering` -/

theorem enteringBackspace_all {sh : Shared D L} (hi : sh.com.isEmpty = true → P sh (.spin .ignore))
    (h : ∀ c, ¬ sh.com.isEmpty = true → sh.com.removeBeforeCursor = .ok c → P { sh with com := c } (.spin .absorb)) :
    StepAll P (enteringBackspace sh) :=
  .ite (fun e => .ok (hi e)) fun e => withCom_absorb_all (h · e)

theorem enteringDel_all {sh : Shared D L} (hi : sh.com.isEob = true → P sh (.spin .ignore))
    (h : ∀ c, ¬ sh.com.isEob = true → sh.com.removeAfterCursor = .ok c → P { sh with com := c } (.spin .absorb)) :
    StepAll P (enteringDel sh) :=
  .ite (fun e => .ok (hi e)) fun e => withCom_absorb_all (h · e)

theorem enteringShiftLeft_all {sh : Shared D L} (hi : P sh (.spin .ignore))
    (h : P sh (.toState (.highlighting (sh.com.cursor - 1)))) : StepAll P (enteringShiftLeft sh) :=
  .ite (fun _ => .ok hi) fun _ => .ok h

theorem enteringShiftRight_all {sh : Shared D L} (hi : P sh (.spin .ignore))
    (h : P sh (.toState (.highlighting (sh.com.cursor + 1)))) : StepAll P (enteringShiftRight sh) :=
  .ite (fun _ => .ok hi) fun _ => .ok h

theorem enteringEsc_all {sh : Shared D L} (h : P { sh with com := sh.com.clear } (.spin .absorb))
    (hi : P sh (.spin .ignore)) : StepAll P (enteringEsc sh) :=
  .ite (fun _ => .ok h) fun _ => .ok hi

theorem enteringEnter_all {sh : Shared D L} (h : ∀ sh1, Shared.commit env sh = .ok sh1 → P sh1 (.spin .commit)) :
    StepAll P (enteringEnter env sh) := by
  unfold enteringEnter
  split
  · next sh1 e => exact .ok (h sh1 e)
  · exact .panic _
  · exact .fuel

theorem enteringTabInside_all {sh : Shared D L}
    (hg : ∀ c, sh.com.insertGlue = .ok c → P { sh with com := c } (.spin .absorb))
    (hb : ∀ c, sh.com.insertBreak = .ok c → P { sh with com := c } (.spin .absorb)) :
    StepAll P (enteringTabInside env sh) := by
  unfold enteringTabInside
  split
  · exact .ite (fun _ => withCom_absorb_all hg) fun _ => withCom_absorb_all hb
  · exact .panic _
  · exact .fuel

theorem enteringCtrlDigit_all {sh : Shared D L} {c : Nat} (hsym : StepAll P (openSymbol env sh))
    (hl : ∀ a b, StepAll P (learnTrans (Shared.learnInRangeNotify env sh a b)))
    (hf : P { sh with noticeBuf := Shared.msgFail } (.spin .bell)) : StepAll P (enteringCtrlDigit env sh c) := by
  unfold enteringCtrlDigit
  refine .ite (fun _ => hsym) fun _ => ?_
  dsimp only
  split
  · exact hl _ _
  · exact .ite (fun _ => hl _ _) fun _ => .ok hf

/-- the catch-all arm of `Entering::next`.  `hexp`: an easy-symbol abbreviation `x` of the key; `hsyl` / `hrej`
    (`hfb'` without easy-symbol input): in Chinese mode and without modifiers the phonetic layout took the key / did not. -/
theorem enteringDefault_all {sh : Shared D L} {ev : KeyEvent} (hsym : StepAll P (openSymbol env sh))
    (hin : StepAll P (inputChar sh ev))
    (hexp : ∀ x c, (sh.abbr.find? (fun p => p.1 == ev.unicode)).map (·.2) = some x → insertChars sh.com x = .ok c →
      P { sh with com := c } (.spin .absorb))
    (hchr : ∀ s c, sh.com.insert (.chr s) = .ok c → P { sh with com := c } (.spin .absorb))
    (hsyl : sh.options.languageMode = .chinese → ev.mods.isNone = true → ((env.keyPress sh.syl ev).1 == .absorb) = true →
      P { sh with syl := (env.keyPress sh.syl ev).2 } (.toState .enteringSyllable))
    (hrej : sh.options.languageMode = .chinese → ev.mods.isNone = true → ¬ ((env.keyPress sh.syl ev).1 == .absorb) = true →
      P { sh with syl := (env.keyPress sh.syl ev).2 } (.spin .bell))
    (hfb' : sh.options.languageMode = .chinese → ev.mods.isNone = true → ¬ ((env.keyPress sh.syl ev).1 == .absorb) = true →
      StepAll P (chineseFallback { sh with syl := (env.keyPress sh.syl ev).2 } ev))
    (hfb : StepAll P (chineseFallback sh ev)) (hbell : P sh (.spin .bell)) :
    StepAll P (enteringDefault env sh ev) := by
  unfold enteringDefault
  split
  · next hl =>
    refine .ite (fun _ => hsym) fun _ => .ite (fun _ => hin) fun _ => .ite (fun _ => ?_) fun _ => ?_
    · split
      · next x hx => exact withCom_absorb_all (hexp x · hx)
      · split
        · exact withCom_absorb_all (hchr _)
        · exact .ite (fun hm => .ite (fun e => .ok (hsyl hl hm e)) fun e => .ok (hrej hl hm e)) fun _ => .ok hbell
    · exact .ite (fun hm => .ite (fun e => .ok (hsyl hl hm e)) (hfb' hl hm)) fun _ => hfb
  · exact hin

/-- `Entering::next`, arm by arm in the order of the Rust `match`; each hypothesis carries the condition
    of its own arm only -/
theorem enteringNext_all {sh : Shared D L} {ev : KeyEvent}
    (hbs : StepAll P (enteringBackspace sh))
    (hcaps : (ev.code == KC.unknown && ev.mods.capslock) = true → P (Shared.switchLanguageMode sh) (.spin .absorb))
    (hctrl : (isDigitCode ev.code && ev.mods.ctrl) = true → StepAll P (enteringCtrlDigit env sh ev.code))
    (hidle : (isIdleKey ev.code && sh.com.isEmpty) = true → P sh (.spin .ignore))
    (hnth : P { sh with nth := sh.nth + 1 } (.spin .absorb))
    (htab : StepAll P (enteringTabInside env sh))
    (hdel : StepAll P (enteringDel sh))
    (hmove : ∀ c, c = sh.com.moveToBeginning ∨ c = sh.com.moveLeft ∨ c = sh.com.moveRight ∨ c = sh.com.moveToEnd →
      P { sh with com := c } (.spin .absorb))
    (hsl : StepAll P (enteringShiftLeft sh)) (hsr : StepAll P (enteringShiftRight sh))
    (hup : P sh (.spin .ignore))
    (hform : (ev.code == KC.space && ev.mods.shift && sh.options.enableFullwidthToggleKey) = true →
      P (Shared.switchCharacterForm sh) (.spin .absorb))
    (hspace : (ev.code == KC.space && sh.options.spaceIsSelectKey && sh.options.languageMode == .chinese) = true →
      StepAll P (startSelectingOrInputSpace env sh))
    (hdown : StepAll P (startSelecting env sh))
    (henter : (ev.code == KC.enter) = true → StepAll P (enteringEnter env sh))
    (hesc : StepAll P (enteringEsc sh))
    (hnum : StepAll P (commitOrInsert sh ev.unicode))
    (hdef : StepAll P (enteringDefault env sh ev)) : StepAll P (enteringNext env sh ev) := by
  unfold enteringNext
  exact .ite (fun _ => hbs) fun _ => .ite (fun e => .ok (hcaps e)) fun _ => .ite hctrl fun _ =>
    .ite (fun e => .ok (hidle e)) fun _ => .ite (fun _ => .ok hnth) fun _ => .ite (fun _ => htab) fun _ =>
    .ite (fun _ => hdel) fun _ => .ite (fun _ => .ok (hmove _ (.inl rfl))) fun _ => .ite (fun _ => hsl) fun _ =>
    .ite (fun _ => hsr) fun _ => .ite (fun _ => .ok (hmove _ (.inr (.inl rfl)))) fun _ =>
    .ite (fun _ => .ok (hmove _ (.inr (.inr (.inl rfl))))) fun _ => .ite (fun _ => .ok hup) fun _ =>
    .ite (fun e => .ok (hform e)) fun _ => .ite hspace fun _ => .ite (fun _ => hdown) fun _ =>
    .ite (fun _ => .ok (hmove _ (.inr (.inr (.inr rfl))))) fun _ => .ite henter fun _ =>
    .ite (fun _ => hesc) fun _ => .ite (fun _ => hnum) fun _ => hdef

/-! ### `EnteringSyllable` -/

/-- the layout's answer `beh` with its new state already in `sh`: each hypothesis names the answer and the
    conditions of its arm.  `hent` / `habs`: absorbed, the phonetic buffer left empty / not; `hins` / `hfz0`: a fuzzy
    completion with / without a word; `hsimple` / `hcommit` / `hnoword`: a finished syllable with a word (simple
    engine / the others) / without; `hbell`: any other answer. -/
theorem syllableAnswer_all {sh : Shared D L} {beh : LayoutBeh}
    (hent : beh = .absorb → env.sylIsEmpty sh.syl = true → P sh (.toState .entering))
    (habs : beh = .absorb → ¬ env.sylIsEmpty sh.syl = true → P sh (.spin .absorb))
    (hins : ∀ s c, beh = .fuzzy s → env.hasPhrase sh.dict [s] sh.options.lookupStrategy = true →
      sh.com.insert (.syl s) = .ok c → P { sh with com := c } (.spin .absorb))
    (hfz0 : ∀ s, beh = .fuzzy s → ¬ env.hasPhrase sh.dict [s] sh.options.lookupStrategy = true → P sh (.spin .absorb))
    (hsimple : ∀ c, beh = .commit → env.hasPhrase sh.dict [env.read sh.syl] sh.options.lookupStrategy = true →
      (sh.options.conversionEngine == .simple) = true → sh.com.insert (.syl (env.read sh.syl)) = .ok c →
      StepAll P (newPhraseSimple { sh with com := c, syl := env.clearSyl (env.clearSyl sh.syl) }))
    (hcommit : ∀ c, beh = .commit → env.hasPhrase sh.dict [env.read sh.syl] sh.options.lookupStrategy = true →
      ¬ (sh.options.conversionEngine == .simple) = true → sh.com.insert (.syl (env.read sh.syl)) = .ok c →
      P { sh with com := c, syl := env.clearSyl sh.syl } (.toState .entering))
    (hnoword : beh = .commit → ¬ env.hasPhrase sh.dict [env.read sh.syl] sh.options.lookupStrategy = true →
      P { sh with syl := env.clearSyl sh.syl } (.toState .entering))
    (hbell : beh ≠ .absorb → (∀ s, beh ≠ .fuzzy s) → beh ≠ .commit → P sh (.spin .bell)) :
    StepAll P (syllableAnswer env sh beh) := by
  unfold syllableAnswer
  split
  · exact .ite (fun e => .ok (hent rfl e)) fun e => .ok (habs rfl e)
  · exact .ite (fun hw => withCom_absorb_all fun c => hins _ c rfl hw) fun hw => .ok (hfz0 _ rfl hw)
  · exact .ite (fun hw => withCom_all fun c e => .ite (fun hs => hsimple c rfl hw hs e) fun hs => .ok (hcommit c rfl hw hs e))
      fun hw => .ok (hnoword rfl hw)
  · next h1 h2 h3 => exact .ok (hbell h1 h2 h3)

/-- `hans`: the key goes to the layout, through the press function `a` of the lookup strategy -/
theorem enteringSyllableNext_all {sh : Shared D L} {ev : KeyEvent}
    (hbs : (!env.sylIsEmpty (env.removeLast sh.syl)) = true → P { sh with syl := env.removeLast sh.syl } (.spin .absorb))
    (hbs0 : ¬ (!env.sylIsEmpty (env.removeLast sh.syl)) = true →
      P { sh with syl := env.removeLast sh.syl } (.toState .entering))
    (hcaps : (ev.code == KC.unknown && ev.mods.capslock) = true →
      P (Shared.switchLanguageMode { sh with syl := env.clearSyl sh.syl }) (.toState .entering))
    (hescAll : P { sh with syl := env.clearSyl sh.syl, com := sh.com.clear } (.toState .entering))
    (hesc : P { sh with syl := env.clearSyl sh.syl } (.toState .entering))
    (hans : ∀ a, (sh.options.lookupStrategy = .fuzzyPartialPrefix ∧ a = env.fuzzyKeyPress sh.syl ev) ∨
        (sh.options.lookupStrategy = .standard ∧ a = env.keyPress sh.syl ev) →
      StepAll P (syllableAnswer env { sh with syl := a.2 } a.1)) :
    StepAll P (enteringSyllableNext env sh ev) := by
  unfold enteringSyllableNext
  refine .ite (fun _ => .ite (fun e => .ok (hbs e)) fun e => .ok (hbs0 e)) fun _ => .ite (fun e => .ok (hcaps e)) fun _ =>
    .ite (fun _ => .ite (fun _ => .ok hescAll) fun _ => .ok hesc) fun _ => ?_
  split
  · next hs => exact hans _ (.inl ⟨hs, rfl⟩)
  · next hs => exact hans _ (.inr ⟨hs, rfl⟩)

/-! ### `Selecting` and `Highlighting` -/

/-- `Selecting::select(n)`.  `hbell`: nothing is listed at the index addressed; `hphrase`: the phrase listed there is
    chosen; `hsym`: a symbol put in by `insert` or `replace` (from the symbol table, whose selector has moved to
    `y'`, or from a special-symbol list); `hcat` / `hcat0`: a category of the symbol table opened, its sub-table
    listing something / closed for having no symbols; `hpage0`: a special-symbol list without a symbol there goes
    back to page 0. -/
theorem select_all {Q : Selecting × Shared D L × Trans → Prop} {s : Selecting} {sh : Shared D L} {n : Nat}
    (hbell : ∀ cs, Selecting.candidates env s sh = .ok cs → cs.length ≤ Selecting.offset s sh n →
      Q (s, sh, .spin .bell))
    (hphrase : ∀ p cs phrase com, s.sel = .phrase p → PhraseSel.candidates env p sh.dict sh.syl = .ok cs →
      cs[Selecting.offset s sh n]? = some phrase → sh.com.select (p.interval phrase) = .ok com →
      Q (s, { sh with com := if sh.options.autoShiftCursor = true then com.popCursor.moveRight else com.popCursor },
        .toState .entering))
    (hsym : ∀ s' sym com,
      (∃ y y', s.sel = .symbol y ∧ y.select (Selecting.offset s sh n) = .ok (some sym, y') ∧
        s' = { s with sel := .symbol y' }) ∨
      (∃ sym0, s.sel = .special sym0 ∧ specialSelect sym0 (Selecting.offset s sh n) = .ok (some sym) ∧ s' = s) →
      (match s.action with | .insert => sh.com.insert sym | .replace => sh.com.replace sym) = .ok com →
      Q (s', { sh with com := com.popCursor }, .toState .entering))
    (hcat : ∀ y y' c cs, s.sel = .symbol y → y.select (Selecting.offset s sh n) = .ok (none, y') →
      y'.menu = .ok (c :: cs) → Q ({ s with sel := .symbol y', pageNo := 0 }, sh, .spin .absorb))
    (hcat0 : ∀ y y', s.sel = .symbol y → y.select (Selecting.offset s sh n) = .ok (none, y') → y'.menu = .ok [] →
      Q ({ s with sel := .symbol y', pageNo := 0 }, Shared.cancelSelecting sh, .toState .entering))
    (hpage0 : ∀ sym0, s.sel = .special sym0 → specialSelect sym0 (Selecting.offset s sh n) = .ok none →
      Q ({ s with pageNo := 0 }, sh, .spin .absorb)) : ResAll Q (Selecting.select env s sh n) := by
  unfold Selecting.select
  dsimp only
  split
  · exact .panic _
  · exact .fuel
  · next listed hl =>
    refine .ite (fun h => .ok (hbell listed hl h)) fun _ => ?_
    split
    · next p hp =>
      split
      · next cs hc =>
        split
        · next phrase hg =>
          split
          · next com e => exact .ok (hphrase p cs phrase com hp hc hg e)
          · exact .panic _
          · exact .fuel
        · -- the phrase list is the list `listed`
          next hg =>
          exact .ok (hbell cs (by unfold Selecting.candidates; rw [hp]; exact hc) (List.getElem?_eq_none_iff.mp hg))
      · exact .panic _
      · exact .fuel
    · next y hy =>
      split
      · next sym y' hq =>
        refine .map ?_
        split
        · next com ec => exact .ok (hsym _ sym com (.inl ⟨y, y', hy, hq, rfl⟩) ec)
        · exact .panic _
        · exact .fuel
      · next y' hq =>
        split
        · next hm => exact .ok (hcat0 y y' hy hq hm)
        · next cs hne hm =>
          cases cs with
          | nil => exact absurd rfl hne
          | cons c cs => exact .ok (hcat y y' c cs hy hq hm)
        · exact .panic _
        · exact .fuel
      · exact .panic _
      · exact .fuel
    · next sym0 h0 =>
      split
      · next out hq =>
        split
        · next com ec => exact .ok (hsym s out com (.inr ⟨sym0, h0, hq, rfl⟩) ec)
        · exact .panic _
        · exact .fuel
      · next hq => exact .ok (hpage0 sym0 h0 hq)
      · exact .panic _
      · exact .fuel

theorem retarget_all {s : Selecting} {sh : Shared D L}
    (h : ∀ sel, (∃ p, PhraseSel.init env (!sh.options.phraseChoiceRearward) sh.options.lookupStrategy sh.com.inner
        sh.com.cursor sh.dict = .ok p ∧ sel = .phrase p) ∨ (∀ p, sel ≠ .phrase p) →
      P sh (.toState (.selecting { s with sel := sel, pageNo := 0 }))) : StepAll P (retarget env s sh) := by
  unfold retarget
  split
  · exact .panic _
  · refine .ite (fun _ => ?_) fun _ => ?_
    · split
      · next p hp => exact .ok (h _ (.inl ⟨p, hp, rfl⟩))
      · exact .panic _
      · exact .fuel
    · split
      · exact .ok (h _ (.inr fun _ => nofun))
      · exact .ok (h _ (.inr fun _ => nofun))
      · exact .panic _
      · exact .fuel

variable {Q : SelRes D L → Prop}

theorem selDownSpace_all {s : Selecting} {sh : Shared D L}
    (hnext : ∀ tp, Selecting.totalPage env s sh = .ok tp → s.pageNo + 1 < tp →
      Q ⟨sh, { s with pageNo := s.pageNo + 1 }, .spin .absorb⟩)
    (hrange : ∀ tp p p', Selecting.totalPage env s sh = .ok tp → s.sel = .phrase p →
      PhraseSel.next env p sh.dict = .ok p' → Q ⟨sh, { s with pageNo := 0, sel := .phrase p' }, .spin .absorb⟩)
    (hfirst : ∀ tp, Selecting.totalPage env s sh = .ok tp → Q ⟨sh, { s with pageNo := 0 }, .spin .absorb⟩) :
    ResAll Q (selDownSpace env s sh) := by
  unfold selDownSpace
  split
  · next tp ht =>
    refine .ite (fun hlt => .ok (hnext tp ht hlt)) fun _ => ?_
    split
    · next p hp =>
      split
      · next p' e => exact .ok (hrange tp p p' ht hp e)
      · exact .panic _
      · exact .fuel
    · exact .ok (hfirst tp ht)
  · exact .panic _
  · exact .fuel

theorem closeIfEmpty_all {r : SelRes D L}
    (h0 : Selecting.totalPage env r.sel r.shared = .ok 0 →
      Q ⟨Shared.cancelSelecting r.shared, r.sel, .toState .entering⟩)
    (h : ∀ tp, Selecting.totalPage env r.sel r.shared = .ok tp → tp ≠ 0 → Q r) : ResAll Q (closeIfEmpty env r) := by
  unfold closeIfEmpty
  split
  · next tp ht =>
    exact .ite (fun e => .ok (h0 (eq_of_beq e ▸ ht))) fun hne => .ok (h tp ht fun e => hne (beq_iff_eq.mpr e))
  · exact .panic _
  · exact .fuel

theorem selMove_all {s : Selecting} {sh : Shared D L} {isJ : Bool}
    (hi : sh.com.isEmpty = true → Q ⟨sh, s, .spin .ignore⟩)
    (h : ∀ c s', (c = sh.com.moveCursor ((match s.sel with | .phrase p => p.begin_ | _ => sh.com.cursor) - 1) ∨
        c = (sh.com.moveCursor ((match s.sel with | .phrase p => p.begin_ | _ => sh.com.cursor) + 1)).clampCursor) →
      retarget env s { sh with com := c } = .ok ({ sh with com := c }, .toState (.selecting s')) →
      ResAll Q (closeIfEmpty env ⟨{ sh with com := c }, s', .spin .absorb⟩)) : ResAll Q (selMove env s sh isJ) := by
  unfold selMove
  refine .ite (fun e => .ok (hi e)) fun _ => ?_
  dsimp only
  -- `retarget` hands the shared state back as it got it, and always with a list
  have hr : ∀ sh1 sh' t, retarget env s sh1 = .ok (sh', t) → sh' = sh1 ∧ ∃ s', t = .toState (.selecting s') :=
    fun sh1 sh' t e =>
      retarget_all (P := fun x t => x = sh1 ∧ ∃ s', t = .toState (.selecting s')) env (fun _ _ => ⟨rfl, _, rfl⟩) sh' t e
  split
  · next sh' s' e =>
    cases (hr _ _ _ e).1
    exact h _ s' (by cases isJ; exact .inr rfl; exact .inl rfl) e
  · next sh' t hne e => obtain ⟨_, s', rfl⟩ := hr _ _ _ e; exact (hne _ rfl).elim
  · exact .panic _
  · exact .fuel

theorem selPrevPage_all {s : Selecting} {sh : Shared D L}
    (hprev : 0 < s.pageNo → Q ⟨sh, { s with pageNo := s.pageNo - 1 }, .spin .absorb⟩)
    (hlast : ∀ tp, Selecting.totalPage env s sh = .ok tp → s.pageNo = 0 →
      Q ⟨sh, { s with pageNo := tp - 1 }, .spin .absorb⟩) : ResAll Q (selPrevPage env s sh) := by
  unfold selPrevPage
  refine .ite (fun h => .ok (hprev h)) fun h => ?_
  split
  · next tp ht => exact .ok (hlast tp ht (Nat.eq_zero_of_not_pos h))
  · exact .panic _
  · exact .fuel

theorem selNextPage_all {s : Selecting} {sh : Shared D L}
    (hnext : ∀ tp, Selecting.totalPage env s sh = .ok tp → s.pageNo + 1 < tp →
      Q ⟨sh, { s with pageNo := s.pageNo + 1 }, .spin .absorb⟩)
    (hfirst : ∀ tp, Selecting.totalPage env s sh = .ok tp → ¬ s.pageNo + 1 < tp →
      Q ⟨sh, { s with pageNo := 0 }, .spin .absorb⟩) : ResAll Q (selNextPage env s sh) := by
  unfold selNextPage
  split
  · next tp ht => exact .ite (fun hlt => .ok (hnext tp ht hlt)) fun hge => .ok (hfirst tp ht hge)
  · exact .panic _
  · exact .fuel

theorem selDigit_all {s : Selecting} {sh : Shared D L} {c : Nat}
    (h : ResAll (fun x => Q ⟨x.2.1, x.1, x.2.2⟩) (Selecting.select env s sh (c - 1))) :
    ResAll Q (selDigit env s sh c) := by
  unfold selDigit
  split
  · next s' sh' t e => exact .ok (h _ e)
  · exact .panic _
  · exact .fuel

theorem selectingNext_all {s : Selecting} {sh : Shared D L} {ev : KeyEvent}
    (hbell : Q ⟨sh, s, .spin .bell⟩)
    (hcancel : Q ⟨Shared.cancelSelecting sh, s, .toState .entering⟩)
    (hcaps : (ev.code == KC.unknown && ev.mods.capslock) = true → ¬ (ev.mods.ctrl || ev.mods.shift) = true →
      Q ⟨Shared.cancelSelecting (Shared.switchLanguageMode sh), s, .toState .entering⟩)
    (hdown : ResAll Q (selDownSpace env s sh))
    (hmove : ∀ isJ, ResAll Q (selMove env s sh isJ))
    (hprev : ResAll Q (selPrevPage env s sh)) (hnext : ResAll Q (selNextPage env s sh))
    (hdigit : ResAll Q (selDigit env s sh ev.code))
    (hesc : Q ⟨{ sh with com := (Shared.cancelSelecting sh).com.popCursor }, s, .toState .entering⟩)
    (hdel : Q ⟨sh, s, .spin .absorb⟩) : ResAll Q (selectingNext env s sh ev) := by
  unfold selectingNext
  exact .ite (fun _ => .ok hbell) fun hm => .ite (fun _ => .ok hcancel) fun _ => .ite (fun e => .ok (hcaps e hm)) fun _ =>
    .ite (fun _ => .ok hcancel) fun _ => .ite (fun _ => hdown) fun _ => .ite (fun _ => hmove _) fun _ =>
    .ite (fun _ => hmove _) fun _ => .ite (fun _ => hprev) fun _ => .ite (fun _ => hnext) fun _ =>
    .ite (fun _ => hdigit) fun _ => .ite (fun _ => .ok hesc) fun _ => .ite (fun _ => .ok hdel) fun _ => .ok hbell

theorem highlightingNext_all {Q : Shared D L × Nat × Trans → Prop} {m : Nat} {sh : Shared D L} {ev : KeyEvent}
    (hcaps : (ev.code == KC.unknown && ev.mods.capslock) = true → Q (Shared.switchLanguageMode sh, m, .toState .entering))
    (hmove : ∀ m', Q (sh, m', .spin .absorb))
    (hlearn : ∀ sh' b, Shared.learnInRangeNotify env { sh with com := sh.com.moveCursor m } (min m sh.com.cursor)
      (max m sh.com.cursor) = .ok (sh', b) → Q (sh', m, .toState .entering))
    (hleave : Q (sh, m, .toState .entering)) : ResAll Q (highlightingNext env m sh ev) := by
  unfold highlightingNext
  dsimp only
  refine .ite (fun e => .ok (hcaps e)) fun _ => .ite (fun _ => .ok (hmove _)) fun _ => .ite (fun _ => .ok (hmove _)) fun _ =>
    .ite (fun _ => ?_) fun _ => .ok hleave
  split
  · next sh' b e => exact .ok (hlearn sh' b e)
  · exact .panic _
  · exact .fuel

theorem Editor.folds : Folds (· = .ok ·) (Editor.apply env) (Editor.run env) :=
  ⟨by simp [Editor.run], fun e op _ => by rw [Editor.run]; cases e.apply env op <;> simp⟩

end Chewing
