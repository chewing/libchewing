/-!
Bit fields of a natural number in arithmetic form: masking with a run of ones extracts a field
(`and_field`), a mask of two runs keeps two fields (`and_lo_field`), and the clear-then-or idiom
overwrites one (`set_field`).  For every number and every position; the masks of the syllable code are instances.
-/
namespace Chewing

theorem and_field (x w s : Nat) : x &&& ((2 ^ w - 1) <<< s) = x / 2 ^ s % 2 ^ w * 2 ^ s := by
  have hd : (x &&& ((2 ^ w - 1) <<< s)) / 2 ^ s = x / 2 ^ s % 2 ^ w := by
    rw [Nat.and_div_two_pow, Nat.shiftLeft_eq, Nat.mul_div_cancel _ (Nat.two_pow_pos s),
      Nat.and_two_pow_sub_one_eq_mod]
  have hm : (x &&& ((2 ^ w - 1) <<< s)) % 2 ^ s = 0 := by
    rw [Nat.and_mod_two_pow, Nat.shiftLeft_eq, Nat.mul_mod_left, Nat.and_zero]
  rw [← Nat.div_add_mod (x &&& _) (2 ^ s), hd, hm, Nat.add_zero, Nat.mul_comm]

theorem and_lo_field (x : Nat) {lo s : Nat} (w : Nat) (h : lo ≤ s) :
    x &&& ((2 ^ w - 1) <<< s ||| (2 ^ lo - 1)) = x / 2 ^ s % 2 ^ w * 2 ^ s + x % 2 ^ lo := by
  rw [Nat.and_or_distrib_left, and_field, Nat.and_two_pow_sub_one_eq_mod, ← Nat.shiftLeft_eq,
    Nat.shiftLeft_add_eq_or_of_lt (Nat.lt_of_lt_of_le (Nat.mod_lt _ (Nat.two_pow_pos lo))
      (Nat.pow_le_pow_right (by decide) h))]

/-- clear a field of width `w` at bit `s` (keeping `k` bits above it and everything below), then or in `v` -/
theorem set_field (c : Nat) {v w : Nat} (k s : Nat) (hv : v < 2 ^ w) :
    (c &&& ((2 ^ k - 1) <<< (s + w) ||| (2 ^ s - 1))) ||| v <<< s =
      c / 2 ^ (s + w) % 2 ^ k * 2 ^ (s + w) + v * 2 ^ s + c % 2 ^ s := by
  have hsw : 2 ^ s ≤ 2 ^ (s + w) := Nat.pow_le_pow_right (by decide) (Nat.le_add_right s w)
  have hl : c % 2 ^ s < 2 ^ s := Nat.mod_lt _ (Nat.two_pow_pos s)
  have hvl : v <<< s + c % 2 ^ s < 2 ^ (s + w) := by
    rw [Nat.shiftLeft_eq, Nat.pow_add, Nat.mul_comm (2 ^ s)]
    calc v * 2 ^ s + c % 2 ^ s < v * 2 ^ s + 2 ^ s := Nat.add_lt_add_left hl _
      _ = (v + 1) * 2 ^ s := (Nat.succ_mul ..).symm
      _ ≤ 2 ^ w * 2 ^ s := Nat.mul_le_mul_right _ hv
  -- both sides are the disjoint union of the three pieces; `a <<< i + b = a <<< i ||| b` for `b < 2 ^ i`
  rw [and_lo_field c k (Nat.le_add_right s w), ← Nat.shiftLeft_eq,
    Nat.shiftLeft_add_eq_or_of_lt (Nat.lt_of_lt_of_le hl hsw), Nat.or_assoc, Nat.or_comm (c % 2 ^ s),
    ← Nat.shiftLeft_add_eq_or_of_lt hl, ← Nat.shiftLeft_add_eq_or_of_lt hvl, Nat.shiftLeft_eq v, Nat.add_assoc]

/-! Numerals: `q * b + d` with `d < b` has last digit `d`; comparisons and divisibility go digit by digit. -/

theorem div_mod_digit {d b : Nat} (q : Nat) (h : d < b) : (q * b + d) / b = q ∧ (q * b + d) % b = d := by
  have hb : 0 < b := Nat.zero_lt_of_lt h
  rw [Nat.mul_comm, Nat.mul_add_div hb, Nat.mul_add_mod, Nat.div_eq_of_lt h, Nat.mod_eq_of_lt h]
  exact ⟨rfl, rfl⟩

theorem eq_iff_digit {x y a a' : Nat} (b : Nat) (h : x % b = a) (h' : y % b = a') :
    x = y ↔ x / b = y / b ∧ a = a' := by
  subst h h'
  constructor
  · rintro rfl; exact ⟨rfl, rfl⟩
  · rintro ⟨e1, e2⟩; rw [← Nat.div_add_mod x b, ← Nat.div_add_mod y b, e1, e2]

theorem div_eq_iff {x y a a' : Nat} (q b : Nat) (h : x / q % b = a) (h' : y / q % b = a') :
    x / q = y / q ↔ x / (q * b) = y / (q * b) ∧ a = a' := by
  rw [← Nat.div_div_eq_div_mul, ← Nat.div_div_eq_div_mul]; exact eq_iff_digit b h h'

theorem mod_eq_zero_iff {x a : Nat} (q b : Nat) (hq : 0 < q) (h : x / q % b = a) :
    x % (q * b) = 0 ↔ a = 0 ∧ x % q = 0 := by
  subst h
  rw [Nat.mod_mul, Nat.add_eq_zero_iff, Nat.mul_eq_zero, and_comm, or_iff_right (Nat.ne_of_gt hq)]

end Chewing
