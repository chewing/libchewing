import Chewing.Proofs.TrieBufRefine
/-!
What a `TrieBuf` *answers* against the map it denotes, in **every** state: exact lookups first, then prefix lookups.

Before fix 22d24c7 (F10) a live key held both by the persisted snapshot and by
the pending tree was a candidate twice: `entries()` listed it twice and the exact lookup reported the
larger of the two frequencies.  Since the fix the persisted candidate is dropped, so the candidates of an
exact lookup have pairwise different texts (`leafOk_cands`), in every state.

Since fix c3d9fb2 (F36) the code answers a prefix (`FuzzyPartialPrefix`) lookup from the merged view `entries_iter()` — persisted
entries without a pending entry of the same key, then the pending entries, minus tombstones, every filter
keyed by the ENTRY's own key — restricted to the keys that match the query syllable by syllable.  The
answer is therefore the map's in **every** state: `fuzzy_of_entries` derives the prefix-lookup
specification from the enumeration specification for any matching predicate, `fuzzy_agrees` instantiates
it with `entries_agrees`.

Before the fix the code scanned the persisted leaves only, added the pending entries of exactly the query
key and applied the pending / tombstone filters keyed by the QUERY (`Trie::lookup_all_phrases` does not
return the key a phrase was found under), so the answer differed from the map's whenever a matching key
other than the query had a pending entry or a tombstone.  `fuzzy_agrees` holds in every state, for every query.
-/
namespace Chewing
open MapSpec

namespace TrieBuf
open Trie

/-- the de-duplication loop of `lookup_first_n_phrases` has nothing to do on an exact lookup -/
theorem lookupAll_std_eq_cands {s : State} (hs : Inv s) (k : Key) :
    lookupAll s k .standard = entriesIterFor s k .standard :=
  dedup_of_nodup (cands_agree hs.linv k).1

theorem lookup_agrees {s : State} (hs : Inv s) (k : Key) :
    IsLookup (abs s) k (lookupAll s k .standard) := by
  rw [lookupAll_std_eq_cands hs]; exact cands_agree hs.linv k

theorem mkPhrase_freq (t : Text) (v : Val) : (mkPhrase t v).freq = v.1 := rfl

/-- **from the enumeration to the prefix lookup**, for any matching predicate: if `es` enumerates the map
    (`IsEntries`), then selecting the entries whose key matches `q` and running the de-duplication loop
    over their phrases is a correct prefix lookup (`IsFuzzyLookup`) -/
theorem fuzzy_of_entries (mt : Key → Key → Bool) {m : Map} {es : List Entry} (h : IsEntries m es) (q : Key) :
    IsFuzzyLookup mt m q (dedup ((es.filter (fun e => mt e.1 q)).map (·.2))) := by
  refine ⟨dedup_texts_nodup _, ?_, ?_⟩
  · intro p hp
    obtain ⟨key, hm, he⟩ := mem_match_entries.mp (mem_of_mem_dedup hp)
    exact ⟨key, hm, h.2.1 (key, p) he⟩
  · intro key t v hm hv
    obtain ⟨e, he, rfl, rfl⟩ := h.2.2 key t v hv
    obtain ⟨r, hr, er, fr⟩ := dedup_max (mem_match_entries.mpr ⟨e.1, hm, he⟩)
    refine ⟨r, hr, er, ?_⟩
    have : v = valOf e.2 := Option.some.inj (hv.symm.trans (h.2.1 e he))
    rw [this]; exact fr

theorem fuzzy_mem_texts {mt : Key → Key → Bool} {m : Map} {q : Key} {l : List Phrase} (h : IsFuzzyLookup mt m q l)
    {t : Text} : t ∈ texts l ↔ ∃ key v, mt key q = true ∧ m (key, t) = some v := by
  rw [mem_texts]
  constructor
  · rintro ⟨p, hp, rfl⟩
    obtain ⟨key, hm, hv⟩ := h.2.1 p hp
    exact ⟨key, _, hm, hv⟩
  · rintro ⟨key, v, hm, hv⟩
    obtain ⟨p, hp, e, _⟩ := h.2.2 key t v hm hv
    exact ⟨p, hp, e⟩

theorem entriesIterFor_fuzzy (s : State) (q : Key) :
    entriesIterFor s q .fuzzyPartialPrefix = ((entries s).filter (fun e => fuzzyMatch e.1 q)).map (·.2) := rfl

theorem fuzzy_agrees {s : State} (hs : Inv s) (q : Key) :
    IsFuzzyLookup fuzzyMatch (abs s) q (lookupAll s q .fuzzyPartialPrefix) :=
  fuzzy_of_entries fuzzyMatch (entries_agrees hs.linv) q

end TrieBuf

end Chewing
