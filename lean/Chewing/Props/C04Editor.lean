import Chewing.Proofs.EditorChoiceOps
import Chewing.Proofs.EditorChoiceCommit
import Chewing.Props.C02
/-!
# C04 — user selections and break points are honoured until the user edits them (EDITOR level)

`Props/C04.lean` proves the property for `Composition` / `CompositionEditor` operation sequences; this file
lifts it to the editor: **every key in every state and every other public operation, every environment,
every history** (linked statements; `Props/C04.lean` cannot import them: C01's proofs import it).

What "the user edits them" means — decidable predicates on (pre-state, operation)

* `opKinds e op` (`keyKinds e ev` for a key; `Proofs/EditorChoiceOps.lean`) lists the kinds of edit the step can
  make, read off the state machine arm by arm (`enteringKinds`, `syllableKinds`, `selectingKinds`, `selectKinds`):
  Backspace → `bksp`; Delete → `del`; Tab inside the buffer → `glue` / `brk`; Enter / `commit()` / `clear()` /
  Esc with `esc_clear_all_buffer` → `clear`; a character, symbol or completed syllable (Entering,
  EnteringSyllable) → `ins` at the cursor; a digit key / `select(n)` on an open phrase list → `sel begin end`, on a
  symbol list → `ins` or `repl` at the cursor; every other key and call (cursor keys, Home / End, Shift-arrows,
  Up / Down / Space opening a list, paging, `j` / `k`, cancelling, CapsLock, Shift-Space, Tab at the end = next
  alternative, Ctrl-digit learning, option / layout / engine / dictionary calls, `jump_*`) → nothing.
* `opEdits e op s` = some kind of `opKinds e op` edits inside the choice `s` (`kindEdits`: typing or a break with
  the cursor strictly inside the range, Backspace / Delete / symbol replacement of one of its symbols, a new
  choice overlapping it, clearing).  `opTouches e op j` = some kind touches the gap `j` (`kindTouches`: typing
  exactly at the gap, removing the symbol behind it, Tab at it, a new choice spanning it, clearing).
* the auto-commit that may end a step removes a prefix: it *reaches* the choice iff the image of the choice
  starts before the cut (`AutoCommitReaches`).

Theorems

* `selection_survives_op` / `selection_survives_key` — one step: a choice of the pre-state that the operation
  does not edit inside is `Carried` into the post-state (present, same text and kind, over the same symbols,
  shifted), unless the auto-commit reached it; then (`choice_committed_by_autocommit`, for the environment whose
  engine is C03's model) it was committed WHOLE and with its chosen text.
* `choice_persists_along` — every history: the choice is carried to the end, or some step of the history edited
  it (`EditedBy`) — "dropped only if edited inside", along histories.
* `choice_shown` / `choice_displayed` — at every state satisfying C01's invariant, for the environment whose
  engine is C03's model: the pre-edit text over the range of a choice is the chosen text, in the alternative the
  editor shows.  `choice_shown_along`: the two combined.
* `break_survives_op`, `break_persists_along` — the same for a break point (`BreakCarried`: still a break,
  before the same symbol); `break_not_spanned_editor`: no interval of any alternative spans a break;
  `break_respected_along`: the two combined.
* non-vacuity: concrete histories over C03's engine model and example dictionary (`C02.linkEnv`).
-/
namespace Chewing.C04
open Chewing.C01

variable {D L : Type} {env : Env D L} {G : D → Prop} {w : Prop}

/-! ## "the user edits them": decidable, on the pre-state and the operation -/

/-- **the operation can edit inside the choice `s`** -/
def opEdits (e : Editor D L) (op : Op L) (s : Interval) : Bool :=
  (opKinds e op).any fun k => kindEdits e.shared.com k s

/-- **the key can edit inside the choice `s`** -/
def keyEdits (e : Editor D L) (ev : KeyEvent) (s : Interval) : Bool := opEdits e (.key ev) s

/-- **the operation can touch the gap `j`** -/
def opTouches (e : Editor D L) (op : Op L) (j : Nat) : Bool :=
  (opKinds e op).any fun k => kindTouches e.shared.com k j

/-- the auto-commit that ended the step reached the choice: its image `t` in the edited state starts before the cut -/
def AutoCommitReaches (env : Env D L) (e : Editor D L) (op : Op L) (e' : Editor D L) (s : Interval) : Prop :=
  ∃ (mid : Shared D L) (n : Nat) (t : Interval), Did (opKinds e op) e.shared.com mid.com ∧ AutoCommit env mid e' n ∧
    t ∈ mid.com.inner.selections ∧ Carried e.shared.com.inner mid.com.inner s t ∧ t.start < n

/-- the auto-commit that ended the step removed the symbol behind the break -/
def AutoCommitReachesGap (env : Env D L) (e : Editor D L) (op : Op L) (e' : Editor D L) (j : Nat) : Prop :=
  ∃ (mid : Shared D L) (n j1 : Nat), Did (opKinds e op) e.shared.com mid.com ∧ AutoCommit env mid e' n ∧
    BreakCarried e.shared.com.inner mid.com.inner j j1 ∧ j1 ≤ n

theorem not_any_kind {ks : List Kind} {p : Kind → Bool} (h : ks.any p = false) : ∀ k ∈ ks, p k = false :=
  fun k hk => Bool.eq_false_iff.mpr (List.any_eq_false.mp h k hk)

/-! ## One step -/

/-- **C04, editor level, one operation.**  A choice of the pre-state that the operation does not edit inside is
    carried into the post-state — same text, same kind, over the same symbols, at its shifted position — unless
    the auto-commit ending the step reached it. -/
theorem selection_survives_op (hE : EnvOK env G) {e e' : Editor D L} (hi : EditorInv env G w e) (op : Op L)
    (hv : OpValid op) (hk : w → ¬ Known env e op) (h : e.apply env op = .ok e')
    {s : Interval} (hs : s ∈ e.shared.com.inner.selections) (hn : opEdits e op s = false) :
    (∃ t ∈ e'.shared.com.inner.selections, Carried e.shared.com.inner e'.shared.com.inner s t) ∨
      AutoCommitReaches env e op e' s := by
  obtain ⟨mid, hd, hcm, ht⟩ := apply_shape hE hi op hv hk h
  obtain ⟨t, t1, t2⟩ := did_selection hi.sh.ced.inner.comp hd hs (not_any_kind hn)
  rcases ht with heq | ⟨n, hac⟩
  · left
    rw [heq]
    exact ⟨t, t1, t2⟩
  · by_cases hlt : t.start < n
    · exact .inr ⟨mid, n, t, hd, hac, t1, t2, hlt⟩
    · left
      have hc := hac.cut
      obtain ⟨m1, m2⟩ := carried_op (.removeFront n) (c' := e'.shared.com.inner) hc t1
        (by simpa [EditsInside, Drops] using hlt)
      exact ⟨_, m1, t2.trans m2⟩

/-- … for a key, in the words of `process_keyevent` -/
theorem selection_survives_key (hE : EnvOK env G) {e e' : Editor D L} (hi : EditorInv env G w e) (ev : KeyEvent)
    {b : KB} (h : e.processKey env ev = .ok (e', b))
    {s : Interval} (hs : s ∈ e.shared.com.inner.selections) (hn : keyEdits e ev s = false) :
    (∃ t ∈ e'.shared.com.inner.selections, Carried e.shared.com.inner e'.shared.com.inner s t) ∨
      AutoCommitReaches env e (.key ev) e' s :=
  selection_survives_op hE hi (.key ev) trivial (fun _ hkn => hkn) (by simp only [Editor.apply, h, Outcome.map]) hs hn

/-- **the same for a break point**: a break the operation does not touch is still a break, before the same symbol,
    unless the auto-commit ending the step removed that symbol -/
theorem break_survives_op (hE : EnvOK env G) {e e' : Editor D L} (hi : EditorInv env G w e) (op : Op L)
    (hv : OpValid op) (hk : w → ¬ Known env e op) (h : e.apply env op = .ok e')
    {j : Nat} (hg : e.shared.com.inner.gaps[j]? = some Gap.brk) (hn : opTouches e op j = false) :
    (∃ j', BreakCarried e.shared.com.inner e'.shared.com.inner j j') ∨ AutoCommitReachesGap env e op e' j := by
  obtain ⟨mid, hd, hcm, ht⟩ := apply_shape hE hi op hv hk h
  obtain ⟨j1, b1⟩ := did_break hi.sh.ced.inner.comp hd hg (not_any_kind hn)
  rcases ht with heq | ⟨n, hac⟩
  · left
    rw [heq]
    exact ⟨j1, b1⟩
  · by_cases hle : j1 ≤ n
    · exact .inr ⟨mid, n, j1, hd, hac, b1, hle⟩
    · left
      have b2 := break_carried_op hcm (.removeFront n) hac.cut b1.1 (j' := j1 - n) (by simp [gapShift, hle])
      exact ⟨_, b1.trans b2⟩

/-! ## Every history -/

/-- a history of valid operations; at strength `w = True` outside C01's class `Known` (an operation that takes
    away the last word of a buffered syllable), at strength `w = False` without any exclusion -/
def AllowedW (w : Prop) (env : Env D L) : Editor D L → List (Op L) → Prop
  | _, [] => True
  | e, op :: ops => OpValid op ∧ (w → ¬ Known env e op) ∧ ∀ e', e.apply env op = .ok e' → AllowedW w env e' ops

theorem allowedW_of_valid (ops : List (Op L)) : ∀ e : Editor D L, (∀ op ∈ ops, OpValid op) → AllowedW False env e ops := by
  induction ops with
  | nil => intro _ _; trivial
  | cons op ops ih =>
    intro e hv
    exact ⟨hv op (List.mem_cons_self ..), fun hw => hw.elim, fun e' _ => ih e' fun o ho => hv o (List.mem_cons_of_mem _ ho)⟩

theorem allowedW_of_allowed (ops : List (Op L)) : ∀ e : Editor D L, Allowed env e ops → AllowedW True env e ops := by
  induction ops with
  | nil => intro _ _; trivial
  | cons op ops ih =>
    intro e ha
    exact ⟨ha.1, fun _ => ha.2.1, fun e' he' => ih e' (ha.2.2 e' he')⟩

/-- the step `op` from `e` to `e'` edited the choice `s`: by one of its kinds of edit, or its auto-commit reached it -/
def EditedBy (env : Env D L) (e : Editor D L) (op : Op L) (e' : Editor D L) (s : Interval) : Prop :=
  opEdits e op s = true ∨ AutoCommitReaches env e op e' s

/-- the step `op` from `e` to `e'` touched the break at gap `j` -/
def TouchedBy (env : Env D L) (e : Editor D L) (op : Op L) (e' : Editor D L) (j : Nat) : Prop :=
  opTouches e op j = true ∨ AutoCommitReachesGap env e op e' j

theorem run_inv (hE : EnvOK env G) (ops : List (Op L)) : ∀ {e e' : Editor D L}, EditorInv env G w e →
    AllowedW w env e ops → e.run env ops = .ok e' → EditorInv env G w e' :=
  (Editor.folds env).keeps (fun ha h1 => ha.2.2 _ h1) (fun hi ha h1 => apply_inv hE hi ha.1 ha.2.1 h1) ops

/-- the induction behind `choice_persists_along` and `break_persists_along`.  `R e e' x y`: the item `x` of `e` is
    the item `y` of `e'`; `Hit e op e' x`: the step edited `x`.  An item that every step carries or hits is carried
    to the end of a history, or hit at some step by then. -/
theorem persists_along {X : Type} {R : Editor D L → Editor D L → X → X → Prop}
    {Hit : Editor D L → Op L → Editor D L → X → Prop} (hE : EnvOK env G)
    (hrefl : ∀ {e e' x y}, R e e' x y → R e' e' y y)
    (htrans : ∀ {e1 e2 e3 x y z}, R e1 e2 x y → R e2 e3 y z → R e1 e3 x z)
    (hstep : ∀ {e e' : Editor D L} (op x), EditorInv env G w e → OpValid op → (w → ¬ Known env e op) →
      e.apply env op = .ok e' → R e e x x → (∃ y, R e e' x y) ∨ Hit e op e' x)
    (ops : List (Op L)) :
    ∀ (e e' : Editor D L), EditorInv env G w e → AllowedW w env e ops → e.run env ops = .ok e' →
    ∀ x, R e e x x → (∃ y, R e e' x y) ∨
      ∃ (pre : List (Op L)) (op : Op L) (post : List (Op L)) (e1 e2 : Editor D L) (x1 : X),
        ops = pre ++ op :: post ∧ e.run env pre = .ok e1 ∧ e1.apply env op = .ok e2 ∧ R e e1 x x1 ∧ Hit e1 op e2 x1 := by
  induction ops with
  | nil => intro e e' _ _ h x hx; cases h; exact .inl ⟨x, hx⟩
  | cons op ops ih =>
    intro e e' hi ⟨hv, hk, hrest⟩ h x hx
    obtain ⟨e1, h1, h⟩ := (Editor.folds env).cons_ok.mp h
    rcases hstep op x hi hv hk h1 hx with ⟨y, hy⟩ | hit
    · rcases ih e1 e' (apply_inv hE hi hv hk h1) (hrest e1 h1) h y (hrefl hy) with ⟨z, hz⟩ |
        ⟨pre, op', post, ea, eb, x1, r1, r2, r3, r4, r5⟩
      · exact .inl ⟨z, htrans hy hz⟩
      · exact .inr ⟨op :: pre, op', post, ea, eb, x1, by rw [r1]; rfl, (Editor.folds env).cons_ok.mpr ⟨e1, h1, r2⟩, r3,
          htrans hy r4, r5⟩
    · exact .inr ⟨[], op, ops, e, e1, x, rfl, rfl, h1, hx, hit⟩

/-- **C04, editor level, every history.**  From every state satisfying C01's invariant, along every history of
    public operations: a choice is carried to the end of the history (present, with its text, over the same
    symbols), or some step of the history edited it — a step `op` at which its image `s1` was edited inside, or
    reached by the auto-commit.  Choices disappear for no other reason. -/
theorem choice_persists_along (hE : EnvOK env G) (ops : List (Op L)) :
    ∀ (e e' : Editor D L), EditorInv env G w e → AllowedW w env e ops → e.run env ops = .ok e' →
    ∀ s ∈ e.shared.com.inner.selections,
      (∃ t ∈ e'.shared.com.inner.selections, Carried e.shared.com.inner e'.shared.com.inner s t) ∨
      (∃ (pre : List (Op L)) (op : Op L) (post : List (Op L)) (e1 e2 : Editor D L) (s1 : Interval),
        ops = pre ++ op :: post ∧ e.run env pre = .ok e1 ∧ e1.apply env op = .ok e2 ∧
        s1 ∈ e1.shared.com.inner.selections ∧ Carried e.shared.com.inner e1.shared.com.inner s s1 ∧
        EditedBy env e1 op e2 s1) := by
  intro e e' hi ha h s hs
  refine (persists_along (Hit := EditedBy env)
    (R := fun e e' s t => t ∈ e'.shared.com.inner.selections ∧ Carried e.shared.com.inner e'.shared.com.inner s t)
    hE (fun h => ⟨h.1, .refl _ _⟩) (fun h1 h2 => ⟨h2.1, h1.2.trans h2.2⟩) (fun op s hi hv hk h1 hs => ?_)
    ops e e' hi ha h s ⟨hs, .refl _ _⟩).imp_right
    fun ⟨pre, op, post, e1, e2, s1, r1, r2, r3, ⟨r4, r5⟩, r6⟩ => ⟨pre, op, post, e1, e2, s1, r1, r2, r3, r4, r5, r6⟩
  cases hed : opEdits _ op s with
  | true => exact .inr (.inl hed)
  | false => exact (selection_survives_op hE hi op hv hk h1 hs.1 hed).imp_right .inr

/-- **… and for break points**: a break set by the user is still a break (before the same symbol) at the end of the
    history, or some step touched that very gap / auto-committed the symbol behind it -/
theorem break_persists_along (hE : EnvOK env G) (ops : List (Op L)) :
    ∀ (e e' : Editor D L), EditorInv env G w e → AllowedW w env e ops → e.run env ops = .ok e' →
    ∀ j, e.shared.com.inner.gaps[j]? = some Gap.brk →
      (∃ j', BreakCarried e.shared.com.inner e'.shared.com.inner j j') ∨
      (∃ (pre : List (Op L)) (op : Op L) (post : List (Op L)) (e1 e2 : Editor D L) (j1 : Nat),
        ops = pre ++ op :: post ∧ e.run env pre = .ok e1 ∧ e1.apply env op = .ok e2 ∧
        BreakCarried e.shared.com.inner e1.shared.com.inner j j1 ∧ TouchedBy env e1 op e2 j1) := by
  intro e e' hi ha h j hg
  refine persists_along (Hit := TouchedBy env)
    (R := fun e e' j j' => BreakCarried e.shared.com.inner e'.shared.com.inner j j')
    hE (fun h => ⟨h.1, rfl⟩) .trans (fun op j hi hv hk h1 hg => ?_) ops e e' hi ha h j ⟨hg, rfl⟩
  cases hed : opTouches _ op j with
  | true => exact .inr (.inl hed)
  | false => exact (break_survives_op hE hi op hv hk h1 hg.1 hed).imp_right .inr

/-! ## What the conversion then shows (C03, linked through `Proofs/EditorLink.lean`) -/

section Linked
variable {pick : Nat → List Conv.Path → Nat} {view : D → Dict}

/-- the engine call of a state satisfying the invariant is C03's model, with C03's hypotheses -/
theorem convert_is_C03 (he : Link.EngineIsC03 env G pick view) {sh : Shared D L} (hlen : sh.com.inner.symbols.length ≤ 128)
    (hsp : Conv.SpellNonempty sh.com.inner) :
    env.convert sh.engine sh.dict sh.com.inner = Conv.convert pick (toEngine sh.engine) (view sh.dict) sh.com.inner :=
  he.engine _ _ _ hlen hsp

/-- **the chosen text is shown**: at a state satisfying C01's invariant (every buffered syllable has a word), for
    the environment whose engine is C03's model, in the alternative the editor shows (`conversion`: the `nth`
    alternative) the text over the range of every choice is the chosen text -/
theorem choice_shown (he : Link.EngineIsC03 env G pick view) {sh : Shared D L} (hi : ShInv env G True sh)
    (hlen : sh.com.inner.symbols.length ≤ 128) (hsp : Conv.SpellNonempty sh.com.inner)
    {s : Interval} (hs : s ∈ sh.com.inner.selections) {ivs : List Interval} (hc : Shared.conversion env sh = .ok ivs) :
    Conv.textAt ivs s.start s.stop = s.text := by
  obtain ⟨paths, hp, hm⟩ := C02.conversion_mem env hc
  rw [convert_is_C03 he hlen hsp] at hp
  exact Chewing.C03.selection_shown (compValid_of_cinv hi.ced.inner) (he.wellFormed _ hi.good)
    (hasWord_of_head fun k hk => he.lookup sh.dict k _ (hi.word trivial k hk).1) hp hs ivs hm

/-- … in the words of `Editor::display`: the characters of the pre-edit string over the range are the chosen text -/
theorem choice_displayed (he : Link.EngineIsC03 env G pick view) {sh : Shared D L} (hi : ShInv env G True sh)
    (hlen : sh.com.inner.symbols.length ≤ 128) (hsp : Conv.SpellNonempty sh.com.inner)
    {s : Interval} (hs : s ∈ sh.com.inner.selections) {txt : Text} (hd : Shared.display env sh = .ok txt) :
    (txt.drop s.start).take (s.stop - s.start) = s.text := by
  unfold Shared.display at hd
  obtain ⟨ivs, hc, hx⟩ := Outcome.of_map_ok hd
  rw [← hx]
  exact choice_shown he hi hlen hsp hs hc

/-- **a choice the auto-commit reaches is committed whole and with its chosen text**: the cut never falls inside
    a choice, and the committed string carries the chosen text at the choice's range -/
theorem choice_committed_by_autocommit (hE : EnvOK env G) (he : Link.EngineIsC03 env G pick view)
    {mid : Shared D L} {e' : Editor D L} {n : Nat} (hi : ShInv env G True mid) (hac : AutoCommit env mid e' n)
    (hlen : mid.com.inner.symbols.length ≤ 128) (hsp : Conv.SpellNonempty mid.com.inner)
    {t : Interval} (ht : t ∈ mid.com.inner.selections) (hreach : t.start < n) :
    t.stop ≤ n ∧ (e'.shared.commitBuf.drop t.start).take (t.stop - t.start) = t.text := by
  obtain ⟨ivs, hc, htake⟩ := hac.take
  obtain ⟨paths, hp, hm⟩ := C02.conversion_mem env hc
  obtain ⟨_, hc', hpath⟩ := conversion_exact hE hi
  cases hc.symm.trans hc'
  rw [convert_is_C03 he hlen hsp] at hp
  exact committed_choice (len := mid.com.inner.symbols.length) hpath.1 hpath.2 hac.over htake
    (Chewing.C03.selection_not_split (compValid_of_cinv hi.ced.inner) hp ht ivs hm)
    (choice_shown he hi hlen hsp ht hc) hreach

/-- **no interval of any alternative spans a break point**: at every state satisfying C01's (safety) invariant, for
    the environment whose engine is C03's model, every dictionary -/
theorem break_not_spanned_editor (he : Link.EngineIsC03 env G pick view) {sh : Shared D L} (hi : ShInv env G w sh)
    (hlen : sh.com.inner.symbols.length ≤ 128) (hsp : Conv.SpellNonempty sh.com.inner)
    {j : Nat} (hg : sh.com.inner.gaps[j]? = some Gap.brk)
    {alts : List (List Interval)} (hc : env.convert sh.engine sh.dict sh.com.inner = .ok alts) :
    ∀ alt ∈ alts, ∀ iv ∈ alt, ¬ (iv.start < j ∧ j < iv.stop) := by
  rw [convert_is_C03 he hlen hsp] at hc
  have hcv := compValid_of_cinv hi.ced.inner
  have hj : j < sh.com.inner.symbols.length := hi.ced.inner.comp.len_eq ▸ (List.getElem?_eq_some_iff.mp hg).1
  exact Chewing.C03.break_not_spanned hcv hc (by unfold Conv.gapAt; rw [if_pos hj]; exact hg)

/-- **C04 as worded, along histories**: a choice made in a state satisfying C01's invariant, after any history
    outside C01's class `Known` none of whose steps edits it: it is still a choice of the final state and the
    pre-edit text the editor displays over its range is the chosen text -/
theorem choice_shown_along (hd : Link.DictOK env G) (he : Link.EngineIsC03 env G pick view) (ops : List (Op L))
    (e e' : Editor D L) (hi : EditorInv env G True e) (ha : Allowed env e ops) (h : e.run env ops = .ok e')
    (hlen : e'.shared.com.inner.symbols.length ≤ 128) (hsp : Conv.SpellNonempty e'.shared.com.inner)
    {s : Interval} (hs : s ∈ e.shared.com.inner.selections)
    (hne : ¬ ∃ (pre : List (Op L)) (op : Op L) (post : List (Op L)) (e1 e2 : Editor D L) (s1 : Interval),
        ops = pre ++ op :: post ∧ e.run env pre = .ok e1 ∧ e1.apply env op = .ok e2 ∧
        s1 ∈ e1.shared.com.inner.selections ∧ Carried e.shared.com.inner e1.shared.com.inner s s1 ∧
        EditedBy env e1 op e2 s1) :
    ∃ t ∈ e'.shared.com.inner.selections, Carried e.shared.com.inner e'.shared.com.inner s t ∧
      ∀ txt, Shared.display env e'.shared = .ok txt → (txt.drop t.start).take (t.stop - t.start) = s.text := by
  have hE := Link.envOK_of_C03 hd he
  rcases choice_persists_along hE ops e e' hi (allowedW_of_allowed ops e ha) h s hs with ⟨t, t1, t2⟩ | hr
  · refine ⟨t, t1, t2, fun txt hdsp => ?_⟩
    rw [← t2.text]
    exact choice_displayed he (run_inv hE ops hi (allowedW_of_allowed ops e ha) h).sh hlen hsp t1 hdsp
  · exact absurd hr hne

/-- **break points, as worded, along histories**: a break set in a state satisfying C01's invariant, after any
    history none of whose steps touches that gap (or auto-commits the symbol behind it): it is still a break of the
    final state, before the same symbol, and NO interval of ANY alternative the engine returns for the final buffer
    spans it -/
theorem break_respected_along (hd : Link.DictOK env G) (he : Link.EngineIsC03 env G pick view) (ops : List (Op L))
    (e e' : Editor D L) (hi : EditorInv env G w e) (ha : AllowedW w env e ops) (h : e.run env ops = .ok e')
    (hlen : e'.shared.com.inner.symbols.length ≤ 128) (hsp : Conv.SpellNonempty e'.shared.com.inner)
    {j : Nat} (hg : e.shared.com.inner.gaps[j]? = some Gap.brk)
    (hne : ¬ ∃ (pre : List (Op L)) (op : Op L) (post : List (Op L)) (e1 e2 : Editor D L) (j1 : Nat),
        ops = pre ++ op :: post ∧ e.run env pre = .ok e1 ∧ e1.apply env op = .ok e2 ∧
        BreakCarried e.shared.com.inner e1.shared.com.inner j j1 ∧ TouchedBy env e1 op e2 j1) :
    ∃ j', BreakCarried e.shared.com.inner e'.shared.com.inner j j' ∧
      ∀ alts, env.convert e'.shared.engine e'.shared.dict e'.shared.com.inner = .ok alts →
        ∀ alt ∈ alts, ∀ iv ∈ alt, ¬ (iv.start < j' ∧ j' < iv.stop) := by
  have hE := Link.envOK_of_C03 hd he
  rcases break_persists_along hE ops e e' hi ha h j hg with ⟨j', b⟩ | hr
  · exact ⟨j', b, fun alts hc => break_not_spanned_editor he (run_inv hE ops hi ha h).sh hlen hsp b.1 hc⟩
  · exact absurd hr hne

end Linked

/-! ## Non-vacuity: concrete histories over C03's engine model and example dictionary (`C02.linkEnv`)

`ㄘㄜˋ` (key `h␣`): 測, 冊; `ㄕˋ` (key `j␣`): 試; `ㄘㄜˋ ㄕˋ`: 測試. -/

section Examples
open Chewing.C02

def kDown : KeyEvent := { index := 57, code := KC.down, unicode := 65533 }
def kLeft : KeyEvent := { index := 54, code := KC.left, unicode := 65533 }
def kBksp : KeyEvent := { index := 52, code := KC.backspace, unicode := 65533 }
def k2 : KeyEvent := { index := 2, code := 2, unicode := 50 }

/-- a fresh editor over C03's example dictionary with `auto_commit_threshold = 2` -/
def exEditor : Editor Dict Nat := { shared := { syl := 0, dict := C03.dEx, options := { autoCommitThreshold := 2 } } }

theorem exEditor_inv : EditorInv linkEnv (fun d => d = C03.dEx) True exEditor :=
  initial_inv _ rfl rfl (fun _ h => by cases h) (by show (0 : Nat) < 10; omega) symWF_empty

/-- the state after `h␣ h␣ Down 2`: `ㄘㄜˋ ㄘㄜˋ`, 冊 chosen for the second syllable, cursor at the end -/
def exChosen : Editor Dict Nat :=
  { shared := { exEditor.shared with
      com := { cursor := 2, inner := { symbols := [.syl 10268, .syl 10268], gaps := [.begin, .normal],
                                       selections := [⟨1, 2, true, [20874]⟩] } },
      time := 6 } }

/-- **the history of the task statement**: type two syllables, open the list on the second, choose 冊 (the
    default is 測), move left, type `ㄕˋ` exactly at the start of the choice (it moves right), whereupon the buffer
    exceeds the limit and the auto-commit removes the prefix 測試 — cutting exactly in front of the choice.  The
    choice is still there (shifted to `0..1`) and still shown: the display is 冊, not 測. -/
example :
    (exEditor.run linkEnv [.key kH, .key kSpace, .key kH, .key kSpace, .key kDown, .key k2, .key kLeft, .key kJ, .key kSpace]).map
        (fun e => (e.shared.com.inner.symbols, e.shared.com.inner.selections, Shared.display linkEnv e.shared, e.shared.commitBuf)) =
      .ok ([.syl 10268], [⟨0, 1, true, [20874]⟩], .ok [20874], [28204, 35430]) := by decide +kernel

/-- the intermediate state is `exChosen` (up to the clock) and shows 測冊 -/
example :
    (exEditor.run linkEnv [.key kH, .key kSpace, .key kH, .key kSpace, .key kDown, .key k2]).map
        (fun e => (e.shared.com, e.state, Shared.display linkEnv e.shared)) =
      .ok (exChosen.shared.com, .entering, .ok [28204, 20874]) := by decide +kernel

/-- which keys edit the choice `1..2` of `exChosen` (cursor 2, at its end): typing there, cursor keys, Tab, Down do
    not; Backspace (it removes the chosen symbol) and Enter (everything is committed) do -/
example : keyEdits exChosen kJ ⟨1, 2, true, [20874]⟩ = false ∧ keyEdits exChosen kLeft ⟨1, 2, true, [20874]⟩ = false ∧
    keyEdits exChosen kTab ⟨1, 2, true, [20874]⟩ = false ∧ keyEdits exChosen kDown ⟨1, 2, true, [20874]⟩ = false ∧
    keyEdits exChosen kBksp ⟨1, 2, true, [20874]⟩ = true ∧ keyEdits exChosen kEnter ⟨1, 2, true, [20874]⟩ = true := by
  decide

/-- the hypotheses of `selection_survives_key` are satisfiable, and its first alternative is what happens: `Left` -/
example : (exChosen.processKey linkEnv kLeft).map (fun r => (r.1.shared.com.inner.selections, r.1.shared.com.cursor)) =
    .ok ([⟨1, 2, true, [20874]⟩], 1) := by decide +kernel

/-- the hypotheses of `choice_shown_along` (`DictOK`, `EngineIsC03`, `EditorInv`) are satisfiable -/
example : Link.DictOK linkEnv (fun d => d = C03.dEx) ∧
    Link.EngineIsC03 linkEnv (fun d => d = C03.dEx) Conv.pickFirstMin id ∧
    EditorInv linkEnv (fun d => d = C03.dEx) True exEditor :=
  ⟨linkEnv_dictOK, linkEnv_engine, exEditor_inv⟩

/-- a break: `h␣ j␣ Left Tab` sets a break between `ㄘㄜˋ` and `ㄕˋ`; the phrase 測試 no longer spans it (測 試 as two
    intervals), and `Left` does not touch it -/
example :
    (({ shared := { syl := 0, dict := C03.dEx } } : Editor Dict Nat).run linkEnv
        [.key kH, .key kSpace, .key kJ, .key kSpace, .key kLeft, .key kTab, .key kLeft]).map
      (fun e => (e.shared.com.inner.gaps, (Shared.conversion linkEnv e.shared).map (·.map fun iv => (iv.start, iv.stop)))) =
      .ok ([.begin, .brk], .ok [(0, 1), (1, 2)]) := by decide +kernel

end Examples

end Chewing.C04
