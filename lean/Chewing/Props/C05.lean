import Chewing.Props.C04
import Chewing.Proofs.EditorKey
import Chewing.Proofs.EditorCursor
import Chewing.Proofs.EditorCommit
import Chewing.Proofs.EditorRevalidate
import Chewing.Proofs.EditorApi
/-!
# C05 — editing keys act exactly at the cursor and the buffer stays bounded

First half of this file: everything that can be said about `CompositionEditor`
(`src/editor/composition_editor.rs`) alone, for every state and every sequence of its methods.

What is proved here

* `cursor_le_len` — `cursor ≤ len` (and `symbols.len() == gaps.len()`) is an invariant of every
  sequence of `CompositionEditor` calls, by induction over operation lists, with NO precondition
  on indices or selections (`pop_cursor` clamps, `remove_front` saturates, `clamp_cursor` and
  `move_cursor*` use `min`/`saturating_sub`); `cursor_le_len_from_new` instantiates it at `Default`.
* `insert_at_cursor` — `symbols' = take c s ++ [x] ++ drop c s`, `cursor' = c + 1`; never panics.
* `backspace_frame` — at `c = 0` nothing changes; otherwise `symbols' = take (c-1) s ++ drop c s`,
  `cursor' = c - 1`.   `delete_frame` — `symbols' = take c s ++ drop (c+1) s`, cursor unchanged;
  at the end of the buffer `remove_after_cursor` hits `assert!(index < self.len())`
  (`delete_at_end_panics`: the caller must guard, the editor does).
* `move_only_cursor` — Left/Right/Home/End/`move_cursor`/`clamp_cursor`/`push_cursor`/`pop_cursor`
  leave the composition (symbols, gaps, selections) untouched; `move_cursor_values` gives the new cursor.
* cursor stack: `stack_frame` (only push/pop/clear touch it), `pop_restores`, `push_run_pop` (push, any
  calls that are not push/pop/clear, pop ⇒ the saved cursor clamped to the new length, stack as before).
* `remove_front_frame`, `replace_frame`, `gap_select_frame`, `clear_frame`.
* totality where the editor relies on it: `insert_total`, `backspace_total`, `insert_gap_total`,
  `delete_ok_iff`, `replace_ok_iff`, `remove_front_ok_iff`.

Editor level (second half of this file, for every environment): `Reach` / `cursor_le_len_editor`
(every public operation, every history), the per-key theorems `backspace_key`, `delete_key`, `move_key`,
`symbol_key_inserts_at_cursor`, `easy_symbol_expansion`, `syllable_commit_inserts_one`,
`syllable_commit_no_word`, and the bound `tryAutoCommit_bound_at`, `bounded_after_key_at` (under `TilingAt`, C03's
theorem about the engines as a hypothesis at the converted state) with `tryAutoCommit_bound`, `bounded_after_absorb`,
`bounded_after_key` as their instances under `TilingEnv` (the same hypothesis on the whole of `env`).
The per-key theorems are stated on `dispatch` (the state's `next`), i.e. before the auto-commit tail;
`tail_com` + `tryAutoCommit_bound` say what the tail adds (a prefix is cut off, cursor shifted).
-/
namespace Chewing.C05
open Chewing.C04

/-- the C05 invariant of `CompositionEditor` -/
def CursorInv (e : CompEditor) : Prop := LenInv e.inner ∧ e.cursor ≤ e.inner.symbols.length

theorem cursorInv_new : CursorInv CompEditor.new := ⟨rfl, Nat.le_refl _⟩

/-! ## Frames: what each method does to symbols, cursor and cursor stack -/

/-- **insert**: exactly one symbol, exactly at the cursor; the cursor advances by one -/
theorem insert_at_cursor (e : CompEditor) (x : Sym) (e' : CompEditor) (h : e.insert x = .ok e') :
    e'.symbols = e.symbols.take e.cursor ++ [x] ++ e.symbols.drop e.cursor ∧
    e'.cursor = e.cursor + 1 ∧ e'.stack = e.stack ∧ e.cursor ≤ e.symbols.length := by
  obtain ⟨c, hc, rfl⟩ := withInner_ok h
  exact ⟨(insert_symbols hc).2, rfl, rfl, (insert_symbols hc).1⟩

/-- **Backspace** (`remove_before_cursor`): removes exactly the symbol before the cursor -/
theorem backspace_frame (e : CompEditor) (e' : CompEditor) (h : e.removeBeforeCursor = .ok e') :
    (e.cursor = 0 → e' = e) ∧
    (0 < e.cursor → e'.symbols = e.symbols.take (e.cursor - 1) ++ e.symbols.drop e.cursor ∧
      e'.cursor = e.cursor - 1 ∧ e'.stack = e.stack ∧ e.cursor ≤ e.symbols.length) := by
  unfold CompEditor.removeBeforeCursor at h
  split at h
  · next h0 => cases h; exact ⟨fun _ => rfl, fun hp => absurd h0 (Nat.ne_of_gt hp)⟩
  · next h0 =>
    obtain ⟨c, hc, rfl⟩ := withInner_ok h
    obtain ⟨hlt, hs⟩ := remove_symbols hc
    rw [Nat.sub_add_cancel (Nat.pos_of_ne_zero h0)] at hs
    exact ⟨fun h00 => absurd h00 h0, fun hp => ⟨hs, rfl, rfl, Nat.le_of_pred_lt hlt⟩⟩

/-- **Delete** (`remove_after_cursor`): removes exactly the symbol at the cursor -/
theorem delete_frame (e : CompEditor) (e' : CompEditor) (h : e.removeAfterCursor = .ok e') :
    e.cursor < e.symbols.length ∧
    e'.symbols = e.symbols.take e.cursor ++ e.symbols.drop (e.cursor + 1) ∧
    e'.cursor = e.cursor ∧ e'.stack = e.stack := by
  obtain ⟨c, hc, rfl⟩ := withInner_ok h
  exact ⟨(remove_symbols hc).1, (remove_symbols hc).2, rfl, rfl⟩

/-- as coded, Delete at (or beyond) the end of the buffer is an assertion failure: callers must guard -/
theorem delete_at_end_panics (e : CompEditor) (hl : LenInv e.inner) (h : e.inner.symbols.length ≤ e.cursor) :
    e.removeAfterCursor = .panic "index" := by
  unfold LenInv at hl
  simp only [CompEditor.removeAfterCursor, Composition.remove, CompEditor.withInner]
  rw [if_neg (by simpa using hl), if_pos (by omega)]

/-- the methods that may only move the cursor (or save / restore it) -/
def isMove : CedOp → Bool
  | .moveLeft | .moveRight | .moveToBeginning | .moveToEnd | .moveCursor _ | .clampCursor
  | .pushCursor | .popCursor => true
  | _ => false

/-- **Left/Right/Home/End (and `move_cursor`, `clamp_cursor`, push/pop) change only the cursor**: they make no
    call on the inner composition (`compOps` is empty) -/
theorem move_only_cursor (e : CompEditor) (op : CedOp) (e' : CompEditor) (hm : isMove op = true)
    (h : e.apply op = .ok e') : e'.inner = e.inner := by
  cases op with
  | moveLeft | moveRight | moveToBeginning | moveToEnd | moveCursor | clampCursor | pushCursor | popCursor =>
    exact (Outcome.ok.inj (ced_inner e _ e' h)).symm
  | _ => cases hm

/-- the new cursor of each move -/
theorem move_cursor_values (e : CompEditor) :
    e.moveLeft.cursor = e.cursor - 1 ∧
    e.moveRight.cursor = min (e.cursor + 1) e.len ∧
    e.moveToBeginning.cursor = 0 ∧
    e.moveToEnd.cursor = e.len ∧
    (∀ n, (e.moveCursor n).cursor = min n e.len) ∧
    e.clampCursor.cursor = (if e.cursor = e.len then e.cursor - 1 else e.cursor) ∧
    e.pushCursor.cursor = e.cursor := by
  refine ⟨rfl, rfl, rfl, rfl, fun _ => rfl, ?_, rfl⟩
  unfold CompEditor.clampCursor CompEditor.len
  split <;> rfl

/-- `pop_cursor` restores the most recently saved cursor, clamped to the current length -/
theorem pop_restores (e : CompEditor) (st : List Nat) (c0 : Nat) (h : e.stack = st ++ [c0]) :
    e.popCursor.cursor = min c0 e.len ∧ e.popCursor.stack = st ∧ e.popCursor.inner = e.inner := by
  simp [CompEditor.popCursor, h, CompEditor.len]

/-- with nothing saved `pop_cursor` only clamps -/
theorem pop_empty (e : CompEditor) (h : e.stack = []) :
    e.popCursor.cursor = min e.cursor e.len ∧ e.popCursor.stack = [] ∧ e.popCursor.inner = e.inner := by
  simp [CompEditor.popCursor, h, CompEditor.len]

/-- `remove_front(n)` (auto-commit of the first `n` symbols): the rest keeps its order, the cursor saturates -/
theorem remove_front_frame (e : CompEditor) (n : Nat) (e' : CompEditor) (h : e.removeFront n = .ok e') :
    n ≤ e.symbols.length ∧ e'.symbols = e.symbols.drop n ∧ e'.cursor = e.cursor - n ∧ e'.stack = e.stack := by
  obtain ⟨c, hc, rfl⟩ := withInner_ok h
  exact ⟨(removeFront_symbols hc).1, (removeFront_symbols hc).2, rfl, rfl⟩

/-- `replace` overwrites exactly the symbol at the cursor -/
theorem replace_frame (e : CompEditor) (x : Sym) (e' : CompEditor) (h : e.replace x = .ok e') :
    e.cursor < e.symbols.length ∧
    e'.symbols = e.symbols.take e.cursor ++ [x] ++ e.symbols.drop (e.cursor + 1) ∧
    e'.cursor = e.cursor ∧ e'.stack = e.stack := by
  obtain ⟨c, hc, rfl⟩ := withInner_ok h
  exact ⟨(replace_symbols hc).1, (replace_symbols hc).2, rfl, rfl⟩

/-- a method that does nothing under a condition and otherwise makes one call on `inner` that keeps the symbols -/
theorem guarded_frame {e e' : CompEditor} {p : Prop} [Decidable p] {r : Outcome Composition}
    (hr : ∀ c, r = .ok c → c.symbols = e.inner.symbols)
    (h : (if p then .ok e else CompEditor.withInner r fun c => { e with inner := c }) = .ok e') :
    e'.symbols = e.symbols ∧ e'.cursor = e.cursor ∧ e'.stack = e.stack := by
  split at h
  · cases h; exact ⟨rfl, rfl, rfl⟩
  · obtain ⟨c, hc, rfl⟩ := withInner_ok h; exact ⟨hr c hc, rfl, rfl⟩

/-- `insert_glue`, `insert_break` and `select` change neither symbols nor cursor nor stack -/
theorem gap_select_frame (e : CompEditor) (op : CedOp) (e' : CompEditor)
    (ho : op = .insertGlue ∨ op = .insertBreak ∨ ∃ iv, op = .select iv) (h : e.apply op = .ok e') :
    e'.symbols = e.symbols ∧ e'.cursor = e.cursor ∧ e'.stack = e.stack := by
  rcases ho with rfl | rfl | ⟨iv, rfl⟩
  · exact guarded_frame (fun _ => setGap_symbols) h
  · exact guarded_frame (fun _ => setGap_symbols) h
  · obtain ⟨c, hc, rfl⟩ := select_ok h
    exact ⟨pushSelection_symbols hc, rfl, rfl⟩

/-- `clear` empties the buffer, resets the cursor and drops the saved cursors (F25 fix, see Props/C17.lean) -/
theorem clear_frame (e : CompEditor) :
    e.clear.symbols = [] ∧ e.clear.cursor = 0 ∧ e.clear.stack = [] ∧ e.clear.inner.selections = [] := by
  simp [CompEditor.clear, CompEditor.symbols, Composition.clear]

/-- only `push_cursor` / `pop_cursor` / `clear` touch the cursor stack (`clear` empties it since the F25 fix):
    the moves set the cursor only, for the others it is what their frames say -/
theorem stack_frame (e : CompEditor) (op : CedOp) (e' : CompEditor) (h1 : op ≠ .pushCursor) (h2 : op ≠ .popCursor)
    (h3 : op ≠ .clear) (h : e.apply op = .ok e') : e'.stack = e.stack := by
  cases op with
  | pushCursor | popCursor | clear => contradiction
  | moveCursor | moveToEnd | moveToBeginning | moveLeft | moveRight => cases h; rfl
  | clampCursor => cases h; unfold CompEditor.clampCursor; split <;> rfl
  | removeFront n => exact (remove_front_frame e n e' h).2.2.2
  | removeAfterCursor => exact (delete_frame e e' h).2.2.2
  | removeBeforeCursor =>
    rcases Nat.eq_zero_or_pos e.cursor with h0 | h0
    · rw [(backspace_frame e e' h).1 h0]
    · exact ((backspace_frame e e' h).2 h0).2.2.1
  | insert x => exact (insert_at_cursor e x e' h).2.2.1
  | replace x => exact (replace_frame e x e' h).2.2.2
  | insertGlue => exact (gap_select_frame e _ e' (.inl rfl) h).2.2
  | insertBreak => exact (gap_select_frame e _ e' (.inr (.inl rfl)) h).2.2
  | select iv => exact (gap_select_frame e _ e' (.inr (.inr ⟨iv, rfl⟩)) h).2.2

/-- the stack along a list of calls none of which is push/pop/clear -/
theorem stack_frame_run (ops : List CedOp) :
    ∀ (e e' : CompEditor), (∀ op ∈ ops, op ≠ .pushCursor ∧ op ≠ .popCursor ∧ op ≠ .clear) → e.run ops = .ok e' →
      e'.stack = e.stack := fun e _ hn h =>
  CompEditor.folds.inv (I := fun x => x.stack = e.stack)
    (fun a hi h1 => (stack_frame _ _ _ a.1 a.2.1 a.2.2 h1).trans hi) ops hn rfl h

/-- **cursor save / restore around candidate selection**: `push_cursor`, any calls other than
    push/pop/clear (edits included), `pop_cursor` ⇒ the saved cursor, clamped to the new length; the
    stack is as before -/
theorem push_run_pop (e e1 : CompEditor) (ops : List CedOp)
    (hn : ∀ op ∈ ops, op ≠ .pushCursor ∧ op ≠ .popCursor ∧ op ≠ .clear) (h : e.pushCursor.run ops = .ok e1) :
    e1.popCursor.cursor = min e.cursor e1.len ∧ e1.popCursor.stack = e.stack ∧ e1.popCursor.inner = e1.inner :=
  pop_restores e1 e.stack e.cursor (stack_frame_run ops e.pushCursor e1 hn h)

/-! ## The invariant -/

theorem length_splice {α : Type} (s xs : List α) {a : Nat} (b : Nat) (ha : a ≤ s.length) :
    (s.take a ++ xs ++ s.drop b).length = a + xs.length + (s.length - b) := by
  simp only [List.length_append, List.length_take, List.length_drop, Nat.min_eq_left ha]

/-- one step: whatever the method and its arguments, a call that returns keeps `cursor ≤ len` -/
theorem cursor_le_len_step (e : CompEditor) (op : CedOp) (e' : CompEditor) (hi : CursorInv e)
    (h : e.apply op = .ok e') : CursorInv e' := by
  have hc : e.cursor ≤ e.symbols.length := hi.2
  refine ⟨len_assert_unreachable (compOps e op) e.inner e'.inner hi.1 (ced_inner e op e' h), ?_⟩
  show e'.cursor ≤ e'.symbols.length
  -- the calls that change neither symbols nor cursor
  have hgs (ho : op = .insertGlue ∨ op = .insertBreak ∨ ∃ iv, op = .select iv) : e'.cursor ≤ e'.symbols.length := by
    obtain ⟨hs, hcur, _⟩ := gap_select_frame e op e' ho h
    rw [hs, hcur]; exact hc
  cases op with
  | pushCursor => cases h; exact hc
  | popCursor => cases h; unfold CompEditor.popCursor; split <;> exact Nat.min_le_right ..
  | moveCursor | moveRight => cases h; exact Nat.min_le_right ..
  | clampCursor =>
    cases h; unfold CompEditor.clampCursor
    split
    · exact Nat.le_trans (Nat.sub_le ..) hc
    · exact hc
  | clear | moveToBeginning => cases h; exact Nat.zero_le _
  | moveToEnd => cases h; exact Nat.le_refl _
  | moveLeft => cases h; exact Nat.le_trans (Nat.sub_le ..) hc
  | removeFront n =>
    obtain ⟨_, hs, hcur, _⟩ := remove_front_frame e n e' h
    rw [hs, hcur, List.length_drop]; exact Nat.sub_le_sub_right hc n
  | removeAfterCursor =>
    obtain ⟨hlt, hs, hcur, _⟩ := delete_frame e e' h
    rw [hs, hcur, ← List.append_nil (List.take ..), length_splice _ _ _ (Nat.le_of_lt hlt), List.length_nil]; omega
  | removeBeforeCursor =>
    rcases Nat.eq_zero_or_pos e.cursor with h0 | h0
    · rw [(backspace_frame e e' h).1 h0]; exact hc
    · obtain ⟨hs, hcur, _, hle⟩ := (backspace_frame e e' h).2 h0
      rw [hs, hcur, ← List.append_nil (List.take ..), length_splice _ _ _ (Nat.le_trans (Nat.sub_le ..) hle), List.length_nil]; omega
  | insert x =>
    obtain ⟨hs, hcur, _, hle⟩ := insert_at_cursor e x e' h
    rw [hs, hcur, length_splice _ _ _ hle, List.length_singleton]; omega
  | replace x =>
    obtain ⟨hlt, hs, hcur, _⟩ := replace_frame e x e' h
    rw [hs, hcur, length_splice _ _ _ (Nat.le_of_lt hlt), List.length_singleton]; omega
  | insertGlue => exact hgs (.inl rfl)
  | insertBreak => exact hgs (.inr (.inl rfl))
  | select iv => exact hgs (.inr (.inr ⟨iv, rfl⟩))

/-- **`cursor ≤ len` for every sequence of `CompositionEditor` calls** -/
theorem cursor_le_len (ops : List CedOp) :
    ∀ (e e' : CompEditor), CursorInv e → e.run ops = .ok e' → CursorInv e' := fun _ _ =>
  CompEditor.folds.always (cursor_le_len_step _ _ _) ops

/-- from the initial state: the cursor always lies within `0..=len` -/
theorem cursor_le_len_from_new (ops : List CedOp) (e' : CompEditor) (h : CompEditor.new.run ops = .ok e') :
    e'.cursor ≤ e'.len :=
  (cursor_le_len ops CompEditor.new e' cursorInv_new h).2

/-! ## Totality where the editor relies on it -/

theorem withInner_total {r : Outcome Composition} {f : Composition → CompEditor} (h : ∃ c, r = .ok c) :
    ∃ e', CompEditor.withInner r f = .ok e' := by
  obtain ⟨c, rfl⟩ := h; exact ⟨_, rfl⟩

/-- `insert` never panics in a reachable state -/
theorem insert_total (e : CompEditor) (x : Sym) (hi : CursorInv e) : ∃ e', e.insert x = .ok e' :=
  withInner_total ⟨_, insert_ok.mpr ⟨hi.1, hi.2, rfl⟩⟩

/-- Backspace never panics (given valid selections: no `end -= 1` underflow) -/
theorem backspace_total (e : CompEditor) (hc : CompInv e.inner) (hi : CursorInv e) :
    ∃ e', e.removeBeforeCursor = .ok e' := by
  unfold CompEditor.removeBeforeCursor
  split
  · exact ⟨e, rfl⟩
  · next h0 =>
    have hlt : e.cursor - 1 < e.inner.symbols.length := Nat.lt_of_lt_of_le (Nat.pred_lt h0) hi.2
    exact withInner_total (no_panic e.inner (.remove (e.cursor - 1)) hc hlt)

/-- Delete succeeds exactly when the cursor is before the end -/
theorem delete_ok_iff (e : CompEditor) (hc : CompInv e.inner) :
    (∃ e', e.removeAfterCursor = .ok e') ↔ e.cursor < e.inner.symbols.length :=
  ⟨fun ⟨e', h⟩ => (delete_frame e e' h).1, fun hlt => withInner_total (no_panic e.inner (.remove e.cursor) hc hlt)⟩

/-- `replace` succeeds exactly when the cursor is before the end -/
theorem replace_ok_iff (e : CompEditor) (x : Sym) (hl : LenInv e.inner) :
    (∃ e', e.replace x = .ok e') ↔ e.cursor < e.inner.symbols.length :=
  ⟨fun ⟨e', h⟩ => (replace_frame e x e' h).1, fun hlt => withInner_total ⟨_, replace_ok.mpr ⟨hl, hlt, rfl⟩⟩⟩

/-- `remove_front(n)` succeeds exactly when `n ≤ len` -/
theorem remove_front_ok_iff (e : CompEditor) (n : Nat) (hc : CompInv e.inner) :
    (∃ e', e.removeFront n = .ok e') ↔ n ≤ e.inner.symbols.length :=
  ⟨fun ⟨e', h⟩ => (remove_front_frame e n e' h).1, fun hle => withInner_total (no_panic e.inner (.removeFront n) hc hle)⟩

/-- `insert_glue` / `insert_break` never panic in a reachable state (they return early at the end) -/
theorem insert_gap_total (e : CompEditor) (g : Gap) (hg : g ≠ .begin) (hi : CursorInv e) :
    ∃ e', e.insertGap g = .ok e' := by
  unfold CompEditor.insertGap
  split
  · exact ⟨e, rfl⟩
  · next h0 =>
    have hlt : e.cursor < e.inner.symbols.length :=
      Nat.lt_of_le_of_ne hi.2 fun heq => h0 (beq_iff_eq.mpr heq.symm)
    exact withInner_total ⟨_, setGap_ok.mpr ⟨hi.1, hlt, hg, rfl⟩⟩

/-! ## Non-vacuity -/

/-- `[ㄘㄜˋ, ㄕˋ, 'a']`, cursor between the second and third symbol, one saved cursor -/
def demoEd : CompEditor :=
  { cursor := 2, stack := [3],
    inner := { symbols := [.syl 0x2A48, .syl 0x1404, .chr 97], gaps := [.begin, .normal, .normal], selections := [] } }

example : CursorInv demoEd := ⟨rfl, by decide⟩

example : ∃ e', demoEd.insert (.chr 98) = .ok e' ∧
    e'.symbols = [.syl 0x2A48, .syl 0x1404, .chr 98, .chr 97] ∧ e'.cursor = 3 := ⟨_, rfl, rfl, rfl⟩

example : ∃ e', demoEd.removeBeforeCursor = .ok e' ∧ e'.symbols = [.syl 0x2A48, .chr 97] ∧ e'.cursor = 1 :=
  ⟨_, rfl, rfl, rfl⟩

example : ∃ e', demoEd.removeAfterCursor = .ok e' ∧ e'.symbols = [.syl 0x2A48, .syl 0x1404] ∧ e'.cursor = 2 :=
  ⟨_, rfl, rfl, rfl⟩

/-- save the cursor, delete two symbols, restore: the restored cursor is clamped to the new length -/
example : ∃ e1, demoEd.moveToEnd.pushCursor.run [.removeBeforeCursor, .removeBeforeCursor] = .ok e1 ∧
    e1.popCursor.cursor = 1 ∧ e1.popCursor.stack = [3] := ⟨_, rfl, rfl, rfl⟩

/-! # Editor level

Everything below is about the editor state machine (`Model/Editor.lean`, `src/editor/mod.rs`), for
EVERY environment `env` (dictionary, phonetic layout, conversion engine, estimator).

## The invariant: `cursor ≤ len` after every public operation, in every state

The editor touches its pre-edit buffer only through `CompositionEditor` methods
(`Proofs/EditorCursor.lean`: `Reach`), and `cursor_le_len_step` needs no precondition on the method
arguments — in particular none on the interval that `Selecting::select` pushes (`ValidSelection` is
needed for the selection invariants of C04, not for the cursor) — so the invariant lifts to every
operation and every history with NO hypothesis on the environment or the selector. -/

open Chewing.C06

section EditorLevel
variable {D L : Type} (env : Env D L)

theorem reach_cursorInv {c c' : CompEditor} (h : Reach c c') (hi : CursorInv c) : CursorInv c' :=
  let ⟨ops, hr⟩ := h.exists_run
  cursor_le_len ops c c' hi hr

/-- the state machine part of a key touches the pre-edit only through `CompositionEditor` methods -/
theorem dispatch_reach {e : Editor D L} {ev : KeyEvent} {sh : Shared D L} {st : St}
    (h : dispatch env e ev = .ok (sh, st)) : Reach e.shared.com sh.com :=
  dispatch_shared_all env (Q := fun x => Reach e.shared.com x.com) (fun _ _ h => h)
    (rstep_enteringNext env (preamble e.shared) ev) (rstep_enteringSyllableNext env (preamble e.shared) ev)
    (fun s => rsel_selectingNext env s (preamble e.shared) ev) (fun m => highlighting_reach env m (preamble e.shared) ev)
    _ h

/-- the conditional auto-commit after a key and after `Editor::select` -/
theorem autoCommit_reach {c : Prop} [Decidable c] (sh : Shared D L) :
    ResAll (fun x => Reach sh.com x.com) (if c then Shared.tryAutoCommit env sh else .ok sh) :=
  .ite (fun _ => tryAutoCommit_reach env sh) fun _ => .ok (.refl _)

theorem tail_reach {sh : Shared D L} {st : St} {e' : Editor D L} {b : KB} (h : tail env sh st = .ok (e', b)) :
    Reach sh.com e'.shared.com := by
  obtain ⟨sh2, h1, h2, _⟩ := tail_com env h
  rw [h2]
  exact autoCommit_reach env sh _ h1

/-- a key event = the state's `next`, then the tail -/
theorem processKey_reach {e e' : Editor D L} {ev : KeyEvent} {b : KB} (h : e.processKey env ev = .ok (e', b)) :
    Reach e.shared.com e'.shared.com := by
  obtain ⟨sh, st, h1, h2⟩ := processKey_split env h
  exact (dispatch_reach env h1).trans (tail_reach env h2)

theorem select_api_reach {e e' : Editor D L} {n : Nat} {okk : Bool} (h : e.select env n = .ok (e', okk)) :
    Reach e.shared.com e'.shared.com := by
  refine select_api_all env (Q := fun x => Reach e.shared.com x.1.shared.com) (fun _ => .refl _)
    (fun s s' sh t sh1 st sh2 _ hq hp hr => ?_) _ h
  have hcom : sh1.com = sh.com := by rw [← applyTrans_com sh (.selecting s') t, hp]
  exact (select_reach env s e.shared n _ hq).trans (hcom ▸ autoCommit_reach env sh1 _ hr)

/-- the calls other than a key and `select(n)`: the cursor saved and clamped or restored, the buffer cleared, or nothing -/
theorem apiEff_reach {e : Editor D L} {op : Op L} {sh' : Shared D L} {st' : St} (h : ApiEff env e op sh' st') :
    Reach e.shared.com sh'.com := by
  induction h with
  | opened => exact .pushClamp _
  | cancelled => exact .popCursor _
  | committed _ _ _ hq => exact commit_com env e.shared _ hq ▸ .clear _
  | cleared => exact .clear _
  | dict _ _ hf => exact .of_eq hf.fields.1
  | left _ ih | relisted _ _ _ _ ih => exact ih
  | closed _ _ _ _ _ _ ih => exact ih.trans (.popCursor _)
  | _ => exact .refl _

/-- **every public operation of the editor acts on the pre-edit buffer through `CompositionEditor`
    methods only** -/
theorem apply_reach {e e' : Editor D L} (op : Op L) (h : e.apply env op = .ok e') :
    Reach e.shared.com e'.shared.com :=
  apply_cases h (fun _ _ _ hr => processKey_reach env hr) (fun _ _ _ hr => select_api_reach env hr) (apiEff_reach env)

theorem run_reach (ops : List (Op L)) : ∀ (e e' : Editor D L), e.run env ops = .ok e' →
    Reach e.shared.com e'.shared.com := fun e _ =>
  (Editor.folds env).always (I := fun x => Reach e.shared.com x.shared.com)
    (fun hr h1 => hr.trans (apply_reach env _ h1)) ops (.refl _)

/-- **C05, invariant (one operation).**  `cursor ≤ len` (and `symbols.len() == gaps.len()`) is kept by
    every public operation of the editor: every key in every state, `select`, `start_selecting`, … —
    for every environment, with no hypothesis on the selector, the dictionary or the engine
    (the `CompositionEditor` methods clamp / saturate by themselves). -/
theorem cursor_le_len_editor_step {e e' : Editor D L} (op : Op L) (hi : CursorInv e.shared.com)
    (h : e.apply env op = .ok e') : CursorInv e'.shared.com :=
  reach_cursorInv (apply_reach env op h) hi

/-- **C05, invariant (every history).** -/
theorem cursor_le_len_editor (ops : List (Op L)) (e e' : Editor D L) (hi : CursorInv e.shared.com)
    (h : e.run env ops = .ok e') : CursorInv e'.shared.com :=
  reach_cursorInv (run_reach env ops e e' h) hi

/-- from a fresh editor: the cursor lies between 0 and the buffer length after every history -/
theorem cursor_le_len_editor_fresh (ops : List (Op L)) (e e' : Editor D L) (h0 : e.shared.com = {})
    (h : e.run env ops = .ok e') : e'.shared.com.cursor ≤ e'.shared.com.len :=
  (cursor_le_len_editor env ops e e' (by rw [h0]; exact cursorInv_new) h).2

end EditorLevel

section EditorKeys
variable {D L : Type} (env : Env D L)

theorem dispatch_entering_eq {e : Editor D L} (ev : KeyEvent) (hs : e.state = .entering) :
    dispatch env e ev =
      (enteringNext env (preamble e.shared) ev).map fun (sh', t) => applyTrans sh' .entering t := by
  unfold dispatch; rw [hs]

/-- a key in `Entering`: what holds of every result of `Entering::next`, the transition applied, holds of what
    `dispatch` returns (`dispatch_all`, the other three states being excluded) -/
theorem dispatch_entering_all {Q : Shared D L → St → Prop} {e : Editor D L} {ev : KeyEvent} {sh : Shared D L} {st : St}
    (hs : e.state = .entering)
    (h : StepAll (fun sh' t => Q (applyTrans sh' .entering t).1 (applyTrans sh' .entering t).2)
      (enteringNext env (preamble e.shared) ev))
    (hd : dispatch env e ev = .ok (sh, st)) : Q sh st :=
  dispatch_all env (Q := fun x => Q x.1 x.2) (fun _ => h) (fun h' => nomatch hs.symm.trans h')
    (fun _ h' => nomatch hs.symm.trans h') (fun _ h' => nomatch hs.symm.trans h') _ hd

/-- … and in `EnteringSyllable` -/
theorem dispatch_syllable_all {Q : Shared D L → St → Prop} {e : Editor D L} {ev : KeyEvent} {sh : Shared D L} {st : St}
    (hs : e.state = .enteringSyllable)
    (h : StepAll (fun sh' t => Q (applyTrans sh' .enteringSyllable t).1 (applyTrans sh' .enteringSyllable t).2)
      (enteringSyllableNext env (preamble e.shared) ev))
    (hd : dispatch env e ev = .ok (sh, st)) : Q sh st :=
  dispatch_all env (Q := fun x => Q x.1 x.2) (fun h' => nomatch hs.symm.trans h') (fun _ => h)
    (fun _ h' => nomatch hs.symm.trans h') (fun _ h' => nomatch hs.symm.trans h') _ hd

theorem eraseIdx_pred {α : Type} (s : List α) (c : Nat) (h : 0 < c) :
    s.take (c - 1) ++ s.drop c = s.eraseIdx (c - 1) := by
  rw [List.eraseIdx_eq_take_drop_succ]; congr 2; omega

/-- **Backspace** in `Entering`: ignored on an empty buffer; otherwise absorbed, and exactly the
    symbol before the cursor is removed (nothing at cursor 0) -/
theorem backspace_key {e : Editor D L} {ev : KeyEvent} {sh : Shared D L} {st : St}
    (hs : e.state = .entering) (hk : ev.code = KC.backspace) (h : dispatch env e ev = .ok (sh, st)) :
    st = .entering ∧
    (e.shared.com.isEmpty = true → sh.last = .ignore ∧ sh.com = e.shared.com) ∧
    (e.shared.com.isEmpty = false → sh.last = .absorb ∧
      (e.shared.com.cursor = 0 → sh.com = e.shared.com) ∧
      (0 < e.shared.com.cursor →
        sh.com.symbols = e.shared.com.symbols.eraseIdx (e.shared.com.cursor - 1) ∧
        sh.com.cursor = e.shared.com.cursor - 1 ∧ sh.com.stack = e.shared.com.stack)) := by
  apply dispatch_entering_all env hs ?_ h
  rw [enteringNext_backspace env hk]
  refine enteringBackspace_all (fun he => ⟨rfl, fun _ => ⟨rfl, rfl⟩, fun hne => nomatch he.symm.trans hne⟩)
    fun c he hc => ?_
  have hf := backspace_frame _ _ hc
  refine ⟨rfl, fun he' => absurd he' he, fun _ => ⟨rfl, hf.1, fun hp => ?_⟩⟩
  obtain ⟨a, b, c', _⟩ := hf.2 hp
  exact ⟨(eraseIdx_pred _ _ hp).symm ▸ a, b, c'⟩

/-- **Delete** in `Entering`: ignored at the end of the buffer; otherwise absorbed, and exactly the
    symbol at the cursor is removed, the cursor stays -/
theorem delete_key {e : Editor D L} {ev : KeyEvent} {sh : Shared D L} {st : St}
    (hs : e.state = .entering) (hk : ev.code = KC.del) (h : dispatch env e ev = .ok (sh, st)) :
    st = .entering ∧
    (e.shared.com.isEob = true → sh.last = .ignore ∧ sh.com = e.shared.com) ∧
    (e.shared.com.isEob = false → sh.last = .absorb ∧
      sh.com.symbols = e.shared.com.symbols.eraseIdx e.shared.com.cursor ∧
      sh.com.cursor = e.shared.com.cursor ∧ sh.com.stack = e.shared.com.stack) := by
  apply dispatch_entering_all env hs ?_ h
  rw [enteringNext_del env hk]
  refine enteringDel_all (fun he => ⟨rfl, fun _ => ⟨rfl, rfl⟩, fun hne => nomatch he.symm.trans hne⟩)
    fun c he hc => ?_
  obtain ⟨_, a, b, c'⟩ := delete_frame _ _ hc
  exact ⟨rfl, fun he' => absurd he' he, fun _ => ⟨rfl, List.eraseIdx_eq_take_drop_succ .. ▸ a, b, c'⟩⟩

/-- the cursor keys of `Entering` -/
inductive MoveKey (ev : KeyEvent) : Prop
  | home (h : ev.code = KC.home)
  | left (h : ev.code = KC.left) (hs : ev.mods.shift = false)
  | right (h : ev.code = KC.right) (hs : ev.mods.shift = false)
  | toEnd (h : ev.code = KC.end_ ∨ ev.code = KC.pageUp ∨ ev.code = KC.pageDown)

/-- where a cursor key puts the cursor -/
def moveTarget (ev : KeyEvent) (c : CompEditor) : Nat :=
  if ev.code = KC.home then 0
  else if ev.code = KC.left then c.cursor - 1
  else if ev.code = KC.right then min (c.cursor + 1) c.len
  else c.len

/-- **Left / Right / Home / End / PageUp / PageDown** in `Entering` with a non-empty buffer: absorbed;
    symbols, gaps, selections and saved cursors are untouched; the cursor goes where specified
    (Left saturates at 0, Right at the end; PageUp and PageDown act like End, as coded) -/
theorem move_key {e : Editor D L} {ev : KeyEvent} {sh : Shared D L} {st : St}
    (hs : e.state = .entering) (hne : e.shared.com.isEmpty = false) (hk : MoveKey ev)
    (h : dispatch env e ev = .ok (sh, st)) :
    st = .entering ∧ sh.last = .absorb ∧ sh.com.inner = e.shared.com.inner ∧
    sh.com.stack = e.shared.com.stack ∧ sh.com.cursor = moveTarget ev e.shared.com := by
  apply dispatch_entering_all env hs ?_ h
  have hm := enteringNext_moves env (sh := preamble e.shared) (ev := ev) hne
  cases hk with
  | home hk => rw [hm.1 hk]; exact .ok ⟨rfl, rfl, rfl, rfl, (if_pos hk).symm⟩
  | left hk hsh =>
    rw [hm.2.1 hk hsh]
    exact .ok ⟨rfl, rfl, rfl, rfl, by rw [moveTarget, hk]; rfl⟩
  | right hk hsh =>
    rw [hm.2.2.1 hk hsh]
    exact .ok ⟨rfl, rfl, rfl, rfl, by rw [moveTarget, hk]; rfl⟩
  | toEnd hk =>
    rw [hm.2.2.2 hk]
    refine .ok ⟨rfl, rfl, rfl, rfl, ?_⟩
    rcases hk with hk | hk | hk <;> (rw [moveTarget, hk]; rfl)

end EditorKeys

section EditorKeys2
variable {D L : Type} (env : Env D L)

/-- `c'` is `c` with the symbols `xs` inserted exactly at the cursor, the cursor behind them, every
    other symbol in place, the saved cursors untouched -/
def InsertedAt (c c' : CompEditor) (xs : List Sym) : Prop :=
  c'.symbols = c.symbols.take c.cursor ++ xs ++ c.symbols.drop c.cursor ∧
  c'.cursor = c.cursor + xs.length ∧ c'.stack = c.stack

theorem insertedAt_nil (c : CompEditor) : InsertedAt c c [] := by
  simp [InsertedAt]

theorem insertedAt_one {c c' : CompEditor} {x : Sym} (h : c.insert x = .ok c') : InsertedAt c c' [x] := by
  obtain ⟨a, b, d, _⟩ := insert_at_cursor c x c' h
  exact ⟨a, b, d⟩

theorem take_insert {α : Type} (s : List α) (c : Nat) (x : α) (h : c ≤ s.length) :
    (s.take c ++ [x] ++ s.drop c).take (c + 1) = s.take c ++ [x] ∧
    (s.take c ++ [x] ++ s.drop c).drop (c + 1) = s.drop c := by
  have hl : (s.take c ++ [x]).length = c + 1 := by simp [List.length_take, Nat.min_eq_left h]
  exact ⟨List.take_left' hl, List.drop_left' hl⟩

/-- `insertChars`: the characters appear, in order, exactly at the cursor; the cursor ends behind them -/
theorem insertChars_frame (cs : List Nat) : ∀ (c c' : CompEditor), insertChars c cs = .ok c' →
    InsertedAt c c' (cs.map Sym.chr) := by
  induction cs with
  | nil => intro c c' h; cases h; exact insertedAt_nil c
  | cons x xs ih =>
    intro c c' h
    obtain ⟨c1, h1, h⟩ := insertChars_cons_ok.mp h
    obtain ⟨hs, hc, hst, hle⟩ := insert_at_cursor c (.chr x) c1 h1
    obtain ⟨a1, a2, a3⟩ := ih c1 c' h
    obtain ⟨t1, t2⟩ := take_insert c.symbols c.cursor (Sym.chr x) hle
    refine ⟨?_, by rw [a2, hc]; simp; omega, by rw [a3, hst]⟩
    rw [a1, hc, hs, t1, t2]
    simp

/-- effect of an arm that may only insert at the cursor: the buffer is as before (then nothing is
    said about the transition) or `xs` was inserted at the cursor and the key is absorbed -/
def InsStep (c0 : CompEditor) (r : StepRes D L) : Prop :=
  ∀ sh' t, r = .ok (sh', t) → sh'.com = c0 ∨ (t = .spin .absorb ∧ ∃ xs : List Nat, InsertedAt c0 sh'.com (xs.map Sym.chr))

theorem charEff_ins {sh sh' : Shared D L} {ev : KeyEvent} {k : KB} (h : CharEff sh ev sh' k) :
    sh'.com = sh.com ∨ (Trans.spin k = .spin .absorb ∧ ∃ xs : List Nat, InsertedAt sh.com sh'.com (xs.map Sym.chr)) := by
  cases h with
  | insert ch _ hc => exact .inr ⟨rfl, [ch], insertedAt_one hc⟩
  | _ => exact .inl rfl

/-- **the catch-all arm of `Entering::next` only ever inserts at the cursor**: after it the buffer
    is unchanged, or some characters were inserted exactly at the cursor (cursor behind them) and
    the key is absorbed -/
theorem ins_enteringDefault (sh : Shared D L) (ev : KeyEvent) : InsStep sh.com (enteringDefault env sh ev) :=
  enteringDefault_all env (openSymbol_all env (fun _ => .inl rfl) (.inl rfl)) (charEff_inputChar fun _ _ => charEff_ins)
    (fun x _ _ hc => .inr ⟨rfl, x, insertChars_frame _ _ _ hc⟩) (fun s _ hc => .inr ⟨rfl, [s], insertedAt_one hc⟩)
    (fun _ _ _ => .inl rfl) (fun _ _ _ => .inl rfl) (fun _ _ _ => charEff_chineseFallback fun _ _ => charEff_ins)
    (charEff_chineseFallback fun _ _ => charEff_ins) (.inl rfl)

/-- **a symbol key** (any key that reaches the numlock arm or the catch-all arm of `Entering`, in
    either language mode and character form, ±easy-symbol input): the buffer is unchanged, or
    characters were inserted exactly at the cursor, the cursor is behind them, nothing else moved -/
theorem symbol_key_inserts_at_cursor {e : Editor D L} {ev : KeyEvent} {sh : Shared D L} {st : St}
    (hs : e.state = .entering) (hd : DefaultArm (preamble e.shared) ev) (h : dispatch env e ev = .ok (sh, st)) :
    sh.com = e.shared.com ∨
    (st = .entering ∧ sh.last = .absorb ∧ ∃ xs : List Nat, InsertedAt e.shared.com sh.com (xs.map Sym.chr)) := by
  apply dispatch_entering_all env hs ?_ h
  rw [enteringNext_default env hd]
  have : InsStep (preamble e.shared).com
      (if ev.mods.numlock = true then commitOrInsert (preamble e.shared) ev.unicode
       else enteringDefault env (preamble e.shared) ev) :=
    StepAll.ite (fun _ => charEff_commitOrInsert (.inl rfl) fun _ _ => charEff_ins) fun _ => ins_enteringDefault env _ _
  refine StepAll.mono this fun sh' t h1 => h1.imp (fun h1 => (applyTrans_com sh' _ t).trans h1) ?_
  rintro ⟨rfl, xs, hi⟩
  exact ⟨rfl, rfl, xs, hi⟩

/-- **easy-symbol input**: a key with an abbreviation of `k` characters inserts exactly those `k`
    characters at the cursor, in order, and the cursor advances by `k` (one pass, one key) -/
theorem easy_symbol_expansion {e : Editor D L} {ev : KeyEvent} {sh : Shared D L} {st : St} {expanded : Text}
    (hs : e.state = .entering) (hd : DefaultArm (preamble e.shared) ev) (hn : ev.mods.numlock = false)
    (hl : e.shared.options.languageMode = .chinese) (he : e.shared.options.easySymbolInput = true)
    (hg : ¬ (ev.code = KC.grave ∧ ev.mods.isNone = true)) (hsp : ev.code ≠ KC.space)
    (ha : (e.shared.abbr.find? (fun p => p.1 == ev.unicode)).map (·.2) = some expanded)
    (h : dispatch env e ev = .ok (sh, st)) :
    st = .entering ∧ sh.last = .absorb ∧ InsertedAt e.shared.com sh.com (expanded.map Sym.chr) := by
  apply dispatch_entering_all env hs ?_ h
  rw [enteringNext_default env hd, if_neg (by simp [hn])]
  unfold enteringDefault
  have e1 : (preamble e.shared).options = e.shared.options := rfl
  have e2 : (preamble e.shared).abbr = e.shared.abbr := rfl
  rw [e1, hl]
  dsimp only
  rw [if_neg (by simpa using hg), if_neg (by simpa using hsp), if_pos he, e2, ha]
  exact withCom_absorb_all fun c hc => ⟨rfl, rfl, insertChars_frame _ _ _ hc⟩

end EditorKeys2

section EditorSyl
variable {D L : Type} (env : Env D L)

/-- the layout's answer to a key in `EnteringSyllable` (by lookup strategy): behaviour and new layout state
    (`= Chewing.layoutAnswer env .enteringSyllable sh ev` of `Proofs/EditorBell.lean`, by `rfl`) -/
def layoutAnswer (sh : Shared D L) (ev : KeyEvent) : LayoutBeh × L :=
  match sh.options.lookupStrategy with
  | .fuzzyPartialPrefix => env.fuzzyKeyPress sh.syl ev
  | .standard => env.keyPress sh.syl ev

/-- a key of `EnteringSyllable` that is handed to the phonetic layout -/
def LayoutKey (ev : KeyEvent) : Prop :=
  ev.code ≠ KC.backspace ∧ ev.code ≠ KC.esc ∧ ¬ (ev.code = KC.unknown ∧ ev.mods.capslock = true)

theorem enteringSyllableNext_layout {sh : Shared D L} {ev : KeyEvent} (hk : LayoutKey ev) :
    enteringSyllableNext env sh ev =
      syllableAnswer env { sh with syl := (layoutAnswer env sh ev).2 } (layoutAnswer env sh ev).1 := by
  obtain ⟨h1, h2, h3⟩ := hk
  unfold enteringSyllableNext layoutAnswer
  rw [if_neg (by simpa using h1), if_neg (by simpa using h3), if_neg (by simpa using h2)]
  cases sh.options.lookupStrategy <;> rfl

/-- a key of `EnteringSyllable` that the layout answers with *Commit* -/
theorem enteringSyllableNext_commit {e : Editor D L} {ev : KeyEvent} (hk : LayoutKey ev)
    (hc : (layoutAnswer env e.shared ev).1 = .commit) :
    enteringSyllableNext env (preamble e.shared) ev =
      syllableAnswer env { preamble e.shared with syl := (layoutAnswer env e.shared ev).2 } .commit :=
  (enteringSyllableNext_layout env hk).trans (congrArg (syllableAnswer env _) hc)

/-- **a completed syllable is inserted exactly at the cursor** — for every phonetic layout (through
    `env`): in `EnteringSyllable`, the layout answers *Commit* and the dictionary has a word for the
    syllable ⇒ exactly one syllable symbol is inserted at the cursor, the cursor advances by one,
    every other symbol keeps its place.  With the simple engine the editor goes on to `Selecting`
    (saving the new cursor), the buffer effect is the same. -/
theorem syllable_commit_inserts_one {e : Editor D L} {ev : KeyEvent} {sh : Shared D L} {st : St}
    (hs : e.state = .enteringSyllable) (hk : LayoutKey ev)
    (hc : (layoutAnswer env e.shared ev).1 = .commit)
    (hw : env.hasPhrase e.shared.dict [env.read (layoutAnswer env e.shared ev).2] e.shared.options.lookupStrategy = true)
    (h : dispatch env e ev = .ok (sh, st)) :
    sh.com.symbols = e.shared.com.symbols.take e.shared.com.cursor ++
        [Sym.syl (env.read (layoutAnswer env e.shared ev).2)] ++ e.shared.com.symbols.drop e.shared.com.cursor ∧
    sh.com.cursor = e.shared.com.cursor + 1 ∧ sh.last = .absorb ∧
    (e.shared.options.conversionEngine ≠ .simple → st = .entering ∧ sh.com.stack = e.shared.com.stack) ∧
    (e.shared.options.conversionEngine = .simple →
      (∃ s, st = .selecting s) ∧ sh.com.stack = e.shared.com.stack ++ [e.shared.com.cursor + 1]) := by
  apply dispatch_syllable_all env hs ?_ h
  rw [enteringSyllableNext_commit env hk hc]
  -- of the arms of `syllableAnswer` those for *Commit* with a word are left: the simple engine's and the others'
  refine syllableAnswer_all env nofun nofun nofun nofun (fun c _ _ hsim hci => newPhraseSimple_all fun s => ?_)
    (fun c _ _ hsim hci => ?_) (fun _ hn => absurd hw hn) fun _ _ h => absurd rfl h
  all_goals obtain ⟨a1, a2, a3, _⟩ := insert_at_cursor _ _ _ hci
  · refine ⟨a1, a2, rfl, fun hne => absurd (eq_of_beq hsim) hne, fun _ => ⟨⟨_, rfl⟩, ?_⟩⟩
    show c.stack ++ [c.cursor] = _
    rw [a3, a2]; rfl
  · exact ⟨a1, a2, rfl, fun _ => ⟨rfl, a3⟩, fun hq => absurd (beq_iff_eq.mpr hq) hsim⟩

/-- without a word for the syllable nothing is inserted (the phonetic buffer is dropped) -/
theorem syllable_commit_no_word {e : Editor D L} {ev : KeyEvent} {sh : Shared D L} {st : St}
    (hs : e.state = .enteringSyllable) (hk : LayoutKey ev)
    (hc : (layoutAnswer env e.shared ev).1 = .commit)
    (hw : env.hasPhrase e.shared.dict [env.read (layoutAnswer env e.shared ev).2] e.shared.options.lookupStrategy = false)
    (h : dispatch env e ev = .ok (sh, st)) :
    sh.com = e.shared.com ∧ st = .entering := by
  apply dispatch_syllable_all env hs ?_ h
  rw [enteringSyllableNext_commit env hk hc]
  exact syllableAnswer_all env nofun nofun nofun nofun (fun _ _ hp => nomatch hp.symm.trans hw)
    (fun _ _ hp => nomatch hp.symm.trans hw) (fun _ _ => ⟨rfl, rfl⟩) fun _ _ h => absurd rfl h

end EditorSyl

/-! ## The buffer stays bounded

`try_auto_commit` runs after every key whose state machine step ends in `Entering` or `EnteringSyllable` with *absorb*.
Its loop removes whole leading intervals of the current conversion until at most
`auto_commit_threshold` symbols remain — this needs the conversion to cover the buffer: every alternative
the engine returns is well formed and its interval lengths sum to the buffer length.  C03 proves that of the real
engines for VALID compositions (`CompValid`) over well-formed dictionaries; here it is a hypothesis, in two forms:
at the one shared state the auto-commit converts (`TilingAt`; `Proofs/EditorLink.lean` derives it from C01's
reachable-state invariant, `Link.tilingAt_of_shInv`, and `Props/C18.lean`, section "linked", states the bound
without any tiling premise: `C18.bounded_after_key_linked`, `C18.buffer_bounded_along` — this file cannot import
C01, whose proofs import it), and for every composition and dictionary (`TilingEnv`). -/

section EditorBounded
variable {D L : Type} (env : Env D L)

/-- hypothesis on the conversion engine (C03): every alternative covers the buffer -/
def TilingEnv : Prop :=
  ∀ (k : EngineKind) (d : D) (c : Composition) (paths : List (List Interval)),
    env.convert k d c = .ok paths → ∀ ivs ∈ paths, TilesLen ivs c.len

/-- `TilingEnv` at ONE shared state: every alternative the engine returns for THIS composition, dictionary
    and engine covers the buffer -/
def TilingAt (sh : Shared D L) : Prop :=
  ∀ paths, env.convert sh.engine sh.dict sh.com.inner = .ok paths → ∀ ivs ∈ paths, TilesLen ivs sh.com.inner.len

theorem TilingEnv.tilingAt (ht : TilingEnv env) (sh : Shared D L) : TilingAt env sh :=
  fun paths hp ivs hm => ht _ _ _ paths hp ivs hm

/-- the auto-commit loop on a conversion that tiles the buffer: it returns, and what it leaves is within the
    threshold -/
theorem autoCommitTake_at {sh : Shared D L} (ht : TilingAt env sh) {ivs : List Interval}
    (hc : Shared.conversion env sh = .ok ivs) :
    ∃ buf r, Shared.autoCommitTake sh.com.len sh.options.autoCommitThreshold ivs [] 0 = .ok (buf, r) ∧
      r ≤ sh.com.len ∧ sh.com.len - r ≤ sh.options.autoCommitThreshold := by
  obtain ⟨paths, hp, hm⟩ := C02.conversion_mem env hc
  obtain ⟨hwf, hsum⟩ := ht paths hp ivs hm
  obtain ⟨buf, r, h1, _, h3, h4⟩ :=
    autoCommitTake_bound sh.com.len sh.options.autoCommitThreshold ivs [] 0 hwf (by rw [Nat.zero_add]; exact hsum)
  exact ⟨buf, r, h1, h3, h4⟩

/-- `try_auto_commit` re-establishes `len ≤ threshold` (and with a tiling conversion its loop neither
    underflows nor over-removes: no panic beyond a panic of the engine itself); only a prefix is removed -/
theorem tryAutoCommit_bound_at {sh sh2 : Shared D L} (ht : TilingAt env sh) (h : Shared.tryAutoCommit env sh = .ok sh2) :
    sh2.com.len ≤ sh2.options.autoCommitThreshold ∧ sh2.options = sh.options ∧
    ∃ n, sh2.com.symbols = sh.com.symbols.drop n ∧ sh2.com.cursor = sh.com.cursor - n := by
  obtain ⟨hle, rfl⟩ | ⟨n, com, _, hq, rfl, -, ivs, hc, h1⟩ := tryAutoCommit_cases env sh _ h
  · exact ⟨hle, rfl, 0, rfl, rfl⟩
  · obtain ⟨_, _, h1', _, h4⟩ := autoCommitTake_at env ht hc
    cases h1.symm.trans h1'
    obtain ⟨_, hs, hcur, _⟩ := remove_front_frame _ _ _ hq
    refine ⟨?_, rfl, n, hs, hcur⟩
    show com.symbols.length ≤ _
    rw [hs, List.length_drop]
    exact h4

/-- with a tiling conversion the auto-commit never panics on its own account -/
theorem tryAutoCommit_total_at (sh : Shared D L) (ht : TilingAt env sh) (hc : CompInv sh.com.inner)
    {ivs : List Interval} (hconv : Shared.conversion env sh = .ok ivs) :
    ∃ sh2, Shared.tryAutoCommit env sh = .ok sh2 := by
  obtain ⟨buf, r, h1, h3, _⟩ := autoCommitTake_at env ht hconv
  obtain ⟨com, hq⟩ := (remove_front_ok_iff sh.com r hc).mpr h3
  unfold Shared.tryAutoCommit
  simp only [hconv, h1, hq]
  split <;> exact ⟨_, rfl⟩

theorem tryAutoCommit_bound (ht : TilingEnv env) {sh sh2 : Shared D L} (h : Shared.tryAutoCommit env sh = .ok sh2) :
    sh2.com.len ≤ sh2.options.autoCommitThreshold ∧ sh2.options = sh.options ∧
    ∃ n, sh2.com.symbols = sh.com.symbols.drop n ∧ sh2.com.cursor = sh.com.cursor - n :=
  tryAutoCommit_bound_at env (ht.tilingAt env sh) h

theorem tryAutoCommit_total (ht : TilingEnv env) (sh : Shared D L) (hc : CompInv sh.com.inner)
    {ivs : List Interval} (hconv : Shared.conversion env sh = .ok ivs) :
    ∃ sh2, Shared.tryAutoCommit env sh = .ok sh2 :=
  tryAutoCommit_total_at env sh (ht.tilingAt env sh) hc hconv

/-- **the bound after ANY key that ends in `Entering`** answered *absorb* or *commit*, whatever the state it arrived in,
    with the tiling hypothesis only at the state the key's state-machine part leaves (`dispatch`) -/
theorem bounded_after_key_any {e e' : Editor D L} {ev : KeyEvent} {b : KB}
    (ht : ∀ sh st, dispatch env e ev = .ok (sh, st) → TilingAt env sh)
    (h : e.processKey env ev = .ok (e', b)) (he : e'.state = .entering) (hb : b = .absorb ∨ b = .commit) :
    e'.shared.com.len ≤ e'.shared.options.autoCommitThreshold := by
  obtain ⟨sh, st, hd, h2⟩ := processKey_split env h
  obtain ⟨rfl, ⟨hsh, rfl, hle⟩ | ⟨_, _, _, _, sh2, hac, hsh⟩⟩ := tail_cases env h2
  all_goals rw [hsh, flush_eq]
  · -- the auto-commit did nothing: the state machine itself answered, *absorb* within the threshold or *commit*
    show sh.com.len ≤ sh.options.autoCommitThreshold
    rcases hb with hb | hb
    · exact hle (.inl he) hb
    · -- only `Entering` answers *commit* itself: a character passed through an empty buffer, or Enter
      have h0 : sh.com.len = 0 := by
        rcases C02.dispatch_shape_aux env hd with ⟨hnc, _⟩ | ⟨_, _, _, ⟨h0, hcom, _⟩ | ⟨_, _, hcm⟩⟩
        · exact absurd hb hnc
        · exact eq_of_beq (hcom ▸ h0)
        · rw [commit_com env _ _ hcm]; rfl
      omega
  · exact (tryAutoCommit_bound_at env (ht sh _ hd) hac).1

theorem bounded_after_key_at {e e' : Editor D L} {ev : KeyEvent} {b : KB}
    (ht : ∀ sh st, dispatch env e ev = .ok (sh, st) → TilingAt env sh)
    (hs : e.state = .entering ∨ e.state = .enteringSyllable ∨ b = .absorb)
    (h : e.processKey env ev = .ok (e', b)) (he : e'.state = .entering) (hb : b = .absorb ∨ b = .commit) :
    e'.shared.com.len ≤ e'.shared.options.autoCommitThreshold :=
  bounded_after_key_any env ht h he hb

/-- **every absorbed key that ends in `Entering` re-establishes `len ≤ auto_commit_threshold`** —
    from any state (typing, a chosen candidate, a cancelled list, the end of a highlight), for every
    threshold including one lowered by a configuration call just before -/
theorem bounded_after_absorb (ht : TilingEnv env) {e e' : Editor D L} {ev : KeyEvent}
    (h : e.processKey env ev = .ok (e', .absorb)) (he : e'.state = .entering) :
    e'.shared.com.len ≤ e'.shared.options.autoCommitThreshold :=
  bounded_after_key_at env (fun sh _ _ => ht.tilingAt env sh) (.inr (.inr rfl)) h he (.inl rfl)

/-- **after every key handled in `Entering` that is absorbed or commits, the buffer is no longer than
    the configured maximum** (an explicit commit empties it; everything else goes through the
    auto-commit) -/
theorem bounded_after_key (ht : TilingEnv env) {e e' : Editor D L} {ev : KeyEvent} {b : KB}
    (hs : e.state = .entering) (h : e.processKey env ev = .ok (e', b)) (he : e'.state = .entering)
    (hb : b = .absorb ∨ b = .commit) :
    e'.shared.com.len ≤ e'.shared.options.autoCommitThreshold :=
  bounded_after_key_at env (fun sh _ _ => ht.tilingAt env sh) (.inl hs) h he hb

/-- **the same bound for keys handled while phonetic keys are pending** (`EnteringSyllable`): when the
    key ends in `Entering` with *absorb* or *commit* — in particular when it completed a syllable that was
    inserted — the buffer is within the limit -/
theorem bounded_after_key_syllable (ht : TilingEnv env) {e e' : Editor D L} {ev : KeyEvent} {b : KB}
    (hs : e.state = .enteringSyllable) (h : e.processKey env ev = .ok (e', b)) (he : e'.state = .entering)
    (hb : b = .absorb ∨ b = .commit) :
    e'.shared.com.len ≤ e'.shared.options.autoCommitThreshold :=
  bounded_after_key_at env (fun sh _ _ => ht.tilingAt env sh) (.inr (.inl hs)) h he hb

/-- non-vacuity of the hypothesis: intervals of lengths 1 and 2 tile a buffer of three symbols -/
example : TilesLen [{ start := 0, stop := 1, isPhrase := false, text := [97] }, { start := 1, stop := 3, isPhrase := true, text := [98, 99] }] 3 :=
  ⟨by decide, by decide⟩

/-- the global hypothesis is a special case -/
example (ht : TilingEnv env) {e e' : Editor D L} {ev : KeyEvent} {b : KB} (hs : e.state = .entering)
    (h : e.processKey env ev = .ok (e', b)) (he : e'.state = .entering) (hb : b = .absorb ∨ b = .commit) :
    e'.shared.com.len ≤ e'.shared.options.autoCommitThreshold :=
  bounded_after_key_at env (fun sh _ _ => ht.tilingAt env sh) (Or.inl hs) h he hb

end EditorBounded

/-! ## The bound in EVERY reachable state

Stated and proved in `Props/C05Bound.lean` (namespace `Chewing.C05`, audited with this property; it needs C01's
invariant, whose proofs import this file).  Its head says what holds, what remains false, and names the theorems. -/

end Chewing.C05
