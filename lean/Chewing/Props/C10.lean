import Chewing.Proofs.Persist
import Chewing.Proofs.PersistCrash
import Chewing.Proofs.PersistEditor
import Chewing.Proofs.PersistTerm
import Chewing.Proofs.PersistSql
import Chewing.Proofs.DictLink
import Chewing.Proofs.DictLinkBytes
/-!
# C10 — User-dictionary changes are durable; the file is replaced atomically

Model: `Chewing.Model.Persist` — a step model of `TrieBuf` (`sync`, `checkpoint`, `Drop`), of the
snapshot thread and `TrieBuilder::build`, and of an abstract file system; one atomic step per
foreground call / part of `Drop` / hop of the writer between two hook points / process death.
All theorems quantify over **every** action list, i.e. over every interleaving of the foreground
with the writer's progress points and every crash point *of that step model*.

LEVEL — partial by nature.  Proved: the protocol logic, for all schedules and crash points of the
step model.  Trusted (not provable from the source): real threads interleave only at the modelled
points (each foreground call reads the writer's state once: `is_finished()` in `sync`,
`join_handle.is_some()` in `checkpoint`), `rename(2)` replaces the target atomically, `File::create`
/ `write` / `sync_data` touch only the temp file and the writer never opens the dictionary path
for writing, process death keeps what `write(2)` has handed to the kernel.  The correspondence
check (`harness/src/bin/persist.rs`) realises the schedules and crash points through the hooks and
compares every observation with this model.  Outside the quantifier: I/O errors (a failing writer
leaves `dirty = false`, so its changes are not retried at close — by reading, not claimed),
power loss (no directory fsync), other processes writing the same directory.

Statement → theorems.  "the file at the path is still a complete, loadable dictionary holding either
the previous or the new contents, if the process dies at any point": `atomic`, `atomic_step`,
`atomic_old_or_new`, `crash_enabled`, `atomic_after_crash`, `crash_point` (old / new relative to the in-flight
writer, and live after a prefix of the history), `file_is_prefix_live`, `file_is_prefix_spec`; reopening after a
death or a close, over any number of process lifetimes: `reopen_prefix_consistent`, `reopen_durable`,
`next_session_starts`.  The SQLite back end (no writer thread, no temp file): `Sql.sql_prefix`,
`Sql.sql_durable_on_return`, `Sql.sql_crash_keeps_committed` over a relational step model, SQLite's transaction
guarantee itself being trusted.  "after a change has been accepted and the
dictionary is flushed and closed normally, reopening the file shows that change, whatever the timing
of the writer": `change_shows` (an accepted change is live) + `live_stable` (nothing else alters what
is live) + `adopt_safe` + `durable_full` (after close the file holds what is live) + `close_always_completes` (a normal
close is possible after every history: no deadlock, never vacuous); in one statement,
for the tree with both repairs: `durable_spec`.  The editor's call pattern over `Layered`'s forwarding: `editor_durable`,
`editor_durable_spec`, `editor_crash_prefix`, `editor_atomic`, `editor_never_adopts`.

Finding F12 (DESIGN §9): on the code as found (`Cfg.joinFirst = false`) `DurableFull` is false —
`durable_refuted`; repaired in the repository (`fix:` commit, `Drop` joins the writer first) and
proved for the repaired code — `durable_full`.
-/
namespace Chewing.C10
open Chewing.Persist

/-! ## atomic replacement -/

/-- FULL statement (atomicity): in every reachable world — hence also after a crash at any step —
    the file at the dictionary path is a complete, loadable dictionary.  It never mentions `tmp`. -/
def AtomicFull (cfg : Cfg) : Prop :=
  ∀ w, Reachable cfg w → ∃ c, w.fs .path = some (.complete c)

theorem atomic (cfg : Cfg) : AtomicFull cfg :=
  fun _ hr => (inv_reachable hr).core.path

/-- … and what it holds changes only at the writer's rename step, to the complete snapshot:
    every other step (any foreground call, any other writer hop, process death) leaves it as is. -/
theorem atomic_step {cfg : Cfg} {w w' : World} {a : Act} (hr : Reachable cfg w) (hs : step cfg w a = some w') :
    w'.fs .path = w.fs .path ∨
    ∃ wr, w.writer = some wr ∧ wr.pc = .synced ∧ a = .w ∧ w'.fs .path = some (.complete wr.snap) :=
  (step_facts (inv_reachable hr) hs).2.1

/-- old or new: while a snapshot writer exists, the path holds what it held when the writer was
    spawned (`old`, ghost) or the writer's complete snapshot -/
theorem atomic_old_or_new {cfg : Cfg} {w : World} {wr : Writer} (hr : Reachable cfg w) (hw : w.writer = some wr) :
    (wr.pc.idx < PC.renamed.idx ∧ w.fs .path = wr.old) ∨
    (PC.renamed.idx ≤ wr.pc.idx ∧ w.fs .path = some (.complete wr.snap)) := by
  have hx := (inv_reachable hr).core.wr wr hw
  by_cases h : wr.pc.idx < PC.renamed.idx
  · exact Or.inl ⟨h, hx.pathOld h⟩
  · exact Or.inr ⟨Nat.le_of_not_lt h, hx.pathNew (Nat.le_of_not_lt h)⟩

/-- the snapshot a writer is spawned with is the live contents at the time of the flush, and what
    `old` remembers is what the path held then -/
theorem snapshot_is_live (w : World) (h1 : w.writer = none) (h2 : w.buf.dirty = true) :
    (checkpoint w).writer =
      some { pc := .start, snap := w.buf.live, result := none, gen := w.buf.gen, old := w.fs .path } := by
  simp [checkpoint, h1, h2]

/-- process death is possible in every state that is not already dead … -/
theorem crash_enabled (cfg : Cfg) (w : World) (h : w.crashed = false) :
    step cfg w .crash = some { w with crashed := true } := by
  simp [step, h]

/-- … keeps every file, so the path still holds a complete dictionary (old or new by
    `atomic_old_or_new`) … -/
theorem atomic_after_crash {cfg : Cfg} {w w' : World} (hr : Reachable cfg w) (hs : step cfg w .crash = some w') :
    w'.fs = w.fs ∧ ∃ c, w'.fs .path = some (.complete c) := by
  have hfs : w'.fs = w.fs := by cases (step_some hs).2; rfl
  exact ⟨hfs, atomic cfg w' (reachable_step hr hs)⟩

/-- … and nothing happens afterwards. -/
theorem crashed_is_final (cfg : Cfg) (w : World) (a : Act) (h : w.crashed = true) : step cfg w a = none := by
  simp [step, h]

/-! ## adoption -/

/-- `sync` takes the branch that replaces the layers by the writer's result -/
def Adopts (w : World) (wr : Writer) (t : Content) : Prop :=
  w.writer = some wr ∧ wr.pc = .finished ∧ wr.result = some t ∧ w.buf.dirty = false

/-- while a writer is registered, `sync` changes the dictionary layers only by adopting -/
theorem sync_keeps_layers_unless_adopts (w : World) (wr : Writer) (hw : w.writer = some wr)
    (hn : ∀ t, ¬ Adopts w wr t) : (sync w).buf = w.buf := by
  rcases sync_cases w with e | ⟨_, e⟩ | ⟨wr', t, hw', hpc, hr, hd, _⟩ | ⟨_, hw', _⟩
  · rw [e]
  · rw [e]
  · cases hw.symm.trans hw'
    exact absurd ⟨hw, hpc, hr, hd⟩ (hn t)
  · cases hw.symm.trans hw'

/-- `sync` adopts the writer's result only if no change was accepted since the snapshot
    (`gen` counts accepted changes); the result is then exactly the live contents, so nothing
    is lost or resurrected by the adoption -/
theorem adopt_safe {cfg : Cfg} {w : World} {wr : Writer} {t : Content} (hr : Reachable cfg w)
    (ha : Adopts w wr t) :
    wr.gen = w.buf.gen ∧ t = w.buf.live ∧ (sync w).buf.live = w.buf.live ∧ (sync w).buf.trie = t := by
  obtain ⟨hw, hpc, hres, hd⟩ := ha
  have hi := inv_reachable hr
  have hx := hi.core.wr wr hw
  have h9 : wr.pc.idx = 9 := by rw [hpc]; rfl
  have ht : t = wr.snap := by
    have := hx.res (by rw [h9]; decide)
    rw [hres] at this
    exact Option.some.inj this
  refine ⟨(hx.clean hd).2, by rw [ht]; exact (hx.clean hd).1, (core_sync w hi.core).2, ?_⟩
  unfold sync
  rw [hw]
  simp [hpc, hres, hd]

/-! ## durability -/

/-- FULL statement (durability): after any history that ends with the dictionary closed
    (`Drop` has returned), under every schedule of the writer, the file at the path holds
    exactly the live contents of the dictionary. -/
def DurableFull (cfg : Cfg) : Prop :=
  ∀ c0 t0 acts w, run cfg (init c0 t0) acts = some w → w.phase = .closed →
    w.fs .path = some (.complete w.buf.live)

/-- the repaired `Drop` (join, sync, flush, join) is durable — for all schedules -/
theorem durable_full (cfg : Cfg) (hj : cfg.joinFirst = true) : DurableFull cfg := by
  intro c0 t0 acts w hrun hph
  have hi := inv_run (inv_init cfg c0 t0) hrun
  exact hi.core.quiet (hi.ph.closedW hph) (hi.ph.dropB hj (Or.inr hph))

/-- F12 witness: change A, flush, writer parked after `File::create`, change B, flush (refused),
    close: `sync` returns early, `flush` refuses, `join` — B is never written -/
def f12Witness : List Act :=
  [.update 0 1, .flush, .w, .w, .update 1 2, .flush, .close, .d, .d, .w, .w, .w, .w, .w, .w, .w, .d]

def valAt (f : Option FileC) (k : Key) : Option (Option Val) :=
  match f with
  | some (.complete c) => some (c k)
  | _ => none

/-- the code as found (`sync; flush; join`) is not durable -/
theorem durable_refuted (r : Bool) : ¬ DurableFull { revive := r, joinFirst := false } := by
  intro h
  cases r <;>
  · have hw := h (fun _ => none) none f12Witness _ rfl rfl
    have := congrArg (fun f => valAt f 1) hw
    revert this
    decide

/-- no foreground call other than a change, no writer step and no part of `Drop` alters the live
    contents (in particular `reopen` reloading the file under pending changes does not) -/
theorem live_stable {cfg : Cfg} {w w' : World} {a : Act} (hr : Reachable cfg w) (hs : step cfg w a = some w')
    (ha : a = .flush ∨ a = .reopen ∨ a = .close ∨ a = .d ∨ a = .w ∨ a = .crash) : w'.buf.live = w.buf.live := by
  have := (step_facts (inv_reachable hr) hs).2.2
  rcases ha with h | h | h | h | h | h <;> subst h <;> exact this

/-- "closed normally" is always possible, whatever happened before: from every state reached by any
    schedule in which the dictionary is open and the process alive, `close` followed by at most 22
    steps of the writer and of `Drop` alone (no deadlock between `Drop`'s joins and the writer) ends
    with the dictionary closed — and the file then holds the live contents of that state.  So
    `durable_full` is vacuous for no history. -/
theorem close_always_completes (cfg : Cfg) (hj : cfg.joinFirst = true) (c0 : Content) (t0 : Option FileC)
    (acts : List Act) (w : World) (h : run cfg (init c0 t0) acts = some w) (hc : w.crashed = false)
    (hp : w.phase = .run) :
    ∃ rest w', Passive rest ∧ rest.length ≤ 22 ∧ run cfg (init c0 t0) (acts ++ .close :: rest) = some w' ∧
      w'.phase = .closed ∧ w'.fs .path = some (.complete w.buf.live) := by
  obtain ⟨rest, w', hpa, hl, hr, hcl, _⟩ := close_completes cfg w hc hp
  have hall := (folds.append h _).trans hr
  refine ⟨rest, w', hpa, hl, hall, hcl, ?_⟩
  -- the passive steps do not change what is live
  rw [durable_full cfg hj c0 t0 _ w' hall hcl,
    (folds.inv (I := fun x => Reachable cfg x ∧ x.buf.live = w.buf.live) (V := fun a => a = .close ∨ a = .w ∨ a = .d)
      (fun ha hx hs => ⟨reachable_step hx.1 hs,
        (live_stable hx.1 hs (by rcases ha with rfl | rfl | rfl <;> simp)).trans hx.2⟩)
      (.close :: rest) (fun a ha => (List.mem_cons.mp ha).imp id (hpa a)) ⟨⟨c0, t0, acts, h⟩, rfl⟩ hr).2]

/-- an accepted change shows in the live contents — for both variants of the tombstone rule, as
    long as the key is not tombstoned in the unrepaired one (that exception is finding F09 of
    property C09: `add`/`update` after `remove` of the same phrase stays hidden) -/
theorem change_shows {cfg : Cfg} {w w' : World} {k : Key} {v : Val}
    (hg : cfg.revive = true ∨ w.buf.grave k = false) :
    (step cfg w (.update k v) = some w' → w'.buf.live = setC w.buf.live k (some v)) ∧
    (step cfg w (.add k v) = some w' → w.buf.live k = none → w'.buf.live = setC w.buf.live k (some v)) ∧
    (step cfg w (.remove k) = some w' → w'.buf.live = setC w.buf.live k none) := by
  have hput : (w.buf.put cfg k v).live = setC w.buf.live k (some v) := by
    cases hr : cfg.revive with
    | true => exact live_put_revive cfg hr w.buf k v
    | false => rw [live_put_norevive cfg hr w.buf k v, hg.resolve_left (by simp [hr])]; rfl
  refine ⟨fun hs => ?_, fun hs hnone => ?_, fun hs => ?_⟩
  · cases (step_some hs).2; exact hput
  · cases (step_some hs).2
    simp only [Buf.add, hnone, Option.isSome_none, Bool.false_eq_true, ite_false]
    exact hput
  · cases (step_some hs).2; exact live_remove w.buf k

/-- end to end: after change … flush … close under any schedule, reopening the file shows exactly
    the accepted changes -/
theorem durable_spec (cfg : Cfg) (hrv : cfg.revive = true) (hj : cfg.joinFirst = true) (c0 : Content)
    (t0 : Option FileC) (acts : List Act) (w : World) (h : run cfg (init c0 t0) acts = some w)
    (hc : w.phase = .closed) : w.fs .path = some (.complete (spec c0 acts)) := by
  rw [← live_tracks hrv hj h]
  exact durable_full cfg hj c0 t0 acts w h hc

/-- a single accepted change is what `spec` says: visible after `update`, gone after `remove`,
    visible after an accepted `add` -/
theorem spec_last_change (c0 : Content) (acts : List Act) (k : Key) (v : Val) :
    spec c0 (acts ++ [.update k v]) k = some v ∧ spec c0 (acts ++ [.remove k]) k = none ∧
    (spec c0 acts k = none → spec c0 (acts ++ [.add k v]) k = some v) := by
  simp [spec, List.foldl_append, applyChange, setC]
  intro h
  simp [h, setC]

/-! ## crash points: old or new, and prefix-consistent -/

/-- after ANY action list (any schedule, process death anywhere or nowhere) the file at the path is a
    complete dictionary whose contents were the live contents of the dictionary after some prefix of
    that list: never a mixture of two moments, never anything that was not live at some moment -/
theorem file_is_prefix_live (cfg : Cfg) (c0 : Content) (t0 : Option FileC) (acts : List Act) (w : World)
    (h : run cfg (init c0 t0) acts = some w) :
    ∃ c, readPath w.fs = some c ∧ LiveOfPrefix cfg (init c0 t0) acts c := by
  obtain ⟨c, hc⟩ := atomic cfg w ⟨c0, t0, acts, h⟩
  exact ⟨c, readPath_eq_some.mpr hc, (hist_init h).path c hc⟩

/-- … with both repairs in place: exactly the accepted changes of a prefix of the history -/
theorem file_is_prefix_spec (cfg : Cfg) (hrv : cfg.revive = true) (hj : cfg.joinFirst = true) (c0 : Content)
    (t0 : Option FileC) (acts : List Act) (w : World) (h : run cfg (init c0 t0) acts = some w) :
    ∃ pre, pre <+: acts ∧ readPath w.fs = some (spec c0 pre) := by
  obtain ⟨c, hc, pre, wp, hpre, hrun, hl⟩ := file_is_prefix_live cfg c0 t0 acts w h
  refine ⟨pre, hpre, ?_⟩
  rw [hc, ← hl, live_tracks hrv hj hrun]

/-- CRASH-POINT THEOREM.  The process dies after an arbitrary action list `acts` (any foreground
    history, the writer at any progress point, any part of `Drop`).  Then (1) death changed no file,
    (2) the file at the path loads, (3) its contents were live after some prefix of `acts`, and
    (4) relative to an in-flight writer it holds the OLD contents (what the path held when the
    writer was spawned) strictly before the rename step and the NEW contents (the writer's complete
    snapshot) from the rename step on. -/
theorem crash_point (cfg : Cfg) (c0 : Content) (t0 : Option FileC) (acts : List Act) (w : World)
    (h : run cfg (init c0 t0) (acts ++ [.crash]) = some w) :
    w.crashed = true ∧
    ∃ w1, run cfg (init c0 t0) acts = some w1 ∧ w.fs = w1.fs ∧ w.writer = w1.writer ∧
    ∃ c, readPath w.fs = some c ∧ LiveOfPrefix cfg (init c0 t0) acts c ∧
      ∀ wr, w.writer = some wr →
        (wr.pc.idx < PC.renamed.idx ∧ wr.old = some (.complete c)) ∨
        (PC.renamed.idx ≤ wr.pc.idx ∧ c = wr.snap) := by
  obtain ⟨w1, h1, h⟩ := folds.of_append h
  cases (step_some (folds.one.mp h)).2
  refine ⟨rfl, w1, h1, rfl, rfl, ?_⟩
  obtain ⟨c, hc, hp⟩ := file_is_prefix_live cfg c0 t0 acts w1 h1
  refine ⟨c, hc, hp, ?_⟩
  intro wr hwr
  have hpath := readPath_eq_some.mp hc
  rcases atomic_old_or_new (cfg := cfg) (w := w1) ⟨c0, t0, acts, h1⟩ hwr with ⟨hlt, ho⟩ | ⟨hge, hn⟩
  · exact Or.inl ⟨hlt, by rw [← ho]; exact hpath⟩
  · exact Or.inr ⟨hge, complete_inj (hpath.symm.trans hn)⟩

/-- lifetime after lifetime, the files hold the accepted changes of a prefix of each lifetime — of the whole of it
    when it was closed normally (`durable_spec`), of a prefix in any case (`file_is_prefix_spec`) -/
theorem sessions_spec (cfg : Cfg) (hrv : cfg.revive = true) (hj : cfg.joinFirst = true) {ss : List (List Act)}
    {c0 c : Content} {t0 t : Option FileC} (h : runSessions cfg c0 t0 ss = some (c, t)) :
    ∃ pres, PrefixEach pres ss ∧ c = spec c0 pres.flatten ∧ (AllClosed cfg c0 t0 ss → pres = ss) := by
  induction ss generalizing c0 t0 with
  | nil => cases h; exact ⟨[], .nil, rfl, fun _ => rfl⟩
  | cons s ss ih =>
    unfold runSessions at h
    unfold AllClosed
    split at h <;> try cases h
    next w hr =>
    split at h <;> try cases h
    split at h <;> try cases h
    next c1 hp =>
    obtain ⟨pres, hf, hc, hall⟩ := ih h
    have hpath := readPath_eq_some.mp hp
    by_cases hcl : w.phase = .closed
    · refine ⟨s :: pres, .cons (List.prefix_refl s) hf, ?_, fun ha => by rw [hall ha.2]⟩
      rw [hc, List.flatten_cons, spec_append, complete_inj (hpath.symm.trans (durable_spec cfg hrv hj c0 t0 s w hr hcl))]
    · obtain ⟨pre, hpre, e⟩ := file_is_prefix_spec cfg hrv hj c0 t0 s w hr
      refine ⟨pre :: pres, .cons hpre hf, ?_, fun ha => absurd ha.1 hcl⟩
      rw [hc, List.flatten_cons, spec_append, Option.some.inj (hp.symm.trans e)]

/-- REOPENING AFTER A CRASH.  Process lifetimes over the same directory, each ended by a normal close
    or by death at an arbitrary point, the next one opening whatever files the previous one left
    (including a leftover temp file): the dictionary the last one leaves holds exactly the accepted
    changes of a prefix of every lifetime, in order — a prefix-consistent map. -/
theorem reopen_prefix_consistent (cfg : Cfg) (hrv : cfg.revive = true) (hj : cfg.joinFirst = true)
    (ss : List (List Act)) (c0 c : Content) (t0 t : Option FileC) (h : runSessions cfg c0 t0 ss = some (c, t)) :
    ∃ pres, PrefixEach pres ss ∧ c = spec c0 pres.flatten :=
  let ⟨pres, h1, h2, _⟩ := sessions_spec cfg hrv hj h
  ⟨pres, h1, h2⟩

/-- … and when every lifetime ends with a normal close, nothing at all is lost across lifetimes -/
theorem reopen_durable (cfg : Cfg) (hrv : cfg.revive = true) (hj : cfg.joinFirst = true)
    (ss : List (List Act)) (c0 c : Content) (t0 t : Option FileC) (h : runSessions cfg c0 t0 ss = some (c, t))
    (hc : AllClosed cfg c0 t0 ss) : c = spec c0 ss.flatten := by
  obtain ⟨pres, _, h2, h3⟩ := sessions_spec cfg hrv hj h
  rw [h2, h3 hc]

/-- a lifetime that ended (closed or died) always leaves a loadable file: the next one can start -/
theorem next_session_starts (cfg : Cfg) (c0 : Content) (t0 : Option FileC) (s : List Act) (w : World)
    (h : run cfg (init c0 t0) s = some w) : ∃ c, readPath w.fs = some c :=
  let ⟨c, hc, _⟩ := file_is_prefix_live cfg c0 t0 s w h
  ⟨c, hc⟩

/-! ## the editor -/

/-- whatever the editor does (learn / unlearn, `reopen(); flush()` after keys that changed the
    dictionary, being dropped at any moment) and however the writer is scheduled, once the editor
    has been dropped the file holds the live contents -/
theorem editor_durable (cfg : Cfg) (hj : cfg.joinFirst = true) (c0 : Content) (t0 : Option FileC)
    (eacts : List EdAct) (e : EdWorld) (h : edRun cfg { w := init c0 t0, dirtyLevel := 0 } eacts = some e)
    (hc : e.w.phase = .closed) : e.w.fs .path = some (.complete e.w.buf.live) :=
  durable_full cfg hj c0 t0 _ e.w (edRun_trace h) hc

/-- … in the editor's own terms: once the editor has been dropped, the file holds exactly what the
    editor learned and unlearned (`edSpec`: `learn_phrase` sets / adds, `unlearn_phrase` removes; key
    events, `dirty_level`, `reopen`, `flush` and the writer's schedule do not appear in it) -/
theorem editor_durable_spec (cfg : Cfg) (hrv : cfg.revive = true) (hj : cfg.joinFirst = true) (c0 : Content)
    (t0 : Option FileC) (eacts : List EdAct) (e : EdWorld)
    (h : edRun cfg { w := init c0 t0, dirtyLevel := 0 } eacts = some e) (hc : e.w.phase = .closed) :
    e.w.fs .path = some (.complete (edSpec c0 eacts)) := by
  have hr := edRun_trace h
  rw [← spec_edTrace h c0]
  exact durable_spec cfg hrv hj c0 t0 _ e.w hr hc

/-- … and if the process dies at any point of an editor session instead, the file holds what the
    editor had learned and unlearned up to some earlier moment of the session -/
theorem editor_crash_prefix (cfg : Cfg) (hrv : cfg.revive = true) (hj : cfg.joinFirst = true) (c0 : Content)
    (t0 : Option FileC) (eacts : List EdAct) (e : EdWorld)
    (h : edRun cfg { w := init c0 t0, dirtyLevel := 0 } eacts = some e) :
    ∃ pre, pre <+: edTrace cfg { w := init c0 t0, dirtyLevel := 0 } eacts ∧ readPath e.w.fs = some (spec c0 pre) :=
  file_is_prefix_spec cfg hrv hj c0 t0 _ e.w (edRun_trace h)

/-- … and the atomicity invariant holds throughout -/
theorem editor_atomic (cfg : Cfg) (c0 : Content) (t0 : Option FileC) (eacts : List EdAct) (e : EdWorld)
    (h : edRun cfg { w := init c0 t0, dirtyLevel := 0 } eacts = some e) :
    ∃ c, e.w.fs .path = some (.complete c) :=
  atomic cfg e.w ⟨c0, t0, _, edRun_trace h⟩

/-- the editor calls `reopen()` only right after it dirtied the dictionary, so that `sync` never
    adopts a writer's result during an editing session: the base layer is only ever replaced by a
    reload and the pending layer grows until the editor is dropped (a cost, not a loss) -/
theorem editor_never_adopts (cfg : Cfg) (c0 : Content) (t0 : Option FileC) (eacts : List EdAct) (e : EdWorld)
    (h : edRun cfg { w := init c0 t0, dirtyLevel := 0 } eacts = some e) (ha : ∀ a ∈ eacts, EnvOk a)
    (hrun : e.w.phase = .run) (hdl : 0 < e.dirtyLevel) : ∀ wr t, ¬ Adopts e.w wr t := by
  have hi : EdInv e := edInv_run (fun _ hdl => absurd hdl (Nat.lt_irrefl 0)) ha h
  intro wr t hA
  have := hi hrun hdl
  rw [hA.2.2.2] at this
  cases this

/-! ## non-vacuity -/

/-- the same schedule on the repaired `Drop`: close reaches `closed` and B is on disk -/
def f12Fixed : List Act :=
  [.update 0 1, .flush, .w, .w, .update 1 2, .flush, .close, .w, .w, .w, .w, .w, .w, .w, .d, .d, .d,
   .w, .w, .w, .w, .w, .w, .w, .w, .w, .d]

example : ∃ w, run { revive := false, joinFirst := true } (init (fun _ => none) none) f12Fixed = some w ∧
    w.phase = .closed ∧ valAt (w.fs .path) 1 = some (some 2) ∧ valAt (w.fs .path) 0 = some (some 1) :=
  ⟨_, rfl, rfl, rfl, rfl⟩

/-- `Adopts` is reachable: change, flush, the writer runs to completion, nothing changed meanwhile -/
example : ∃ w wr t, run { revive := true, joinFirst := true } (init (fun _ => none) none)
    [.update 0 1, .flush, .w, .w, .w, .w, .w, .w, .w, .w, .w] = some w ∧ Adopts w wr t :=
  ⟨_, _, _, rfl, rfl, rfl, rfl, rfl⟩

/-- a crash in the middle of the rewrite (temp file complete, not yet renamed) is reachable, and the
    path still holds the old contents there -/
example : ∃ w, run { revive := true, joinFirst := true } (init (setC (fun _ => none) 0 (some 7)) none)
    [.update 0 1, .flush, .w, .w, .w, .w, .w, .crash] = some w ∧ w.crashed = true ∧
    valAt (w.fs .path) 0 = some (some 7) ∧ valAt (w.fs .tmp) 0 = some (some 1) :=
  ⟨_, rfl, rfl, rfl, rfl⟩

/-- two lifetimes: the first dies with the temp file complete but not renamed (change A lost, which
    was never flushed to completion), the second opens the old file next to the leftover temp file,
    makes change B and closes normally: the file holds B and not A -/
example : ∃ c t, runSessions { revive := true, joinFirst := true } (fun _ => none) none
    [[.update 0 1, .flush, .w, .w, .w, .w, .w, .crash],
     [.update 1 2, .close, .d, .d, .d, .w, .w, .w, .w, .w, .w, .w, .w, .w, .d]] = some (c, t) ∧
    c 0 = none ∧ c 1 = some 2 :=
  ⟨_, _, rfl, rfl, rfl⟩

end Chewing.C10

/-! ## the SQLite back end (feature `sqlite`)

Stated over the relational step model `Chewing.Model.PersistSql`.  TRUSTED: SQLite's transaction
guarantee (a committed transaction survives process death, an uncommitted one leaves no trace; WAL,
`synchronous = NORMAL`).  Proved: what libchewing adds on top — one call = one transaction, so the
committed relations are at every moment, and after death at any statement boundary, exactly the calls
that have returned; no `flush` and no close is needed. -/

namespace Chewing.C10.Sql
open Chewing.PersistSql

/-- after ANY list of micro-steps (calls entered, statements run, commits, process death anywhere)
    what a new connection reads is exactly the effect of the calls that have returned, in order;
    these are all the calls entered except possibly the one that was in progress at death -/
theorem sql_prefix (r0 : Rel) (acts : List Act) (w : World) (h : run (init r0) acts = some w) :
    w.db = spec r0 w.returned ∧
    (w.entered = w.returned ∨ ∃ c, w.entered = w.returned ++ [c]) := by
  have hi := sinv_run (sinv_init r0) h
  refine ⟨hi.db, ?_⟩
  cases ht : w.tx with
  | some t => exact Or.inr ⟨t.call, (hi.open_ t ht).1⟩
  | none =>
    cases hc : w.crashed with
    | false => exact Or.inl (hi.idle ht hc)
    | true => exact hi.dead ht hc

/-- durable at once: when a call returns, its whole effect is in the committed relations -/
theorem sql_durable_on_return (r0 : Rel) (acts : List Act) (w w' : World) (t : Tx)
    (h : run (init r0) acts = some w) (ht : w.tx = some t) (hs : step w .commit = some w') :
    w'.db = applyCall w.db t.call ∧ w'.returned = w.returned ++ [t.call] := by
  have h0 := ((sinv_run (sinv_init r0) h).open_ t ht).2
  cases (step_some hs).2 with
  | commit ht' htd =>
    cases ht.symm.trans ht'
    rw [htd] at h0
    exact ⟨h0, rfl⟩

/-- process death loses the open transaction and nothing else -/
theorem sql_crash_keeps_committed (w w' : World) (hs : step w .crash = some w') :
    w'.db = w.db ∧ w'.returned = w.returned ∧ w'.tx = none := by
  cases (step_some hs).2
  exact ⟨rfl, rfl, rfl⟩

/-- `flush` (`wal_checkpoint`) and `reopen` change no relation -/
theorem sql_flush_reopen_noop (r : Rel) : applyCall r .flush = r ∧ applyCall r .reopen = r := ⟨rfl, rfl⟩

/-- what the calling code sees after an accepted change -/
theorem sql_change_shows (r : Rel) (k : Key) (f uf t : Nat) :
    (view (applyCall r (.add k f)) k = some (f, 0)) ∧
    (view (applyCall r (.remove k)) k = none) ∧
    (∃ v, view (applyCall r (.update k f uf t)) k = some v) := by
  refine ⟨?_, ?_, ?_⟩
  · simp [applyCall, plan, exec, view]
  · simp [applyCall, plan, exec, view]
  · simp only [applyCall, plan]
    split
    · next x id hd =>
      simp only [List.foldl, exec, view, hd]
      cases hu : r.user id with
      | none => exact ⟨(x, 0), by simp⟩
      | some p => exact ⟨(max x uf, p.2), by simp⟩
    · simp [exec, view]

/-- non-vacuity: an `update_phrase` of a new phrase dies between its two `INSERT`s: the first call's
    effect is there, nothing of the second -/
example : ∃ w, run (init { dict := fun _ => none, user := fun _ => none, maxId := 0 })
    [.call (.add 0 5), .stmt, .commit, .call (.update 1 1 9 7), .stmt, .crash] = some w ∧
    view w.db 0 = some (5, 0) ∧ view w.db 1 = none ∧ w.db.user 1 = none ∧ w.returned = [.add 0 5] :=
  ⟨_, rfl, rfl, rfl, rfl, rfl⟩

end Chewing.C10.Sql


/-! ## linked: C10's assumptions about dictionary contents, discharged by C09's theorems

`Proofs/DictLink.lean` runs C10's protocol over C09's **concrete** `TrieBuf` layers (`CWorld`,
`cstep`: the control skeleton of `Model/Persist.lean`, the data functions of `Model/TrieBuf.lean`) and
proves a forward simulation into the abstract model.  The three assumptions the abstract model makes
about contents become theorems here, each resting on the C09 theorem named:

* live = base overridden by pending minus tombstones — `live_is_abs_linked` (`TrieBuf.abs`, the map of
  `C09.triebuf_refines`);
* add / update / remove act on the layers as `Buf.add` / `Buf.put` / `Buf.remove`, `add_phrase` is
  rejected exactly on a live phrase — `changes_refine_linked` (C09's `btGet_btInsert`, `btGet_btErase`,
  `contains_graveErase/Insert`, `addOk_eq` = `C09.refines_step`);
* `entries()` collected into a `TrieBuilder` is the live contents — `snapshot_is_entries_linked`
  (`baseGet_build_of_entries` over `entries_agrees`, the `LInv`-level form of C09's snapshot lemma `build_abs`, in every
  state: since fix 22d24c7 `entries()` yields a key that is
  both persisted and pending once, with the pending value, so the written value is the map's whatever
  the order of `trie_iter.chain(btree_iter)` is — `snapshot_order_irrelevant`; before the fix the key was
  listed twice and the order was what made the written value right).

Files.  In `DictLink` a complete file is the `List Leaf` written (`Trie.build es` is "insert all, write,
open" in C09's model).  That this abstraction is faithful is a theorem: `C09.file_layer_is_C11`
(`Proofs/TrieLink.lean`) proves from C11's theorems that the bytes `TrieBuilder::write` produces for
`es` denote exactly `Trie.build es` under the real reader, and `Proofs/DictLinkBytes.lean` proves that
along every run every complete file is such a `Trie.build es` with `es` valid and within the size limits
(`Tracked`).  `durable_lookup_bytes_linked` below is the end-to-end statement with the file as **bytes**;
its explicit extra hypotheses are C11's: arguments of the Rust types (`CActValid`) and every snapshot
of the history within the format's limits (`SnapshotsOk … Fits`, as `C11.writes_within_limits`). -/

namespace Chewing.C10
open Chewing.Persist Chewing.DictLink

/-- C10's `Buf.live` of the abstraction of C09's layers is the encoding of the map C09's `TrieBuf`
    denotes -/
theorem live_is_abs_linked {s : TrieBuf.State} {b : Buf} (h : BufRel s b) : Rep (TrieBuf.abs s) b.live :=
  live_rep h

/-- every step of the protocol over C09's concrete operations (`TrieBuf.apply` for the three change
    calls, `Trie.build (TrieBuf.entries st)` for the snapshot) is the corresponding step of C10's
    abstract model with both repairs, and the abstraction relation is kept -/
theorem changes_refine_linked {cw cw' : CWorld} {w : World} {a : CAct} (hs : Sim cw w)
    (h : cstep cw a = some cw') : ∃ w', step cfgR w (encAct a) = some w' ∧ Sim cw' w' :=
  sim_step hs h

/-- the file the snapshot thread writes from C09's concrete `entries()` denotes exactly the live
    contents — in every state -/
theorem snapshot_is_entries_linked {s : TrieBuf.State} {b : Buf} (hl : LInv s) (h : BufRel s b) :
    Trie.SnapOk (Trie.build (TrieBuf.entries s)) ∧
      Rep (TrieBuf.baseGet (Trie.build (TrieBuf.entries s))) b.live :=
  build_rep hl h

/-- … and since fix 22d24c7 (F10) that does not hang on the order of `entries_iter`
    (`trie_iter.chain(btree_iter)`): `entries()` skips a persisted entry that has a pending entry of the same
    key, so on the state of C09's F10 witness (add 100, snapshot adopted, update to 50) both orders write
    the map's value 50.  Without that filter (the code before the fix) the swapped order writes the stale
    persisted value 100 — the seeded mutant `C08-entries-order-stale-freq`. -/
theorem snapshot_order_irrelevant :
    let s := TrieBuf.run TrieBuf.initFile
      [.add [10268] [28204] 100 (some 2), .flush, .reopen, .update [10268] [28204] 50 7]
    let live := fun e : Entry => !(s.grave.contains (e.1, e.2.text))
    let swapped := (TrieBuf.btEntries s.btree ++
      (Trie.entries s.snap).filter (fun e => !(TrieBuf.btHas s.btree (e.1, e.2.text)))).filter live
    let swappedUnfiltered := (TrieBuf.btEntries s.btree ++ Trie.entries s.snap).filter live
    TrieBuf.abs s ([10268], [28204]) = some (50, 7) ∧
    TrieBuf.baseGet (Trie.build (TrieBuf.entries s)) ([10268], [28204]) = some (50, 7) ∧
    TrieBuf.baseGet (Trie.build swapped) ([10268], [28204]) = some (50, 7) ∧
    TrieBuf.baseGet (Trie.build swappedUnfiltered) ([10268], [28204]) = some (100, 2) := by
  decide

/-- **END TO END, in C09's terms.**  A file-backed user dictionary is opened on a well-formed trie
    file `t0`; any history of `add_phrase` / `update_phrase` / `remove_phrase` (C09's concrete
    operations on the concrete layers), `flush`, `reopen`, under **every** schedule of the snapshot
    writer, over any number of close / open cycles, ends with the dictionary closed.  Then the file
    at the path is a well-formed trie file `t` which holds exactly the map `MapSpec` computes from
    the calls made (`opsOf acts`: rejected `add`s change nothing), and a `TrieBuf` opened on it
    answers every exact lookup, the enumeration and every prefix lookup as that map — no exclusion. -/
theorem durable_lookup_linked (t0 : List Leaf) (h0 : Trie.SnapOk t0) (tmp : Option CFile) (htmp : TmpOk tmp)
    (acts : List CAct) (cw : CWorld)
    (hrun : crun (cinit t0 tmp) acts = some cw) (hcl : cw.phase = .closed) :
    ∃ t, cw.fs .path = some (.complete t) ∧ Trie.SnapOk t ∧
      (∀ pk, TrieBuf.baseGet t pk = MapSpec.Map.run (TrieBuf.baseGet t0) (opsOf acts) pk) ∧
      TrieBuf.abs (freshSt t) = MapSpec.Map.run (TrieBuf.baseGet t0) (opsOf acts) ∧
      (∀ k, MapSpec.IsLookup (MapSpec.Map.run (TrieBuf.baseGet t0) (opsOf acts)) k
        (TrieBuf.lookupAll (freshSt t) k .standard)) ∧
      MapSpec.IsEntries (MapSpec.Map.run (TrieBuf.baseGet t0) (opsOf acts)) (TrieBuf.entries (freshSt t)) ∧
      (∀ q,
        MapSpec.IsFuzzyLookup Trie.fuzzyMatch (MapSpec.Map.run (TrieBuf.baseGet t0) (opsOf acts)) q
          (TrieBuf.lookupAll (freshSt t) q .fuzzyPartialPrefix)) := by
  obtain ⟨w, hr, hs⟩ := sim_run (sim_init h0 htmp) hrun
  have hd := durable_spec cfgR rfl rfl _ _ _ w hr (hs.phase ▸ hcl)
  have hp := hs.fs .path
  rw [hd] at hp
  cases hcf : cw.fs .path with
  | none => rw [hcf] at hp; exact hp.elim
  | some f =>
    rw [hcf] at hp
    cases f with
    | partial_ => exact hp.elim
    | complete t =>
      have ht : TRel t _ := hp
      have heq : ∀ pk, TrieBuf.baseGet t pk = MapSpec.Map.run (TrieBuf.baseGet t0) (opsOf acts) pk :=
        rep_unique ht.2 (rep_spec (rep_absC _) acts)
      have habs : TrieBuf.abs (freshSt t) = MapSpec.Map.run (TrieBuf.baseGet t0) (opsOf acts) :=
        (abs_freshSt t).trans (funext heq)
      have hi := inv_freshSt ht.1
      refine ⟨t, rfl, ht.1, heq, habs, ?_⟩
      rw [← habs]
      exact ⟨TrieBuf.lookup_agrees hi, TrieBuf.entries_agrees hi.linv, TrieBuf.fuzzy_agrees hi⟩

/-- non-vacuity of `durable_lookup_linked`: learn 測 under ㄘㄜˋ, update it while the first snapshot
    is being written, drop the dictionary: the run exists, ends closed, and the file holds the
    updated entry -/
example : ∃ cw, crun (cinit [] none)
    [.add [10268] [28204] 5 none, .flush, .w, .w, .update [10268] [28204] 9 7, .close,
     .w, .w, .w, .w, .w, .w, .w, .d, .d, .d, .w, .w, .w, .w, .w, .w, .w, .w, .w, .d] = some cw ∧
    cw.phase = .closed ∧ creadPath cw.fs = some [([10268], [{ text := [28204], freq := 9, lastUsed := some 7 }])] :=
  ⟨_, rfl, rfl, rfl⟩

/-! ### the same with the file as bytes (C11 under C09 under C10) -/

theorem isEntries_perm {m : MapSpec.Map} {l1 l2 : List Entry} (hp : l1.Perm l2) (h : MapSpec.IsEntries m l2) :
    MapSpec.IsEntries m l1 := by
  refine ⟨(hp.map _).nodup_iff.mpr h.1, fun e he => h.2.1 e (hp.mem_iff.mp he), ?_⟩
  intro k t v hm
  obtain ⟨e, he, h1, h2⟩ := h.2.2 k t v hm
  exact ⟨e, hp.mem_iff.mpr he, h1, h2⟩

theorem lookupAll_freshSt (t : List Leaf) (k : List Nat) (st : Strategy) :
    TrieBuf.lookupAll (freshSt t) k st = dedup (Trie.lookupAll t k st) := by
  have h : ∀ l : List Phrase, l.filter (fun _ => true) = l := fun l => List.filter_eq_self.mpr (fun _ _ => rfl)
  cases st with
  | standard =>
    simp [TrieBuf.lookupAll, TrieBuf.entriesIterFor, freshSt, TrieBuf.initFile, TrieBuf.initMem, TrieBuf.btreeRange,
      TrieBuf.btHas, h]
  | fuzzyPartialPrefix =>
    -- since fix c3d9fb2 the prefix lookup goes through `entries()`; nothing is pending in a fresh state
    rw [← TrieBuf.trie_entries_fuzzy]
    simp [TrieBuf.lookupAll, TrieBuf.entriesIterFor, TrieBuf.entries, freshSt, TrieBuf.initFile, TrieBuf.initMem,
      TrieBuf.btEntries, TrieBuf.btHas]

theorem entries_freshSt (t : List Leaf) : TrieBuf.entries (freshSt t) = Trie.entries t := by
  simp [TrieBuf.entries, freshSt, TrieBuf.initFile, TrieBuf.initMem, TrieBuf.btEntries, TrieBuf.btHas]

/-- the size limits of the trie format (C11's `Builder.Fits`) for a file with metadata `info` -/
def FitsInfo (info : TrieCodec.Info) (es : List Entry) : Prop := (TrieCodec.Builder.ofEntries info es).Fits

/-- **END TO END, with the file as bytes.**  The user dictionary is opened on the file written from
    the valid entries `es0`; the history makes `add_phrase` / `update_phrase` calls with arguments of the
    Rust types (`CActValid`), `remove_phrase`, `flush`,
    `reopen`, under **every** schedule of the snapshot writer, over any number of close / open cycles;
    every snapshot the history can take is within the limits of the trie format (`SnapshotsOk`: the
    hypothesis of `C11.writes_within_limits`, under which `TrieBuilder::write` does not fail); at the end
    the dictionary is closed.  Then the file at the path is `TrieBuilder::write` of a list `es` of valid
    entries: the **bytes** exist, `Trie::new` opens them with the metadata written, and the real
    reader (C11's byte-level `lookup_all_phrases`, `lookup_first_n_phrases`, `entries`)
    * answers every exact lookup of a key of non-zero syllables as the map `MapSpec` computes from the
      calls made, `lookup_first_n_phrases` being its first `n`;
    * enumerates exactly that map, each (syllables, phrase) once;
    * is what a `TrieBuf` opened on the file reads through: its lookups (both strategies) are the
      de-duplicated byte-level lookups, so its prefix lookups are that map's too. -/
theorem durable_lookup_bytes_linked (info : TrieCodec.Info) (hinfo : TrieCodec.ValidInfo info)
    (es0 : List Entry) (hv0 : ∀ e ∈ es0, TrieCodec.ValidEntry e) (hfit0 : FitsInfo info es0)
    (tmp : Option CFile) (htmp : TmpWritten (FitsInfo info) tmp)
    (acts : List CAct) (hval : ∀ a ∈ acts, CActValid a)
    (hfit : SnapshotsOk (FitsInfo info) (cinit (Trie.build es0) tmp) acts)
    (cw : CWorld) (hrun : crun (cinit (Trie.build es0) tmp) acts = some cw) (hcl : cw.phase = .closed) :
    ∃ es bytes tr, cw.fs .path = some (.complete (Trie.build es)) ∧ (∀ e ∈ es, TrieCodec.ValidEntry e) ∧
      (TrieCodec.Builder.ofEntries info es).write = some bytes ∧
      TrieCodec.openTrie bytes = some tr ∧ TrieCodec.about tr = info ∧
      TrieLink.Denotes bytes (Trie.build es) ∧
      (∀ k, C11.ValidKey k → MapSpec.IsLookup (MapSpec.Map.run (TrieBuf.baseGet (Trie.build es0)) (opsOf acts)) k
        (TrieCodec.lookupAll tr k .standard)) ∧
      (∀ k n st, C11.ValidKey k → TrieCodec.lookupFirstN tr k n st = (TrieCodec.lookupAll tr k st).take n) ∧
      (∃ ents, TrieCodec.entries tr = .ok ents ∧
        MapSpec.IsEntries (MapSpec.Map.run (TrieBuf.baseGet (Trie.build es0)) (opsOf acts)) ents) ∧
      (∀ k st, C11.ValidKey k →
        TrieBuf.lookupAll (freshSt (Trie.build es)) k st = dedup (TrieCodec.lookupAll tr k st)) ∧
      (∀ q, C11.ValidKey q →
        MapSpec.IsFuzzyLookup Trie.fuzzyMatch (MapSpec.Map.run (TrieBuf.baseGet (Trie.build es0)) (opsOf acts)) q
          (dedup (TrieCodec.lookupAll tr q .fuzzyPartialPrefix))) := by
  have h0 : Written (FitsInfo info) (Trie.build es0) := ⟨es0, hv0, hfit0, rfl⟩
  obtain ⟨t, hpath, hsnap, heq, habs, _, hent, hfz⟩ :=
    durable_lookup_linked (Trie.build es0) h0.snapOk tmp htmp.ok acts cw hrun hcl
  have htr := tracked_run (tracked_init h0 htmp) hval hfit hrun
  obtain ⟨es, hv, hf, rfl⟩ := htr.files .path t hpath
  have hvi : C11.ValidInput info es := ⟨hinfo, hv⟩
  obtain ⟨bytes, hw, hden⟩ := TrieLink.build_denotes_fits info es hvi hf
  obtain ⟨tr, hopen, hlook, hfirst, _, ents, hents, hperm, _⟩ := hden.reads
  obtain ⟨tr', hopen', habout⟩ := C11.info_roundtrip info es hvi bytes hw
  have etr : tr' = tr := Option.some.inj (hopen'.symm.trans hopen)
  rw [etr] at habout
  have hmap : MapSpec.Map.run (TrieBuf.baseGet (Trie.build es0)) (opsOf acts) = TrieBuf.baseGet (Trie.build es) := by
    funext pk; exact (heq pk).symm
  refine ⟨es, bytes, tr, hpath, hv, hw, hopen, habout, hden, ?_, ?_, ⟨ents, hents, ?_⟩, ?_, ?_⟩
  · intro k hk
    rw [hlook k .standard hk, hmap]
    exact isLookup_baseGet hsnap k
  · intro k n st hk
    rw [hfirst k n st hk, hlook k st hk, Trie.lookupFirstN_eq_take]
  · rw [entries_freshSt] at hent
    exact isEntries_perm hperm hent
  · intro k st hk
    rw [lookupAll_freshSt, hlook k st hk]
  · intro q hq
    have := hfz q
    rw [lookupAll_freshSt, ← hlook q .fuzzyPartialPrefix hq] at this
    exact this

/-- the size limits hold for the empty file and for the one-entry file of the example -/
theorem fitsInfo_empty : FitsInfo {} [] := by
  refine ⟨?_, ?_⟩
  · show TrieCodec.Item.Fits (.node 0 none .nil)
    exact ⟨(fun ps h => by cases h), (by decide), trivial⟩
  intro recs data h
  have hb : (TrieCodec.Builder.ofEntries {} []).buffers = some ([(1, 0, 0)], []) := by decide
  rw [hb] at h
  cases h
  decide

theorem fitsInfo_one : FitsInfo {} [([10268], { text := [28204], freq := 5, lastUsed := some 0 })] := by
  refine ⟨?_, ?_⟩
  · show TrieCodec.Item.Fits (.node 0 none (.cons 10268 (some [{ text := [28204], freq := 5, lastUsed := some 0 }]) .nil .nil))
    refine ⟨(fun ps h => by cases h), (by decide), ⟨?_, (by decide), trivial, trivial⟩⟩
    intro ps h
    cases h
    decide
  intro recs data h
  have hb : (TrieCodec.Builder.ofEntries {} [([10268], { text := [28204], freq := 5, lastUsed := some 0 })]).buffers =
      some ([(1, 1, 0), (2, 1, 10268), (0, 13, 0)], [48, 11, 12, 3, 230, 184, 172, 2, 1, 5, 128, 1, 0]) := by decide
  rw [hb] at h
  cases h
  decide

/-- non-vacuity of `durable_lookup_bytes_linked`: learn 測 under ㄘㄜˋ on a fresh dictionary and drop it — the
    run exists, ends closed, and every snapshot along it fits the format -/
example : ∃ cw, crun (cinit (Trie.build []) none)
      [.add [10268] [28204] 5 none, .close, .d, .d, .d, .w, .w, .w, .w, .w, .w, .w, .w, .w, .d] = some cw ∧
    cw.phase = .closed ∧
    SnapshotsOk (FitsInfo {}) (cinit (Trie.build []) none)
      [.add [10268] [28204] 5 none, .close, .d, .d, .d, .w, .w, .w, .w, .w, .w, .w, .w, .w, .d] := by
  refine ⟨_, rfl, rfl, ?_⟩
  refine snapshotsOk_cons fitsInfo_empty _ rfl ?_
  iterate 14 refine snapshotsOk_cons fitsInfo_one _ rfl ?_
  exact snapshotsOk_nil fitsInfo_one

/-- non-vacuity of the hypotheses of `durable_lookup_bytes_linked`: the calls of the example run above
    have arguments of the Rust types -/
example : ∀ a ∈ ([.add [10268] [28204] 5 none, .update [10268] [28204] 9 7, .flush, .close] : List CAct), CActValid a := by
  intro a ha
  simp only [List.mem_cons, List.not_mem_nil, or_false] at ha
  rcases ha with rfl | rfl | rfl | rfl
  · exact ⟨⟨by decide, by decide⟩, by decide, by decide⟩
  · exact ⟨⟨by decide, by decide⟩, by decide, by decide⟩
  · trivial
  · trivial

end Chewing.C10
