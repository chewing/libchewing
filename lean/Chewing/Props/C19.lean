import Chewing.Proofs.Loader
import Chewing.Proofs.UhashAscii
import Chewing.Proofs.UhashBin
import Chewing.Proofs.UhashText
import Chewing.Proofs.SqliteV1
/-!
# C19 — Legacy user data is migrated completely, exactly once, and never destroyed

Model: `Model/Loader.lean` (`UserDictionaryLoader::load` over the abstract user directory
`{chewing.dat?, uhash.dat?, chewing.sqlite3?}`) with the legacy readers of `Model/Uhash.lean`.
The new user dictionary is a key-sorted map `(syllables, phrase) ↦ (user frequency, time)`; that
closing it stores this map in `chewing.dat` and re-opening yields it back is C10/C11's subject
(observed on every correspondence record here).

* "every valid record of the legacy store is present … with the same phrase, syllables and user
  frequency": `bin_reader_complete`, `migrate_bin_complete` (the binary encoding of ANY store of valid records, with deleted
  and negative records interspersed and any lifetime, reads back exactly its live records) and
  `migrate_complete` (every record the reader yields is in the new dictionary under its key with
  its frequency and time); `migrate_exact` (nothing else is).  The TEXT format likewise:
  `text_reader_complete`, `migrate_text_complete` (the text file written for ANY store of `GRec.TextValid`
  records — the grammar of `tests/data/golden-uhash-text.dat` — with any `i64` lifetime reads back exactly
  its live records, also with `\r\n` line ends and trailing blanks: `text_reader_complete_crlf_pad`), on top of
  the decimal print/parse round trip `decimal_roundtrip` / `decimal_signed_roundtrip`; what the text format
  cannot express is shown by `text_reader_complete_full_refuted`, `text_separator_refuted`,
  `text_charcount_refuted`, `text_negative_field_rejected`.
* "the legacy store still holds all its records": `legacy_untouched`.
* "creating the context again neither duplicates nor alters entries": `second_start_same`.
* "phrases learned afterwards are kept alongside the migrated ones": `learn_then_restart_keeps_both`.
* the older SQLite schema (`userphrase_v1`, written by the C library): `sqlite_v1_row_complete`,
  `sqlite_v1_rows_complete`, `sqlite_v1_first_start` over the relational model `Model/SqliteV1.lean`
  (its column lists, loop range and types come from the source through `Gen/SqliteV1.lean`).
* F26 (repaired by a `fix:` commit): `lifetime_any`, with the pre-fix behaviour as `lifetime_orig_rejects`.
-/
namespace Chewing.C19
open Chewing.Uhash Chewing.Loader

deriving instance DecidableEq for Except

/-- what a first start over a directory with only a hash file does: everything the reader yields
    goes through `update_phrase` into a fresh dictionary, which is then stored -/
theorem first_start {b : List Nat} {rs : List Uhash.Rec} (feat : Bool) (sq : Option (Option (List Uhash.Rec)))
    (hsq : feat = false ∨ sq = none) (h : loadUhash b = .ok (.ok rs)) :
    load feat { chewingDat := none, uhashDat := some b, sqlite := sq } =
      .ok { dict := .ok (importRecs [] rs),
            dir := { chewingDat := some (.valid (importRecs [] rs)), uhashDat := some b, sqlite := sq } } := by
  unfold load
  rcases hsq with rfl | rfl <;> simp [h]

/-- `migrate_complete`: records with pairwise distinct keys (what a legacy store holds — it is a
    hash table keyed by syllables+phrase) are ALL present with their frequency and time -/
theorem migrate_complete {rs : List Uhash.Rec} (hd : rs.Pairwise (fun a b => keyOf a ≠ keyOf b)) :
    ∀ r ∈ rs, find? (importRecs [] rs) (keyOf r) = some (valOf r) := by
  intro r hr
  rw [find_importRecs]
  exact lastVal_of_pairwise rs _ hd r hr

/-- without the distinctness assumption: the LAST record of a key wins (as `update_phrase` does) -/
theorem migrate_last_wins (rs : List Uhash.Rec) (k : Key) :
    find? (importRecs [] rs) k = lastVal k rs none := find_importRecs k rs []

/-- `migrate_exact`: nothing but imported records is in the new dictionary — no duplicates with
    altered values, no invented entries -/
theorem migrate_exact (rs : List Uhash.Rec) (e : Key × Val) (h : e ∈ importRecs [] rs) :
    ∃ r ∈ rs, e = (keyOf r, valOf r) := by
  rcases mem_importRecs rs [] e h with h | h
  · cases h
  · exact h

/-- whatever a start returns: the legacy files are as before, and a dictionary it produced is what the directory
    now holds as its current-format file -/
theorem load_ok {feat : Bool} {d : UserDir} {l : Loaded} (h : load feat d = .ok l) :
    (l.dir.uhashDat = d.uhashDat ∧ l.dir.sqlite = d.sqlite) ∧
      ∀ m, l.dict = .ok m → l.dir.chewingDat = some (.valid m) := by
  obtain ⟨_, _, h', hm⟩ := load_spec feat d
  cases h.symm.trans h'
  exact ⟨⟨rfl, rfl⟩, hm⟩

/-- the loader never changes the legacy files, whatever they contain and whatever happens -/
theorem legacy_untouched (feat : Bool) (d : UserDir) (l : Loaded) (h : load feat d = .ok l) :
    l.dir.uhashDat = d.uhashDat ∧ l.dir.sqlite = d.sqlite := (load_ok h).1

/-- after any start that produced a dictionary, the directory holds a current-format file with exactly that
    dictionary, so a second start takes the "current file present" branch: same dictionary, same directory,
    the legacy store is not even read (`second_start_same` = idempotence) -/
theorem second_start_same (feat feat' : Bool) (d : UserDir) (l : Loaded) (m : UMap) (h : load feat d = .ok l)
    (hm : l.dict = .ok m) : load feat' l.dir = .ok { dict := .ok m, dir := l.dir } := by
  unfold load
  rw [(load_ok h).2 m hm]

/-- a second start does not depend on the legacy file: even if it was changed or removed
    in between, the migrated entries stay -/
theorem second_start_ignores_legacy (feat : Bool) (m : UMap) (u : Option (List Nat)) (s : Option (Option (List Uhash.Rec))) :
    load feat { chewingDat := some (.valid m), uhashDat := u, sqlite := s } =
      .ok { dict := .ok m, dir := { chewingDat := some (.valid m), uhashDat := u, sqlite := s } } := rfl

/-- a phrase learned after the migration coexists with every migrated record of another key, and
    both survive the restart -/
theorem learn_then_restart_keeps_both (feat : Bool) (d : UserDir) (m : UMap) (k : Key) (v : Val) :
    ∃ m', load feat (learnAndClose d m k v) = .ok { dict := .ok m', dir := learnAndClose d m k v } ∧
      find? m' k = some v ∧ ∀ k', k' ≠ k → find? m' k' = find? m k' := by
  refine ⟨insert m k v, rfl, ?_, fun k' hne => ?_⟩
  · rw [find_insert, if_pos rfl]
  · rw [find_insert, if_neg (Ne.symm hne)]

/-- `bin_reader_complete`: the binary reader reads back exactly the live records of ANY store of
    valid records (1..11 non-zero syllables, non-empty UTF-8 phrase that fits the record, 32-bit
    fields), removed and negative records interspersed, any lifetime (`Proofs/UhashBin.lean`) -/
theorem bin_reader_complete (lifetime : List Nat) (hl : lifetime.length = 4) (rs : List GRec)
    (hv : ∀ g ∈ rs, g.Valid) : loadUhash (encodeBin lifetime rs) = .ok (.ok (liveRecs rs)) := by
  unfold loadUhash
  rw [loadBin_encodeBin lifetime hl rs hv]

/-- the whole first start over a binary legacy store: the legacy file is untouched, the new
    dictionary is stored, every live record is in it with its frequency and time, and nothing else -/
theorem migrate_bin_complete (lifetime : List Nat) (hl : lifetime.length = 4) (rs : List GRec)
    (hv : ∀ g ∈ rs, g.Valid) (hd : (liveRecs rs).Pairwise (fun a b => keyOf a ≠ keyOf b)) :
    ∃ l, load false { chewingDat := none, uhashDat := some (encodeBin lifetime rs), sqlite := none } = .ok l ∧
      l.dir.uhashDat = some (encodeBin lifetime rs) ∧
      ∃ m, l.dict = .ok m ∧ l.dir.chewingDat = some (.valid m) ∧
        (∀ r ∈ liveRecs rs, find? m (keyOf r) = some (valOf r)) ∧
        (∀ e ∈ m, ∃ r ∈ liveRecs rs, e = (keyOf r, valOf r)) :=
  ⟨_, first_start false none (Or.inl rfl) (bin_reader_complete lifetime hl rs hv), rfl, _, rfl, rfl,
    migrate_complete hd, migrate_exact _⟩

/-- F26 repaired: the header line of a text store may hold any non-negative 63-bit lifetime -/
theorem lifetime_any (ds : List Nat) (hne : ds ≠ []) (hd : ∀ d ∈ ds, isDigit d = true)
    (hv : digitsVal ds ≤ 2 ^ 63 - 1) : lifetimeOk ds = true := by
  unfold lifetimeOk
  rw [validUtf8_of_ascii ds fun d hd' => Nat.lt_of_le_of_lt (isDigit_iff.mp (hd d hd')).2 (by decide),
    parseI64Ok_digits ds hne hd, decide_eq_true hv]
  rfl

/-- "70000\n策試 10268 8708 9 7 9 1\n": rejected as a whole before the fix (nothing migrated, an
    empty `chewing.dat` created, the legacy file never read again), imported after it -/
def f26File : List Nat :=
  [55, 48, 48, 48, 48, 10, 0xE7, 0xAD, 0x96, 0xE8, 0xA9, 0xA6, 32, 49, 48, 50, 54, 56, 32, 56, 55, 48, 56, 32,
   57, 32, 55, 32, 57, 32, 49, 10]

theorem lifetime_orig_rejects : loadUhashOrig f26File = .ok (.error ()) := by decide +kernel

theorem lifetime_fixed_accepts :
    loadUhash f26File = .ok (.ok [{ syls := [10268, 8708], phrase := [0xE7, 0xAD, 0x96, 0xE8, 0xA9, 0xA6], freq := 9, time := 7 }]) := by
  decide +kernel

/-! ## The text format: the reader accepts what the legacy engine wrote

Writer model `Model/UhashTextEnc.lean` (`encodeText` = byte for byte what the harness generator `enc_text` writes =
the grammar of the fixture `tests/data/golden-uhash-text.dat`; compared with it on every generated text store by the
`loader enctext` records), proofs `Proofs/UhashDecimal.lean`, `Proofs/UhashText.lean`. -/

/-- the `i64` range as the hypothesis on the header number -/
def I64 (z : Int) : Prop := -9223372036854775808 ≤ z ∧ z < 9223372036854775808

/-- `decimal_roundtrip`: `str::parse::<uN>` ∘ `format!("{}")` — the decimal image of `n` (ASCII digits, non-empty, no
    leading zero) parses to `n` iff `n` fits the type (both directions) -/
theorem decimal_roundtrip (max n : Nat) :
    parseUnsigned max (natToDigits n) = (if n ≤ max then some n else none) ∧
    digitsVal (natToDigits n) = n ∧ (natToDigits n).all isDigit = true ∧ natToDigits n ≠ [] ∧
    (1 ≤ n → (natToDigits n).head? ≠ some 48) :=
  ⟨parseUnsigned_natToDigits max n, digitsVal_natToDigits n, natToDigits_all n, natToDigits_ne_nil n,
    natToDigits_no_leading_zero n⟩

/-- the signed header: the printed lifetime is accepted iff it is an `i64` (both directions) -/
theorem decimal_signed_roundtrip (z : Int) : lifetimeOk (intToDigits z) = true ↔ I64 z :=
  lifetimeOk_intToDigits_iff z

/-- what ELSE the number parser accepts (never written): leading zeros, a leading `+`; never a `-` in a field -/
theorem decimal_reader_tolerates (max n : Nat) (r : List Nat) :
    parseUnsigned max (48 :: natToDigits n) = (if n ≤ max then some n else none) ∧
    parseUnsigned max (43 :: natToDigits n) = (if n ≤ max then some n else none) ∧
    parseUnsigned max (45 :: r) = none :=
  ⟨parseUnsigned_leading_zero max n, parseUnsigned_plus max n, parseUnsigned_minus max r⟩

/-- the header is not trimmed: a blank before or after the number rejects the file (a `\r` before the `\n` is
    dropped by `lines`: `text_reader_complete_crlf_pad`) -/
theorem text_header_blank_rejected (n : Nat) :
    lifetimeOk (32 :: natToDigits n) = false ∧ lifetimeOk (natToDigits n ++ [32]) = false :=
  ⟨lifetimeOk_leading_blank n, lifetimeOk_trailing_blank n⟩

/-- `text_reader_complete`: the text file of ANY store of text-valid records (1..11 syllable codes, valid UTF-8
    phrase with one character per syllable and no ASCII white space, 32-bit fields), removed and negative records
    interspersed (not written), any `i64` lifetime, is read back as exactly its live records, in order -/
theorem text_reader_complete (lifetime : Int) (hl : I64 lifetime) (rs : List GRec) (hv : ∀ g ∈ rs, g.TextValid) :
    loadUhash (encodeText lifetime rs) = .ok (.ok (liveRecs rs)) :=
  loadUhash_encodeText lifetime hl rs hv

/-- the same for `\r\n` line ends (also after the header) and any number of trailing blanks after record lines -/
theorem text_reader_complete_crlf_pad (crlf : Bool) (pad : Nat) (lifetime : Int) (hl : I64 lifetime) (rs : List GRec)
    (hv : ∀ g ∈ rs, g.TextValid) : loadUhash (encodeTextWith crlf pad lifetime rs) = .ok (.ok (liveRecs rs)) :=
  loadUhash_encodeTextWith crlf pad lifetime hl rs hv

/-- a header outside `i64` rejects the whole file (nothing migrates) — the exact converse for the lifetime -/
theorem text_lifetime_out_of_range_rejected (lifetime : Int) (hl : ¬ I64 lifetime) (rs : List GRec)
    (hv : ∀ g ∈ rs, g.TextValid) : loadUhash (encodeText lifetime rs) = .ok (.error ()) :=
  loadUhash_encodeText_lifetime lifetime hl rs hv

/-- the whole first start over a text legacy store (mirror of `migrate_bin_complete`): the legacy file is untouched,
    the new dictionary is stored, every live record is in it with its frequency and time, and nothing else -/
theorem migrate_text_complete (lifetime : Int) (hl : I64 lifetime) (rs : List GRec)
    (hv : ∀ g ∈ rs, g.TextValid) (hd : (liveRecs rs).Pairwise (fun a b => keyOf a ≠ keyOf b)) :
    ∃ l, load false { chewingDat := none, uhashDat := some (encodeText lifetime rs), sqlite := none } = .ok l ∧
      l.dir.uhashDat = some (encodeText lifetime rs) ∧
      ∃ m, l.dict = .ok m ∧ l.dir.chewingDat = some (.valid m) ∧
        (∀ r ∈ liveRecs rs, find? m (keyOf r) = some (valOf r)) ∧
        (∀ e ∈ m, ∃ r ∈ liveRecs rs, e = (keyOf r, valOf r)) :=
  ⟨_, first_start false none (Or.inl rfl) (text_reader_complete lifetime hl rs hv), rfl, _, rfl, rfl,
    migrate_complete hd, migrate_exact _⟩

/-! ### what the text format cannot express (the class `TextValid` excludes) -/

/-- the FULL statement — over every record the BINARY format can hold — … -/
def TextReaderCompleteFull : Prop :=
  ∀ (lifetime : Int) (rs : List GRec), I64 lifetime → (∀ g ∈ rs, g.Valid) →
    loadUhash (encodeText lifetime rs) = .ok (.ok (liveRecs rs))

/-- a binary-valid record whose phrase contains a blank: "a b", three syllables -/
def sepRec : GRec := ⟨[10268, 8708, 10268], [97, 32, 98], [9, 7, 9, 1], false⟩
/-- a binary-valid record with fewer characters than syllables: "策", two syllables -/
def ccRec : GRec := ⟨[10268, 8708], [0xE7, 0xAD, 0x96], [9, 7, 9, 1], false⟩

/-- `text_separator_refuted`: the blank splits the phrase column ("a", then "b" where a syllable number is
    expected): the line is malformed and the WHOLE file is rejected -/
theorem text_separator_refuted :
    sepRec.Valid ∧ sepRec.live = true ∧ ¬ sepRec.TextValid ∧
    loadUhash (encodeText 0 [sepRec]) = .ok (.error ()) ∧
    loadUhash (encodeText 0 [sepRec]) ≠ .ok (.ok (liveRecs [sepRec])) := by decide +kernel

/-- `text_charcount_refuted`: the reader takes as many syllable columns as the phrase has characters — here one —
    so "策 10268 8708 9 7 9 1" is read as a DIFFERENT record: key [10268], frequency 8708, time 9 -/
theorem text_charcount_refuted :
    ccRec.Valid ∧ ccRec.live = true ∧ ¬ ccRec.TextValid ∧
    loadUhash (encodeText 0 [ccRec]) =
      .ok (.ok [{ syls := [10268], phrase := [0xE7, 0xAD, 0x96], freq := 8708, time := 9 }]) ∧
    loadUhash (encodeText 0 [ccRec]) ≠ .ok (.ok (liveRecs [ccRec])) := by decide +kernel

/-- … is false; `text_reader_complete` is its `_partial` with the exact class `TextValid` -/
theorem text_reader_complete_full_refuted : ¬ TextReaderCompleteFull := fun h =>
  text_separator_refuted.2.2.2.2 (h 0 [sepRec] (by unfold I64; omega) (fun g hg => by
    rw [List.mem_singleton.mp hg]; exact text_separator_refuted.1))

/-- "0\n策試 10268 8708 -1 7 9 1\n": a negative field as the legacy `%d` would print it -/
def negFile : List Nat :=
  [48, 10, 0xE7, 0xAD, 0x96, 0xE8, 0xA9, 0xA6, 32, 49, 48, 50, 54, 56, 32, 56, 55, 48, 56, 32, 45, 49, 32, 55, 32, 57, 32, 49, 10]

/-- `text_negative_field_rejected`: the text format has no negative fields — such a line rejects the whole file, the
    first start creates an empty dictionary and nothing migrates (also not the other, well-formed lines) -/
theorem text_negative_field_rejected :
    loadUhash negFile = .ok (.error ()) ∧
    load false { chewingDat := none, uhashDat := some negFile, sqlite := none } =
      .ok { dict := .ok [], dir := { chewingDat := some (.valid []), uhashDat := some negFile, sqlite := none } } := by
  have h : loadUhash negFile = .ok (.error ()) := by decide +kernel
  refine ⟨h, ?_⟩
  unfold load
  simp [h]

/-! ### non-vacuity of the text theorems -/

/-- the record of the repository fixture `tests/data/golden-uhash-text.dat` -/
def textGolden : GRec := ⟨[10268, 8708], [0xE7, 0xAD, 0x96, 0xE8, 0xA9, 0xA6], [9999, 6, 9999, 9231], false⟩

/-- `encodeText` reproduces the fixture byte for byte (its 37 bytes: "6\n策試 10268 8708 9999 6 9999 9231\n") -/
theorem text_golden_bytes : encodeText 6 [textGolden] =
    [54, 10, 231, 173, 150, 232, 169, 166, 32, 49, 48, 50, 54, 56, 32, 56, 55, 48, 56, 32, 57, 57, 57, 57, 32, 54, 32,
     57, 57, 57, 57, 32, 57, 50, 51, 49, 10] := by decide +kernel

example : textGolden.TextValid := by decide +kernel
example : I64 6 ∧ I64 (-9223372036854775808) ∧ I64 9223372036854775807 ∧ ¬ I64 9223372036854775808 := by
  unfold I64; omega
example : loadUhash (encodeText 6 [textGolden]) =
    .ok (.ok [{ syls := [10268, 8708], phrase := [0xE7, 0xAD, 0x96, 0xE8, 0xA9, 0xA6], freq := 9999, time := 6 }]) :=
  text_reader_complete 6 (by unfold I64; omega) [textGolden] (fun g hg => by rw [List.mem_singleton.mp hg]; decide +kernel)

/-- an 11-syllable record (ten 3-byte characters and a 2-byte one), maximal frequency -/
def textEleven : GRec :=
  ⟨[10268, 8708, 10268, 8708, 10268, 8708, 10268, 8708, 10268, 8708, 10268],
   [0xE7, 0xAD, 0x96, 0xE8, 0xA9, 0xA6, 0xE7, 0xAD, 0x96, 0xE8, 0xA9, 0xA6, 0xE7, 0xAD, 0x96, 0xE8, 0xA9, 0xA6,
    0xE7, 0xAD, 0x96, 0xE8, 0xA9, 0xA6, 0xE7, 0xAD, 0x96, 0xE8, 0xA9, 0xA6, 0xC3, 0xA9],
   [2147483647, 0, 5, 100000], false⟩

example : textEleven.TextValid ∧ textEleven.live = true := by decide +kernel
/-- a store with a removed and a negative record in between: they are not written, the others migrate -/
example : liveRecs [textEleven, ⟨[10268], [0xE7, 0xAD, 0x96], [3, 4, 3, 0], true⟩,
    ⟨[8708], [0xE8, 0xA9, 0xA6], [3, 4294967295, 3, 0], false⟩, textGolden] = [textEleven.toRec, textGolden.toRec] := by
  decide +kernel
example : (liveRecs [textEleven, textGolden]).Pairwise (fun a b => keyOf a ≠ keyOf b) := by decide +kernel
example : natToDigits 0 = [48] ∧ natToDigits 10268 = [49, 48, 50, 54, 56] ∧
    intToDigits (-9223372036854775808) =
      [45, 57, 50, 50, 51, 51, 55, 50, 48, 51, 54, 56, 53, 52, 55, 55, 53, 56, 48, 56] := by decide +kernel

/-! ## Not proved

(Completeness of the text reader is proved for the exact class the text format can express:
section "The text format" above; the statement over ALL binary-valid records, `TextReaderCompleteFull`, is false:
`text_reader_complete_full_refuted`.  Not proved there: the converse "a live record that is not `TextValid` never
round-trips" in general — only the two witnesses — and legacy text files written with OTHER layouts than
blank-separated columns / `\n` or `\r\n` line ends / trailing blanks, e.g. tabs as separators, which the reader model
accepts as well and which are covered by correspondence only.)
SQLite migration: the current-schema SQLite store is abstract in the model (`sqlite := some (some rows)`
= the rows `SqliteDictionary::entries()` yields); the v1 → v2 migration inside the file has the
relational model of `Model/SqliteV1.lean` (section below), SQLite itself (storage, the SQL engine,
the iteration order of the view) is trusted. -/

/-- the importer treats SQLite rows like hash-file records (model level only) -/
theorem sqlite_rows_imported (d : UserDir) (rows : List Uhash.Rec) (hd : d.chewingDat = none)
    (hs : d.sqlite = some (some rows)) :
    load true d = .ok { dict := .ok (importRecs [] rows), dir := { d with chewingDat := some (.valid (importRecs [] rows)) } } := by
  unfold load
  simp [hd, hs]

/-! ## The older SQLite schema: `userphrase_v1` → joined v2 view (inside the file)

`Model/SqliteV1.lean`: a legacy row = the 16 INTEGER columns + the phrase; the migration reads the
columns its SELECT names (from the source, `Gen/SqliteV1.lean`) at the Rust types it declares, keeps
the non-zero phones, writes `dictionary_v1 ⋈ userphrase_v2`; `entries()` answers
`max(freq, coalesce(user_freq, 0))` and `time` per key. -/
section SqliteV1
open Chewing.SqliteV1

/-- the view `entries()` reads is the one the model joins (`rfl` on the extracted text) -/
theorem sqlite_view_shape :
    Gen.v2ViewCols = "syllables, phrase, max(freq, coalesce(user_freq, 0)), time" ∧
    Gen.v2ViewFrom = "dictionary_v1 LEFT JOIN userphrase_v2 ON userphrase_id = id" := ⟨rfl, rfl⟩

/-- `sqlite_v1_row_complete`: every legacy row with k ≤ 11 non-zero phones (zero-padded, as the C
    library wrote it) is read as exactly its k syllables, its phrase, `orig_freq`, `user_freq`, `time` -/
theorem sqlite_v1_row_complete (g : V1Rec) (h : g.WF) : readRow g.row = .ok g.item := readRow_wf g h

/-- in particular the eleventh syllable of a record of maximal length is read -/
theorem sqlite_v1_row_syllables (g : V1Rec) (h : g.WF) :
    ∃ it, readRow g.row = .ok it ∧ it.syls = g.syls ∧ it.syls.length = g.syls.length :=
  ⟨g.item, readRow_wf g h, rfl, rfl⟩

/-- what the new dictionary must hold for a legacy record: the frequency the joined view answers -/
def v1Val (g : V1Rec) : Val := (max g.orig g.user, g.time)
def v1Key (g : V1Rec) : Key := (g.syls, g.phrase)

/-- the C library never lets the user frequency fall below the original one: the migrated frequency
    IS the user frequency -/
theorem sqlite_v1_user_freq (g : V1Rec) (h : g.orig ≤ g.user) : v1Val g = (g.user, g.time) := by
  simp [v1Val, Nat.max_eq_right h]

theorem migrate_wf (gs : List V1Rec) (hw : ∀ g ∈ gs, g.WF) :
    migrate (gs.map V1Rec.row) = .ok (importRecs [] ((gs.map V1Rec.item).map Item.toRec)) := by
  unfold migrate
  rw [readAll_wf gs hw]

/-- `sqlite_v1_rows_complete`: a store of well-formed legacy records with pairwise distinct keys
    migrates (the open succeeds) to a view that holds EVERY record under its full key with its
    frequency and time, and nothing else -/
theorem sqlite_v1_rows_complete (gs : List V1Rec) (hw : ∀ g ∈ gs, g.WF)
    (hd : gs.Pairwise (fun a b => v1Key a ≠ v1Key b)) :
    ∃ m, migrate (gs.map V1Rec.row) = .ok m ∧
      (∀ g ∈ gs, find? m (v1Key g) = some (v1Val g)) ∧
      (∀ e ∈ m, ∃ g ∈ gs, e = (v1Key g, v1Val g)) := by
  refine ⟨_, migrate_wf gs hw, ?_, ?_⟩
  · intro g hg
    have hp : ((gs.map V1Rec.item).map Item.toRec).Pairwise (fun a b => keyOf a ≠ keyOf b) := by
      rw [List.map_map, List.pairwise_map]
      exact hd
    exact migrate_complete hp (g.item.toRec) (List.mem_map.mpr ⟨g.item, List.mem_map.mpr ⟨g, hg, rfl⟩, rfl⟩)
  · intro e he
    obtain ⟨r, hr, rfl⟩ := migrate_exact _ e he
    obtain ⟨it, hit, rfl⟩ := List.mem_map.mp hr
    obtain ⟨g, hg, rfl⟩ := List.mem_map.mp hit
    exact ⟨g, hg, rfl⟩

/-- without distinctness: the LAST row of a key wins (`INSERT OR REPLACE`) -/
theorem sqlite_v1_last_wins (gs : List V1Rec) (hw : ∀ g ∈ gs, g.WF) (k : Key) :
    ∃ m, migrate (gs.map V1Rec.row) = .ok m ∧
      find? m k = lastVal k ((gs.map V1Rec.item).map Item.toRec) none :=
  ⟨_, migrate_wf gs hw, migrate_last_wins _ k⟩

/-- the whole first start over a directory that holds only a legacy v1 store: whatever order the view is
    iterated in (`es` = any list that represents the migrated map), the new dictionary is stored, the legacy
    file is not touched by the loader, and every legacy record is found with its frequency and time -/
theorem sqlite_v1_first_start (gs : List V1Rec) (hw : ∀ g ∈ gs, g.WF)
    (hd : gs.Pairwise (fun a b => v1Key a ≠ v1Key b)) (es : List Uhash.Rec) (u : Option (List Nat)) :
    ∃ m, migrate (gs.map V1Rec.row) = .ok m ∧
      ((∀ k, lastVal k es none = find? m k) →
        ∃ l, load true { chewingDat := none, uhashDat := u, sqlite := some (some es) } = .ok l ∧
          l.dir.sqlite = some (some es) ∧ l.dir.uhashDat = u ∧
          ∃ m', l.dict = .ok m' ∧ l.dir.chewingDat = some (.valid m') ∧
            ∀ g ∈ gs, find? m' (v1Key g) = some (v1Val g)) := by
  obtain ⟨m, hm, hc, _⟩ := sqlite_v1_rows_complete gs hw hd
  refine ⟨m, hm, fun hrep => ⟨_, sqlite_rows_imported _ es rfl rfl, rfl, rfl, _, rfl, rfl, ?_⟩⟩
  intro g hg
  rw [migrate_last_wins, hrep, hc g hg]

/-- a number the declared Rust type cannot hold (here a negative `user_freq`) fails the whole open:
    nothing is migrated from such a store (it is not a valid legacy store) -/
theorem sqlite_v1_unreadable_rejected :
    migrate [mkRow 7 1 1 1 1 [10268] [0xE5, 0x86, 0x8A],
             { ints := [3, -1, 9, 9, 2, 10268, 8708, 0, 0, 0, 0, 0, 0, 0, 0, 0], phrase := [0xE6, 0xB8, 0xAC, 0xE8, 0xA9, 0xA6] }]
      = .error () := by decide +kernel

/-- a zero phone before the end is skipped, not a terminator (the code filters, it does not stop) -/
theorem sqlite_v1_hole_skipped :
    (readRow { ints := [3, 9, 9, 9, 2, 10268, 0, 8708, 0, 0, 0, 0, 0, 0, 0, 0], phrase := [0xE6, 0xB8, 0xAC, 0xE8, 0xA9, 0xA6] }).map (·.syls)
      = .ok [10268, 8708] := by decide +kernel

/-- a phone that is not a syllable code (C13 F47: `0x6a07`, `0x8208`, …) or is the empty syllable `0x8000` is skipped
    like the zero padding — such a row is not a valid legacy record (`V1Rec.WF.syl_valid`) -/
theorem sqlite_v1_invalid_phone_skipped :
    (readRow { ints := [3, 9, 9, 9, 3, 10268, 27143, 8708, 33288, 32768, 0, 0, 0, 0, 0, 0], phrase := [0xE6, 0xB8, 0xAC, 0xE8, 0xA9, 0xA6] }).map (·.syls)
      = .ok [10268, 8708] := by decide +kernel

/-- non-vacuity: an 11-syllable record is well-formed, and its row has all eleven phone columns set -/
def v1Eleven : V1Rec :=
  { syls := [10268, 8708, 10268, 8708, 10268, 8708, 10268, 8708, 10268, 8708, 10268], phrase := [0xE5, 0x86, 0x8A],
    orig := 1, user := 5, maxf := 5, len := 11, time := 99 }

example : v1Eleven.WF := ⟨by decide, by decide, by decide, by decide, by decide, by decide, by decide⟩
example : (readRow v1Eleven.row).map (·.syls.length) = .ok 11 := by
  rw [sqlite_v1_row_complete v1Eleven ⟨by decide, by decide, by decide, by decide, by decide, by decide, by decide⟩]; rfl
example : [v1Eleven].Pairwise (fun a b => v1Key a ≠ v1Key b) := by simp

end SqliteV1

/-! ## Non-vacuity -/

example : (⟨[10268, 8708], [0xE7, 0xAD, 0x96, 0xE8, 0xA9, 0xA6], [9, 7, 9, 1], false⟩ : GRec).Valid := by
  decide +kernel

/-- a two-record store (one live, one removed) and its first start -/
example : liveRecs [⟨[10268, 8708], [0xE7, 0xAD, 0x96, 0xE8, 0xA9, 0xA6], [9, 7, 9, 1], false⟩,
    ⟨[10268], [0xE7, 0xAD, 0x96], [3, 4, 3, 0], true⟩] =
    [{ syls := [10268, 8708], phrase := [0xE7, 0xAD, 0x96, 0xE8, 0xA9, 0xA6], freq := 9, time := 7 }] := by decide +kernel

end Chewing.C19
