import Chewing.Model.CApiUser
import Chewing.Props.C06CApi
import Chewing.Props.C09
import Chewing.Props.C16
import Chewing.Props.C13
/-!
# C08 / C09 / C01 / C16 / C06 at the C API: the user-phrase calls and the context-writing configuration calls

`Model/CApiUser.lean` models `chewing_userphrase_add / _remove / _lookup / _enumerate (+ has_next / get)`,
`chewing_set_KBType`, `chewing_set_selKey` and `chewing_config_set_str` as operations on the C context model `CCtx`
(through the editor model's `Shared.learnPhrase`, `Shared.unlearnPhrase`, `Editor.revalidate`, `Editor.setLayout` and the
user-layer lookup of `Env`), interpreting the constants of `Chewing.Gen.CApiUser` that `tools/extractors/capi_user.py`
regenerates from `capi/src/io.rs` on every run (fail closed).  This file

1. compares the generated reading with the documented meaning written by hand (`user_constants_documented`,
   `user_rows_documented`);
2. the bopomofo-string parser: `parse_print` (printing a list of printable syllables and reading it back gives the list —
   from C13's spelling round trip `C13.parse_spell`), `parse_stops_at_bad_token` (what it does on garbage: the syllables
   before the first token that is no syllable — the REST IS IGNORED, the prefix is used), totality by construction;
3. map behaviour at the C level, for EVERY environment whose user dictionary is a map in C09's sense (`UserSpec`;
   `c09_userSpec`: C09's `TrieBuf` model satisfies it in every state of every history): `add_success`, `add_refused`,
   `add_mismatch_refused`, `add_no_syllables_refused`, `add_too_many_refused`, `add_null_args`, `remove_success`,
   `remove_absent`, `lookup_iff_live`, `lookup_iff_enumerated`, `lookup_enumerate_pure`, `enumeration_is_entries`,
   `keys_nodup`;
4. C01 lift: `CU_step` / `CU_run` — no history of `COpU` calls (key handlers, candidate calls, user-phrase calls with any
   strings, setters with any ints / strings) panics or hangs, the editor invariant and a valid keyboard are kept
   (extends `C06CApi.C_run`);
5. the setters: `setSelKey_stores`, `setSelKey_ignored`, `selkey_chooses_position_after_set` (the remap theorems of
   `C06CApi` for the keys just set), `setStr_selKeys_stores`, `setStr_agrees_config` / `setKBType_agrees_config` /
   `setSelKey_agrees_config` (the context is written exactly as C16's `Model/Config.lean` says), `setKBType_then_key`,
   `setStr_kb_is_setKBType` (C16 `kb_tables_agree`).

What the source does that a reader may not expect (each is a theorem here, none is a violation of C08 / C09):
* an unparsable token does NOT make the call fail: the syllables before it are used (`map_while`);
* adding a phrase that is already there returns 1 (it is `learn_phrase`: the frequency is raised, the key set is unchanged);
* a phrase given as NULL to `chewing_userphrase_remove` returns -1 when the syllables have some phrase, 0 otherwise.
-/
namespace Chewing.C08CApi
open Chewing.CApi Chewing.CApiUser Chewing.Gen Chewing.Gen.CApiUser Chewing.MapSpec

/-! ## 1. the generated reading against the documented meaning -/

/-- **documented return values and limits** (include/chewing.h, doc/libchewing.texi "User Phrase Handling"; the syllable
    limit is MAX_PHRASE_LEN = 11): add — NULL context -1, unreadable bopomofo 0, more than 11 syllables 0, no syllable 0,
    unreadable phrase -1, learned 1, refused 0; remove — NULL context -1, a phrase that is not there 0, removed 1; lookup —
    0 / 1, the USER dictionary only; the enumeration starts with 0; `chewing_set_selKey` wants exactly 10 keys -/
theorem user_constants_documented :
    addNullCtx = -1 ∧ addBopoNone = 0 ∧ addMaxSyl = 11 ∧ addTooMany = 0 ∧ addEmptyRefused = true ∧ addEmptyRc = 0 ∧
    addPhraseNone = -1 ∧ addOk = 1 ∧ addErr = 0 ∧
    removeNullCtx = -1 ∧ removePreLookup = true ∧ removeAbsent = 0 ∧ removeBopoNone = -1 ∧ removePhraseNone = -1 ∧
    removeOk = 1 ∧ removeErr = 0 ∧
    lookupNullCtx = 0 ∧ lookupBopoNone = 0 ∧ lookupUserOnly = true ∧ parseStopsAtBadToken = true ∧
    enumNullCtx = -1 ∧ enumRc = 0 ∧ Gen.CApiUser.setSelKeyLen = 10 := by decide

/-- **the rows as read from the source**: which `Editor` / dictionary method each call reaches, how the arguments are
    converted, the return rule, the NULL answers -/
theorem user_rows_documented :
    userCalls =
      [("chewing_userphrase_add",
        [("null_ctx", "-1"), ("bopomofo", "split_ascii_whitespace map_while parse::<Syllable>"), ("bopomofo_none", "0"),
         ("max_syllables", "11"), ("too_many", "0"), ("no_syllables", "0"), ("phrase_none", "-1"),
         ("method", "editor.learn_phrase"), ("ok", "1"), ("err", "0")]),
       ("chewing_userphrase_remove",
        [("null_ctx", "-1"), ("first", "chewing_userphrase_lookup != TRUE"), ("absent", "0"),
         ("bopomofo", "split_ascii_whitespace map_while parse::<Syllable>"), ("bopomofo_none", "-1"), ("phrase_none", "-1"),
         ("method", "editor.unlearn_phrase"), ("ok", "1"), ("err", "0")]),
       ("chewing_userphrase_lookup",
        [("null_ctx", "0"), ("bopomofo", "split_ascii_whitespace map_while parse::<Syllable>"), ("bopomofo_none", "0"),
         ("dictionary", "editor.user_dict"), ("strategy", "Standard"), ("phrase", "lookup_all_phrases any =="),
         ("phrase_none", "lookup_first_phrase is_some")]),
       ("chewing_userphrase_enumerate",
        [("null_ctx", "-1"), ("dictionary", "editor.user_dict"), ("method", "entries collect"), ("rc", "0"),
         ("get", "phrase = entry.1, bopomofo = entry.0 to_string joined by one space")]),
       ("chewing_set_selKey", [("ignored", "NULL array or len != 10")])] := rfl

/-! ## 2. the bopomofo string -/

theorem getD_mem_cons {α : Type} (l : List α) (i : Nat) (d : α) : l.getD i d ∈ d :: l := by
  rw [List.getD_eq_getElem?_getD]
  cases h : l[i]? with
  | none => exact List.mem_cons_self
  | some a => exact List.mem_cons_of_mem _ (List.mem_of_getElem? h)

theorem charOf_not_ws (b : Nat) : isWs (charOf b) = false := by
  have h : ∀ x ∈ (0 :: Gen.bopoChar), isWs x = false := by decide
  exact h _ (getD_mem_cons _ _ _)

theorem spell_not_ws (c : Nat) : ∀ x ∈ spell c, isWs x = false := by
  intro x hx
  unfold spell at hx
  obtain ⟨b, _, rfl⟩ := List.mem_map.mp hx
  exact charOf_not_ws b

/-- a run without white space is swallowed into the current token -/
theorem splitGo_nows (w : List Nat) (hw : ∀ x ∈ w, isWs x = false) (rest cur : List Nat) :
    splitGo (w ++ rest) cur = splitGo rest (cur ++ w) := by
  induction w generalizing cur with
  | nil => simp
  | cons a w ih =>
    have ha : isWs a = false := hw a (List.mem_cons_self ..)
    simp only [List.cons_append, splitGo, ha, Bool.false_eq_true, if_false]
    rw [ih (fun x hx => hw x (List.mem_cons_of_mem _ hx))]
    simp

/-- a syllable the C API can print and read back: its spelling is not empty and parses to it -/
def Printable (k : Nat) : Prop := spell k ≠ [] ∧ Chewing.parse (spell k) = .ok k

/-- a non-empty run without white space, up to the end of the string or up to a space, is one token -/
theorem splitGo_token (w : List Nat) (hw : ∀ x ∈ w, isWs x = false) (hne : w ≠ []) :
    splitGo w [] = [w] ∧ ∀ rest, splitGo (w ++ 32 :: rest) [] = w :: splitGo rest [] := by
  have hemp : w.isEmpty = false := by cases w with
    | nil => exact absurd rfl hne
    | cons _ _ => rfl
  refine ⟨?_, fun rest => ?_⟩
  · have := splitGo_nows w hw [] []
    rw [List.append_nil] at this
    rw [this, List.nil_append, splitGo, hemp]; rfl
  · rw [splitGo_nows w hw, List.nil_append, splitGo, show isWs 32 = true from rfl, if_pos rfl, hemp]; rfl

theorem splitGo_print (ks : List Nat) (hk : ∀ k ∈ ks, spell k ≠ []) :
    splitGo (printSyls ks) [] = ks.map spell := by
  induction ks with
  | nil => rfl
  | cons k ks ih =>
    obtain ⟨h1, h2⟩ := splitGo_token (spell k) (spell_not_ws k) (hk k (List.mem_cons_self ..))
    cases ks with
    | nil => exact h1
    | cons k2 ks =>
      show splitGo (spell k ++ 32 :: printSyls (k2 :: ks)) [] = _
      rw [h2, ih fun k' hk' => hk k' (List.mem_cons_of_mem _ hk')]; rfl

/-- the tokens of syllables that read back are read, and the reading goes on behind them -/
theorem parsePrefix_spell_append (ks : List Nat) (hk : ∀ k ∈ ks, Chewing.parse (spell k) = .ok k) (rest : List Text) :
    parsePrefix (ks.map spell ++ rest) = ks ++ parsePrefix rest := by
  induction ks with
  | nil => rfl
  | cons k ks ih =>
    simp only [List.map_cons, List.cons_append, parsePrefix, hk k (List.mem_cons_self ..)]
    rw [ih fun k' hk' => hk k' (List.mem_cons_of_mem _ hk')]

theorem parse_print (ks : List Nat) (hk : ∀ k ∈ ks, Printable k) : parseBopomofo (printSyls ks) = ks := by
  unfold parseBopomofo splitWs
  rw [show parseStopsAtBadToken = true from rfl]
  simp only [if_true]
  rw [splitGo_print ks fun k h => (hk k h).1]
  simpa [parsePrefix] using parsePrefix_spell_append ks (fun k h => (hk k h).2) []

theorem printable_of_composable {k : Nat} (h : C13.Composable k) (hne : k ≠ emptyPattern) : Printable k := by
  have hp := C13.parse_spell h
  refine ⟨fun he => ?_, hp⟩
  rw [he] at hp
  have : Chewing.parse [] = .ok emptyPattern := rfl
  rw [this] at hp
  injection hp with hp
  exact hne hp.symm

/-- **what the parser does on garbage**: the tokens are read up to the first one that is no syllable; that token and
    everything after it are ignored, the syllables before it are the result (so the call goes on with the PREFIX) -/
theorem parse_stops_at_bad_token (good : List Nat) (bad : Text) (rest : List Text)
    (hk : ∀ k ∈ good, Chewing.parse (spell k) = .ok k) (hb : ∀ v, Chewing.parse bad ≠ .ok v) :
    parsePrefix (good.map spell ++ bad :: rest) = good := by
  have : parsePrefix (bad :: rest) = [] := by
    unfold parsePrefix
    cases h : Chewing.parse bad with
    | ok v => exact absurd h (hb v)
    | error e => rfl
  rw [parsePrefix_spell_append good hk, this, List.append_nil]

/-- never more syllables than tokens; the reading is a total function of the string (no panic, no error value) -/
theorem parse_length_le (s : Text) : (parseBopomofo s).length ≤ (splitWs s).length := by
  unfold parseBopomofo
  rw [show parseStopsAtBadToken = true from rfl]
  simp only [if_true]
  generalize splitWs s = ts
  induction ts with
  | nil => exact Nat.le_refl _
  | cons t ts ih =>
    unfold parsePrefix
    cases Chewing.parse t with
    | ok v => simpa using ih
    | error e => simp

/-! ## 3. the user dictionary through the C calls -/

/-- the five dictionary operations the user-phrase calls reach -/
structure DictOps (D : Type) where
  lookup : D → Key → List Phrase
  entries : D → List Entry
  add : D → Key → Phrase → Option D
  update : D → Key → Phrase → Nat → Nat → D
  remove : D → Key → Text → D

/-- **the user dictionary is a map** (C09's statement, as a hypothesis on the environment): on every dictionary
    satisfying `G`, with `um d` the map it denotes -/
structure UserSpec {D : Type} (ops : DictOps D) (G : D → Prop) (um : D → Map) : Prop where
  lookup : ∀ d, G d → ∀ k, IsLookup (um d) k (ops.lookup d k)
  entries : ∀ d, G d → IsEntries (um d) (ops.entries d)
  add : ∀ d k ph d', G d → ops.add d k ph = some d' →
    G d' ∧ (ph.text = [] → d' = d) ∧ (ph.text ≠ [] → ∃ v, um d' = (um d).set (k, ph.text) (some v))
  update : ∀ d k ph f t, G d →
    G (ops.update d k ph f t) ∧ (ph.text = [] → ops.update d k ph f t = d) ∧
    (ph.text ≠ [] → ∃ v, um (ops.update d k ph f t) = (um d).set (k, ph.text) (some v))
  remove : ∀ d k t, G d → G (ops.remove d k t) ∧ um (ops.remove d k t) = (um d).set (k, t) none

section
variable {D L : Type} (env : Env D L) (uenv : UEnv D L)

def opsOf : DictOps D :=
  { lookup := fun d k => env.userLookupAll d k .standard, entries := uenv.entries, add := env.addPhrase,
    update := env.updatePhrase, remove := env.removePhrase }

theorem revalidate_dict {e e' : Editor D L} (h : Editor.revalidate env e = .ok e') : e'.shared.dict = e.shared.dict := by
  rw [(revalidate_fields env h).1]

/-- what `learn_phrase` can have done when it returns: `Err` — nothing; `Ok` — the lengths agree and the phrase went to
    the dictionary's `add_phrase` (no phrase under these syllables yet) or `update_phrase` -/
theorem learn_ok {sh sh' : Shared D L} {ks : List Nat} {p : Text} {okb : Bool}
    (h : Shared.learnPhrase env sh ks p = .ok (sh', okb)) :
    (okb = false → sh' = sh) ∧
    (okb = true → ks.length = p.length ∧
      ((∃ d', env.addPhrase sh.dict ks { text := p, freq := 1 } = some d' ∧ sh'.dict = d') ∨
       (∃ f uf t, sh'.dict = env.updatePhrase sh.dict ks { text := p, freq := f } uf t))) := by
  unfold Shared.learnPhrase at h
  split at h
  · cases h; exact ⟨fun _ => rfl, nofun⟩
  · next hl =>
    have hlen : ks.length = p.length := by simpa using hl
    simp only at h
    split at h
    · split at h <;> cases h
      · next d hd => exact ⟨nofun, fun _ => ⟨hlen, .inl ⟨d, hd, rfl⟩⟩⟩
      · exact ⟨fun _ => rfl, nofun⟩
    · split at h <;> cases h
      exact ⟨nofun, fun _ => ⟨hlen, .inr ⟨_, _, _, rfl⟩⟩⟩
end

section
variable {D L : Type} (env : Env D L) (uenv : UEnv D L) {G : D → Prop} {um : D → Map}

theorem withEditor_ok {c c' : CCtx D L} {r : Outcome (Editor D L)} {rc rc' : Int}
    (h : c.withEditor r rc = .ok (c', rc')) : ∃ e', r = .ok e' ∧ c' = { c with editor := e' } ∧ rc' = rc := by
  unfold CCtx.withEditor at h
  split at h
  · next e => injection h with h; injection h with h1 h2; exact ⟨e, rfl, h1.symm, h2.symm⟩
  · cases h
  · cases h

theorem userLookup_eq (c : CCtx D L) (p b : Text) :
    c.userLookup env (some p) (some b) =
      if (env.userLookupAll c.editor.shared.dict (parseBopomofo b) .standard).any (fun ph => ph.text == p) then 1 else 0 := rfl

theorem userLookup_null_phrase (c : CCtx D L) (b : Text) :
    c.userLookup env none (some b) =
      if (env.userLookupAll c.editor.shared.dict (parseBopomofo b) .standard).head?.isSome then 1 else 0 := rfl

/-- **lookup answers from the map** the user dictionary denotes: 1 exactly for a live (syllables, phrase) -/
theorem lookup_iff_live (hS : UserSpec (opsOf env uenv) G um) (c : CCtx D L) (hG : G c.editor.shared.dict) (p b : Text) :
    c.userLookup env (some p) (some b) = 1 ↔ ∃ v, um c.editor.shared.dict (parseBopomofo b, p) = some v := by
  rw [userLookup_eq]
  obtain ⟨_, h2, h3⟩ := hS.lookup _ hG (parseBopomofo b)
  constructor
  · intro h
    split at h
    · next ha =>
      obtain ⟨ph, hm, he⟩ := List.any_eq_true.mp ha
      have := h2 ph hm
      rw [eq_of_beq he] at this
      exact ⟨_, this⟩
    · cases h
  · rintro ⟨v, hv⟩
    obtain ⟨ph, hm, he⟩ := h3 p v hv
    rw [if_pos]
    exact List.any_eq_true.mpr ⟨ph, hm, by rw [he]; exact BEq.refl _⟩

theorem lookup_01 (c : CCtx D L) (p b : Text) :
    c.userLookup env (some p) (some b) = 1 ∨ c.userLookup env (some p) (some b) = 0 := by
  rw [userLookup_eq]; split <;> simp

/-- **the enumeration is exactly the live entries** of that map -/
theorem keys_iff_live (hS : UserSpec (opsOf env uenv) G um) (c : CCtx D L) (hG : G c.editor.shared.dict) (k : List Nat) (t : Text) :
    (k, t) ∈ c.userKeys uenv ↔ ∃ v, um c.editor.shared.dict (k, t) = some v := by
  obtain ⟨_, h2, h3⟩ := hS.entries _ hG
  unfold CCtx.userKeys
  constructor
  · intro h
    obtain ⟨e, hm, he⟩ := List.mem_map.mp h
    have := h2 e hm
    injection he with h1 h2'
    rw [h1, h2'] at this
    exact ⟨_, this⟩
  · rintro ⟨v, hv⟩
    obtain ⟨e, hm, h1, h2'⟩ := h3 k t v hv
    exact List.mem_map.mpr ⟨e, hm, by rw [h1, h2']⟩

/-- no entry is handed out twice -/
theorem keys_nodup (hS : UserSpec (opsOf env uenv) G um) (c : CCtx D L) (hG : G c.editor.shared.dict) :
    (c.userKeys uenv).Nodup := (hS.entries _ hG).1

theorem entries_of_keys (c : CCtx D L) : c.userEntries uenv = (c.userKeys uenv).map fun e => (e.2, printSyls e.1) := by
  unfold CCtx.userEntries CCtx.userKeys
  rw [List.map_map]; rfl

/-- **lookup and enumeration agree**: `chewing_userphrase_lookup(p, b)` = 1 exactly when the enumeration hands out
    phrase `p` under the syllables read from `b` -/
theorem lookup_iff_enumerated (hS : UserSpec (opsOf env uenv) G um) (c : CCtx D L) (hG : G c.editor.shared.dict) (p b : Text) :
    c.userLookup env (some p) (some b) = 1 ↔ (parseBopomofo b, p) ∈ c.userKeys uenv := by
  rw [lookup_iff_live env uenv hS c hG, keys_iff_live env uenv hS c hG]

/-- `chewing_userphrase_add` once the bopomofo string is readable: refused for no or more than 11 syllables, then the
    NULL phrase, then `Editor::learn_phrase` (`learn_phrase` + `revalidate_selecting`) -/
theorem userAdd_eq (c : CCtx D L) (p : Option Text) (b : Text) :
    c.userAdd env p (some b) =
      if (parseBopomofo b).length > 11 ∨ parseBopomofo b = [] then .ok (c, 0)
      else match p with
        | none => .ok (c, -1)
        | some p =>
          match Shared.learnPhrase env c.editor.shared (parseBopomofo b) p with
          | .ok (sh, okb) => c.withEditor (Editor.revalidate env { c.editor with shared := sh }) (if okb then 1 else 0)
          | .panic q => .panic q
          | .outOfFuel => .outOfFuel := by
  unfold CCtx.userAdd
  simp only [show addMaxSyl = 11 from rfl, show addEmptyRefused = true from rfl, Bool.true_and, List.isEmpty_iff]
  by_cases h1 : (parseBopomofo b).length > 11
  · rw [if_pos h1, if_pos (.inl h1)]; rfl
  · by_cases h2 : parseBopomofo b = []
    · rw [if_neg h1, if_pos h2, if_pos (.inr h2)]; rfl
    · rw [if_neg h1, if_neg h2, if_neg (not_or.2 ⟨h1, h2⟩)]; rfl

theorem userAdd_inv {c c' : CCtx D L} {p b : Text} {rc : Int} (h : c.userAdd env (some p) (some b) = .ok (c', rc)) :
    (c' = c ∧ rc = 0 ∧ ((parseBopomofo b).length > 11 ∨ parseBopomofo b = [])) ∨
    (∃ sh okb e', Shared.learnPhrase env c.editor.shared (parseBopomofo b) p = .ok (sh, okb) ∧
      Editor.revalidate env { c.editor with shared := sh } = .ok e' ∧ c' = { c with editor := e' } ∧
      rc = (if okb then 1 else 0) ∧ (parseBopomofo b).length ≤ 11 ∧ parseBopomofo b ≠ []) := by
  rw [userAdd_eq] at h
  split at h
  · next hc => cases h; exact .inl ⟨rfl, rfl, hc⟩
  · next hc =>
    simp only at h
    split at h
    · next sh okb hl =>
      obtain ⟨e', hr, hc', hrc⟩ := withEditor_ok h
      exact .inr ⟨sh, okb, e', hl, hr, hc', hrc, Nat.le_of_not_gt fun h => hc (.inl h), fun h => hc (.inr h)⟩
    all_goals cases h
end

section
variable {D L : Type} (env : Env D L) (uenv : UEnv D L) {G : D → Prop} {um : D → Map}

/-- **after `chewing_userphrase_add(p, b)` returns 1**: one character per syllable read, 1 … 11 syllables; the phrase is
    then looked up (`chewing_userphrase_lookup(p, b)` = 1) and enumerated (under the syllables read from `b`, printed);
    every other entry of the enumeration is as before; keyboard and selection keys untouched -/
theorem add_success (hS : UserSpec (opsOf env uenv) G um) {c c' : CCtx D L} (hG : G c.editor.shared.dict) {p b : Text}
    (h : c.userAdd env (some p) (some b) = .ok (c', 1)) :
    (parseBopomofo b).length = p.length ∧ 0 < (parseBopomofo b).length ∧ (parseBopomofo b).length ≤ 11 ∧
    G c'.editor.shared.dict ∧ c'.userLookup env (some p) (some b) = 1 ∧
    (parseBopomofo b, p) ∈ c'.userKeys uenv ∧ (p, printSyls (parseBopomofo b)) ∈ c'.userEntries uenv ∧
    (∀ k t, (k, t) ≠ (parseBopomofo b, p) → ((k, t) ∈ c'.userKeys uenv ↔ (k, t) ∈ c.userKeys uenv)) ∧
    c'.kb = c.kb ∧ c'.selKeys = c.selKeys := by
  rcases userAdd_inv env h with ⟨_, h0, _⟩ | ⟨sh, okb, e', hl, hr, hc, hrc, h11, hne⟩
  · cases h0
  · cases okb with
    | false => simp at hrc
    | true =>
      obtain ⟨hlen, hd⟩ := (learn_ok env hl).2 rfl
      have hpos : 0 < (parseBopomofo b).length := List.length_pos_iff.mpr hne
      have hpne : p ≠ [] := by
        intro hp; rw [hp] at hlen; simp at hlen; exact hne hlen
      have hdict : c'.editor.shared.dict = sh.dict := by rw [hc]; exact revalidate_dict env hr
      -- the new dictionary satisfies G and denotes the old map with (ks, p) set
      have hnew : G sh.dict ∧ ∃ v, um sh.dict = (um c.editor.shared.dict).set (parseBopomofo b, p) (some v) := by
        rcases hd with ⟨d', ha, hd'⟩ | ⟨f, uf, t, hd'⟩
        · obtain ⟨g, _, hs⟩ := hS.add _ _ _ _ hG ha
          rw [hd']; exact ⟨g, hs hpne⟩
        · obtain ⟨g, _, hs⟩ := hS.update c.editor.shared.dict (parseBopomofo b) { text := p, freq := f } uf t hG
          rw [hd']; exact ⟨g, hs hpne⟩
      obtain ⟨hG', v, hum⟩ := hnew
      have hG'' : G c'.editor.shared.dict := by rw [hdict]; exact hG'
      have hlive : ∃ v, um c'.editor.shared.dict (parseBopomofo b, p) = some v := ⟨v, by rw [hdict, hum]; simp⟩
      have hkey := (keys_iff_live env uenv hS c' hG'' _ _).mpr hlive
      refine ⟨hlen, hpos, h11, hG'', (lookup_iff_live env uenv hS c' hG'' p b).mpr hlive, hkey, ?_, ?_, by rw [hc], by rw [hc]⟩
      · rw [entries_of_keys]
        exact List.mem_map.mpr ⟨_, hkey, rfl⟩
      · intro k t hne'
        rw [keys_iff_live env uenv hS c' hG'', keys_iff_live env uenv hS c hG, hdict, hum, Map.set_other _ _ hne']

/-- **a refused add changes nothing in the user dictionary**: whatever value other than 1 is returned (0: no / too
    many syllables, lengths differ, the dictionary refused; -1: no phrase), the dictionary — and so every lookup and the
    enumeration — is as before, and so are keyboard and selection keys; outside an open candidate list the WHOLE context
    is unchanged -/
theorem add_refused {c c' : CCtx D L} {p b : Option Text} {rc : Int} (h : c.userAdd env p b = .ok (c', rc)) (hrc : rc ≠ 1) :
    c'.editor.shared.dict = c.editor.shared.dict ∧ c'.kb = c.kb ∧ c'.selKeys = c.selKeys ∧
    (c.editor.isSelecting = false → c' = c) := by
  have same : ∀ {r : Int}, Outcome.ok (c, r) = .ok (c', rc) → c'.editor.shared.dict = c.editor.shared.dict ∧
      c'.kb = c.kb ∧ c'.selKeys = c.selKeys ∧ (c.editor.isSelecting = false → c' = c) := by
    intro r h; cases h; exact ⟨rfl, rfl, rfl, fun _ => rfl⟩
  cases b with
  | none => exact same h
  | some b =>
    cases p with
    | none => rw [userAdd_eq] at h; split at h <;> exact same h
    | some p =>
      rcases userAdd_inv env h with ⟨h0, _, _⟩ | ⟨sh, okb, e', hl, hr, hc, hrc', _, _⟩
      · rw [h0]; exact ⟨rfl, rfl, rfl, fun _ => rfl⟩
      · cases okb with
        | true => exact absurd hrc' hrc
        | false =>
          cases (learn_ok env hl).1 rfl
          refine ⟨by rw [hc]; exact revalidate_dict env hr, by rw [hc], by rw [hc], fun hs => ?_⟩
          rw [revalidate_not_selecting env fun s hst => by unfold Editor.isSelecting at hs; rw [hst] at hs; cases hs] at hr
          injection hr with hr
          rw [hc, ← hr]

/-- **lengths differ: refused with 0** — exactly: the call is `revalidate_selecting` and returns 0 -/
theorem add_mismatch_refused (c : CCtx D L) (p b : Text) (hne : parseBopomofo b ≠ []) (h11 : (parseBopomofo b).length ≤ 11)
    (hlen : (parseBopomofo b).length ≠ p.length) :
    c.userAdd env (some p) (some b) = c.withEditor (Editor.revalidate env c.editor) 0 := by
  have : Shared.learnPhrase env c.editor.shared (parseBopomofo b) p = .ok (c.editor.shared, false) := by
    unfold Shared.learnPhrase
    rw [if_pos (by simpa using hlen)]
  rw [userAdd_eq, if_neg (not_or.2 ⟨Nat.not_lt.2 h11, hne⟩)]
  simp only [this]; rfl

/-- no syllable can be read from the string (empty, white space only, a first token that is no syllable): refused with 0,
    the context unchanged — whatever the phrase (the repaired finding: an empty phrase used to be "added") -/
theorem add_no_syllables_refused (c : CCtx D L) (p : Option Text) (b : Text) (h : parseBopomofo b = []) :
    c.userAdd env p (some b) = .ok (c, 0) := by
  rw [userAdd_eq, if_pos (.inr h)]

/-- more than 11 syllables: refused with 0, the context unchanged -/
theorem add_too_many_refused (c : CCtx D L) (p : Option Text) (b : Text) (h : (parseBopomofo b).length > 11) :
    c.userAdd env p (some b) = .ok (c, 0) := by
  rw [userAdd_eq, if_pos (.inl h)]

/-- NULL / non-UTF-8 arguments: bopomofo ↦ 0, phrase ↦ -1 (when the syllables are acceptable), context unchanged -/
theorem add_null_args (c : CCtx D L) (p : Option Text) (b : Text) (hne : parseBopomofo b ≠ []) (h11 : (parseBopomofo b).length ≤ 11) :
    c.userAdd env p none = .ok (c, 0) ∧ c.userAdd env none (some b) = .ok (c, -1) :=
  ⟨rfl, by rw [userAdd_eq, if_neg (not_or.2 ⟨Nat.not_lt.2 h11, hne⟩)]⟩

/-! ### remove -/

/-- **a phrase that is not there is not removed**: 0, the whole context unchanged ("return FALSE when phrase does not
    exist is C API only behavior") -/
theorem remove_absent (c : CCtx D L) (p b : Option Text) (h : c.userLookup env p b ≠ 1) :
    c.userRemove env p b = .ok (c, 0) := by
  unfold CCtx.userRemove
  rw [if_pos]
  · rfl
  · simp only [show removePreLookup = true from rfl, Bool.true_and]
    exact bne_iff_ne.mpr h

/-- a phrase that is there: `Editor::unlearn_phrase` (then `revalidate_selecting`), returns 1 -/
theorem remove_present (c : CCtx D L) (p b : Text) (h : c.userLookup env (some p) (some b) = 1) :
    c.userRemove env (some p) (some b) =
      c.withEditor (Editor.revalidate env { c.editor with shared := Shared.unlearnPhrase env c.editor.shared (parseBopomofo b) p }) 1 := by
  unfold CCtx.userRemove
  rw [if_neg]
  · rfl
  · simp only [show removePreLookup = true from rfl, Bool.true_and, h]
    decide

/-- **after `chewing_userphrase_remove(p, b)` returns 1**: the phrase was there, is no longer looked up
    (`chewing_userphrase_lookup(p, b)` = 0) nor enumerated; every other entry is as before -/
theorem remove_success (hS : UserSpec (opsOf env uenv) G um) {c c' : CCtx D L} (hG : G c.editor.shared.dict) {p b : Text}
    (h : c.userRemove env (some p) (some b) = .ok (c', 1)) :
    c.userLookup env (some p) (some b) = 1 ∧ G c'.editor.shared.dict ∧ c'.userLookup env (some p) (some b) = 0 ∧
    (parseBopomofo b, p) ∉ c'.userKeys uenv ∧
    (∀ k t, (k, t) ≠ (parseBopomofo b, p) → ((k, t) ∈ c'.userKeys uenv ↔ (k, t) ∈ c.userKeys uenv)) ∧
    c'.kb = c.kb ∧ c'.selKeys = c.selKeys := by
  have hl : c.userLookup env (some p) (some b) = 1 := by
    by_cases hl : c.userLookup env (some p) (some b) = 1
    · exact hl
    · rw [remove_absent env c _ _ hl] at h
      injection h with h; injection h with _ h2; cases h2
  rw [remove_present env c p b hl] at h
  obtain ⟨e', hr, hc, _⟩ := withEditor_ok h
  have hdict : c'.editor.shared.dict = env.removePhrase c.editor.shared.dict (parseBopomofo b) p := by
    rw [hc]; exact revalidate_dict env hr
  obtain ⟨hG', hum⟩ : G (env.removePhrase c.editor.shared.dict (parseBopomofo b) p) ∧
      um (env.removePhrase c.editor.shared.dict (parseBopomofo b) p) = (um c.editor.shared.dict).set (parseBopomofo b, p) none :=
    hS.remove c.editor.shared.dict (parseBopomofo b) p hG
  have hG'' : G c'.editor.shared.dict := by rw [hdict]; exact hG'
  have hdead : ¬ ∃ v, um c'.editor.shared.dict (parseBopomofo b, p) = some v := by
    rw [hdict, hum]; simp
  refine ⟨hl, hG'', ?_, ?_, ?_, by rw [hc], by rw [hc]⟩
  · rcases lookup_01 env c' p b with h1 | h0
    · exact absurd ((lookup_iff_live env uenv hS c' hG'' p b).mp h1) hdead
    · exact h0
  · exact fun hk => hdead ((keys_iff_live env uenv hS c' hG'' _ _).mp hk)
  · intro k t hne'
    rw [keys_iff_live env uenv hS c' hG'', keys_iff_live env uenv hS c hG, hdict, hum, Map.set_other _ _ hne']

/-! ### lookup and enumeration are pure -/

/-- **`chewing_userphrase_lookup` and `chewing_userphrase_enumerate` change nothing**: the context after the call is
    the context before it (so asking twice gives the same answer, and the enumeration is a function of the context) -/
theorem lookup_enumerate_pure (c : CCtx D L) (p b : Option Text) :
    c.applyUser env uenv (.userLookup p b) = .ok (c, c.userLookup env p b) ∧
    c.applyUser env uenv .userEnumerate = .ok (c, 0) := ⟨rfl, rfl⟩

/-- **the enumeration is exactly the user dictionary's `entries()`**, each printed as (phrase, syllables joined by one
    space); under `UserSpec` (C09: `entries_exact`) those are exactly the live entries, each once -/
theorem enumeration_is_entries (c : CCtx D L) :
    c.userEntries uenv = (uenv.entries c.editor.shared.dict).map fun e => (e.2.text, printSyls e.1) := rfl

end

/-! ## C01 at the C level with the user-phrase and configuration calls -/

/-- every keyboard the configuration calls can install is one of the eight of `Model/Keyboard.lean` -/
theorem kbName_valid (i : Nat) : C06CApi.KbValid (kbName i) := by
  have h : ∀ v ∈ "Qwerty" :: Gen.Cfg.keyboards, snake v ∈ C06CApi.allKeyboards := by decide +kernel
  exact h _ (getD_mem_cons Gen.Cfg.keyboards i "Qwerty")

section
variable {D L : Type} (env : Env D L) (uenv : UEnv D L)

/-- **`chewing_config_set_str` on the context and `Config.setStr` (C16) on a configuration take the same branch**:
    refused (-1, nothing changes), a keyboard layout found by name and installed, or ten selection keys stored -/
theorem setStr_cases (c : CCtx D L) (cc : Config.Ctx) (name : String) (value : Text) :
    (c.setStr env uenv name value = .ok (c, Config.ERROR) ∧ Config.setStr name value cc = (cc, Config.ERROR)) ∨
    (∃ k, name = Config.kbTypeName ∧ Config.assoc value Gen.Cfg.kbFromStrText = some k ∧
      c.setStr env uenv name value = c.installLayout env uenv (Config.pairByName k) Config.OK ∧
      Config.setStr name value cc =
        ({ cc with kbCompat := k, keyboard := (Config.pairByName k).1, syl := (Config.pairByName k).2 }, Config.OK)) ∨
    (name = Config.selKeysName ∧
      c.setStr env uenv name value = .ok ({ c with selKeys := Config.padKeys (value.map Int.ofNat) }, Config.OK) ∧
      Config.setStr name value cc = ({ cc with selKeys := Config.padKeys (value.map Int.ofNat) }, Config.OK)) := by
  unfold CCtx.setStr Config.setStr
  by_cases h1 : name ∉ Gen.Cfg.setStrNames
  · rw [if_pos h1, if_pos h1]; exact .inl ⟨rfl, rfl⟩
  rw [if_neg h1, if_neg h1]
  by_cases h2 : name = Config.kbTypeName
  · rw [if_pos h2, if_pos h2]
    cases h3 : Config.assoc value Gen.Cfg.kbFromStrText with
    | none => exact .inl ⟨rfl, rfl⟩
    | some k => exact .inr (.inl ⟨k, h2, rfl, rfl, rfl⟩)
  rw [if_neg h2, if_neg h2]
  by_cases h3 : name = Config.selKeysName
  · rw [if_pos h3, if_pos h3]
    split
    · exact .inl ⟨rfl, rfl⟩
    · exact .inr (.inr ⟨h3, rfl, rfl⟩)
  · rw [if_neg h3, if_neg h3]; exact .inl ⟨rfl, rfl⟩
end

section
variable {D L : Type} (env : Env D L) (uenv : UEnv D L) {G : D → Prop}

theorem withEditor_apply (hE : C01.EnvOK env G) (c0 : CCtx D L) (e : Editor D L) (hi : C01.SafeInv env G e) (op : Op L)
    (hv : C01.OpValid op) (rc : Int) :
    ∃ e', c0.withEditor (e.apply env op) rc = .ok ({ c0 with editor := e' }, rc) ∧ C01.SafeInv env G e' := by
  obtain ⟨e', h1, h2⟩ := C01.C01_step hE e op hi hv
  exact ⟨e', by rw [h1]; rfl, h2⟩

theorem setSelKey_keeps (c : CCtx D L) (keys : Option (List Int)) (len : Int) :
    (c.setSelKey keys len).editor = c.editor ∧ (c.setSelKey keys len).kb = c.kb := by
  unfold CCtx.setSelKey
  split
  · exact ⟨rfl, rfl⟩
  · split <;> exact ⟨rfl, rfl⟩

/-- **C01, one user-phrase / configuration call, any arguments** (any strings, NULL, not UTF-8, any ints): the call
    returns — no panic, no exhausted fuel —, the editor invariant holds again and the keyboard is still a valid one -/
theorem CU_user_step (hE : C01.EnvOK env G) (c : CCtx D L) (hkb : C06CApi.KbValid c.kb) (hi : C01.SafeInv env G c.editor)
    (op : UOp) :
    ∃ c' rc, c.applyUser env uenv op = .ok (c', rc) ∧ C01.SafeInv env G c'.editor ∧ C06CApi.KbValid c'.kb := by
  have same : ∀ rc : Int, ∃ c' rc', (Outcome.ok (c, rc) : Outcome (CCtx D L × Int)) = .ok (c', rc') ∧
      C01.SafeInv env G c'.editor ∧ C06CApi.KbValid c'.kb := fun rc => ⟨c, rc, rfl, hi, hkb⟩
  have install : ∀ (pair : Nat × Nat) (rc : Int), ∃ c' rc', c.installLayout env uenv pair rc = .ok (c', rc') ∧
      C01.SafeInv env G c'.editor ∧ C06CApi.KbValid c'.kb := by
    intro pair rc
    obtain ⟨e', h1, h2⟩ := withEditor_apply env hE ({ c with kb := kbName pair.1 } : CCtx D L) c.editor hi
      (.setLayout (uenv.layoutOf pair.2)) trivial rc
    exact ⟨_, _, h1, h2, kbName_valid _⟩
  cases op with
  | userAdd p b =>
    show ∃ c' rc, c.userAdd env p b = _ ∧ _
    cases b with
    | none => exact same _
    | some b =>
      rw [userAdd_eq]
      split
      · exact same _
      · cases p with
        | none => exact same _
        | some p =>
          -- `Editor::learn_phrase` is the editor operation `.learn`, which C01 covers
          dsimp only
          obtain ⟨e', h1, h2⟩ := C01.C01_step hE c.editor (.learn (parseBopomofo b) p) hi trivial
          simp only [Editor.apply] at h1
          split at h1
          · next sh okb hl => rw [hl]; dsimp only; rw [h1]; exact ⟨_, _, rfl, h2, hkb⟩
          all_goals cases h1
  | userRemove p b =>
    show ∃ c' rc, c.userRemove env p b = _ ∧ _
    by_cases hl : c.userLookup env p b = 1
    · unfold CCtx.userRemove
      rw [if_neg (by simp only [show removePreLookup = true from rfl, Bool.true_and, hl]; decide)]
      cases b with
      | none => exact same _
      | some b =>
        cases p with
        | none => exact same _
        | some p =>
          obtain ⟨e', h1, h2⟩ := withEditor_apply env hE c c.editor hi (.unlearn (parseBopomofo b) p) trivial removeOk
          exact ⟨_, _, h1, h2, hkb⟩
    · rw [remove_absent env c p b hl]; exact same _
  | userLookup p b => exact same _
  | userEnumerate => exact same _
  | setKBType n => exact install _ _
  | setStr name value =>
    show ∃ c' rc, c.setStr env uenv name value = _ ∧ _
    rcases setStr_cases env uenv c Config.init name value with ⟨h, _⟩ | ⟨k, _, _, h, _⟩ | ⟨_, h, _⟩ <;> rw [h]
    · exact same _
    · exact install _ _
    · exact ⟨_, _, rfl, hi, hkb⟩
  | setSelKey keys len =>
    obtain ⟨he, hk⟩ := setSelKey_keeps c keys len
    exact ⟨c.setSelKey keys len, 0, rfl, he ▸ hi, hk ▸ hkb⟩

/-- **C01 at the C level, one call of the extended repertoire** -/
theorem CU_step (hE : C01.EnvOK env G) (c : CCtx D L) (hkb : C06CApi.KbValid c.kb) (hi : C01.SafeInv env G c.editor)
    (op : COpU) :
    ∃ c' rc, c.applyU env uenv op = .ok (c', rc) ∧ C01.SafeInv env G c'.editor ∧ C06CApi.KbValid c'.kb := by
  cases op with
  | base op =>
    obtain ⟨c', rc, h1, h2, h3, _⟩ := C06CApi.C_step env hE c hkb hi op
    exact ⟨c', rc, h1, h2, by rw [h3]; exact hkb⟩
  | user op => exact CU_user_step env uenv hE c hkb hi op

/-- **C01 at the C level, every history** mixing key handlers, candidate calls, buffer calls, user-phrase calls with
    arbitrary strings and the keyboard / selection-key setters with arbitrary ints and strings: no panic, no hang, one
    return value per call, the invariant is kept (extends `C06CApi.C_run`) -/
theorem CU_run (hE : C01.EnvOK env G) (ops : List COpU) :
    ∀ c : CCtx D L, C06CApi.KbValid c.kb → C01.SafeInv env G c.editor →
      ∃ c' rcs, c.runU env uenv ops = .ok (c', rcs) ∧ rcs.length = ops.length ∧ C01.SafeInv env G c'.editor ∧
        C06CApi.KbValid c'.kb := by
  induction ops with
  | nil => intro c hkb hi; exact ⟨c, [], rfl, rfl, hi, hkb⟩
  | cons op ops ih =>
    intro c hkb hi
    obtain ⟨c1, rc, h1, hi1, hk1⟩ := CU_step env uenv hE c hkb hi op
    obtain ⟨c2, rcs, h2, hl, hi2, hk2⟩ := ih c1 hk1 hi1
    refine ⟨c2, rc :: rcs, ?_, by simp [hl], hi2, hk2⟩
    simp only [CCtx.runU]; rw [h1]; simp only; rw [h2]

/-- a history of `C06CApi`'s repertoire `COp` is the same history in the extended repertoire `COpU` -/
theorem runU_base (c : CCtx D L) (ops : List COp) : c.runU env uenv (ops.map .base) = c.run env ops := by
  induction ops generalizing c with
  | nil => rfl
  | cons op ops ih =>
    simp only [List.map_cons, CCtx.runU, CCtx.run, CCtx.applyU]
    cases c.apply env op with
    | ok x => obtain ⟨c1, r⟩ := x; simp only; rw [ih]; cases CCtx.run env c1 ops <;> rfl
    | panic p => rfl
    | outOfFuel => rfl

/-- a NULL context: each user-phrase / configuration call returns its documented value and nothing happens -/
theorem null_context_values :
    nullRc (.userAdd none none) = -1 ∧ nullRc (.userRemove none none) = -1 ∧ nullRc (.userLookup none none) = 0 ∧
    nullRc .userEnumerate = -1 ∧ nullRc (.setKBType 0) = -1 ∧ nullRc (.setStr "" []) = -1 := by decide
end

/-! ## the setters: what they write, and what the next key then does -/

section
variable {D L : Type} (env : Env D L) (uenv : UEnv D L)

/-- `chewing_set_selKey` with the required length 10 stores the ten ints as they are — any ints -/
theorem setSelKey_stores (c : CCtx D L) (ks : List Int) : c.setSelKey (some ks) 10 = { c with selKeys := ks } := rfl

/-- `chewing_set_selKey` with any other length, or a NULL array, is ignored: the whole context unchanged -/
theorem setSelKey_ignored (c : CCtx D L) (keys : Option (List Int)) (len : Int) (h : keys = none ∨ len ≠ 10) :
    c.setSelKey keys len = c := by
  unfold CCtx.setSelKey
  cases keys with
  | none => rfl
  | some ks =>
    rcases h with h | h
    · cases h
    · simp only [show Gen.CApiUser.setSelKeyLen = 10 from rfl]; rw [if_pos h]

/-- **`chewing_set_selKey(ks, 10)`, a candidate list open, then `chewing_handle_Default(k)` for a key of `ks`**: the
    remap theorems of `C06CApi` hold for the keys JUST SET — the history returns [0, 0-or-so] and its second call is ONE
    `process_keyevent` of the digit key of the first position `i` of `k` in `ks`, whose `Selecting::next` arm is
    `Selecting::select(i)` (C07 "choosing i") — whatever ints were stored -/
theorem selkey_chooses_position_after_set (c : CCtx D L) (hkb : C06CApi.KbValid c.kb) (ks : List Int) (k : Int) (i : Nat)
    (s : Selecting) (hs : c.editor.state = .selecting s) (hi : ks.findIdx? (· == k) = some i) (h10 : i < 10) :
    c.runU env uenv [.user (.setSelKey (some ks) 10), .base (.default k)] =
      (C06CApi.keyStep env ({ c with selKeys := ks } : CCtx D L) (C06CApi.digitEvent i)).map (fun r => (r.1, [0, r.2])) ∧
    ∀ sh : Shared D L, selectingNext env s sh (C06CApi.digitEvent i) =
      (match Selecting.select env s sh i with
       | .ok (s', sh', t) => .ok ⟨sh', s', t⟩
       | .panic q => .panic q
       | .outOfFuel => .outOfFuel) := by
  obtain ⟨h1, h2⟩ := C06CApi.selkey_chooses_position env ({ c with selKeys := ks } : CCtx D L) hkb k i s hs hi h10
  refine ⟨?_, h2⟩
  simp only [CCtx.runU, CCtx.applyU, CCtx.applyUser, setSelKey_stores]
  rw [h1]
  cases C06CApi.keyStep env ({ c with selKeys := ks } : CCtx D L) (C06CApi.digitEvent i) with
  | ok x => rfl
  | panic p => rfl
  | outOfFuel => rfl

/-- the same after `chewing_config_set_str("chewing.selection_keys", s)` with ten ASCII characters: the keys stored are
    the characters (C16: `selkeys_roundtrip`) -/
theorem setStr_selKeys_stores (c : CCtx D L) (s : Text) (h : C16.ValidSelKeys s) :
    c.setStr env uenv Config.selKeysName s = .ok ({ c with selKeys := s.map Int.ofNat }, 0) := by
  have hc := (C16.selkeys_roundtrip s Config.init h).1
  rcases setStr_cases env uenv c Config.init Config.selKeysName s with ⟨_, h'⟩ | ⟨_, hn, _⟩ | ⟨_, h1, h2⟩
  · rw [hc] at h'; exact absurd (congrArg (·.2) h' : Config.OK = Config.ERROR) (by decide)
  · exact absurd hn (by decide)
  · rw [hc] at h2
    injection h2 with h2 _
    have hp : Config.padKeys (s.map Int.ofNat) = s.map Int.ofNat := (congrArg Config.Ctx.selKeys h2).symm
    rw [h1, hp]; rfl

/-- **the configuration calls write `kb` / `selKeys` exactly as `Model/Config.lean` (C16) says**: for every
    configuration `cc` that agrees with the context on keyboard and selection keys, return value, selection keys and
    keyboard after `chewing_config_set_str` are those of `Config.setStr` — so C16's theorems (`selkeys_roundtrip`,
    `selkeys_rejects`, `str_unknown_rejected`, `kb_select_equiv`, …) speak about this context -/
theorem setStr_agrees_config (c : CCtx D L) (cc : Config.Ctx) (hk : cc.selKeys = c.selKeys) (hkb : kbName cc.keyboard = c.kb)
    (name : String) (value : Text) {c' : CCtx D L} {rc : Int} (h : c.setStr env uenv name value = .ok (c', rc)) :
    rc = (Config.setStr name value cc).2 ∧ c'.selKeys = (Config.setStr name value cc).1.selKeys ∧
    c'.kb = kbName (Config.setStr name value cc).1.keyboard := by
  rcases setStr_cases env uenv c cc name value with ⟨h1, h2⟩ | ⟨k, _, _, h1, h2⟩ | ⟨_, h1, h2⟩ <;> rw [h1] at h <;> rw [h2]
  · cases h; exact ⟨rfl, hk.symm, hkb.symm⟩
  · obtain ⟨e', _, hc, hrc⟩ := withEditor_ok h
    rw [hc, hrc]; exact ⟨rfl, hk.symm, rfl⟩
  · cases h; exact ⟨rfl, rfl, hkb.symm⟩

/-- … and `chewing_set_KBType` as `Config.setKBType`: return value (-1 for an unknown number, which installs the default
    layout) and keyboard -/
theorem setKBType_agrees_config (c : CCtx D L) (cc : Config.Ctx) (n : Int) {c' : CCtx D L} {rc : Int}
    (h : c.setKBType env uenv n = .ok (c', rc)) :
    rc = (Config.setKBType n cc).2 ∧ c'.kb = kbName (Config.setKBType n cc).1.keyboard ∧ c'.selKeys = c.selKeys := by
  obtain ⟨e', _, hc, hrc⟩ := withEditor_ok h
  rw [hc, hrc]; exact ⟨rfl, rfl, rfl⟩

/-- … and `chewing_set_selKey` as `Config.setSelKey` -/
theorem setSelKey_agrees_config (c : CCtx D L) (cc : Config.Ctx) (hk : cc.selKeys = c.selKeys) (ks : List Int) (len : Int) :
    (c.setSelKey (some ks) len).selKeys = (Config.setSelKey ks len cc).selKeys := by
  unfold CCtx.setSelKey Config.setSelKey
  simp only [show Gen.CApiUser.setSelKeyLen = Gen.Cfg.setSelKeyLen from rfl]
  split <;> simp [hk]

/-- **`chewing_set_KBType(k)` then a key: the event is mapped by layout `k`'s keyboard** — after the call the context's
    keyboard is the one of the generated dispatch table (`Config.pairByNum`, which C16's `kb_tables_agree` proves equal
    to the by-name table), the syllable editor is a fresh one of that layout, and with no list open
    `chewing_handle_Default(key)` hands `map_ascii` OF THAT KEYBOARD to the editor -/
theorem setKBType_then_key (c c' : CCtx D L) (n : Int) (rc : Int) (h : c.setKBType env uenv n = .ok (c', rc)) (key : Int)
    (hs : c'.editor.isSelecting = false) :
    c'.kb = kbName (Config.pairByNum (Config.kbOfNum n)).1 ∧
    translate c'.facts (.default key) = keyGlue (mapAscii (kbName (Config.pairByNum (Config.kbOfNum n)).1) (narrow 0 key)) ∧
    Editor.revalidate env (c.editor.setLayout env (uenv.layoutOf (Config.pairByNum (Config.kbOfNum n)).2)) = .ok c'.editor := by
  obtain ⟨e', hr, hc, _⟩ := withEditor_ok h
  have hkb : c'.kb = kbName (Config.pairByNum (Config.kbOfNum n)).1 := by rw [hc]
  refine ⟨hkb, ?_, by rw [hc]; exact hr⟩
  rw [C06CApi.selkey_plain_when_closed c' key hs, hkb]

/-- selecting the layout by NAME installs what selecting it by NUMBER installs (C16 `kb_tables_agree`), and returns 0 -/
theorem setStr_kb_is_setKBType (c : CCtx D L) (value : Text) (k : Nat) (h : Config.assoc value Gen.Cfg.kbFromStrText = some k)
    (hk : Config.kbOfNum (k : Int) = k) :
    c.setStr env uenv Config.kbTypeName value = c.setKBType env uenv k := by
  have h1 : ¬ (Config.kbTypeName ∉ Gen.Cfg.setStrNames) := by decide
  unfold CCtx.setStr CCtx.setKBType
  rw [if_neg h1, if_pos rfl, h]
  simp only [hk, C16.kb_tables_agree]
  have : (if k = Gen.Cfg.kbDefault ∧ (k : Int) ≠ (k : Int) then (-1 : Int) else 0) = Config.OK := by
    rw [if_neg (fun h => h.2 rfl)]; rfl
  rw [this]
end

/-! ## link to C09: the `TrieBuf` model satisfies `UserSpec` -/

/-- the user layer as `Layered` drives it (`Layered::add_phrase` / `update_phrase` refuse an empty phrase and report
    `Ok`; `TrieBuf::add_phrase` refuses a live key), over C09's model of `TrieBuf` -/
def trieBufOps : DictOps TrieBuf.State where
  lookup s k := TrieBuf.lookupAll s k .standard
  entries := TrieBuf.entries
  add s k ph :=
    if ph.text = [] then some s
    else if TrieBuf.addOk s k ph.text then some (TrieBuf.apply s (.add k ph.text ph.freq ph.lastUsed)) else none
  update s k ph f t := if ph.text = [] then s else TrieBuf.apply s (.update k ph.text f t)
  remove s k t := TrieBuf.apply s (.remove k t)

/-- **C09 discharges the hypothesis**: in every state of every history of an in-memory or file-backed `TrieBuf` (C09's
    invariant `Inv`, `C09.triebuf_refines`), lookup and enumeration answer from the denoted map (`C09.lookup_exact`,
    `C09.entries_exact`) and add / update / remove act on it as `UserSpec` requires (`C09.refines_step`) -/
theorem c09_userSpec : UserSpec trieBufOps TrieBuf.Inv TrieBuf.abs where
  lookup s hs k := C09.lookup_exact s hs k
  entries s hs := C09.entries_exact s hs
  add s k ph s' hs h := by
    simp only [trieBufOps] at h
    by_cases he : ph.text = []
    · rw [if_pos he] at h; injection h with h
      exact ⟨by rw [← h]; exact hs, fun _ => h.symm, fun hne => absurd he hne⟩
    · rw [if_neg he] at h
      split at h
      · next hok =>
        injection h with h
        obtain ⟨h1, h2, h3⟩ := C09.refines_step s hs (.add k ph.text ph.freq ph.lastUsed)
        refine ⟨by rw [← h]; exact h1, fun h0 => absurd h0 he, fun _ => ⟨(ph.freq, ph.lastUsed.getD 0), ?_⟩⟩
        rw [← h, h2]
        show (if (TrieBuf.abs s).addOk k ph.text then _ else _) = _
        rw [← h3, hok]; rfl
      · cases h
  update s k ph f t hs := by
    simp only [trieBufOps]
    by_cases he : ph.text = []
    · rw [if_pos he]; exact ⟨hs, fun _ => rfl, fun hne => absurd he hne⟩
    · rw [if_neg he]
      obtain ⟨h1, h2, _⟩ := C09.refines_step s hs (.update k ph.text f t)
      exact ⟨h1, fun h0 => absurd h0 he, fun _ => ⟨(f, t), by rw [h2]; rfl⟩⟩
  remove s k t hs := by
    obtain ⟨h1, h2, _⟩ := C09.refines_step s hs (.remove k t)
    exact ⟨h1, by show TrieBuf.abs (TrieBuf.apply s (.remove k t)) = _; rw [h2]; rfl⟩

/-- the hypothesis is satisfiable: the empty in-memory user dictionary satisfies `Inv`, and stays so along every history -/
example (ops : List MapSpec.Op) : TrieBuf.Inv (TrieBuf.run TrieBuf.initMem ops) :=
  (C09.triebuf_refines TrieBuf.initMem (Or.inl rfl) ops).1

/-- an environment over any `DictOps` (the other components are inert): `opsOf` of it is the `DictOps` again, so
    `c09_userSpec` is an instance of the hypothesis `UserSpec (opsOf env uenv) G um` of the theorems above -/
def envOfOps {D : Type} (ops : DictOps D) : Env D Nat where
  lookupAll d k _ := ops.lookup d k
  userLookupAll d k _ := ops.lookup d k
  addPhrase := ops.add
  updatePhrase := ops.update
  removePhrase := ops.remove
  reopenFlush d := d
  convert _ _ _ := .ok [[]]
  estimate _ f _ := .ok f
  keyPress l _ := (.keyError, l)
  fuzzyKeyPress l _ := (.keyError, l)
  removeLast _ := 0
  clearSyl _ := 0
  sylIsEmpty l := l == 0
  read l := l
  altSyllables _ _ := []

def uenvOfOps {D : Type} (ops : DictOps D) : UEnv D Nat := { entries := ops.entries, layoutOf := fun _ => 0 }

theorem opsOf_envOfOps {D : Type} (ops : DictOps D) : opsOf (envOfOps ops) (uenvOfOps ops) = ops := rfl

/-- **`add_success` / `remove_success` over C09's `TrieBuf`**: a context whose user dictionary is ANY reachable state of
    an in-memory `TrieBuf` — after a successful add the phrase is looked up and enumerated, after a successful remove it
    is neither -/
theorem c09_context (ops : List MapSpec.Op) (p b : Text) (c' : CCtx TrieBuf.State Nat) :
    let c : CCtx TrieBuf.State Nat := { editor := { shared := { syl := 0, dict := TrieBuf.run TrieBuf.initMem ops } } }
    (c.userAdd (envOfOps trieBufOps) (some p) (some b) = .ok (c', 1) →
      c'.userLookup (envOfOps trieBufOps) (some p) (some b) = 1 ∧
      (p, printSyls (parseBopomofo b)) ∈ c'.userEntries (uenvOfOps trieBufOps)) ∧
    (c.userRemove (envOfOps trieBufOps) (some p) (some b) = .ok (c', 1) →
      c'.userLookup (envOfOps trieBufOps) (some p) (some b) = 0 ∧
      (parseBopomofo b, p) ∉ c'.userKeys (uenvOfOps trieBufOps)) := by
  intro c
  have hG : TrieBuf.Inv c.editor.shared.dict := (C09.triebuf_refines TrieBuf.initMem (Or.inl rfl) ops).1
  have hS : UserSpec (opsOf (envOfOps trieBufOps) (uenvOfOps trieBufOps)) TrieBuf.Inv TrieBuf.abs := c09_userSpec
  constructor
  · intro h
    obtain ⟨_, _, _, _, h5, _, h7, _⟩ := add_success _ _ hS hG h
    exact ⟨h5, h7⟩
  · intro h
    obtain ⟨_, _, h3, h4, _⟩ := remove_success _ _ hS hG h
    exact ⟨h3, h4⟩

/-! ## non-vacuity: the model computes, every hypothesis is satisfiable -/

/-- 測 = U+6E2C, 試 = U+8A66; ㄘㄜˋ = [ㄘ, ㄜ, ˋ], ㄕˋ = [ㄕ, ˋ] -/
def tCe : Text := [28204]
def tShi : Text := [35430]
def bCe : Text := [12568, 12572, 715]
def bShi : Text := [12565, 715]

/-- the parser: one syllable; two syllables between every kind of ASCII white space; a bad token in the middle — the
    prefix; a first bad token, the empty string, white space only — nothing; two syllables glued together — no syllable -/
example : parseBopomofo bCe = [10268] ∧
    parseBopomofo ([32, 32] ++ bCe ++ [9] ++ bShi ++ [13, 10]) = [10268, 8708] ∧
    parseBopomofo (bCe ++ [32, 120, 121, 122, 32] ++ bShi) = [10268] ∧
    parseBopomofo ([120, 121, 122, 32] ++ bCe) = [] ∧ parseBopomofo [] = [] ∧ parseBopomofo [32, 9] = [] ∧
    parseBopomofo (bCe ++ bShi) = [] := by decide +kernel

/-- printing and reading back: `Printable` holds for ㄘㄜˋ and ㄕˋ (composable, not the empty pattern) -/
example : printSyls [10268, 8708] = bCe ++ [32] ++ bShi ∧ parseBopomofo (printSyls [10268, 8708]) = [10268, 8708] := by decide +kernel

example : Printable 10268 ∧ Printable 8708 := by
  constructor <;> exact ⟨by decide, by decide⟩

/-- add, lookup, enumerate, remove on the list-backed context -/
example : ((listCtx []).userAdd listEnv (some tCe) (some bCe)).map (fun r => (r.1.editor.shared.dict, r.2)) =
    .ok ([([10268], tCe)], 1) := by decide +kernel

example : (listCtx [([10268], tCe)]).userLookup listEnv (some tCe) (some bCe) = 1 ∧
    (listCtx [([10268], tCe)]).userLookup listEnv (some tShi) (some bCe) = 0 ∧
    (listCtx [([10268], tCe)]).userLookup listEnv none (some bCe) = 1 ∧
    (listCtx [([10268], tCe)]).userLookup listEnv none (some bShi) = 0 ∧
    (listCtx [([10268], tCe)]).userLookup listEnv (some tCe) none = 0 ∧
    (listCtx [([10268], tCe)]).userEntries listUEnv = [(tCe, bCe)] := by decide +kernel

/-- refusals: lengths differ (0), unparsable first token (0), NULL phrase (-1), NULL bopomofo (0), the empty phrase under
    no syllables (0: the repaired finding) — the dictionary is as before each time -/
example : (((listCtx []).userAdd listEnv (some (tCe ++ tShi)) (some bCe)).map fun r => (r.1.editor.shared.dict, r.2)) = .ok (([] : ListDict), 0) ∧
    (((listCtx []).userAdd listEnv (some tCe) (some [120, 121])).map fun r => (r.1.editor.shared.dict, r.2)) = .ok (([] : ListDict), 0) ∧
    (((listCtx []).userAdd listEnv none (some bCe)).map fun r => (r.1.editor.shared.dict, r.2)) = .ok (([] : ListDict), -1) ∧
    (((listCtx []).userAdd listEnv (some tCe) none).map fun r => (r.1.editor.shared.dict, r.2)) = .ok (([] : ListDict), 0) ∧
    (((listCtx []).userAdd listEnv (some []) (some [])).map fun r => (r.1.editor.shared.dict, r.2)) = .ok (([] : ListDict), 0) :=
  ⟨by decide, by decide, by decide, by decide, by decide⟩

/-- the prefix rule, concretely: `add("測", "ㄘㄜˋ xyz")` succeeds and stores 測 under ㄘㄜˋ -/
example : (((listCtx []).userAdd listEnv (some tCe) (some (bCe ++ [32, 120, 121, 122]))).map fun r => (r.1.editor.shared.dict, r.2)) =
    .ok ([([10268], tCe)], 1) := by decide +kernel

example : (((listCtx [([10268], tCe)]).userRemove listEnv (some tCe) (some bCe)).map fun r => (r.1.editor.shared.dict, r.2)) = .ok (([] : ListDict), 1) ∧
    (((listCtx [([10268], tCe)]).userRemove listEnv (some tShi) (some bCe)).map fun r => (r.1.editor.shared.dict, r.2)) =
      .ok ([([10268], tCe)], 0) := by decide +kernel

/-- ONE history mixing the kinds of call: add, lookup, set the selection keys to "asdfghjkl;", a key, select the Hsu
    layout by number and Dvorak by name, an unknown layout number (-1, default installed), a bad selection-key string (-1),
    set_selKey with a wrong length (ignored), remove, lookup -/
example : (((listCtx []).runU listEnv listUEnv
      [.user (.userAdd (some tCe) (some bCe)), .user (.userLookup (some tCe) (some bCe)),
       .user (.setSelKey (some [97, 115, 100, 102, 103, 104, 106, 107, 108, 59]) 10), .base (.default 106),
       .user (.setKBType 1), .user (.setStr "chewing.keyboard_type" [75, 66, 95, 68, 86, 79, 82, 65, 75]),
       .user (.setKBType 99), .user (.setStr "chewing.selection_keys" [49, 50, 51]),
       .user (.setSelKey (some [1, 2, 3]) 3), .user (.userRemove (some tCe) (some bCe)),
       .user (.userLookup (some tCe) (some bCe)), .user .userEnumerate]).map
      fun r => (r.1.editor.shared.dict, r.1.selKeys, r.1.kb, r.2)) =
    .ok (([] : ListDict), [97, 115, 100, 102, 103, 104, 106, 107, 108, 59], "qwerty", [1, 1, 0, 0, 0, 0, -1, -1, 0, 1, 0, 0]) := by
  decide +kernel

/-- the keyboard written by `chewing_config_set_str("chewing.keyboard_type", "KB_DVORAK")` -/
example : (((listCtx []).setStr listEnv listUEnv "chewing.keyboard_type" [75, 66, 95, 68, 86, 79, 82, 65, 75]).map
    fun r => (r.1.kb, r.2)) = .ok ("dvorak", 0) := by decide +kernel

def toyUEnv : UEnv (List Nat) Nat := { entries := fun _ => [], layoutOf := fun _ => 0 }

/-- C01 lift: `EnvOK` / `SafeInv` are satisfiable (C01's toy environment) and `CU_run` applies to a history with every
    kind of call and hostile arguments -/
example : ∃ c' rcs, (({ editor := C01.stdEditor [3] } : CCtx (List Nat) Nat).runU C01.toyEnv toyUEnv
      [.base (.default 106), .user (.userAdd (some tCe) (some bCe)), .user (.userAdd none none),
       .user (.userRemove (some []) (some [255])), .user (.setKBType (-5)), .user (.setStr "" []),
       .user (.setSelKey none 10), .base .candOpen, .user (.userAdd (some tCe) (some bCe)), .base (.default 49)]) =
      .ok (c', rcs) ∧ rcs.length = 10 ∧ C01.SafeInv C01.toyEnv (fun _ => True) c'.editor ∧ C06CApi.KbValid c'.kb :=
  CU_run C01.toyEnv toyUEnv C01.toyEnv_ok _ _ (by unfold C06CApi.KbValid; decide) (C01.stdEditor_inv (w := False) [3])

/-- the selection keys just set are the ones that choose: hypotheses of `selkey_chooses_position_after_set` on C06's open
    list (keys "asdfghjkl;"), setting the keys "qwdrtyuiop" (`d` = position 2) -/
example : ∃ c s, C06CApi.listCtx = some c ∧ c.editor.state = .selecting s ∧
    c.runU C06.toyEnv ({ entries := fun _ => [], layoutOf := fun _ => 0 } : UEnv Unit Nat)
      [.user (.setSelKey (some [113, 119, 100, 114, 116, 121, 117, 105, 111, 112]) 10), .base (.default 100)] =
      (C06CApi.keyStep C06.toyEnv ({ c with selKeys := [113, 119, 100, 114, 116, 121, 117, 105, 111, 112] } : CCtx Unit Nat)
        (C06CApi.digitEvent 2)).map (fun r => (r.1, [0, r.2])) := by
  refine ⟨_, _, rfl, rfl, ?_⟩
  exact (selkey_chooses_position_after_set C06.toyEnv _ _ (by unfold C06CApi.KbValid; decide) _ 100 2 _ rfl (by decide) (by omega)).1

end Chewing.C08CApi
