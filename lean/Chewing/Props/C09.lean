import Chewing.Proofs.TrieBufSorted
import Chewing.Proofs.TrieBufSettle
import Chewing.Proofs.SqliteDict
import Chewing.Proofs.TrieLink
import Chewing.Proofs.TrieLinkOrder
import Chewing.Proofs.TrieFuzzyOrder
/-!
# C09 — Mutable dictionaries behave as a map under any update history

Models: `Model/MapSpec.lean` (the abstract map and what a correct answer is), `Model/TrieBuf.lean`
(`Trie` read side, `TrieBuilder`, `TrieBuf` with snapshot / pending tree / graveyard and the
*sequential* snapshot writer), `Model/Layered.lean` (the shared de-duplication loop, `Layered`).
The models describe the repository **after** the five `fix:` commits of this property:
F09 (`add_phrase`/`update_phrase` lift the tombstone), F11 (`Trie::lookup_first_n_phrases` truncates),
F10 (22d24c7: a pending entry replaces the persisted entry of the same key in `entries()` and in
lookups), MaxCodePointPhrase (fcda5e6: a lookup scans *all* pending phrases of the syllables) and
F36 (c3d9fb2: a prefix lookup is answered from the merged view of `entries()`, every pending / tombstone
filter keyed by the entry's own key, restricted to the keys that match the query per syllable).

Result in one paragraph.  **`theorem C09 : C09_full`** — whatever sequence of add / update / remove /
flush / reopen / close-and-open is applied to an in-memory or a file-backed `TrieBuf` (snapshot adoption
included), the map it denotes is the one `MapSpec` computes, `add_phrase` is rejected exactly on live
keys, and **every answer — exact lookup, prefix (`FuzzyPartialPrefix`) lookup, enumeration — is that
map's, in every state of every history, with no exclusion and no precondition** (`triebuf_refines`,
`lookup_exact`, `fuzzy_exact`, `entries_exact`).  The prefix-lookup specification `IsFuzzyLookup` is
ORDER-FREE (one entry per phrase text live under a matching key, with the value of one such key and the
highest frequency among them); the ORDER the repaired code produces is stated separately and exactly
(`fuzzy_order`: first appearance in "persisted matching entries in file order, then pending matching
entries in `BTreeMap` order"; `first_n_is_prefix_triebuf`: the first n results are the first n of it).
`Layered` is treated for arbitrary system layers and a user layer under any history applied through
`Layered` itself, in-memory or file-backed, for both strategies and in every state
(`layered_history_full`; `layered_history`, `layered_history_file` are special cases).  The
provided trait methods `lookup_first_phrase` / `lookup_all_phrases` are the head / the whole of the full
result.

What the code did before the fixes: until 22d24c7 a live key both persisted and pending was enumerated
twice and looked up with the larger of the two frequencies (class **UpdatePersisted**, F10); until fcda5e6
a pending phrase whose text begins with U+10FFFF was never returned by a lookup (class
**MaxCodePointPhrase**: the pending range ended at the exclusive bound `"\u{10FFFF}"`); until c3d9fb2
prefix lookups scanned only the persisted leaves, added the pending entries of exactly the query and
filtered pending keys / tombstones keyed by the QUERY (class **FuzzyOverTombstoneOrPending**, F36).  The
witnesses of the three classes are regression theorems (`update_persisted_fixed`,
`max_code_point_phrase_fixed`, `fuzzy_pending_repaired`, `fuzzy_tombstone_repaired`); the theorems of §6a
are statements about snapshot adoption.
-/
namespace Chewing.C09
open MapSpec TrieBuf Trie

/-! ## 1. Refinement: the denoted map follows the specification along every history -/

/-- one step: invariant preserved, `abs (apply op s) = MapSpec.apply op (abs s)`, and the result of
    `add_phrase` (the only operation that can fail) is the specification's -/
theorem refines_step (s : State) (hs : Inv s) (op : Op) :
    Inv (apply s op) ∧ abs (apply s op) = (abs s).apply op ∧
      ∀ k t, addOk s k t = (abs s).addOk k t :=
  ⟨inv_apply hs op, abs_apply hs op, fun k t => addOk_eq hs.linv k t⟩

/-- **all histories** from a fresh in-memory or file-backed dictionary -/
theorem triebuf_refines (init : State) (hi : init = initMem ∨ init = initFile) (ops : List Op) :
    Inv (run init ops) ∧ abs (run init ops) = Map.empty.run ops := by
  rcases hi with rfl | rfl
  · have := run_refines inv_initMem ops
    rw [abs_initMem] at this; exact this
  · have := run_refines inv_initFile ops
    rw [abs_initFile] at this; exact this

/-- the pending list of the model is, in every reachable state, strictly increasing in the order of
    `PhraseKey` — it is the iteration order of the `BTreeMap` it stands for -/
theorem pending_sorted (init : State) (hi : init = initMem ∨ init = initFile) (ops : List Op) :
    Sorted (run init ops).btree := by
  rcases hi with rfl | rfl
  · exact sorted_run (s := initMem) List.Pairwise.nil ops
  · exact sorted_run (s := initFile) List.Pairwise.nil ops

/-! ## 2. Answers -/

/-- exact lookup, in **every** state: exactly the live phrases of the syllables, each once, with the
    stored frequency and time -/
theorem lookup_exact (s : State) (hs : Inv s) (k : Key) :
    IsLookup (abs s) k (lookupAll s k .standard) := lookup_agrees hs k

/-- exact lookup in *every* state: the phrases returned are exactly the live ones, each once -/
theorem lookup_phrases (s : State) (hs : Inv s) (k : Key) :
    (texts (lookupAll s k .standard)).Nodup ∧
      ∀ t, t ∈ texts (lookupAll s k .standard) ↔ ∃ v, abs s (k, t) = some v :=
  ⟨(lookup_agrees hs k).1, fun _ => lookup_mem_texts (lookup_agrees hs k)⟩

/-- enumeration, in **every** state: exactly the live entries, each once -/
theorem entries_exact (s : State) (hs : Inv s) : IsEntries (abs s) (entries s) := entries_agrees hs.linv

/-- on an exact lookup the de-duplication loop of `lookup_first_n_phrases` is the identity: the candidates
    (persisted phrases without a pending entry, then pending entries, minus tombstones) already have
    pairwise different texts -/
theorem lookup_is_candidates (s : State) (hs : Inv s) (k : Key) :
    lookupAll s k .standard = entriesIterFor s k .standard := lookupAll_std_eq_cands hs k

/-- prefix lookup, in **every** state and for **every** query: one entry per phrase live under a matching
    key (same number of syllables, every stored syllable `starts_with` the query's), with the value of one
    such key and the highest frequency among them (F36 fixed: no excluded class, no side condition) -/
theorem fuzzy_exact (s : State) (hs : Inv s) (q : Key) :
    IsFuzzyLookup fuzzyMatch (abs s) q (lookupAll s q .fuzzyPartialPrefix) := fuzzy_agrees hs q

/-- prefix lookup, phrases: the answer lists exactly the texts live under a matching key, each once -/
theorem fuzzy_phrases (s : State) (hs : Inv s) (q : Key) :
    (texts (lookupAll s q .fuzzyPartialPrefix)).Nodup ∧
      ∀ t, t ∈ texts (lookupAll s q .fuzzyPartialPrefix) ↔
        ∃ key v, fuzzyMatch key q = true ∧ abs s (key, t) = some v :=
  ⟨(fuzzy_agrees hs q).1, fun _ => fuzzy_mem_texts (fuzzy_agrees hs q)⟩

/-- **the ORDER of a prefix lookup**, exactly as the repaired code produces it: the candidates are the
    persisted entries (file order: keys of the query's length lexicographically by syllable code, inside a
    key the leaf order) that match, have no pending entry and no tombstone of THEIR key, followed by the
    pending entries (`BTreeMap` order: by key, then text) that match and have no tombstone; the answer
    holds each text at the position of its first appearance among the candidates (with the maximum under
    `Phrase`'s order of all candidates of that text, `dedup`) -/
theorem fuzzy_order (s : State) (q : Key) :
    lookupAll s q .fuzzyPartialPrefix =
      dedup ((((Trie.entries s.snap).filter (fun e => !(btHas s.btree (e.1, e.2.text))) ++ btEntries s.btree).filter
        (fun e => !(s.grave.contains (e.1, e.2.text) ) ) |>.filter (fun e => fuzzyMatch e.1 q)).map (·.2)) ∧
    texts (lookupAll s q .fuzzyPartialPrefix) = firstOcc (texts (entriesIterFor s q .fuzzyPartialPrefix)) :=
  ⟨rfl, texts_dedup _⟩

/-- both strategies in one formula: the candidates of a lookup are the phrases of the enumerated entries
    (`entries()`: pending over persisted, minus tombstones) whose key matches the query under the strategy's
    predicate — `==` for the exact strategy (where the code takes the shortcut through the trie's own lookup
    and the `BTreeMap` range), per-syllable prefix for `FuzzyPartialPrefix` (where it IS the code) -/
theorem lookup_is_filtered_enumeration (s : State) (k : Key) (st : Strategy) :
    lookupAll s k st = dedup (((entries s).filter (fun e => keyMatch st e.1 k)).map (·.2)) := by
  unfold TrieBuf.lookupAll; rw [entriesIterFor_uniform]

/-- a candidate of a prefix lookup, layer by layer — each filter keyed by the key the phrase is stored
    under (the query's key was used before fix c3d9fb2) -/
theorem fuzzy_candidates (s : State) (q : Key) (p : Phrase) :
    p ∈ entriesIterFor s q .fuzzyPartialPrefix ↔ ∃ key, fuzzyMatch key q = true ∧ (key, p.text) ∉ s.grave ∧
      (((∃ l ∈ s.snap, l.1 = key ∧ p ∈ l.2) ∧ ∀ w, ((key, p.text), w) ∉ s.btree) ∨
        ∃ v, ((key, p.text), v) ∈ s.btree ∧ p = mkPhrase p.text v) := by
  simp only [entriesIterFor_fuzzy, mem_match_entries, mem_entries]

/-! ## 3. Remove / re-add -/

/-- a removed phrase stays absent — from the map, from lookups and from the enumeration — as long as
    it is not added or updated again, whatever else happens (including snapshots) -/
theorem removed_stays_absent (s : State) (hs : Inv s) (k : Key) (t : Text) (ops : List Op)
    (hw : ∀ op ∈ ops, Map.writes (k, t) op = false) :
    let s' := run (apply s (.remove k t)) ops
    abs s' (k, t) = none ∧ t ∉ texts (lookupAll s' k .standard) ∧ ∀ e ∈ entries s', ¬ (e.1 = k ∧ e.2.text = t) := by
  intro s'
  have h1 := inv_apply hs (.remove k t)
  have h2 := run_refines h1 ops
  have habs : abs s' (k, t) = none := by
    show abs (run (apply s (.remove k t)) ops) (k, t) = none
    rw [h2.2, abs_apply hs]
    exact Map.run_absent (Map.apply_remove_absent _ k t) ops hw
  refine ⟨habs, ?_, ?_⟩
  · intro hm
    obtain ⟨v, hv⟩ := (lookup_mem_texts (lookup_agrees h2.1 k)).mp hm
    rw [habs] at hv; exact absurd hv (by simp)
  · rintro e he ⟨e1, e2⟩
    have := (entries_agrees h2.1.linv).2.1 e he
    rw [e1, e2, habs] at this
    cases this

/-- a pending entry that is not under a tombstone is returned by the exact lookup *as written* -/
theorem pending_is_reported (s : State) (hs : Inv s) (k : Key) (t : Text) (v : Val)
    (hbt : ((k, t), v) ∈ s.btree) (hg : (k, t) ∉ s.grave) :
    mkPhrase t v ∈ lookupAll s k .standard := by
  rw [lookupAll_std_eq_cands hs k]
  exact mem_cands.mpr (mem_entries.mpr ⟨hg, Or.inr ⟨v, hbt, rfl⟩⟩)

/-- a key just written is pending and has no tombstone: the exact lookup reports it as written -/
theorem put_reported (s : State) (hs : Inv s) (k : Key) (t : Text) (v : Val) :
    mkPhrase t v ∈ lookupAll (put s (k, t) v) k .standard :=
  pending_is_reported _ (inv_put hs _ _) k t v (mem_btInsert.mpr (Or.inl rfl)) (by simp [put, graveErase])

/-- the shared tail of `add_phrase` / `update_phrase`: the key is live with the written value, and the exact lookup
    reports that value -/
theorem put_visible (s : State) (hs : Inv s) (k : Key) (t : Text) (v : Val) :
    abs (put s (k, t) v) (k, t) = some v ∧ t ∈ texts (lookupAll (put s (k, t) v) k .standard) ∧
      mkPhrase t v ∈ lookupAll (put s (k, t) v) k .standard := by
  have habs : abs (put s (k, t) v) (k, t) = some v := by rw [abs_put hs, Map.set_same]
  exact ⟨habs, (lookup_mem_texts (lookup_agrees (inv_put hs _ _) k)).mpr ⟨_, habs⟩, put_reported s hs k t v⟩

/-- … and adding it again makes it visible again, with the newly written value (F09, F10 fixed; before
    22d24c7 a key that was also persisted was reported with the larger of the two frequencies) -/
theorem readd_visible_again (s : State) (hs : Inv s) (k : Key) (t : Text) (f : Nat) (tm : Option Nat)
    (ha : abs s (k, t) = none) :
    let s' := apply s (.add k t f tm)
    addOk s k t = true ∧ abs s' (k, t) = some (f, tm.getD 0) ∧ t ∈ texts (lookupAll s' k .standard) ∧
      { text := t, freq := f, lastUsed := some (tm.getD 0) } ∈ lookupAll s' k .standard := by
  have hok : addOk s k t = true := by rw [addOk_eq hs.linv]; simp [Map.addOk, ha]
  simp only [apply, hok, if_true]
  exact ⟨trivial, put_visible s hs k t _⟩

/-- `update_phrase` always makes the phrase live with the written value (upsert), and the exact lookup
    reports exactly that value — also when the phrase is already persisted (F10 fixed) -/
theorem update_visible (s : State) (hs : Inv s) (k : Key) (t : Text) (f tm : Nat) :
    let s' := apply s (.update k t f tm)
    abs s' (k, t) = some (f, tm) ∧ t ∈ texts (lookupAll s' k .standard) ∧
      { text := t, freq := f, lastUsed := some tm } ∈ lookupAll s' k .standard :=
  put_visible s hs k t (f, tm)

/-! ## 4. Layered -/

theorem mem_candidates {layers : List Dict} {k : List Nat} {st : Strategy} {p : Phrase} :
    p ∈ Layered.candidates layers k st ↔ ∃ d ∈ layers, p ∈ d.lookup k st := by
  simp [Layered.candidates, List.mem_flatMap]

/-- a layered dictionary returns the union of its layers: one entry per phrase, each entry is an
    answer of some layer and carries the highest frequency any layer reports for that phrase, in the
    order of first appearance across the layers (system layers in order, then the user layer) -/
theorem layered_union (layers : List Dict) (k : List Nat) (st : Strategy) :
    let r := Layered.lookupAll layers k st
    (texts r).Nodup ∧
    (∀ t, t ∈ texts r ↔ ∃ d ∈ layers, t ∈ texts (d.lookup k st)) ∧
    (∀ p ∈ r, (∃ d ∈ layers, p ∈ d.lookup k st) ∧
      ∀ d ∈ layers, ∀ q ∈ d.lookup k st, q.text = p.text → q.freq ≤ p.freq) ∧
    texts r = firstOcc (texts (Layered.candidates layers k st)) := by
  intro r
  refine ⟨dedup_texts_nodup _, fun t => ?_, fun p hp => ⟨mem_candidates.mp (mem_of_mem_dedup hp), fun d hd q hq e =>
    dedup_highest hp (mem_candidates.mpr ⟨d, hd, hq⟩) e⟩, texts_dedup _⟩
  show t ∈ texts (dedup _) ↔ _
  rw [mem_texts_dedup]
  simp only [mem_texts, mem_candidates]
  constructor
  · rintro ⟨p, ⟨d, hd, hp⟩, e⟩; exact ⟨d, hd, p, hp, e⟩
  · rintro ⟨d, hd, p, hp, e⟩; exact ⟨p, ⟨d, hd, hp⟩, e⟩

/-- the order is stable for equal inputs: the answer is a function of the layers' answers alone -/
theorem layered_deterministic (l1 l2 : List Dict) (k : List Nat) (st : Strategy)
    (h : l1.map (fun d => d.lookup k st) = l2.map (fun d => d.lookup k st)) :
    Layered.lookupAll l1 k st = Layered.lookupAll l2 k st := by
  unfold Layered.lookupAll Layered.candidates
  rw [List.flatMap_def, List.flatMap_def, h]

/-- a history applied through `Layered` is the history of forwarded calls applied to the user layer -/
theorem layered_runUser (u : State) (ops : List Op) :
    Layered.runUser u ops = run u (ops.filter Layered.forwarded) :=
  List.foldl_filter.symm

/-- the user layer on top of the system layers `sys`: each phrase once; a phrase is returned iff a system
    layer or the user layer returns it; every phrase of the user layer is represented with at least its
    frequency -/
theorem layered_over_user (sys : List Dict) (ud : Dict) (k : List Nat) (st : Strategy) :
    let r := Layered.lookupAll (sys ++ [ud]) k st
    (texts r).Nodup ∧
    (∀ t, t ∈ texts r ↔ (∃ d ∈ sys, t ∈ texts (d.lookup k st)) ∨ t ∈ texts (ud.lookup k st)) ∧
    (∀ q ∈ ud.lookup k st, ∃ p ∈ r, p.text = q.text ∧ q.freq ≤ p.freq) := by
  intro r
  obtain ⟨h1, h2, _, _⟩ := layered_union (sys ++ [ud]) k st
  refine ⟨h1, fun t => ?_, fun q hq => dedup_max (mem_candidates.mpr ⟨ud, by simp, hq⟩)⟩
  rw [h2 t]; simp [or_and_right, exists_or]

/-- `Layered` over system layers `sys` (any dictionaries) and a user layer `u` whose exact lookup of
    `k` is a correct answer for the map `m`: each phrase once; a phrase is returned iff a system layer
    returns it or it is live in `m`; a live user phrase is reported with at least the user's frequency
    (the highest across layers, by `layered_union`) -/
theorem layered_over_map (sys : List Dict) (u : State) (m : Map) (k : Key)
    (hlk : IsLookup m k (lookupAll u k .standard)) :
    let r := Layered.lookupAll (sys ++ [toDict u]) k .standard
    (texts r).Nodup ∧
    (∀ t, t ∈ texts r ↔ (∃ d ∈ sys, t ∈ texts (d.lookup k .standard)) ∨ ∃ v, m (k, t) = some v) ∧
    (∀ t v, m (k, t) = some v → ∃ p ∈ r, p.text = t ∧ v.1 ≤ p.freq) := by
  intro r
  obtain ⟨h1, h2, h3⟩ := layered_over_user sys (toDict u) k .standard
  refine ⟨h1, fun t => (h2 t).trans (or_congr Iff.rfl (lookup_mem_texts hlk)), fun t v hv => ?_⟩
  obtain ⟨q, hq, rfl⟩ := hlk.2.2 t v hv
  obtain ⟨p, hp, e, f⟩ := h3 q hq
  have : v = valOf q := Option.some.inj (hv.symm.trans (hlk.2.1 q hq))
  exact ⟨p, hp, e, by rw [this]; exact f⟩

/-- `Layered` on a **prefix** lookup, over system layers `sys` (any dictionaries) and a user layer `u`
    whose prefix lookup of `q` is a correct answer for the map `m`: each phrase once; a phrase is returned
    iff a system layer returns it or it is live in `m` under a key matching `q`; a live user phrase is
    reported with at least the user's frequency (the highest across layers, by `layered_union`) -/
theorem layered_over_map_fuzzy (sys : List Dict) (u : State) (m : Map) (q : Key)
    (hlk : IsFuzzyLookup fuzzyMatch m q (lookupAll u q .fuzzyPartialPrefix)) :
    let r := Layered.lookupAll (sys ++ [toDict u]) q .fuzzyPartialPrefix
    (texts r).Nodup ∧
    (∀ t, t ∈ texts r ↔ (∃ d ∈ sys, t ∈ texts (d.lookup q .fuzzyPartialPrefix)) ∨
      ∃ key v, fuzzyMatch key q = true ∧ m (key, t) = some v) ∧
    (∀ key t v, fuzzyMatch key q = true → m (key, t) = some v → ∃ p ∈ r, p.text = t ∧ v.1 ≤ p.freq) := by
  intro r
  obtain ⟨h1, h2, h3⟩ := layered_over_user sys (toDict u) q .fuzzyPartialPrefix
  refine ⟨h1, fun t => (h2 t).trans (or_congr Iff.rfl (fuzzy_mem_texts hlk)), fun key t v hm hv => ?_⟩
  obtain ⟨q', hq', rfl, fq⟩ := hlk.2.2 key t v hm hv
  obtain ⟨p, hp, e, f⟩ := h3 q' hq'
  exact ⟨p, hp, e, Nat.le_trans fq f⟩

/-- **Layered under any update history, in every state, both strategies**: the user layer — in-memory or
    file-backed, snapshot adoption included — went through the history `ops` of
    `Layered::{add,update,remove}_phrase`, `flush`, `reopen`, close-and-open (no settling suffix, no
    excluded class); the user's map is `Map.empty.run (forwarded ops)`.  Exact lookup of `k`: system layers
    ∪ live phrases of `k`; prefix lookup of `q`: system layers ∪ phrases live under a key matching `q`. -/
theorem layered_history_full (init : State) (hi : init = initMem ∨ init = initFile) (sys : List Dict) (ops : List Op) :
    let m := Map.empty.run (ops.filter Layered.forwarded)
    let u := Layered.runUser init ops
    (∀ k, let r := Layered.lookupAll (sys ++ [toDict u]) k .standard
      (texts r).Nodup ∧
      (∀ t, t ∈ texts r ↔ (∃ d ∈ sys, t ∈ texts (d.lookup k .standard)) ∨ ∃ v, m (k, t) = some v) ∧
      (∀ t v, m (k, t) = some v → ∃ p ∈ r, p.text = t ∧ v.1 ≤ p.freq)) ∧
    (∀ q, let r := Layered.lookupAll (sys ++ [toDict u]) q .fuzzyPartialPrefix
      (texts r).Nodup ∧
      (∀ t, t ∈ texts r ↔ (∃ d ∈ sys, t ∈ texts (d.lookup q .fuzzyPartialPrefix)) ∨
        ∃ key v, fuzzyMatch key q = true ∧ m (key, t) = some v) ∧
      (∀ key t v, fuzzyMatch key q = true → m (key, t) = some v → ∃ p ∈ r, p.text = t ∧ v.1 ≤ p.freq)) := by
  intro m u
  -- the user layer is a `TrieBuf` history: it satisfies the invariant and denotes `m`
  have h : Inv u ∧ abs u = m := by
    show Inv (Layered.runUser init ops) ∧ abs (Layered.runUser init ops) = _
    rw [layered_runUser]; exact triebuf_refines init hi _
  exact ⟨fun k => layered_over_map sys u m k (h.2 ▸ lookup_agrees h.1 k),
    fun q => layered_over_map_fuzzy sys u m q (h.2 ▸ fuzzy_agrees h.1 q)⟩

/-- **Layered under any update history**: an in-memory user layer that went through the history `ops`
    of `Layered::{add,update,remove}_phrase`, `flush`, `reopen`; the user's map is
    `Map.empty.run (forwarded ops)` -/
theorem layered_history (sys : List Dict) (ops : List Op) (k : Key) :
    let m := Map.empty.run (ops.filter Layered.forwarded)
    let r := Layered.lookupAll (sys ++ [toDict (Layered.runUser initMem ops)]) k .standard
    (texts r).Nodup ∧
    (∀ t, t ∈ texts r ↔ (∃ d ∈ sys, t ∈ texts (d.lookup k .standard)) ∨ ∃ v, m (k, t) = some v) ∧
    (∀ t v, m (k, t) = some v → ∃ p ∈ r, p.text = t ∧ v.1 ≤ p.freq) :=
  (layered_history_full initMem (Or.inl rfl) sys ops).1 k

/-! ## 5. The first n results are the first n of the full result -/

theorem first_n_is_prefix_triebuf (s : State) (k : Key) (n : Nat) (st : Strategy) :
    lookupFirstN s k n st = (lookupAll s k st).take n := rfl

theorem first_n_is_prefix_layered (layers : List Dict) (k : List Nat) (n : Nat) (st : Strategy) :
    Layered.lookupFirstN layers k n st = (Layered.lookupAll layers k st).take n := rfl

/-- for `Trie` this needs the final `truncate` of fix c70c911 (F11) and the fact that the early
    `break` only skips leaves beyond the first n phrases -/
theorem first_n_is_prefix_trie (t : List Leaf) (q : Key) (n : Nat) (st : Strategy) :
    Trie.lookupFirstN t q n st = (Trie.lookupAll t q st).take n :=
  lookupFirstN_eq_take t q n st

/-- asking for `usize::MAX` (`lookup_all_phrases`) returns everything -/
theorem lookup_all_is_full (s : State) (k : Key) (st : Strategy) (n : Nat) (h : (lookupAll s k st).length ≤ n) :
    lookupFirstN s k n st = lookupAll s k st := by
  rw [first_n_is_prefix_triebuf]; exact List.take_of_length_le h

/-- the provided trait method `lookup_first_phrase` returns the head of the full result — for every
    implementation whose `lookup_first_n_phrases` is a prefix of its full result (all four above) -/
theorem first_phrase_is_head (lookupN : Nat → List Phrase) (full : List Phrase) (h : ∀ n, lookupN n = full.take n) :
    firstPhraseOf lookupN = full.head? := by
  unfold firstPhraseOf; rw [h 1]; cases full <;> rfl

/-- the provided trait method `lookup_all_phrases` (n = `usize::MAX`) returns the full result; a `Vec`
    never holds more than `usize::MAX` elements -/
theorem all_phrases_is_full (lookupN : Nat → List Phrase) (full : List Phrase) (h : ∀ n, lookupN n = full.take n)
    (hl : full.length ≤ usizeMax) : allPhrasesOf lookupN = full := by
  unfold allPhrasesOf; rw [h usizeMax]; exact List.take_of_length_le hl

theorem first_phrase_triebuf (s : State) (k : Key) (st : Strategy) :
    firstPhraseOf (fun n => lookupFirstN s k n st) = (lookupAll s k st).head? :=
  first_phrase_is_head _ _ (fun n => first_n_is_prefix_triebuf s k n st)

theorem first_phrase_layered (layers : List Dict) (k : List Nat) (st : Strategy) :
    firstPhraseOf (fun n => Layered.lookupFirstN layers k n st) = (Layered.lookupAll layers k st).head? :=
  first_phrase_is_head _ _ (fun n => first_n_is_prefix_layered layers k n st)

theorem first_phrase_trie (t : List Leaf) (q : Key) (st : Strategy) :
    firstPhraseOf (fun n => Trie.lookupFirstN t q n st) = (Trie.lookupAll t q st).head? :=
  first_phrase_is_head _ _ (fun n => first_n_is_prefix_trie t q n st)

theorem first_phrase_sqlite (s : SqliteDict.State) (k : Key) (st : Strategy) :
    firstPhraseOf (fun n => SqliteDict.lookupFirstN s k n st) = (SqliteDict.lookupAll s k).head? :=
  first_phrase_is_head _ _ (fun _ => rfl)

/-! ## 6. The full statement — a theorem since fix c3d9fb2 (F36) -/

/-- the answers of a state are those of the map it denotes -/
structure Answers (s : State) : Prop where
  lookup : ∀ k, IsLookup (abs s) k (lookupAll s k .standard)
  entries : IsEntries (abs s) (entries s)
  fuzzy : ∀ q, IsFuzzyLookup fuzzyMatch (abs s) q (lookupAll s q .fuzzyPartialPrefix)

/-- full-strength C09 for `TrieBuf`: along every history the dictionary denotes the specified map
    and answers as that map (exact lookup, enumeration, prefix lookup) -/
def C09_full : Prop :=
  ∀ init, (init = initMem ∨ init = initFile) → ∀ ops : List Op,
    abs (run init ops) = Map.empty.run ops ∧ Answers (run init ops)

/-- every state satisfying the invariant answers as its map -/
theorem inv_answers (s : State) (hs : Inv s) : Answers s :=
  ⟨fun k => lookup_agrees hs k, entries_agrees hs.linv, fun q => fuzzy_agrees hs q⟩

/-- **C09 for `TrieBuf`, full strength**: every history, every state, in-memory or file-backed (flush,
    reopen with snapshot adoption, close-and-open included), all three kinds of answers, no excluded
    class, no precondition.  (Before fix c3d9fb2 the code failed it on the F36 witnesses below.) -/
theorem C09 : C09_full := by
  intro init hi ops
  have h := triebuf_refines init hi ops
  exact ⟨h.2, inv_answers _ h.1⟩

/-- C09 for the exact lookup and the enumeration alone (special case of `C09`) -/
def C09_exact_full : Prop :=
  ∀ init, (init = initMem ∨ init = initFile) → ∀ ops : List Op,
    let s := run init ops
    abs s = Map.empty.run ops ∧ (∀ k, IsLookup (abs s) k (lookupAll s k .standard)) ∧ IsEntries (abs s) (entries s)

theorem C09_exact : C09_exact_full := fun init hi ops =>
  let ⟨h, a⟩ := C09 init hi ops
  ⟨h, a.lookup, a.entries⟩

/-- an in-memory dictionary (no persisted layer) answers exact lookups and enumerations as the map,
    in every state of every history (special case of `C09_exact`) -/
theorem mem_answers (ops : List Op) :
    let s := run initMem ops
    abs s = Map.empty.run ops ∧ (∀ k, IsLookup (abs s) k (lookupAll s k .standard)) ∧ IsEntries (abs s) (entries s) :=
  C09_exact initMem (Or.inl rfl) ops

def kCe4 : Key := [10268]      -- ㄘㄜˋ
def kC : Key := [10240]        -- ㄘ
def tCe : Text := [28204]      -- 測

/-- F10 witness (fixed): add, snapshot, then update the persisted entry with a lower frequency -/
def witnessF10 : List Op := [.add kCe4 tCe 100 (some 2), .flush, .reopen, .update kCe4 tCe 50 7]

/-- F36 witness (pending half, fixed): a pending entry was never matched by prefix -/
def witnessF36 : List Op := [.add kCe4 tCe 1 (some 2)]

/-- F36 witness (tombstone half, fixed): the prefix lookup ignored the tombstone of a persisted entry -/
def witnessF36b : List Op := [.add kCe4 tCe 100 (some 2), .flush, .reopen, .remove kCe4 tCe]

/-- F10 regression (fixed by 22d24c7): the lookup reports the new value — before the fix it reported
    the old, larger one, 100 — and `entries()` yields the updated entry once — before: twice, 100 and 50 -/
theorem update_persisted_fixed :
    lookupAll (run initFile witnessF10) kCe4 .standard = [{ text := tCe, freq := 50, lastUsed := some 7 }] ∧
    entries (run initFile witnessF10) = [(kCe4, { text := tCe, freq := 50, lastUsed := some 7 })] ∧
    abs (run initFile witnessF10) (kCe4, tCe) = some (50, 7) := by decide +kernel

/-- F36 regression, pending half (fixed by c3d9fb2): the pending phrase 測
    under ㄘㄜˋ is live, matches the prefix ㄘ, and the prefix lookup returns it — before the fix the answer
    was empty until a snapshot had been adopted — in-memory and file-backed alike -/
theorem fuzzy_pending_repaired :
    lookupAll (run initMem witnessF36) kC .fuzzyPartialPrefix = [{ text := tCe, freq := 1, lastUsed := some 2 }] ∧
    lookupAll (run initFile witnessF36) kC .fuzzyPartialPrefix = [{ text := tCe, freq := 1, lastUsed := some 2 }] ∧
    abs (run initMem witnessF36) (kCe4, tCe) = some (1, 2) ∧ fuzzyMatch kCe4 kC = true ∧
    IsFuzzyLookup fuzzyMatch (abs (run initMem witnessF36)) kC (lookupAll (run initMem witnessF36) kC .fuzzyPartialPrefix) :=
  ⟨by decide +kernel, by decide +kernel, by decide +kernel, by decide +kernel, (C09 initMem (Or.inl rfl) witnessF36).2.fuzzy kC⟩

/-- F36 regression, tombstone half (fixed by c3d9fb2): after removing the
    persisted 測 the prefix lookup of ㄘ does not return it (before the fix: `[測/100/2]`), in agreement with the
    exact lookup and the map; the state still holds the persisted leaf and the tombstone -/
theorem fuzzy_tombstone_repaired :
    lookupAll (run initFile witnessF36b) kC .fuzzyPartialPrefix = [] ∧
    lookupAll (run initFile witnessF36b) kCe4 .standard = [] ∧
    abs (run initFile witnessF36b) (kCe4, tCe) = none ∧
    (run initFile witnessF36b).snap ≠ [] ∧ (run initFile witnessF36b).grave = [(kCe4, tCe)] := by
  decide +kernel

/-- F36 regression, shadowing: a persisted entry updated with a LOWER frequency is reported by the prefix
    lookup with the new value (the pending entry replaces the persisted one of the same key; a prefix
    lookup that merged without keys would report `max` = 100) -/
theorem fuzzy_shadow_repaired :
    lookupAll (run initFile witnessF10) kC .fuzzyPartialPrefix = [{ text := tCe, freq := 50, lastUsed := some 7 }] := by
  decide +kernel

/-- **C09 for `TrieBuf`** spelled out: along every history the denoted map is the specified one and every
    exact lookup, the enumeration and every prefix lookup are the map's -/
theorem triebuf_refines_full (init : State) (hi : init = initMem ∨ init = initFile) (ops : List Op) :
    let s := run init ops
    abs s = Map.empty.run ops ∧
    (∀ k, IsLookup (abs s) k (lookupAll s k .standard)) ∧
    IsEntries (abs s) (entries s) ∧
    (∀ q, IsFuzzyLookup fuzzyMatch (abs s) q (lookupAll s q .fuzzyPartialPrefix)) :=
  let ⟨h, a⟩ := C09 init hi ops
  ⟨h, a.lookup, a.entries, a.fuzzy⟩

/-! ### 6a. The snapshot-adoption path

`reopen; flush; reopen` / close-and-open always end in a `Settled` state (nothing pending, no tombstone),
with the map unchanged.  (Before fix c3d9fb2 a `Settled` state was the only one in which the prefix lookup
was the map's.) -/

/-- a settled state answers every query — exact lookup, enumeration, prefix lookup — as its map (a
    special case of `inv_answers`: `Settled` is not used) -/
theorem settled_answers (s : State) (hs : Inv s) (_h : Settled s) : Answers s := inv_answers s hs

/-- a history followed by operations that do not change the map (`flush`, `reopen`, close-and-open) -/
theorem idle_suffix_answers (ops tail : List Op) (hidle : ∀ op ∈ tail, Map.isIdle op = true) :
    abs (run initFile (ops ++ tail)) = Map.empty.run ops ∧ Answers (run initFile (ops ++ tail)) := by
  have h := triebuf_refines initFile (Or.inr rfl) (ops ++ tail)
  refine ⟨?_, inv_answers _ h.1⟩
  rw [h.2, Map.run_append, Map.run_idle _ tail hidle]

/-- **flush and reopen**: after *any* history on a file-backed dictionary, `reopen; flush; reopen`
    (let a writer in flight finish, take a snapshot, adopt it) leaves the specified map unchanged, nothing
    is pending afterwards and all answers are the map's -/
theorem adoption_answers (ops : List Op) :
    let s := run initFile (ops ++ settleOps)
    abs s = Map.empty.run ops ∧ Answers s ∧ Settled s := by
  intro s
  obtain ⟨h1, h2⟩ := idle_suffix_answers ops settleOps (by decide +kernel)
  refine ⟨h1, h2, ?_⟩
  show Settled (run initFile (ops ++ settleOps))
  rw [TrieBuf.run_append]
  exact settled_settle (quiet_run quiet_initFile ops) (by rw [fileBacked_run]; rfl)

/-- **close and open again** (`Drop`: sync, flush, join; then `TrieBuf::open`): same conclusion -/
theorem close_open_answers (ops : List Op) :
    let s := run initFile (ops ++ [.closeOpen])
    abs s = Map.empty.run ops ∧ Answers s ∧ Settled s := by
  intro s
  obtain ⟨h1, h2⟩ := idle_suffix_answers ops [.closeOpen] (by decide +kernel)
  refine ⟨h1, h2, ?_⟩
  show Settled (run initFile (ops ++ [.closeOpen]))
  rw [TrieBuf.run_append]
  exact settled_closeOpen (by rw [fileBacked_run]; rfl)

/-- **Layered with a file-backed user layer**, after any history followed by `reopen; flush; reopen`
    through `Layered` (all three are forwarded): union with the user's map (special case of
    `layered_history_full`, which needs no settling suffix) -/
theorem layered_history_file (sys : List Dict) (ops : List Op) (k : Key) :
    let m := Map.empty.run (ops.filter Layered.forwarded)
    let r := Layered.lookupAll (sys ++ [toDict (Layered.runUser initFile (ops ++ settleOps))]) k .standard
    (texts r).Nodup ∧
    (∀ t, t ∈ texts r ↔ (∃ d ∈ sys, t ∈ texts (d.lookup k .standard)) ∨ ∃ v, m (k, t) = some v) ∧
    (∀ t v, m (k, t) = some v → ∃ p ∈ r, p.text = t ∧ v.1 ≤ p.freq) := by
  intro m r
  have h := (layered_history_full initFile (Or.inr rfl) sys (ops ++ settleOps)).1 k
  have hm : Map.empty.run ((ops ++ settleOps).filter Layered.forwarded) = m := by
    rw [List.filter_append, Map.run_append]
    exact Map.run_idle _ _ (by decide +kernel)
  rw [hm] at h
  exact h

/-- an in-memory dictionary has no persisted layer: the candidates of a prefix lookup are the pending
    entries without a tombstone whose key matches, in `BTreeMap` order (before fix c3d9fb2 the prefix
    lookup of an in-memory dictionary degenerated to the exact lookup of the query) -/
theorem mem_fuzzy_candidates (s : State) (h : MemInv s) (q : Key) :
    entriesIterFor s q .fuzzyPartialPrefix =
      (((btEntries s.btree).filter (fun e => !(s.grave.contains (e.1, e.2.text)))).filter
        (fun e => fuzzyMatch e.1 q)).map (·.2) := by
  show ((TrieBuf.entries s).filter _).map _ = _
  unfold TrieBuf.entries
  rw [h.2.1]
  rfl

/-- whatever state a file-backed dictionary is in, `reopen; flush; reopen` leaves nothing pending -/
theorem settle_settles (s : State) (hq : Quiet s) (hf : s.fileBacked = true) : Settled (run s settleOps) :=
  settled_settle hq hf

/-- MaxCodePointPhrase regression (fixed by fcda5e6): a pending phrase that begins with U+10FFFF is looked
    up like any other — before the fix it was outside the range `entries_iter_for` scanned (exclusive
    bound `"\u{10FFFF}"`): live and enumerated, but never returned by a lookup, and `add_phrase` accepted
    it a second time -/
theorem max_code_point_phrase_fixed :
    lookupAll (run initMem [.add kCe4 [0x10FFFF] 1 none]) kCe4 .standard = [{ text := [0x10FFFF], freq := 1, lastUsed := some 0 }] ∧
    addOk (run initMem [.add kCe4 [0x10FFFF] 1 none]) kCe4 [0x10FFFF] = false := by decide +kernel

/-! ## 7. The SQLite user dictionary (feature `sqlite`; relational model, `Model/SqliteDict.lean`)

Its specification `SqliteDict.SMap` differs from `MapSpec` by design of the back end: the value is
`(freq, Option (user_freq, time))` and a lookup reports `max(freq, user_freq)`; `add_phrase` replaces
a live row instead of being rejected, `update_phrase` of a learned phrase changes `user_freq` only.
With that specification there is **no** exclusion: refinement and answers hold in every state. -/

/-- all histories, starting from any content written by `SqliteDictionaryBuilder` -/
theorem sqlite_refines (es : List Entry) (ops : List SqliteDict.Op) :
    SqliteDict.Inv (SqliteDict.run (SqliteDict.build es) ops) ∧
      SqliteDict.abs (SqliteDict.run (SqliteDict.build es) ops) = (SqliteDict.abs (SqliteDict.build es)).run ops :=
  SqliteDict.run_refines (SqliteDict.inv_build es) ops

/-- … in particular from an empty database -/
theorem sqlite_refines_fresh (ops : List SqliteDict.Op) :
    SqliteDict.abs (SqliteDict.run SqliteDict.init ops) = SqliteDict.SMap.empty.run ops :=
  (SqliteDict.run_refines SqliteDict.inv_init ops).2

/-- answers in every state of every history: a lookup returns exactly the live phrases of the
    syllables, each once, with the reported value; the enumeration exactly the live entries; the
    first n results are the first n of the full result (the lookup strategy is ignored) -/
theorem sqlite_answers (es : List Entry) (ops : List SqliteDict.Op) :
    let s := SqliteDict.run (SqliteDict.build es) ops
    (∀ k, SqliteDict.IsLookup (SqliteDict.abs s) k (SqliteDict.lookupAll s k)) ∧
    SqliteDict.IsEntries (SqliteDict.abs s) (SqliteDict.entries s) ∧
    (∀ k n st, SqliteDict.lookupFirstN s k n st = (SqliteDict.lookupAll s k).take n) := by
  intro s
  have h := (sqlite_refines es ops).1
  exact ⟨fun k => SqliteDict.lookup_agrees h k, SqliteDict.entries_agrees h, fun _ _ _ => rfl⟩

/-- a removed phrase stays absent until it is added or updated again -/
theorem sqlite_removed_stays_absent (s : SqliteDict.State) (hs : SqliteDict.Inv s) (k : Key) (t : Text)
    (ops : List SqliteDict.Op) (hw : ∀ op ∈ ops, SqliteDict.SMap.writes (k, t) op = false) :
    let s' := SqliteDict.run (SqliteDict.apply s (.remove k t)) ops
    SqliteDict.abs s' (k, t) = none ∧ t ∉ (SqliteDict.lookupAll s' k).map (·.text) := by
  intro s'
  have h2 := SqliteDict.run_refines (SqliteDict.inv_apply hs (.remove k t)) ops
  have habs : SqliteDict.abs s' (k, t) = none := by
    show SqliteDict.abs (SqliteDict.run (SqliteDict.apply s (.remove k t)) ops) (k, t) = none
    rw [h2.2, SqliteDict.abs_remove]
    exact SqliteDict.SMap.run_absent (SqliteDict.SMap.set_same _ _ _) ops hw
  refine ⟨habs, ?_⟩
  intro hm
  obtain ⟨p, hp, e⟩ := List.mem_map.mp hm
  obtain ⟨v, hv, _⟩ := (SqliteDict.lookup_agrees h2.1 k).2.1 p hp
  rw [e, habs] at hv
  exact absurd hv (by simp)

/-- … and `add_phrase` / `update_phrase` make it live again with the written value -/
theorem sqlite_readd_visible_again (s : SqliteDict.State) (hs : SqliteDict.Inv s) (k : Key) (t : Text) (f : Nat) :
    SqliteDict.abs (SqliteDict.apply s (.add k t f)) (k, t) = some (f, none) ∧
      { text := t, freq := f, lastUsed := none } ∈ SqliteDict.lookupAll (SqliteDict.apply s (.add k t f)) k := by
  have h1 := SqliteDict.lookup_agrees (SqliteDict.inv_apply hs (.add k t f)) k
  have habs : SqliteDict.abs (SqliteDict.apply s (.add k t f)) (k, t) = some (f, none) := by
    rw [SqliteDict.abs_add, SqliteDict.SMap.set_same]
  refine ⟨habs, ?_⟩
  -- the one answer with text `t` reports the stored value, so it is the phrase written
  obtain ⟨p, hp, rfl⟩ := h1.2.2 _ _ habs
  obtain ⟨v, hv, hr⟩ := h1.2.1 p hp
  cases habs.symm.trans hv
  obtain ⟨pt, pf, pl⟩ := p
  cases hr
  exact hp

/-! ## 8. The file layer: C09's abstract trie file is C11's byte-level file

C09 models a trie file as the list of its leaves and "insert everything into a `TrieBuilder`, write,
open" as `Trie.build` (used by `checkpoint` for the snapshot and, through `DictLink`, by C10 and C08).
C11 models the same code at the level of the bytes.  The theorems of this section (proved in
`Proofs/TrieLink.lean` from C11's `read_write`, `opened` (its fields `firstN`, `first`, `entries`) and
`writes_within_limits`) identify the two, so that "a complete file is the leaves written" is a theorem, not an
assumption. -/

/-- the two transcriptions of the comparator of `TrieBuilder::write` (C09's `leafCmp`, C11's `phraseLt`)
    are the same function -/
theorem comparator_is_C11 (a b : Phrase) : Trie.leafLt a b = TrieCodec.phraseLt a b :=
  TrieLink.leafLt_eq_phraseLt a b

/-- C09's leaf sort (insertion from the left) and C11's (insertion from the right) give the same leaf -/
theorem leaf_order_is_C11 (ps : List Phrase) : isort Trie.leafLt ps = TrieCodec.sortLeaf ps :=
  TrieLink.isort_leafLt_eq_sortLeaf ps

/-- … as does **every** stable sort: a list that is sorted by the comparator and keeps every class of
    equally-ranked phrases in insertion order is the model's leaf (the comparator is a total preorder
    since fix ddfe893), so the model does not depend on the algorithm `slice::sort_by` runs -/
theorem leaf_order_any_stable_sort (ps r : List Phrase) (hs : StableSort.Sorted TrieCodec.phraseLt r)
    (hst : StableSort.StableOf TrieCodec.phraseLt (fun _ => True) ps r) : r = isort Trie.leafLt ps := by
  rw [leaf_order_is_C11]; exact TrieLink.stable_sort_is_sortLeaf ps r hs hst

/-- the two models of `TrieBuilder::insert` hold the same phrase vector for every key -/
theorem builder_insert_is_C11 (es : List Entry) (k : Key) : Trie.leafOf es k = (C11.inserted es k).getD [] :=
  TrieLink.leafOf_eq_refFind es k

/-- **the file layer of C09 is C11.**  For all metadata and every list of entries valid for the Rust
    types: inside the limits of the format (`Fits`) `TrieBuilder::write` succeeds, and whatever bytes it
    produced *denote* C09's abstract file `Trie.build es` (`TrieLink.Denotes`): `Trie::new` opens them, and
    for every query of non-zero syllables the real reader's `lookup_all_phrases` (exact and prefix
    strategy), `lookup_first_n_phrases` and `lookup_first_phrase` return **the same list** as C09's
    `Trie.lookupAll` / `Trie.lookupFirstN` on `Trie.build es`; `entries()` enumerates the entries of
    `Trie.build es` (a permutation: the real iterator goes depth first — which permutation: `file_entries_order`),
    key by key in the same order. -/
theorem file_layer_is_C11 (info : TrieCodec.Info) (es : List Entry) (hv : C11.ValidInput info es) :
    ((TrieCodec.Builder.ofEntries info es).Fits → ((TrieCodec.Builder.ofEntries info es).write).isSome = true) ∧
    ∀ bytes, (TrieCodec.Builder.ofEntries info es).write = some bytes → TrieLink.Denotes bytes (Trie.build es) :=
  ⟨C11.writes_within_limits _, fun bytes hw => TrieLink.build_denotes info es hv bytes hw⟩

/-- the lookup clause of `file_layer_is_C11`, spelled out -/
theorem file_lookup_is_C11 (info : TrieCodec.Info) (es : List Entry) (hv : C11.ValidInput info es) (bytes : Der.Bytes)
    (hw : (TrieCodec.Builder.ofEntries info es).write = some bytes) :
    ∃ tr, TrieCodec.openTrie bytes = some tr ∧ ∀ k st, C11.ValidKey k →
      TrieCodec.lookupAll tr k st = Trie.lookupAll (Trie.build es) k st ∧
      ∀ n, TrieCodec.lookupFirstN tr k n st = Trie.lookupFirstN (Trie.build es) k n st := by
  obtain ⟨tr, ho, h1, h2, _⟩ := (TrieLink.build_denotes info es hv bytes hw).reads
  exact ⟨tr, ho, fun k st hk => ⟨h1 k st hk, fun n => h2 k n st hk⟩⟩

/-- a snapshot taken by `checkpoint` (`Trie.build (entries s)`) is such a file: in a state whose
    entries are valid for the Rust types and within the limits, the bytes exist and denote it -/
theorem snapshot_file_is_C11 (info : TrieCodec.Info) (s : State) (hv : C11.ValidInput info (entries s))
    (hf : (TrieCodec.Builder.ofEntries info (entries s)).Fits) :
    ∃ bytes, (TrieCodec.Builder.ofEntries info (entries s)).write = some bytes ∧
      TrieLink.Denotes bytes (Trie.build (entries s)) :=
  TrieLink.build_denotes_fits info (entries s) hv hf

/-- **the order of `Trie::entries()` across keys** (the clause "a permutation" of `file_layer_is_C11`, determined):
    C09's abstract enumeration `Trie.entries (Trie.build es)` lists the leaves in file order — the keys of
    `buildKeys es`, sorted lexicographically by syllable code with a prefix first —; the real iterator over the
    bytes lists the SAME leaves with every maximal chain "each key a prefix of the next" of that sorted key list
    reversed (depth first along first children, `results.pop()` = deepest first).  From C11's `entries_order`. -/
theorem file_entries_order (info : TrieCodec.Info) (es : List Entry) (hv : C11.ValidInput info es) (bytes : Der.Bytes)
    (hw : (TrieCodec.Builder.ofEntries info es).write = some bytes) :
    ∃ tr, TrieCodec.openTrie bytes = some tr ∧
      TrieCodec.entries tr = .ok (((Cli.runs (TrieLink.buildKeys es)).flatMap List.reverse).flatMap fun k =>
        (TrieCodec.sortLeaf ((TrieCodec.refFind es k).getD [])).map fun p => (k, p)) ∧
      Trie.entries (Trie.build es) = (TrieLink.buildKeys es).flatMap fun k =>
        (TrieCodec.sortLeaf ((TrieCodec.refFind es k).getD [])).map fun p => (k, p) :=
  TrieLink.build_entries_exact info es hv bytes hw

/-- **the persisted candidates of a prefix lookup come in file order** although the repaired code reads them
    from the real, depth-first `Trie::entries()`: for the bytes written from valid entries, the real
    enumeration (C11's byte-level model) restricted to the keys matching `q` is — as a list — the model's
    file-order enumeration restricted to them, and its phrases are what `Trie::lookup_all_phrases(q,
    FuzzyPartialPrefix)` returns (`Proofs/TrieFuzzyOrder.lean`: matching keys have the query's length, a
    chain of proper prefixes holds at most one key of a length, so reversing the chains moves none of them) -/
theorem fuzzy_order_is_file_order (info : TrieCodec.Info) (es : List Entry) (hv : C11.ValidInput info es) (bytes : Der.Bytes)
    (hw : (TrieCodec.Builder.ofEntries info es).write = some bytes) (q : Key) :
    ∃ tr real, TrieCodec.openTrie bytes = some tr ∧ TrieCodec.entries tr = .ok real ∧
      real.filter (fun e => fuzzyMatch e.1 q) = (Trie.entries (Trie.build es)).filter (fun e => fuzzyMatch e.1 q) ∧
      (real.filter (fun e => fuzzyMatch e.1 q)).map (·.2) = Trie.lookupAll (Trie.build es) q .fuzzyPartialPrefix :=
  TrieLink.real_entries_fuzzy info es hv bytes hw q

/-! ## 9. Non-vacuity: the hypotheses are satisfiable; regression examples of the repaired findings -/

/-- F09 regression (fixed): remove then re-add / update is visible again, also across a snapshot -/
example : lookupAll (run initMem [.add kCe4 tCe 1 (some 2), .remove kCe4 tCe, .add kCe4 tCe 3 (some 4)]) kCe4 .standard
    = [{ text := tCe, freq := 3, lastUsed := some 4 }] := by decide +kernel
example : lookupAll (run initFile [.add kCe4 tCe 1 (some 2), .flush, .reopen, .remove kCe4 tCe, .flush, .reopen,
    .update kCe4 tCe 5 5]) kCe4 .standard = [{ text := tCe, freq := 5, lastUsed := some 5 }] := by decide +kernel

/-- the F10 witness: the key is both persisted and pending; after adoption it is persisted only — the
    answer is the same -/
example : (run initFile witnessF10).btree ≠ [] ∧ (run initFile witnessF10).snap ≠ [] := by decide +kernel
example : lookupAll (run initFile (witnessF10 ++ [.flush, .reopen])) kCe4 .standard
    = [{ text := tCe, freq := 50, lastUsed := some 7 }] := by decide +kernel
/-- the F36 witnesses: answered the same before and after the snapshot is adopted -/
example : lookupAll (run initFile (witnessF36 ++ [.flush, .reopen])) kC .fuzzyPartialPrefix
      = [{ text := tCe, freq := 1, lastUsed := some 2 }] := by decide +kernel
/-- adoption: the F10 and F36 witnesses followed by `reopen; flush; reopen` are settled and answered exactly -/
example : Settled (run initFile (witnessF10 ++ settleOps)) ∧ Settled (run initFile (witnessF36b ++ settleOps)) := by decide +kernel
example : lookupAll (run initFile (witnessF36b ++ settleOps)) kC .fuzzyPartialPrefix = [] := by decide +kernel
/-- a prefix lookup across two matching keys, one persisted and one pending, same text: one entry, the
    higher frequency, at the position of the persisted one; ㄙ-keys do not match ㄘ -/
example : lookupAll (run initFile [.add kCe4 tCe 3 (some 1), .add [10264] [20874] 9 (some 1), .flush, .reopen,
      .add [10264] tCe 7 (some 4), .add [15368] tCe 99 (some 9)]) kC .fuzzyPartialPrefix
    = [{ text := [20874], freq := 9, lastUsed := some 1 }, { text := tCe, freq := 7, lastUsed := some 4 }] := by decide +kernel
/-- the matching rule: same number of syllables, every syllable a prefix -/
example : fuzzyMatch [10268, 8708] kC = false ∧ fuzzyMatch [10268, 8708] [10240, 8704] = true ∧
    fuzzyMatch [10268, 8708] [10240, 10240] = false := by decide +kernel
example : (run initFile witnessF10).btree ≠ [] := by decide +kernel
/-- provided trait methods on the F11 leaf -/
example : firstPhraseOf (fun n => Trie.lookupFirstN (Trie.build [([1], ⟨[65], 1, none⟩), ([1], ⟨[66], 1, none⟩)]) [1] n .standard)
    = some ⟨[65], 1, none⟩ := by decide +kernel
example : fuzzyMatch kC kC = true := by decide +kernel
/-- F11 regression (fixed): first n of a 4-phrase leaf -/
example : (Trie.lookupFirstN (Trie.build [([1], ⟨[65], 1, none⟩), ([1], ⟨[66], 1, none⟩), ([1], ⟨[67], 1, none⟩),
    ([1], ⟨[68], 1, none⟩)]) [1] 2 .standard).length = 2 := by decide +kernel
/-- Layered: the documented example of `layered.rs` (側 1, 冊 100, 測 1, 策 100) -/
example : Layered.lookupAll
    [(TrieBuf.toDict (run initMem [.add kCe4 [28204] 1 none, .add kCe4 [20874] 1 none, .add kCe4 [20596] 1 none])),
     (TrieBuf.toDict (run initMem [.add kCe4 [31574] 100 none, .add kCe4 [20874] 100 none]))] kCe4 .standard
    = [⟨[20596], 1, some 0⟩, ⟨[20874], 100, some 0⟩, ⟨[28204], 1, some 0⟩, ⟨[31574], 100, some 0⟩] := by decide +kernel

/-- §8: a leaf mixing a single character with longer phrases — both models put the single character first,
    then descending frequency (before fix ddfe893 C09's comparator compared UTF-8 lengths here) -/
example : isort Trie.leafLt [⟨[1, 2], 5, none⟩, ⟨[3], 1, none⟩, ⟨[4, 5], 7, none⟩] =
    [⟨[3], 1, none⟩, ⟨[4, 5], 7, none⟩, ⟨[1, 2], 5, none⟩] ∧
    TrieCodec.sortLeaf [⟨[1, 2], 5, none⟩, ⟨[3], 1, none⟩, ⟨[4, 5], 7, none⟩] =
    [⟨[3], 1, none⟩, ⟨[4, 5], 7, none⟩, ⟨[1, 2], 5, none⟩] := by decide +kernel

/-- §8: the hypotheses of `file_layer_is_C11` hold for C11's sample input, the file is written, and C09's
    abstract file for it has the two leaves ㄘㄜˋ (測 re-inserted in place, then 冊) and ㄘㄜˋ ㄕˋ -/
example : C11.ValidInput {} C11.sampleEntries := C11.sampleEntries_valid
example : ((TrieCodec.Builder.ofEntries {} C11.sampleEntries).write).isSome = true := C11.sampleEntries_written
example : Trie.build C11.sampleEntries =
    [([10268], [{ text := [28204], freq := 9 }, { text := [20874], freq := 70000 }]),
     ([10268, 8708], [{ text := [28204, 35430], freq := 100, lastUsed := some 5 }])] := by decide +kernel

end Chewing.C09
