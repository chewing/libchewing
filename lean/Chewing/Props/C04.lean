import Chewing.Proofs.ListBasics
import Chewing.Model.CompEditor
import Chewing.Proofs.Runs
/-!
# C04 — user selections and break points are honoured until the user edits them (component level)

Stage A of DESIGN §12: everything that can be said about `Composition` (`src/conversion/mod.rs`)
alone, for *every* state and *every* operation (no bound on buffers, histories or texts).

What is proved here

* `len_assert_unreachable` — `symbols.len() == gaps.len()` in every state reachable from `new()`
  by any operation list, valid or not; the `assert_eq!` in `len()` cannot fire.
* `CompInv` (|symbols| = |gaps|, gap 0 = `Begin` and no other gap is `Begin`, every selection
  non-empty, inside `0..len`, pairwise disjoint) is preserved by every operation, with the single
  explicit precondition `ValidSelection` for `push_selection` (`inv_preserved`, `inv_run`).
  Without it the invariant breaks (`inv_preserved_refuted`; DESIGN F31: the public API accepts
  empty / reversed selections).  `TextInv` (one character per symbol of the range) likewise.
* `no_panic` — under `CompInv` and the documented index preconditions no operation panics
  (in particular the `end -= n` underflow is unreachable).
* `selections_after` — exact characterisation of the selections after each operation:
  `t ∈ c'.selections ↔ t is the pushed choice ∨ t = shift op s for an s ∈ c.selections the
  operation does not drop`.  Corollaries: `selection_survives` (a choice the operation does not
  edit inside is still present, shifted by the documented amount, same text),
  `selection_survives_run` (same over operation lists), `push_replaces_only_overlapping`,
  `dropped_only_if_edited_inside`.
* symbol frame equations for every operation (`insert_symbols`, … `symbols' = take i s ++ [x] ++
  drop i s`, …).
* positions: `back c op k` (where what now stands at `k` stood before), `wrote` / `wroteGap` (what the operation put
  there itself); `symbols_after`, `gaps_after` read both lists through them, `back_shift` / `gapShift_spec` /
  `gapShift_of_back` tie them to `shift` / `gapShift`; `break_survives` (a user break stays, at the
  shifted position, unless the operation touches that very gap: insert *at* it, remove the symbol
  after it, remove_front up to it, set_gap/replace on it, a new choice spanning it) and
  `gap_origin` / `break_origin` (a break after the operation is the image of a break before it, or was
  set by `set_gap(_, Break)`: no operation creates a break unasked).  The gap clauses of `CompInv` are
  read off `gap_origin`, the selection clauses off `selections_after` and the arithmetic of `shift`.
* `selections_order_irrelevant` — under `CompInv` a selection is determined by its start (ranges
  are disjoint and non-empty), which is why modelling `swap_remove` by `filter` and comparing
  selections as sorted lists loses nothing.

The other obligations of C04 — they need the conversion engines / the editor state machine and
cannot be stated in this file (C01's proofs import it):

* `C03.selection_shown`, `C03.selection_not_split`, `C03.break_not_spanned` (`Props/C03.lean`): what every engine does
  with the selections and breaks of a valid composition;
* `Props/C04Editor.lean` (audited with this property): the lift to the EDITOR — `selection_survives_op` /
  `selection_survives_key`, `choice_persists_along`, `choice_shown` / `choice_displayed` / `choice_shown_along`,
  `choice_committed_by_autocommit`, `break_survives_op`, `break_persists_along`, `break_not_spanned_editor`, over
  `opKinds` / `opEdits` / `opTouches` (which keys and calls count as "the user edits them").
-/
namespace Chewing

theorem Composition.folds : Folds (· = .ok ·) Composition.apply Composition.run :=
  ⟨by simp [Composition.run], fun c op _ => by rw [Composition.run]; cases c.apply op <;> simp⟩

theorem CompEditor.folds : Folds (· = .ok ·) CompEditor.apply CompEditor.run :=
  ⟨by simp [CompEditor.run], fun e op _ => by rw [CompEditor.run]; cases e.apply op <;> simp⟩

end Chewing

namespace Chewing.C04

/-! ## Invariants -/

/-- two ranges do not overlap -/
def Disj (a b : Interval) : Prop := a.stop ≤ b.start ∨ b.stop ≤ a.start

/-- `symbols.len() == gaps.len()` -/
def LenInv (c : Composition) : Prop := c.symbols.length = c.gaps.length

structure CompInv (c : Composition) : Prop where
  len_eq : c.symbols.length = c.gaps.length
  gap_begin : ∀ j g, c.gaps[j]? = some g → (g = Gap.begin ↔ j = 0)
  sel_nonempty : ∀ s ∈ c.selections, s.start < s.stop
  sel_in : ∀ s ∈ c.selections, s.stop ≤ c.symbols.length
  sel_disj : c.selections.Pairwise Disj
  sel_no_break : ∀ s ∈ c.selections, ∀ j, s.start < j → j < s.stop → c.gaps[j]? ≠ some Gap.brk

/-- one output character per symbol of the selected range -/
def TextInv (c : Composition) : Prop := ∀ s ∈ c.selections, s.text.length = s.stop - s.start

/-- the precondition of `push_selection` (not checked by the code: DESIGN F31) -/
def ValidSelection (c : Composition) (s : Interval) : Prop := s.start < s.stop ∧ s.stop ≤ c.symbols.length

/-- the only precondition that is not an `assert!` -/
def ValidOp (c : Composition) : CompOp → Prop
  | .pushSelection iv => ValidSelection c iv
  | _ => True

/-- the documented (asserted) preconditions -/
def Asserted (c : Composition) : CompOp → Prop
  | .insert i _ => i ≤ c.symbols.length
  | .push _ => True
  | .remove i => i < c.symbols.length
  | .removeFront n => n ≤ c.symbols.length
  | .replace i _ => i < c.symbols.length
  | .setGap i g => i < c.symbols.length ∧ g ≠ .begin
  | .pushSelection iv => iv.stop ≤ c.symbols.length
  | .clear => True

/-! ## When does an operation succeed, and with what (the model, restated as equations) -/

theorem insert_ok {c : Composition} {i : Nat} {x : Sym} {c' : Composition} :
    c.insert i x = .ok c' ↔ LenInv c ∧ i ≤ c.symbols.length ∧
      c' = { symbols := insertAt c.symbols i x, gaps := Composition.insertGaps c.gaps i,
             selections := (c.selections.filter (fun s => !s.strictlyInside i)).map
               (fun s => if s.start ≥ i then s.shiftUp 1 else s) } := by
  unfold Composition.insert LenInv
  grind

theorem push_ok {c : Composition} {x : Sym} {c' : Composition} :
    c.push x = .ok c' ↔ c.insert c.symbols.length x = .ok c' := by
  simp [Composition.push, Composition.len]

/- the third clause, here and in `removeFront_ok`, is the model's guard for `end -= 1` / `end -= n` (panic site
   `sub-overflow`); under `CompInv` it holds (`no_panic`) -/
theorem remove_ok {c : Composition} {i : Nat} {c' : Composition} :
    c.remove i = .ok c' ↔ LenInv c ∧ i < c.symbols.length ∧
      (∀ s ∈ c.selections, ¬ s.covers i → i < s.start → s.stop ≠ 0) ∧
      c' = { symbols := c.symbols.eraseIdx i, gaps := (c.gaps.eraseIdx i).set 0 .begin,
             selections := (c.selections.filter (fun s => !s.covers i)).map
               (fun s => if s.start ≤ i then s else s.shiftDown 1) } := by
  unfold Composition.remove LenInv
  grind

theorem removeFront_ok {c : Composition} {n : Nat} {c' : Composition} :
    c.removeFront n = .ok c' ↔ LenInv c ∧ n ≤ c.symbols.length ∧
      (∀ s ∈ c.selections, ¬ s.start < n → ¬ s.stop < n) ∧
      c' = { symbols := c.symbols.drop n, gaps := (c.gaps.drop n).set 0 .begin,
             selections := (c.selections.filter (fun s => !(decide (s.start < n)))).map
               (fun s => s.shiftDown n) } := by
  unfold Composition.removeFront LenInv
  grind

theorem setGap_ok {c : Composition} {i : Nat} {g : Gap} {c' : Composition} :
    c.setGap i g = .ok c' ↔ LenInv c ∧ i < c.symbols.length ∧ g ≠ .begin ∧
      c' = (if i = 0 then c else { c with
        selections := if g = .brk then c.selections.filter (fun s => !s.strictlyInside i) else c.selections
        gaps := c.gaps.set i g }) := by
  unfold Composition.setGap LenInv
  grind

theorem replace_ok {c : Composition} {i : Nat} {x : Sym} {c' : Composition} :
    c.replace i x = .ok c' ↔ LenInv c ∧ i < c.symbols.length ∧
      c' = { c with symbols := c.symbols.set i x, gaps := if i = 0 then c.gaps else c.gaps.set i .normal } := by
  unfold Composition.replace Composition.setGap LenInv
  grind

theorem pushSelection_ok {c : Composition} {iv : Interval} {c' : Composition} :
    c.pushSelection iv = .ok c' ↔ LenInv c ∧ iv.stop ≤ c.symbols.length ∧
      c' = { c with selections := c.selections.filter (fun s => !s.intersect iv) ++ [iv]
                    gaps := resetGaps c.gaps (iv.start + 1) iv.stop } := by
  unfold Composition.pushSelection LenInv
  grind

/-! ## `len()`'s assertion is unreachable -/

theorem length_insertAt {α : Type} (l : List α) (i : Nat) (x : α) : (insertAt l i x).length = l.length + 1 := by
  simp only [insertAt, List.length_append, List.length_take, List.length_cons, List.length_drop]
  omega

theorem getElem?_insertAt {α : Type} (l : List α) (i j : Nat) (x : α) (h : i ≤ l.length) :
    (insertAt l i x)[j]? = if j < i then l[j]? else if j = i then some x else l[j - 1]? := by
  rw [insertAt, List.getElem?_append, List.length_take, Nat.min_eq_left h, List.getElem?_take, List.getElem?_cons]
  split
  · rfl
  · split
    · rw [if_pos (by omega)]
    · rw [if_neg (by omega), List.getElem?_drop]
      congr 1
      omega

/-- the `if` in front of `gaps.insert` only avoids an index out of range: `List.set` is total -/
theorem insertGaps_eq (g : List Gap) (i : Nat) :
    Composition.insertGaps g i = (insertAt (g.set i .normal) i .normal).set 0 .begin := by
  unfold Composition.insertGaps
  split
  · rfl
  · next h =>
    have : g.set i .normal = g := by
      apply List.set_eq_of_length_le
      cases g with
      | nil => exact Nat.zero_le i
      | cons a g => simp at h; simp [h]
    rw [this]

theorem LenInv.eq {c : Composition} (h : LenInv c) : c.symbols.length = c.gaps.length := h

theorem len_preserved (c : Composition) (op : CompOp) (c' : Composition) (h : c.apply op = .ok c') : LenInv c' := by
  unfold LenInv
  cases op with
  | insert i x =>
    obtain ⟨hl, _, rfl⟩ := insert_ok.mp h
    simp only [insertGaps_eq, List.length_set, length_insertAt, hl.eq]
  | push x =>
    obtain ⟨hl, _, rfl⟩ := insert_ok.mp (push_ok.mp h)
    simp only [insertGaps_eq, List.length_set, length_insertAt, hl.eq]
  | remove i =>
    obtain ⟨hl, _, _, rfl⟩ := remove_ok.mp h
    simp only [List.length_set, List.length_eraseIdx, hl.eq]
  | removeFront n =>
    obtain ⟨hl, _, _, rfl⟩ := removeFront_ok.mp h
    simp only [List.length_set, List.length_drop, hl.eq]
  | replace i x =>
    obtain ⟨hl, _, rfl⟩ := replace_ok.mp h
    simp only [List.length_set, hl.eq]
    split <;> simp only [List.length_set]
  | setGap i g =>
    obtain ⟨hl, _, _, rfl⟩ := setGap_ok.mp h
    split
    · exact hl
    · simp only [List.length_set, hl.eq]
  | pushSelection iv =>
    obtain ⟨hl, _, rfl⟩ := pushSelection_ok.mp h
    simp only [resetGaps, List.length_mapIdx, hl.eq]
  | clear => cases h; rfl

/-- under `LenInv` no operation panics at the `assert_eq!` of `len()` -/
theorem no_len_panic (c : Composition) (op : CompOp) (h : LenInv c) : c.apply op ≠ .panic "len" := by
  unfold LenInv at h
  cases op <;>
    simp only [Composition.apply, Composition.insert, Composition.push, Composition.len, Composition.remove,
      Composition.removeFront, Composition.replace, Composition.setGap, Composition.pushSelection] <;>
    grind

/-- the `assert_eq!(self.symbols.len(), self.gaps.len())` of `Composition::len()` holds in every state
    reachable from `new()` by any list of public calls — no precondition on indices or selections.
    (A caught panic leaves `symbols`/`gaps` untouched: every assertion and every selection loop
    precedes the first write to them.) -/
theorem len_assert_unreachable (ops : List CompOp) :
    ∀ c c', LenInv c → c.run ops = .ok c' → LenInv c' := fun _ _ hc h =>
  Composition.folds.always (fun _ h1 => len_preserved _ _ _ h1) ops hc h

theorem lenInv_new : LenInv Composition.new := rfl

/-! ## Symbol frame: exactly one position changes, everything else keeps its place -/

theorem insert_symbols {c : Composition} {i : Nat} {x : Sym} {c' : Composition} (h : c.insert i x = .ok c') :
    i ≤ c.symbols.length ∧ c'.symbols = c.symbols.take i ++ [x] ++ c.symbols.drop i := by
  obtain ⟨_, hi, rfl⟩ := insert_ok.mp h
  simp [insertAt, hi]

theorem push_symbols {c : Composition} {x : Sym} {c' : Composition} (h : c.push x = .ok c') :
    c'.symbols = c.symbols ++ [x] := by
  obtain ⟨_, _, rfl⟩ := insert_ok.mp (push_ok.mp h)
  simp [insertAt]

theorem remove_symbols {c : Composition} {i : Nat} {c' : Composition} (h : c.remove i = .ok c') :
    i < c.symbols.length ∧ c'.symbols = c.symbols.take i ++ c.symbols.drop (i + 1) := by
  obtain ⟨_, hi, _, rfl⟩ := remove_ok.mp h
  simp [hi, List.eraseIdx_eq_take_drop_succ]

theorem removeFront_symbols {c : Composition} {n : Nat} {c' : Composition} (h : c.removeFront n = .ok c') :
    n ≤ c.symbols.length ∧ c'.symbols = c.symbols.drop n := by
  obtain ⟨_, hi, _, rfl⟩ := removeFront_ok.mp h
  simp [hi]

theorem replace_symbols {c : Composition} {i : Nat} {x : Sym} {c' : Composition} (h : c.replace i x = .ok c') :
    i < c.symbols.length ∧ c'.symbols = c.symbols.take i ++ [x] ++ c.symbols.drop (i + 1) := by
  obtain ⟨_, hi, rfl⟩ := replace_ok.mp h
  simp [hi, List.set_eq_take_append_cons_drop]

theorem setGap_symbols {c : Composition} {i : Nat} {g : Gap} {c' : Composition} (h : c.setGap i g = .ok c') :
    c'.symbols = c.symbols := by
  obtain ⟨_, _, _, rfl⟩ := setGap_ok.mp h
  split <;> rfl

theorem pushSelection_symbols {c : Composition} {iv : Interval} {c' : Composition} (h : c.pushSelection iv = .ok c') :
    c'.symbols = c.symbols := by
  obtain ⟨_, _, rfl⟩ := pushSelection_ok.mp h
  rfl

theorem clear_symbols (c : Composition) : c.clear.symbols = [] ∧ c.clear.gaps = [] ∧ c.clear.selections = [] := by
  simp [Composition.clear]

/-! ## Selections: exact characterisation, survival, replacement -/

/-- the operation drops the selection `s` (as coded) -/
def Drops (c : Composition) : CompOp → Interval → Prop
  | .insert i _, s => s.start < i ∧ i < s.stop
  | .push _, s => s.start < c.symbols.length ∧ c.symbols.length < s.stop
  | .remove i, s => s.start ≤ i ∧ i < s.stop
  | .removeFront n, s => s.start < n
  | .replace _ _, _ => False
  | .setGap i g, s => i ≠ 0 ∧ g = .brk ∧ s.start < i ∧ i < s.stop
  | .pushSelection t, s => s.intersect t = true
  | .clear, _ => True

instance (c : Composition) (op : CompOp) (s : Interval) : Decidable (Drops c op s) := by
  cases op <;> unfold Drops <;> infer_instance

/-- the operation edits inside the range of `s` (specification; differs from `Drops` only for
    `replace`, which as coded keeps a selection whose symbol it overwrites) -/
def EditsInside (c : Composition) : CompOp → Interval → Prop
  | .replace i _, s => s.start ≤ i ∧ i < s.stop
  | op, s => Drops c op s

theorem editsInside_of_drops {c : Composition} {op : CompOp} {s : Interval} (hd : Drops c op s) : EditsInside c op s := by
  cases op <;> first | exact hd | exact hd.elim

/-- where a surviving selection is afterwards (same text, same `is_phrase`) -/
def shift (c : Composition) : CompOp → Interval → Interval
  | .insert i _, s => if s.start ≥ i then s.shiftUp 1 else s
  | .push _, s => if s.start ≥ c.symbols.length then s.shiftUp 1 else s
  | .remove i, s => if s.start ≤ i then s else s.shiftDown 1
  | .removeFront n, s => s.shiftDown n
  | _, s => s

theorem shift_text (c : Composition) (op : CompOp) (s : Interval) :
    (shift c op s).text = s.text ∧ (shift c op s).isPhrase = s.isPhrase := by
  cases op <;> simp only [shift] <;> (try split) <;> simp [Interval.shiftUp, Interval.shiftDown]

/-- under the invariant `push` never shifts or drops anything -/
theorem shift_push_of_inv {c : Composition} (hc : CompInv c) (x : Sym) (s : Interval) (hs : s ∈ c.selections) :
    shift c (.push x) s = s ∧ ¬ Drops c (.push x) s := by
  have h1 := hc.sel_nonempty s hs
  have h2 := hc.sel_in s hs
  simp only [shift, Drops]
  constructor
  · rw [if_neg (by omega)]
  · omega

/-- the choice the operation adds -/
def pushed : CompOp → List Interval
  | .pushSelection t => [t]
  | _ => []

/-- **the selections after an operation, as a list**: the ones it keeps, in their order, each at its shifted
    place, then the new choice -/
theorem selections_eq (c : Composition) (op : CompOp) (c' : Composition) (h : c.apply op = .ok c') :
    c'.selections = (c.selections.filter fun s => !decide (Drops c op s)).map (shift c op) ++ pushed op := by
  -- the filter as coded against the filter by `Drops`
  have key : ∀ (keep : Interval → Bool), (∀ s, keep s = true ↔ ¬ Drops c op s) →
      (c.selections.filter keep).map (shift c op) = (c.selections.filter fun s => !decide (Drops c op s)).map (shift c op) :=
    fun keep hk => by
      have : keep = fun s => !decide (Drops c op s) :=
        funext fun s => Bool.eq_iff_iff.mpr ((hk s).trans (by rw [Bool.not_eq_true', decide_eq_false_iff_not]))
      rw [this]
  have all : (∀ s, ¬ Drops c op s) → shift c op = id →
      c.selections = (c.selections.filter fun s => !decide (Drops c op s)).map (shift c op) := by
    intro hd hs
    rw [hs, List.map_id, List.filter_eq_self.mpr fun s _ => by simp [hd s]]
  cases op with
  | insert i x =>
    obtain ⟨_, _, rfl⟩ := insert_ok.mp h
    exact (key _ fun s => by simp [Drops, Interval.strictlyInside]; omega).trans (List.append_nil _).symm
  | push x =>
    obtain ⟨_, _, rfl⟩ := insert_ok.mp (push_ok.mp h)
    exact (key _ fun s => by simp [Drops, Interval.strictlyInside]; omega).trans (List.append_nil _).symm
  | remove i =>
    obtain ⟨_, _, _, rfl⟩ := remove_ok.mp h
    exact (key _ fun s => by simp [Drops, Interval.covers]; omega).trans (List.append_nil _).symm
  | removeFront n =>
    obtain ⟨_, _, _, rfl⟩ := removeFront_ok.mp h
    exact (key _ fun s => by simp [Drops]).trans (List.append_nil _).symm
  | replace i x =>
    obtain ⟨_, _, rfl⟩ := replace_ok.mp h
    exact (all (fun _ => id) rfl).trans (List.append_nil _).symm
  | setGap i g =>
    obtain ⟨_, _, _, rfl⟩ := setGap_ok.mp h
    refine Eq.trans ?_ (List.append_nil _).symm
    split
    · next e => exact all (fun s hd => hd.1 e) rfl
    · next e =>
      dsimp only
      split
      · next e' => exact ((List.map_id _).symm).trans (key _ fun s => by simp [Drops, e, e', Interval.strictlyInside]; omega)
      · next e' => exact all (fun s hd => e' hd.2.1) rfl
  | pushSelection t =>
    obtain ⟨_, _, rfl⟩ := pushSelection_ok.mp h
    exact congrArg (· ++ [t]) (((List.map_id _).symm).trans (key _ fun s => by simp [Drops]))
  | clear =>
    cases h
    refine Eq.trans ?_ (List.append_nil _).symm
    rw [List.filter_eq_nil_iff.mpr fun s _ => by rw [Bool.not_eq_true', decide_eq_false_iff_not]; exact fun h => h trivial]
    rfl

/-- **Exact characterisation of the selections after an operation.** -/
theorem selections_after (c : Composition) (op : CompOp) (c' : Composition) (h : c.apply op = .ok c') (t : Interval) :
    t ∈ c'.selections ↔
      (∃ s ∈ c.selections, ¬ Drops c op s ∧ t = shift c op s) ∨ (op = .pushSelection t) := by
  rw [selections_eq c op c' h]
  simp only [List.mem_append, List.mem_map, List.mem_filter, Bool.not_eq_true', decide_eq_false_iff_not]
  refine or_congr ⟨fun ⟨s, ⟨a, b⟩, e⟩ => ⟨s, a, b, e.symm⟩, fun ⟨s, a, b, e⟩ => ⟨s, ⟨a, b⟩, e.symm⟩⟩ ?_
  cases op <;> simp [pushed, eq_comm]

/-- **C04, component level.**  A selection the operation does not edit inside is still present
    afterwards, shifted by the documented amount (`shift`), with the same text. -/
theorem selection_survives (c : Composition) (op : CompOp) (s : Interval) (hs : s ∈ c.selections)
    (hn : ¬ EditsInside c op s) (c' : Composition) (h : c.apply op = .ok c') :
    shift c op s ∈ c'.selections :=
  (selections_after c op c' h _).mpr (.inl ⟨s, hs, fun hd => hn (editsInside_of_drops hd), rfl⟩)

/-- a selection disappears only if the operation edits inside it -/
theorem dropped_only_if_edited_inside (c : Composition) (op : CompOp) (s : Interval) (hs : s ∈ c.selections)
    (c' : Composition) (h : c.apply op = .ok c') (hgone : shift c op s ∉ c'.selections) : EditsInside c op s := by
  apply Classical.byContradiction
  intro hn
  exact hgone (selection_survives c op s hs hn c' h)

/-- **A new choice replaces only the choices it overlaps**: afterwards the selections are the new
    one and exactly the old ones that do not intersect it, unchanged. -/
theorem push_replaces_only_overlapping (c : Composition) (t : Interval) (c' : Composition)
    (h : c.pushSelection t = .ok c') (s : Interval) :
    s ∈ c'.selections ↔ s = t ∨ (s ∈ c.selections ∧ s.intersect t = false) := by
  obtain ⟨_, _, rfl⟩ := pushSelection_ok.mp h
  simp only [List.mem_append, List.mem_filter]
  grind

/-- list form: the survivors keep their relative order, the new choice comes last -/
theorem pushSelection_selections (c : Composition) (t : Interval) (c' : Composition)
    (h : c.pushSelection t = .ok c') :
    c'.selections = c.selections.filter (fun s => !s.intersect t) ++ [t] := by
  obtain ⟨_, _, rfl⟩ := pushSelection_ok.mp h
  rfl

/-! ## What an operation does to positions

Symbols, gaps and selections move together.  `back` says where the symbol now at `k` (and the gap in front of it) stood
before; `wrote` / `wroteGap` what the operation put there itself.  `symbols_after` and `gaps_after` read the lists
through it; `back_shift` and `gapShift_spec` tie `shift` and `gapShift` to it. -/

theorem insertGaps_getElem? (g : List Gap) (i j : Nat) (h : i ≤ g.length) (hj : j ≠ 0) :
    (Composition.insertGaps g i)[j]? =
      (if j = i ∨ j = i + 1 ∧ i < g.length then some Gap.normal else none).or g[if j < i then j else j - 1]? := by
  rw [insertGaps_eq, List.getElem?_set_ne (Ne.symm hj), getElem?_insertAt _ _ _ _ (by rw [List.length_set]; exact h)]
  split
  · rw [List.getElem?_set_ne (by omega), if_neg (by omega)]; rfl
  · split
    · rw [if_pos (.inl ‹_›)]; rfl
    · rw [List.getElem?_set]
      split
      · split
        · rw [if_pos (.inr ⟨by omega, ‹_›⟩)]; rfl
        · rw [if_neg (by omega), List.getElem?_eq_none (by omega)]; rfl
      · rw [if_neg (by omega)]; rfl

/-- where the gap `j` is after the operation; `none` = the operation touches (may reset) that gap -/
def gapShift (c : Composition) : CompOp → Nat → Option Nat
  | .insert i _, j => if j = i then none else if j < i then some j else some (j + 1)
  | .push _, j => if j = c.symbols.length then none else if j < c.symbols.length then some j else some (j + 1)
  | .remove i, j => if j = i then none else if j < i then some j else if j = 1 then none else some (j - 1)
  | .removeFront n, j => if j ≤ n then none else some (j - n)
  | .replace i _, j => if j = i then none else some j
  | .setGap i _, j => if j = i then none else some j
  | .pushSelection t, j => if t.start < j ∧ j < t.stop then none else some j
  | .clear, _ => none

/-- where the symbol now at `k`, and the gap in front of it, stood before the operation (where the operation did not
    write itself); `push` is `insert` at the end, `clear` removes every symbol from the front -/
def back (c : Composition) : CompOp → Nat → Nat
  | .insert i _, k => if k < i then k else k - 1
  | .push _, k => if k < c.symbols.length then k else k - 1
  | .remove i, k => if k < i then k else k + 1
  | .removeFront n, k => n + k
  | .clear, k => c.symbols.length + k
  | _, k => k

/-- the symbol the operation itself puts at `k` -/
def wrote (c : Composition) : CompOp → Nat → Option Sym
  | .insert i x, k => if k = i then some x else none
  | .push x, k => if k = c.symbols.length then some x else none
  | .replace i x, k => if k = i then some x else none
  | _, _ => none

/-- the gap (other than `Begin` in front) the operation itself writes at `j` -/
def wroteGap (c : Composition) : CompOp → Nat → Option Gap
  | .insert i _, j => if j = i ∨ j = i + 1 ∧ i < c.symbols.length then some .normal else none
  -- the `insert` arm at `i = len`, kept literally (its second disjunct is never true) so that `gaps_after`'s `push`
  -- case is its `insert` case by `rfl`
  | .push _, j => if j = c.symbols.length ∨ j = c.symbols.length + 1 ∧ c.symbols.length < c.symbols.length
      then some .normal else none
  | .replace i _, j => if j = i then some .normal else none
  | .setGap i g, j => if j = i then some g else none
  | .pushSelection t, j => if t.start < j ∧ j < t.stop then some .normal else none
  | _, _ => none

/-- **symbols after an operation**: what it wrote, else the old symbol at `back` -/
theorem symbols_after {c : Composition} {op : CompOp} {c' : Composition} (h : c.apply op = .ok c') (k : Nat) :
    c'.symbols[k]? = (wrote c op k).or c.symbols[back c op k]? := by
  have ins : ∀ i x, c.insert i x = .ok c' →
      c'.symbols[k]? = (wrote c (.insert i x) k).or c.symbols[back c (.insert i x) k]? := by
    intro i x h
    obtain ⟨_, hi, rfl⟩ := insert_ok.mp h
    simp only [wrote, back, getElem?_insertAt _ _ _ _ hi]
    split
    · rw [if_neg (by omega)]; rfl
    · split <;> rfl
  cases op with
  | insert i x => exact ins i x h
  | push x => exact ins _ x (push_ok.mp h)
  | remove i =>
    obtain ⟨_, _, _, rfl⟩ := remove_ok.mp h
    simp only [wrote, back, List.getElem?_eraseIdx, Option.none_or]
    split <;> rfl
  | removeFront n =>
    obtain ⟨_, _, _, rfl⟩ := removeFront_ok.mp h
    exact List.getElem?_drop
  | replace i x =>
    obtain ⟨_, hi, rfl⟩ := replace_ok.mp h
    simp only [wrote, back, List.getElem?_set]
    split
    · next e => subst e; rw [if_pos rfl]; rfl
    · next e => rw [if_neg (Ne.symm e)]; rfl
  | setGap i g => rw [setGap_symbols h]; rfl
  | pushSelection t => rw [pushSelection_symbols h]; rfl
  | clear =>
    cases h
    exact (List.getElem?_eq_none (Nat.le_add_right ..)).symm

/-- **gaps after an operation** (behind the `Begin` in front): what it wrote, else the old gap at `back` -/
theorem gaps_after {c : Composition} {op : CompOp} {c' : Composition} (hl : LenInv c) (h : c.apply op = .ok c')
    (j : Nat) (hj : j ≠ 0) : c'.gaps[j]? = (wroteGap c op j).or c.gaps[back c op j]? := by
  have hl := hl.eq
  have ins : ∀ i x, c.insert i x = .ok c' →
      c'.gaps[j]? = (wroteGap c (.insert i x) j).or c.gaps[back c (.insert i x) j]? := by
    intro i x h
    obtain ⟨_, hi, rfl⟩ := insert_ok.mp h
    simp only [wroteGap, back, hl]
    exact insertGaps_getElem? c.gaps i j (hl ▸ hi) hj
  cases op with
  | insert i x => exact ins i x h
  | push x => exact ins _ x (push_ok.mp h)
  | remove i =>
    obtain ⟨_, _, _, rfl⟩ := remove_ok.mp h
    simp only [wroteGap, back, Option.none_or, List.getElem?_set_ne (Ne.symm hj), List.getElem?_eraseIdx]
    split <;> rfl
  | removeFront n =>
    obtain ⟨_, _, _, rfl⟩ := removeFront_ok.mp h
    simp only [List.getElem?_set_ne (Ne.symm hj)]
    exact List.getElem?_drop
  | replace i x =>
    obtain ⟨_, hi, rfl⟩ := replace_ok.mp h
    simp only [wroteGap, back]
    grind
  | setGap i g =>
    obtain ⟨_, hi, _, rfl⟩ := setGap_ok.mp h
    simp only [wroteGap, back]
    grind
  | pushSelection t =>
    obtain ⟨_, hi, rfl⟩ := pushSelection_ok.mp h
    simp only [wroteGap, back, resetGaps, List.getElem?_mapIdx]
    grind
  | clear => cases h; exact (List.getElem?_eq_none (hl ▸ Nat.le_add_right ..)).symm

theorem gap_front {c : Composition} {op : CompOp} {c' : Composition} (hc : CompInv c) (h : c.apply op = .ok c')
    {g : Gap} (hg : c'.gaps[0]? = some g) : g = .begin := by
  have h0 := hc.gap_begin 0 g
  have set0 : ∀ l : List Gap, (l.set 0 .begin)[0]? = some g → g = .begin := by
    intro l hg
    cases l <;> cases hg
    rfl
  cases op with
  | insert i x => obtain ⟨_, _, rfl⟩ := insert_ok.mp h; rw [insertGaps_eq] at hg; exact set0 _ hg
  | push x => obtain ⟨_, _, rfl⟩ := insert_ok.mp (push_ok.mp h); rw [insertGaps_eq] at hg; exact set0 _ hg
  | remove i => obtain ⟨_, _, _, rfl⟩ := remove_ok.mp h; exact set0 _ hg
  | removeFront n => obtain ⟨_, _, _, rfl⟩ := removeFront_ok.mp h; exact set0 _ hg
  | replace i x => obtain ⟨_, _, rfl⟩ := replace_ok.mp h; grind
  | setGap i g' => obtain ⟨_, _, _, rfl⟩ := setGap_ok.mp h; grind
  | pushSelection t => obtain ⟨_, _, rfl⟩ := pushSelection_ok.mp h; simp only [resetGaps, List.getElem?_mapIdx] at hg; grind
  | clear => cases h; cases hg

/-- **a kept selection moves rigidly**: the position `k` of its image comes from the position at the same offset of
    the selection, and was not written by the operation unless that is a `replace` under the selection -/
theorem back_shift (c : Composition) (op : CompOp) (s : Interval) (hd : ¬ Drops c op s)
    {k : Nat} (h1 : (shift c op s).start ≤ k) (h2 : k < (shift c op s).stop) :
    s.start ≤ back c op k ∧ back c op k < s.stop ∧ back c op k - s.start = k - (shift c op s).start ∧
      (wrote c op k = none ∨ EditsInside c op s) := by
  cases op <;> simp only [shift, Drops, back, wrote, EditsInside] at hd h1 h2 ⊢ <;> (try exact absurd trivial hd) <;>
    (try split at h1 <;> simp only [Interval.shiftUp, Interval.shiftDown] at h1 h2) <;>
    (try simp only [Interval.shiftUp, Interval.shiftDown] at h1 h2 ⊢) <;> grind

/-- a gap that keeps its value: it was not written, stays behind the front, and came from where `back` says -/
theorem gapShift_spec {c : Composition} {op : CompOp} {j j' : Nat} (h : gapShift c op j = some j') :
    back c op j' = j ∧ wrote c op j' = none ∧ wroteGap c op j' = none ∧ (j ≠ 0 → j' ≠ 0) := by
  cases op <;> simp only [gapShift, back, wrote, wroteGap] at h ⊢ <;> grind

/-- … and every gap behind the front that the operation did not write is such a gap -/
theorem gapShift_of_back {c : Composition} {op : CompOp} {j' : Nat} (hj : j' ≠ 0) (hw : wroteGap c op j' = none)
    (hin : back c op j' < c.symbols.length) : back c op j' ≠ 0 ∧ gapShift c op (back c op j') = some j' := by
  cases op <;> simp only [gapShift, back, wroteGap] at hw hin ⊢ <;> grind

theorem wroteGap_some {c : Composition} {op : CompOp} {j : Nat} {g : Gap} (h : wroteGap c op j = some g) :
    g = .normal ∨ op = .setGap j g := by
  cases op <;> simp only [wroteGap] at h <;> (try split at h) <;> cases h <;>
    first | exact .inl rfl | exact .inr (by simp [*])

/-- Every gap after an operation is the `Begin` gap in front, or `Normal`, or the one `set_gap` was asked
    for, or an old gap (not the first) at its shifted position: no operation invents a break or a glue. -/
theorem gap_origin (c : Composition) (op : CompOp) (c' : Composition) (hc : CompInv c)
    (h : c.apply op = .ok c') (j' : Nat) (g : Gap) (hg : c'.gaps[j']? = some g) :
    (j' = 0 ∧ g = .begin) ∨ (j' ≠ 0 ∧ (g = .normal ∨ op = .setGap j' g ∨
      ∃ j, j ≠ 0 ∧ c.gaps[j]? = some g ∧ gapShift c op j = some j')) := by
  by_cases hj : j' = 0
  · exact .inl ⟨hj, gap_front hc h (hj ▸ hg)⟩
  · refine .inr ⟨hj, ?_⟩
    rw [gaps_after hc.len_eq h j' hj] at hg
    cases hw : wroteGap c op j' with
    | some g' =>
      rw [hw] at hg; cases hg
      exact (wroteGap_some hw).imp_right .inl
    | none =>
      rw [hw, Option.none_or] at hg
      have hin : back c op j' < c.symbols.length := hc.len_eq ▸ (List.getElem?_eq_some_iff.mp hg).1
      obtain ⟨a, b⟩ := gapShift_of_back hj hw hin
      exact .inr (.inr ⟨_, a, hg, b⟩)

/-! ## The invariant is preserved -/

theorem intersect_false_disj {a b : Interval} (ha : a.start < a.stop) (hb : b.start < b.stop)
    (h : a.intersect b = false) : Disj a b := by
  simp only [Interval.intersect, Interval.intersectRange, decide_eq_false_iff_not] at h
  unfold Disj
  omega

theorem disj_intersect_false {a b : Interval} (h : Disj a b) : a.intersect b = false := by
  simp only [Interval.intersect, Interval.intersectRange, decide_eq_false_iff_not]
  unfold Disj at h
  omega

theorem shift_len (c : Composition) (op : CompOp) (s : Interval) (hd : ¬ Drops c op s) :
    (shift c op s).stop - (shift c op s).start = s.stop - s.start := by
  cases op <;> simp only [shift, Drops] at hd ⊢ <;> (try split) <;>
    (try simp only [Interval.shiftUp, Interval.shiftDown]) <;> omega

theorem shift_mono (c : Composition) (op : CompOp) (a b : Interval) (ha : ¬ Drops c op a) (hb : ¬ Drops c op b)
    (hne : a.start < a.stop) (h : a.stop ≤ b.start) : (shift c op a).stop ≤ (shift c op b).start := by
  cases op <;> simp only [shift, Drops] at ha hb ⊢ <;> (try split) <;> (try split) <;>
    (try simp only [Interval.shiftUp, Interval.shiftDown]) <;> omega

/-- a selection the operation keeps is inside the buffer afterwards: its last position holds a symbol -/
theorem shift_in (c : Composition) (op : CompOp) (c' : Composition) (h : c.apply op = .ok c') (s : Interval)
    (hd : ¬ Drops c op s) (hne : s.start < s.stop) (hin : s.stop ≤ c.symbols.length) :
    (shift c op s).stop ≤ c'.symbols.length := by
  have hl := shift_len c op s hd
  obtain ⟨_, b, _, _⟩ := back_shift c op s hd (k := (shift c op s).stop - 1) (by omega) (by omega)
  have hk := symbols_after h ((shift c op s).stop - 1)
  rw [List.getElem?_eq_getElem (Nat.lt_of_lt_of_le b hin)] at hk
  rcases Nat.lt_or_ge ((shift c op s).stop - 1) c'.symbols.length with h' | h'
  · omega
  · rw [List.getElem?_eq_none h'] at hk
    cases hw : wrote c op _ <;> rw [hw] at hk <;> cases hk

theorem gapShift_inside (c : Composition) (op : CompOp) (s : Interval) (hd : ¬ Drops c op s)
    {j j' : Nat} (hj : gapShift c op j = some j') (h1 : (shift c op s).start < j') (h2 : j' < (shift c op s).stop) :
    s.start < j ∧ j < s.stop := by
  obtain ⟨a, b, e, _⟩ := back_shift c op s hd (Nat.le_of_lt h1) h2
  rw [(gapShift_spec hj).1] at a b e
  omega

theorem pairwise_shift {c : Composition} (hc : CompInv c) (op : CompOp) {keep : Interval → Bool}
    (hk : ∀ s, keep s = true → ¬ Drops c op s) : ((c.selections.filter keep).map (shift c op)).Pairwise Disj := by
  rw [List.pairwise_map]
  refine List.Pairwise.imp_of_mem ?_ (hc.sel_disj.filter keep)
  intro a b ha hb hab
  rw [List.mem_filter] at ha hb
  exact hab.imp (shift_mono c op a b (hk a ha.2) (hk b hb.2) (hc.sel_nonempty a ha.1))
    (shift_mono c op b a (hk b hb.2) (hk a ha.2) (hc.sel_nonempty b hb.1))

/-- **`CompInv` is preserved by every operation**; the only precondition beyond the code's own
    assertions is `ValidSelection` for `push_selection`. -/
theorem inv_preserved (c : Composition) (op : CompOp) (c' : Composition) (hc : CompInv c) (hv : ValidOp c op)
    (h : c.apply op = .ok c') : CompInv c' := by
  have hsel := fun t => (selections_after c op c' h t).mp
  refine ⟨len_preserved c op c' h, ?_, ?_, ?_, ?_, ?_⟩
  · intro j g hg
    rcases gap_origin c op c' hc h j g hg with ⟨rfl, rfl⟩ | ⟨hj, rfl | rfl | ⟨j0, hj0, hg0, _⟩⟩
    · simp
    · simp [hj]
    · simp [hj, (setGap_ok.mp h).2.2.1]
    · simpa [hj, hj0] using hc.gap_begin j0 g hg0
  · intro t ht
    rcases hsel t ht with ⟨s, hs, hd, rfl⟩ | rfl
    · have := hc.sel_nonempty s hs
      have := shift_len c op s hd
      omega
    · exact hv.1
  · intro t ht
    rcases hsel t ht with ⟨s, hs, hd, rfl⟩ | rfl
    · exact shift_in c op c' h s hd (hc.sel_nonempty s hs) (hc.sel_in s hs)
    · rw [pushSelection_symbols h]; exact hv.2
  · rw [selections_eq c op c' h, List.pairwise_append]
    refine ⟨pairwise_shift hc op fun s hk => of_decide_eq_false (by simpa using hk), ?_, fun a ha b hb => ?_⟩
    · cases op <;> first | exact .nil | exact List.pairwise_singleton _ _
    · -- only a new choice is added; the choices it keeps do not intersect it
      cases op <;> simp only [pushed, List.not_mem_nil, List.mem_singleton] at hb
      subst hb
      obtain ⟨s, hs, rfl⟩ := List.mem_map.mp ha
      rw [List.mem_filter, Bool.not_eq_true', decide_eq_false_iff_not] at hs
      exact intersect_false_disj (hc.sel_nonempty s hs.1) hv.1 (Bool.not_eq_true _ ▸ hs.2)
  · intro t ht j' h1 h2 hb
    rcases gap_origin c op c' hc h j' .brk hb with ⟨_, e⟩ | ⟨hj, e | rfl | ⟨j, _, hg0, hj0⟩⟩
    · cases e
    · cases e
    · rcases hsel t ht with ⟨s, hs, hd, rfl⟩ | e
      · exact hd ⟨hj, rfl, h1, h2⟩
      · cases e
    · rcases hsel t ht with ⟨s, hs, hd, rfl⟩ | rfl
      · obtain ⟨a, b⟩ := gapShift_inside c op s hd hj0 h1 h2
        exact hc.sel_no_break s hs j a b hg0
      · simp only [gapShift] at hj0
        split at hj0
        · cases hj0
        · cases hj0; omega

theorem inv_insert {c : Composition} {i : Nat} {x : Sym} {c' : Composition} (hc : CompInv c)
    (h : c.insert i x = .ok c') : CompInv c' :=
  inv_preserved c (.insert i x) c' hc trivial h

theorem inv_new : CompInv Composition.new := by
  constructor <;> simp [Composition.new]
/-- `inv_preserved` under its conventional name: the partial form of `inv_preserved_full`, whose
    extra hypothesis `ValidOp` excludes exactly the class of DESIGN F31 (invalid `push_selection`) -/
theorem inv_preserved_partial (c : Composition) (op : CompOp) (c' : Composition) (hc : CompInv c)
    (hv : ValidOp c op) (h : c.apply op = .ok c') : CompInv c' := inv_preserved c op c' hc hv h

/-- the full-strength claim one would like: every public call preserves the invariant -/
def inv_preserved_full : Prop :=
  ∀ (c : Composition) (op : CompOp) (c' : Composition), CompInv c → c.apply op = .ok c' → CompInv c'

/-- the composition `[ㄘㄜˋ, 'a']` of DESIGN F31 -/
def f31State : Composition := { symbols := [.syl 0x2A48, .chr 97], gaps := [.begin, .normal], selections := [] }

/-- **DESIGN F31**: `push_selection` accepts an empty selection (`1..1`), after which the invariant
    is broken — without the `ValidSelection` precondition `inv_preserved` is false. -/
theorem inv_preserved_refuted : ¬ inv_preserved_full := by
  intro hfull
  have hc : CompInv f31State := by
    refine ⟨rfl, ?_, ?_, ?_, ?_, ?_⟩ <;> simp [f31State]
    intro j g hj
    match j with
    | 0 => simp at hj; simp [← hj]
    | 1 => simp at hj; simp [← hj]
    | j + 2 => simp at hj
  have := hfull f31State (.pushSelection ⟨1, 1, true, [0x518A]⟩) _ hc rfl
  have := this.sel_nonempty ⟨1, 1, true, [0x518A]⟩ (by simp [f31State, Interval.intersect, Interval.intersectRange])
  simp at this

/-- the invariant along a whole list of operations, each valid in the state it is applied to -/
def ValidRun : Composition → List CompOp → Prop
  | _, [] => True
  | c, op :: ops => ValidOp c op ∧ ∀ c1, c.apply op = .ok c1 → ValidRun c1 ops

theorem inv_run (ops : List CompOp) : ∀ c c', CompInv c → ValidRun c ops → c.run ops = .ok c' → CompInv c' :=
  fun _ _ => Composition.folds.keeps (fun hv h1 => hv.2 _ h1) (fun hc hv h1 => inv_preserved _ _ _ hc hv.1 h1) ops

/-! ## One character per symbol -/

/-- `TextInv` is preserved; a pushed selection must itself be well sized -/
theorem textInv_preserved (c : Composition) (op : CompOp) (c' : Composition) (hc : TextInv c)
    (hv : ∀ t, op = .pushSelection t → t.text.length = t.stop - t.start)
    (hne : ∀ s ∈ c.selections, s.start ≤ s.stop)
    (h : c.apply op = .ok c') : TextInv c' := by
  intro t ht
  rcases (selections_after c op c' h t).mp ht with ⟨s, hs, hd, rfl⟩ | rfl
  · rw [(shift_text c op s).1, shift_len c op s hd]
    exact hc s hs
  · exact hv t rfl

/-! ## No panic under the invariant and the asserted preconditions -/

/-- under `CompInv` and the documented index preconditions every operation succeeds: in
    particular the `end -= n` underflow (site `sub-overflow`) is unreachable -/
theorem no_panic (c : Composition) (op : CompOp) (hc : CompInv c) (ha : Asserted c op) :
    ∃ c', c.apply op = .ok c' := by
  obtain ⟨h1, h2, h3, h4, h5, h6⟩ := hc
  cases op with
  | insert i x => exact ⟨_, insert_ok.mpr ⟨h1, ha, rfl⟩⟩
  | push x => exact ⟨_, push_ok.mpr (insert_ok.mpr ⟨h1, Nat.le_refl _, rfl⟩)⟩
  | remove i =>
    refine ⟨_, remove_ok.mpr ⟨h1, ha, ?_, rfl⟩⟩
    intro s hs _ _
    have := h3 s hs
    omega
  | removeFront n =>
    refine ⟨_, removeFront_ok.mpr ⟨h1, ha, ?_, rfl⟩⟩
    intro s hs _
    have := h3 s hs
    omega
  | replace i x => exact ⟨_, replace_ok.mpr ⟨h1, ha, rfl⟩⟩
  | setGap i g => exact ⟨_, setGap_ok.mpr ⟨h1, ha.1, ha.2, rfl⟩⟩
  | pushSelection t => exact ⟨_, pushSelection_ok.mpr ⟨h1, ha, rfl⟩⟩
  | clear => exact ⟨_, rfl⟩

/-! ## Survival along operation lists -/

/-- where a selection ends up after a list of operations, `none` as soon as one of them edits inside it -/
def track : Composition → List CompOp → Interval → Option Interval
  | _, [], s => some s
  | c, op :: ops, s =>
    match c.apply op with
    | .ok c1 => if Drops c op s then none else track c1 ops (shift c op s)
    | _ => none

/-- **C04 along histories (component level)**: a selection that no operation of the list edits
    inside (`track = some t`) is present at the end, at its tracked position, with its text. -/
theorem selection_survives_run (ops : List CompOp) :
    ∀ (c c' : Composition) (s t : Interval), s ∈ c.selections → c.run ops = .ok c' → track c ops s = some t →
      t ∈ c'.selections ∧ t.text = s.text := by
  induction ops with
  | nil =>
    intro c c' s t hs h ht
    cases Composition.folds.nil_ok.mp h
    simp only [track] at ht; cases ht
    exact ⟨hs, rfl⟩
  | cons op ops ih =>
    intro c c' s t hs h ht
    obtain ⟨c1, h1, h2⟩ := Composition.folds.cons_ok.mp h
    simp only [track, h1] at ht
    split at ht
    · cases ht
    · next hd =>
      have hmem : shift c op s ∈ c1.selections := (selections_after c op c1 h1 _).mpr (.inl ⟨s, hs, hd, rfl⟩)
      obtain ⟨r1, r2⟩ := ih c1 c' _ t hmem h2 ht
      exact ⟨r1, by rw [r2, (shift_text c op s).1]⟩

/-! ## Break points: which operations can clear or create one -/

/-- **A user break (or glue) stays**, at the shifted position, across every operation that does
    not touch that very gap.  Needs only that gap 0 is the `Begin` gap. -/
theorem gap_survives (c : Composition) (op : CompOp) (c' : Composition) (hc : CompInv c)
    (h : c.apply op = .ok c') (j j' : Nat) (g : Gap) (hg : c.gaps[j]? = some g) (hgb : g ≠ .begin)
    (hj : gapShift c op j = some j') : c'.gaps[j']? = some g := by
  obtain ⟨e, -, w, h0⟩ := gapShift_spec hj
  rw [gaps_after hc.len_eq h j' (h0 fun e => hgb ((hc.gap_begin j g hg).mpr e)), w, e]
  exact hg

/-- the instance of `gap_survives` the property talks about -/
theorem break_survives (c : Composition) (op : CompOp) (c' : Composition) (hc : CompInv c)
    (h : c.apply op = .ok c') (j j' : Nat) (hg : c.gaps[j]? = some .brk)
    (hj : gapShift c op j = some j') : c'.gaps[j']? = some .brk :=
  gap_survives c op c' hc h j j' .brk hg (by decide) hj

/-- **No operation creates a break unasked**: a break after the operation is the image of a break
    before it, or was just set by `set_gap(j', Break)`. -/
theorem break_origin (c : Composition) (op : CompOp) (c' : Composition) (hc : CompInv c)
    (h : c.apply op = .ok c') (j' : Nat) (hg : c'.gaps[j']? = some .brk) :
    (∃ x, op = .setGap j' x ∧ x = .brk) ∨ (∃ j, c.gaps[j]? = some .brk ∧ gapShift c op j = some j') := by
  rcases gap_origin c op c' hc h j' .brk hg with ⟨_, e⟩ | ⟨_, e | e | ⟨j, _, hj⟩⟩
  · cases e
  · cases e
  · exact .inl ⟨_, e, rfl⟩
  · exact .inr ⟨j, hj⟩

/-- a break is never strictly inside a selection (field `sel_no_break` of the invariant, restated):
    setting a break inside a selection drops the selection, choosing a range resets its inner gaps -/
theorem no_break_inside_selection {c : Composition} (hc : CompInv c) (s : Interval) (hs : s ∈ c.selections)
    (j : Nat) (h1 : s.start < j) (h2 : j < s.stop) : c.gaps[j]? ≠ some .brk :=
  hc.sel_no_break s hs j h1 h2

/-! ## Selections cover syllables only (needed by the conversion engines, C03) -/

/-- every symbol of `a..b` is a syllable -/
def AllSyl (c : Composition) (a b : Nat) : Prop := ∀ j, a ≤ j → j < b → ∃ k, c.symbols[j]? = some (Sym.syl k)

/-- every selection covers syllables only -/
def SylInv (c : Composition) : Prop := ∀ s ∈ c.selections, AllSyl c s.start s.stop

/-- the preconditions under which `SylInv` is kept: a chosen range consists of syllables, and
    `replace` (which as coded keeps a selection covering the replaced symbol) does not put a
    character under a selection -/
def ValidOpSyl (c : Composition) : CompOp → Prop
  | .pushSelection t => AllSyl c t.start t.stop
  | .replace i x => (∃ k, x = Sym.syl k) ∨ ∀ s ∈ c.selections, ¬ (s.start ≤ i ∧ i < s.stop)
  | _ => True

theorem sylInv_preserved (c : Composition) (op : CompOp) (c' : Composition) (hc : CompInv c) (hs : SylInv c)
    (hv : ValidOpSyl c op) (h : c.apply op = .ok c') : SylInv c' := by
  intro t ht j hj1 hj2
  rcases (selections_after c op c' h t).mp ht with ⟨s, hs', hd, rfl⟩ | rfl
  · obtain ⟨a, b, -, w⟩ := back_shift c op s hd hj1 hj2
    rw [symbols_after h]
    cases hw : wrote c op j with
    | none => exact hs s hs' _ a b
    | some x =>
      -- only a `replace` writes under a selection it keeps
      cases op <;> try exact absurd (w.resolve_left (by simp [hw])) hd
      simp only [wrote] at hw
      split at hw <;> cases hw
      exact hv.elim (fun ⟨k, e⟩ => ⟨k, congrArg some e⟩)
        fun hv => absurd (w.resolve_left (by simp [wrote, ‹j = _›])) (hv s hs')
  · rw [pushSelection_symbols h]
    exact hv j hj1 hj2

/-! ## The order of `selections` is not observable under the invariant -/

/-- distinct selections have distinct starts (ranges are non-empty and disjoint): a selection is
    determined by where it begins -/
theorem sel_start_injective {c : Composition} (hc : CompInv c) {a b : Interval}
    (ha : a ∈ c.selections) (hb : b ∈ c.selections) (h : a.start = b.start) : a = b := by
  rcases pairwise_mem hc.sel_disj ha hb with e | d | d
  · exact e
  all_goals
    have := hc.sel_nonempty a ha
    have := hc.sel_nonempty b hb
    unfold Disj at d
    omega

/-- any two selections are equal or non-intersecting (the form the conversion model uses) -/
theorem sel_pairwise_not_intersect {c : Composition} (hc : CompInv c) :
    c.selections.Pairwise (fun a b => a.intersect b = false) :=
  hc.sel_disj.imp (fun h => disj_intersect_false h)

/-- a first-match lookup that at most one element of the list can
    satisfy gives the same answer on every permutation of the list.  With `sel_start_injective`
    (look-up by start / by range) this is why the model may replace the `swap_remove` loop by
    `filter` and why the correspondence compares selections as sorted lists. -/
theorem selections_order_irrelevant {l l' : List Interval} (hp : l.Perm l') (p : Interval → Bool)
    (huniq : ∀ a ∈ l, ∀ b ∈ l, p a = true → p b = true → a = b) : l.find? p = l'.find? p := by
  cases h1 : l.find? p with
  | none =>
    symm
    rw [List.find?_eq_none] at h1 ⊢
    intro x hx
    exact h1 x (hp.mem_iff.mpr hx)
  | some a =>
    have ha := List.mem_of_find?_eq_some h1
    have hpa := List.find?_some h1
    cases h2 : l'.find? p with
    | none =>
      rw [List.find?_eq_none] at h2
      exact absurd hpa (h2 a (hp.mem_iff.mp ha))
    | some b =>
      have hb := hp.mem_iff.mpr (List.mem_of_find?_eq_some h2)
      have hpb := List.find?_some h2
      rw [huniq a ha b hb hpa hpb]

/-! ## Through the `CompositionEditor`: every method is zero or one `Composition` call -/

/-- the `Composition` call a `CompositionEditor` method makes on `inner` (from the pre-state) -/
def compOps (e : CompEditor) : CedOp → List CompOp
  | .clear => [.clear]
  | .removeFront n => [.removeFront n]
  | .removeAfterCursor => [.remove e.cursor]
  | .removeBeforeCursor => if e.cursor = 0 then [] else [.remove (e.cursor - 1)]
  | .insert x => [.insert e.cursor x]
  | .insertGlue => if e.isEob then [] else [.setGap e.cursor .glue]
  | .insertBreak => if e.isEob then [] else [.setGap e.cursor .brk]
  | .replace x => [.replace e.cursor x]
  | .select iv => [.pushSelection iv]
  | _ => []

theorem withInner_ok {r : Outcome Composition} {f : Composition → CompEditor} {e' : CompEditor}
    (h : CompEditor.withInner r f = .ok e') : ∃ c, r = .ok c ∧ e' = f c := by
  unfold CompEditor.withInner at h
  split at h
  · next c => cases h; exact ⟨c, rfl, rfl⟩
  · cases h
  · cases h

/-- `select` refuses an empty string and otherwise is `push_selection` on the inner composition -/
theorem select_ok {e e' : CompEditor} {iv : Interval} (h : e.select iv = .ok e') :
    ∃ c, e.inner.pushSelection iv = .ok c ∧ e' = { e with inner := c } := by
  unfold CompEditor.select at h
  split at h
  · cases h
  · exact withInner_ok h

/-- a method that does nothing under a condition and otherwise makes one call on `inner` -/
theorem run_of_guarded {e e' : CompEditor} {p : Prop} [Decidable p] {op : CompOp} {f : Composition → CompEditor}
    (hf : ∀ c, (f c).inner = c) (h : (if p then .ok e else CompEditor.withInner (e.inner.apply op) f) = .ok e') :
    e.inner.run (if p then [] else [op]) = .ok e'.inner := by
  split at h
  · next hp => cases h; rw [if_pos hp]; rfl
  · next hp =>
    obtain ⟨c, hc, rfl⟩ := withInner_ok h
    rw [hf, if_neg hp]
    exact Composition.folds.one.mpr hc

/-- the inner composition after a `CompositionEditor` method is the result of `compOps` -/
theorem ced_inner (e : CompEditor) (op : CedOp) (e' : CompEditor) (h : e.apply op = .ok e') :
    e.inner.run (compOps e op) = .ok e'.inner := by
  cases op with
  | pushCursor | moveCursor | clear | moveToEnd | moveToBeginning | moveLeft | moveRight => cases h; rfl
  | popCursor =>
    simp only [CompEditor.apply, CompEditor.popCursor] at h; cases h
    simp only [compOps, Composition.run]; split <;> rfl
  | clampCursor =>
    simp only [CompEditor.apply, CompEditor.clampCursor] at h; cases h
    simp only [compOps, Composition.run]; split <;> rfl
  | removeFront | removeAfterCursor | insert | replace =>
    obtain ⟨c, hc, rfl⟩ := withInner_ok h
    exact Composition.folds.one.mpr hc
  | removeBeforeCursor | insertGlue | insertBreak => exact run_of_guarded (fun _ => rfl) h
  | select iv =>
    obtain ⟨c, hc, rfl⟩ := select_ok h
    exact Composition.folds.one.mpr hc

/-- `CompInv` of the inner composition is kept by every `CompositionEditor` method, given that
    `select` is called with a valid selection -/
theorem ced_inv_preserved (e : CompEditor) (op : CedOp) (e' : CompEditor) (hc : CompInv e.inner)
    (hv : ∀ iv, op = .select iv → ValidSelection e.inner iv) (h : e.apply op = .ok e') : CompInv e'.inner := by
  refine inv_run (compOps e op) e.inner e'.inner hc ?_ (ced_inner e op e' h)
  cases op <;> simp only [compOps] <;> (try split) <;> simp [ValidRun, ValidOp]
  exact hv _ rfl

/-- a selection tracked through the `Composition` call of one `CompositionEditor` method is
    present afterwards with its text (cursor movement, cursor stack: nothing changes at all) -/
theorem ced_selection_survives (e : CompEditor) (op : CedOp) (e' : CompEditor) (h : e.apply op = .ok e')
    (s t : Interval) (hs : s ∈ e.inner.selections) (ht : track e.inner (compOps e op) s = some t) :
    t ∈ e'.inner.selections ∧ t.text = s.text :=
  selection_survives_run (compOps e op) e.inner e'.inner s t hs (ced_inner e op e' h) ht

/-- tracking through a list of `CompositionEditor` methods -/
def cedTrack : CompEditor → List CedOp → Interval → Option Interval
  | _, [], s => some s
  | e, op :: ops, s =>
    match e.apply op with
    | .ok e1 => (track e.inner (compOps e op) s).bind (cedTrack e1 ops)
    | _ => none

/-- **C04 for histories of `CompositionEditor` calls** (typing/deleting elsewhere, cursor moves,
    cursor save/restore, breaks elsewhere, other choices, auto-commit of earlier text): a choice that
    no call edits inside is present at the end, at its tracked position, with its text. -/
theorem ced_selection_survives_run (ops : List CedOp) :
    ∀ (e e' : CompEditor) (s t : Interval), s ∈ e.inner.selections → e.run ops = .ok e' →
      cedTrack e ops s = some t → t ∈ e'.inner.selections ∧ t.text = s.text := by
  induction ops with
  | nil =>
    intro e e' s t hs h ht
    cases CompEditor.folds.nil_ok.mp h
    simp only [cedTrack] at ht; cases ht
    exact ⟨hs, rfl⟩
  | cons op ops ih =>
    intro e e' s t hs h ht
    obtain ⟨e1, h1, h⟩ := CompEditor.folds.cons_ok.mp h
    simp only [cedTrack, h1] at ht
    cases hm : track e.inner (compOps e op) s with
    | none => rw [hm] at ht; cases ht
    | some m =>
      rw [hm] at ht
      obtain ⟨r1, r2⟩ := ced_selection_survives e op e1 h1 s m hs hm
      obtain ⟨r3, r4⟩ := ih e1 e' m t r1 h ht
      exact ⟨r3, by rw [r4, r2]⟩

/-! ## Non-vacuity: the hypotheses of the theorems above are satisfiable by non-trivial states -/

/-- `[ㄘㄜˋ, ㄕˋ, 'a', ㄘㄜˋ]`, a break before the last symbol, "測試" chosen for `0..2` -/
def demo : Composition :=
  { symbols := [.syl 0x2A48, .syl 0x1404, .chr 97, .syl 0x2A48]
    gaps := [.begin, .normal, .normal, .brk]
    selections := [⟨0, 2, true, [0x6E2C, 0x8A66]⟩] }

theorem demo_inv : CompInv demo := by
  refine ⟨rfl, ?_, ?_, ?_, ?_, ?_⟩
  · intro j g hj
    match j with
    | 0 => simp [demo] at hj; simp [← hj]
    | 1 => simp [demo] at hj; simp [← hj]
    | 2 => simp [demo] at hj; simp [← hj]
    | 3 => simp [demo] at hj; simp [← hj]
    | j + 4 => simp [demo] at hj
  · simp [demo]
  · simp [demo]
  · simp [demo]
  · intro s hs j h1 h2
    simp [demo] at hs
    subst hs
    have : j = 1 := by simp at h1 h2; omega
    subst this
    simp [demo]

/-- typing before the choice moves it by one and keeps it; the break moves along -/
example : ∃ c', demo.apply (.insert 0 (.chr 98)) = .ok c' ∧
    (⟨1, 3, true, [0x6E2C, 0x8A66]⟩ : Interval) ∈ c'.selections ∧ c'.gaps[4]? = some .brk := by
  obtain ⟨c', h⟩ := no_panic demo (.insert 0 (.chr 98)) demo_inv (by simp [Asserted])
  refine ⟨c', h, ?_, ?_⟩
  · have := selection_survives demo (.insert 0 (.chr 98)) ⟨0, 2, true, [0x6E2C, 0x8A66]⟩ (by simp [demo])
      (by simp [EditsInside, Drops]) c' h
    simpa [shift, Interval.shiftUp] using this
  · exact break_survives demo _ c' demo_inv h 3 4 (by simp [demo]) (by simp [gapShift])

/-- a valid, overlapping new choice replaces the old one and nothing else -/
example : ∃ c', demo.apply (.pushSelection ⟨1, 2, true, [0x8A66]⟩) = .ok c' ∧ CompInv c' ∧
    c'.selections = [⟨1, 2, true, [0x8A66]⟩] := by
  refine ⟨_, rfl, inv_preserved demo (.pushSelection ⟨1, 2, true, [0x8A66]⟩) _ demo_inv
    (by simp [ValidOp, ValidSelection, demo]) rfl, ?_⟩
  simp [demo, Interval.intersect, Interval.intersectRange]

/-- auto-commit of earlier text: `remove_front 2` cuts the choice, `remove_front 0` keeps it -/
example : track demo [.removeFront 0, .setGap 2 .glue, .push (.chr 99)] ⟨0, 2, true, [0x6E2C, 0x8A66]⟩
    = some ⟨0, 2, true, [0x6E2C, 0x8A66]⟩ := by decide

end Chewing.C04
