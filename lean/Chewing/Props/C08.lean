import Chewing.Proofs.LearnBound
import Chewing.Proofs.LearnLink
import Chewing.Proofs.LearnLinkEditor
import Chewing.Proofs.EditorLink
import Chewing.Props.C10
/-!
# C08 — Committed choices are learned, persist, and eventually become the default

Model: `Model/Estimate.lean` (`LaxUserFreqEstimate::estimate` with its `u32`/`u64` guards), `Model/Learn.lean`
(`learn_phrase`, `auto_learn`, `commit`'s learning effect, the layer merge of `Layered`, `find_best_phrase`
without selections, `trim_paths`), numeric constants and the break-word list regenerated from the source
(`Gen/Estimate.lean`, `Gen/BreakWords.lean`, `Gen/TopScore.lean`).

Clauses of the statement and the theorems that carry them

* "records every multi-character phrase … (and an explicitly chosen single character) under its syllables":
  `learn_records` + `multi_char_is_unit`, `break_word_is_unit`, `lone_single_is_unit`, `single_run_is_unit`.
  The strict reading (every single character under its own syllable) is false for the code by design —
  `records_strict_refuted` — the exception set is exactly: a non-break single character with a non-break
  single-character neighbour is recorded only inside the concatenated run.
* "with a frequency not lower than before": `learn_monotone`, `commit_monotone` (and no panic on that path).
* "from then on … offered as a candidate": `learned_is_candidate` (merged lookup lists it) and, on the editor
  model, `learned_is_candidate_linked` / `learned_in_open_list_linked` / `learned_is_candidate_typed_alone_linked`
  (C07's `phrase_list_complete` + C09's `layered_over_map`: the list `PhraseSelector::candidates` shows on those
  syllables contains the phrase; link hypothesis: the environment's lookup is `Layered` over a user layer denoting
  the `UserMap`); "also after close and reopen": `learned_persists` (explicit hypothesis), `learned_persists_linked`
  (discharged by C10/C09), `learned_is_candidate_after_reopen_linked` (… and still in the candidate list).
* "repeating … a bounded number of times (≤ 64) makes X the default": `becomes_top` (50 learnings suffice for
  every pair of frequencies up to 1 000 000, by a monotone-gap induction, no pair enumeration),
  `bound_within_64`, `top_is_default`, `becomes_default` (graph hypotheses), and without graph hypotheses on C03's
  engine model: `top_is_default_linked`, `top_is_default_env_linked`, `becomes_default_linked`,
  `becomes_default_layered_linked`
  (`Proofs/LearnLinkEditor.lean`).
* "with auto-learning disabled, committing never changes the user dictionary": `no_learn_when_disabled`.
* the bare public function: `estimate_no_panic` (exact precondition; F07 witnesses as examples), `estimate_editor_path` /
  `estimate_rising_le_max` (F40 repaired: no panic and a result within `MAX_USER_FREQ` for every `u32` frequency),
  `estimate_future_time` (F07's time subtraction repaired).
-/
namespace Chewing.C08
open Chewing.Learn Gen.Est Gen.Learn

/-! ## The bare function `LaxUserFreqEstimate::estimate` (F07 is recorded against it, not against C08)

After the repair of F40 and of F07's time subtraction (`fix:` commit in the repository: `saturating_add` before the
clamp, `saturating_sub` for the time difference) the only operations left that can fail are the plain `u32`
subtractions `max_freq - orig_freq` (rising bands) and `freq - orig_freq`, `freq - delta` (long-gap band). -/

/-- `estimate` returns a value — no `u32` operation overflows or underflows, so debug and release profiles
    agree — exactly under `EstimatePre`: `orig ≤ max` in a rising band, `orig ≤ freq` and `delta ≤ freq` in the
    long-gap band.  No condition on the stored time or on the size of the stored frequency. -/
theorem estimate_no_panic (lifetime freq : Nat) (lastUsed : Option Nat) (orig maxF : Nat) :
    (estimate lifetime freq lastUsed orig maxF).isOk = true ↔ EstimatePre lifetime freq lastUsed orig maxF := by
  simp only [estimate, EstimatePre]
  by_cases h1 : satSub lifetime (lastUsed.getD lifetime) < shortBand
  · rw [if_pos h1, risingBand_isOk]
    exact ⟨fun h => ⟨fun _ => h, fun h2 _ => absurd h1 (by omega)⟩, fun h => h.1 (Or.inl h1)⟩
  · rw [if_neg h1]
    by_cases h2 : satSub lifetime (lastUsed.getD lifetime) < mediumBand
    · rw [if_pos h2, risingBand_isOk]
      exact ⟨fun h => ⟨fun _ => h, fun _ h3 => absurd h2 (by omega)⟩, fun h => h.1 (Or.inr h2)⟩
    · rw [if_neg h2, decayBand_isOk]
      exact ⟨fun h => ⟨fun h3 => h3.elim (fun h4 => absurd h4 h1) (fun h4 => absurd h4 h2), fun _ _ => h⟩,
        fun h => h.2 (by omega) (by omega)⟩

/-- F07, witness 1 (still open, unreachable from the editor): stored time 0 at lifetime 100 000 (long-gap band)
    with frequency 5 < 10 -/
example : estimate 100000 5 (some 0) 0 0 = .panic "estimate: freq - delta" := by decide
/-- F07, witness 2 — repaired: a stored time in the future is "just used" -/
example : estimate 100 5 (some 101) 5 5 = .ok 6 := by decide
/-- **F07 (time) repaired, for all inputs**: a stored time at or after the clock runs the short band; it panics
    only if `orig > max` -/
theorem estimate_future_time (lifetime freq t orig maxF : Nat) (h : lifetime ≤ t) :
    estimate lifetime freq (some t) orig maxF = risingBand shortDiv shortPlus shortInc freq orig maxF :=
  estimate_short (lu := some t) (show lifetime - t < shortBand by simp only [shortBand]; omega) freq orig maxF
/-- the precondition is satisfiable in every band -/
example : (estimate 100 5 (some 90) 5 9).isOk = true ∧ (estimate 10000 5 (some 90) 5 9).isOk = true
    ∧ (estimate 100000 50 (some 90) 5 9).isOk = true := by decide

/-- the editor path (`learn_phrase`: no timestamp, `orig_freq = phrase.freq() ≤ max_freq`) only ever runs the short
    band and cannot panic — **for every stored frequency** (F40 repaired: the unrepaired code needed the head room
    `max_freq + 10 ≤ u32::MAX`); stored times never influence learning -/
theorem estimate_editor_path (lifetime f mx : Nat) (h : f ≤ mx) :
    estimate lifetime f none f mx = .ok (stepFreq f mx) :=
  estimate_editor lifetime f mx h

/-- **F40 repaired**: whatever a rising band returns — for all frequencies, `u32::MAX` included — is within
    `MAX_USER_FREQ`; in particular the editor path never stores more than `MAX_USER_FREQ` -/
theorem estimate_rising_le_max (div plus inc f o m v : Nat) (h : risingBand div plus inc f o m = .ok v) :
    v ≤ maxUserFreq :=
  risingBand_ok h ▸ Nat.min_le_right _ _

/-- the F40 witness (stored frequency `u32::MAX`, any clock): clamped, not a panic -/
example : estimate 5 4294967295 none 4294967295 4294967295 = .ok 99999999 := by decide

/-- in the two rising bands even the bare function never lowers a frequency within `MAX_USER_FREQ` -/
theorem estimate_rising_monotone (div plus inc f o m v : Nat) (hf : f ≤ maxUserFreq)
    (h : risingBand div plus inc f o m = .ok v) : f ≤ v := by
  rw [risingBand_ok h]; omega

/-! ## "with a frequency not lower than before" -/

/-- one `learn_phrase` with all stored frequencies within `MAX_USER_FREQ`: it does not panic, no entry of the user
    dictionary disappears or gets a lower frequency, and the bound is kept -/
theorem learn_monotone (ctx : LearnCtx) (u : UserMap) (key : List Nat) (x : Text) (hB : FreqBounded ctx.sys u) :
    ∃ u', learnPhrase ctx u key x = .ok u' ∧ FreqBounded ctx.sys u' ∧
      ∀ k v, u.get? k = some v → ∃ v', u'.get? k = some v' ∧ v.1 ≤ v'.1 :=
  learnPhrase_bounded ctx u key x hB

/-- the learned phrase's new frequency is not below its *merged* frequency either (system layers included) -/
theorem learn_ge_merged (ctx : LearnCtx) (u : UserMap) (key : List Nat) (x : Text)
    (hlen : key.length = x.length) (hx : x ≠ []) (hB : FreqBounded ctx.sys u)
    (hne : (allEntries ctx.sys u key).isEmpty = false) :
    ∃ u' v, learnPhrase ctx u key x = .ok u' ∧ u'.get? (key, x) = some v ∧
      mergedFreq ctx.sys u key x ≤ v.1 ∧ (mergedFreq ctx.sys u key x < maxUserFreq → mergedFreq ctx.sys u key x < v.1) := by
  have hf := mergedFreq_le ctx.sys u key x hB
  have hy := othersMax_le ctx.sys u key x hB
  refine ⟨_, _, learnPhrase_update ctx u key x hlen hx hne,
    UserMap.get?_insert_self _ _ _, learnStep_ge _ _ hf, fun h => stepFreq_gt _ _ h⟩

theorem commitLearn_enabled (ctx : LearnCtx) {symbols : List Sym} {ivs : List Interval} (u : UserMap)
    (hr : IvsInRange symbols ivs) :
    commitLearn false ctx symbols ivs u = learnAll ctx (learnUnits symbols ivs) u :=
  autoLearn_eq ctx symbols ivs u hr

/-- a whole commit (any number of learn units): no panic, nothing lowered, bound kept -/
theorem commit_monotone (disabled : Bool) (ctx : LearnCtx) (symbols : List Sym) (ivs : List Interval) (u : UserMap)
    (hB : FreqBounded ctx.sys u) (hr : IvsInRange symbols ivs) :
    ∃ u', commitLearn disabled ctx symbols ivs u = .ok u' ∧ FreqBounded ctx.sys u' ∧ MonoStep u u' := by
  cases disabled with
  | true => exact ⟨u, rfl, hB, MonoStep.refl u⟩
  | false => rw [commitLearn_enabled ctx u hr]; exact learnAll_bounded ctx _ u hB

/-- **F40 repaired, on the commit path**: the learning effect of a commit never panics — for ALL dictionaries,
    i.e. for every stored `u32` frequency and every stored time (a dictionary file of valid format may hold any);
    the bound `FreqBounded` of `commit_monotone` is needed for "nothing lowered" only, not for "no panic" -/
theorem commit_never_panics (disabled : Bool) (ctx : LearnCtx) (symbols : List Sym) (ivs : List Interval) (u : UserMap)
    (hr : IvsInRange symbols ivs) :
    ∃ u', commitLearn disabled ctx symbols ivs u = .ok u' := by
  cases disabled with
  | true => exact ⟨u, rfl⟩
  | false => rw [commitLearn_enabled ctx u hr]; exact learnAll_total ctx _ u

/-- the F40 witness on the commit path: a system phrase stored with frequency `u32::MAX` is learned without
    a panic (and clamped to `MAX_USER_FREQ`) -/
example :
    learnPhrase { sys := [([1], { text := [65], freq := 4294967295 })], lifetime := 0 } [] [1] [65]
      = .ok [(([1], [65]), (99999999, 0))] := by decide

/-- the bound is needed: a system frequency above `MAX_USER_FREQ` is *lowered* to it by learning
    (outside the property's quantifier, which stops at 1 000 000) -/
example :
    learnPhrase { sys := [([1], { text := [65], freq := 100000000 })], lifetime := 0 } [] [1] [65]
      = .ok [(([1], [65]), (99999999, 0))] := by decide

/-! ## "records every multi-character phrase … (and an explicitly chosen single character)" -/

/-- strict reading: *every* dictionary-phrase interval of the committed conversion — single characters
    included — is live afterwards under exactly its own syllables -/
def RecordsStrict : Prop :=
  ∀ (ctx : LearnCtx) (symbols : List Sym) (ivs : List Interval) (u u' : UserMap),
    IvsInRange symbols ivs → autoLearn ctx symbols ivs u = .ok u' →
    ∀ iv ∈ ivs, iv.isPhrase = true → iv.text.length = iv.stop - iv.start → iv.text ≠ [] →
      Live u' (keyOf (segOf symbols iv), iv.text)

/-- the code does not satisfy the strict reading: two adjacent single characters (neither a break word) are
    recorded as one two-character phrase, not under their own syllables -/
theorem records_strict_refuted : ¬ RecordsStrict := by
  intro h
  have := h { sys := [], lifetime := 7 } [.syl 1, .syl 2]
    [{ start := 0, stop := 1, isPhrase := true, text := [65] }, { start := 1, stop := 2, isPhrase := true, text := [66] }]
    [] [(([1, 2], [65, 66]), (1, 0))]
    (by intro iv hiv _
        simp only [List.mem_cons, List.not_mem_nil, or_false] at hiv
        rcases hiv with rfl | rfl <;> simp)
    (by decide)
    { start := 0, stop := 1, isPhrase := true, text := [65] } (by simp) rfl rfl (by simp)
  obtain ⟨v, hv, _⟩ := this
  have e : UserMap.get? [(([1, 2], [65, 66]), (1, 0))] (keyOf (segOf [.syl 1, .syl 2]
      { start := 0, stop := 1, isPhrase := true, text := [65] }), [65]) = none := by decide
  rw [e] at hv
  cases hv

/-- **learn_records**: after a commit with auto-learning enabled, every learn unit of the committed conversion
    that is a well-formed phrase (as many characters as syllables, not empty) is live in the user dictionary
    under exactly its syllables, with a positive frequency; and whatever was live before still is -/
theorem learn_records (ctx : LearnCtx) (symbols : List Sym) (ivs : List Interval) (u u' : UserMap)
    (hr : IvsInRange symbols ivs) (h : commitLearn false ctx symbols ivs u = .ok u') :
    (∀ p ∈ learnUnits symbols ivs, p.1.length = p.2.length → p.2 ≠ [] → Live u' p) ∧ (∀ k, Live u k → Live u' k) := by
  rw [commitLearn_enabled ctx u hr] at h
  exact (learnAll_live ctx _ u u' h).symm

/-! a concrete commit: buffer 測試 | 甲 | 乙 | 的 with 測試 known to the system dictionary (frequency 40, homophone at 100) -/
def exSys : List Entry := [([1, 2], { text := [28204, 35430], freq := 40 }), ([1, 2], { text := [20874, 35430], freq := 100 })]
def exUser : UserMap := [(([9], [30002]), (7, 3))]
def exSymbols : List Sym := [.syl 1, .syl 2, .syl 3, .syl 4, .syl 5]
def exIvs : List Interval :=
  [{ start := 0, stop := 2, isPhrase := true, text := [28204, 35430] }, { start := 2, stop := 3, isPhrase := true, text := [30002] },
   { start := 3, stop := 4, isPhrase := true, text := [20057] }, { start := 4, stop := 5, isPhrase := true, text := [30340] }]

/-- hypotheses of `learn_monotone` / `commit_monotone` / `learn_records` are satisfiable -/
example : FreqBounded exSys exUser := by
  unfold FreqBounded exSys exUser
  decide

example :
    commitLearn false { sys := exSys, lifetime := 77 } exSymbols exIvs exUser
      = .ok [(([5], [30340]), (1, 0)), (([3, 4], [30002, 20057]), (1, 0)), (([1, 2], [28204, 35430]), (53, 77)), (([9], [30002]), (7, 3))] := by
  decide

/-- every multi-character dictionary phrase of the committed conversion is a learn unit, under exactly the
    syllables it covers -/
theorem multi_char_is_unit (symbols : List Sym) (ivs : List Interval) (iv : Interval)
    (hm : iv ∈ ivs) (hph : iv.isPhrase = true) (hlen : iv.stop - iv.start ≠ 1) :
    (keyOf (segOf symbols iv), iv.text) ∈ learnUnits symbols ivs :=
  nonjoinable_phrase_unit symbols ivs iv hm hph (by simp [joinable, hph, hlen]) [] []

/-- clause "records every multi-character phrase … under its syllables", spelled out: a multi-character phrase
    interval over syllables `k` (as many characters as syllables) is live under `k` after the commit -/
theorem learn_records_multi (ctx : LearnCtx) (symbols : List Sym) (ivs : List Interval) (u u' : UserMap)
    (hr : IvsInRange symbols ivs) (h : commitLearn false ctx symbols ivs u = .ok u')
    (iv : Interval) (hm : iv ∈ ivs) (hph : iv.isPhrase = true) (hlen : iv.stop - iv.start ≠ 1)
    (k : List Nat) (hseg : segOf symbols iv = k.map Sym.syl) (htl : k.length = iv.text.length) (hne : iv.text ≠ []) :
    Live u' (k, iv.text) := by
  have hu := multi_char_is_unit symbols ivs iv hm hph hlen
  rw [hseg, keyOf_map_syl] at hu
  exact (learn_records ctx symbols ivs u u' hr h).1 _ hu htl hne

/-- a single character that is a break word is learned by itself (it only cuts the runs around it) -/
theorem break_word_is_unit (symbols : List Sym) (ivs : List Interval) (iv : Interval)
    (hm : iv ∈ ivs) (hph : iv.isPhrase = true) (hb : Learn.isBreakWord iv.text = true) :
    (keyOf (segOf symbols iv), iv.text) ∈ learnUnits symbols ivs :=
  nonjoinable_phrase_unit symbols ivs iv hm hph (by simp [joinable, hb]) [] []

/-- a maximal run of non-break single characters is one learn unit: the characters concatenated, under the
    syllables concatenated.  This is the exception to the strict reading: a character inside a run of two or
    more is recorded inside the run phrase only. -/
theorem single_run_is_unit (symbols : List Sym) (pre run post : List Interval)
    (hne : JoinableNonEmpty (pre ++ run ++ post))
    (hrun : ∀ iv ∈ run, joinable iv = true) (hr : run ≠ [])
    (hpre : ∀ a ∈ pre.getLast?, joinable a = false) (hpost : ∀ a ∈ post.head?, joinable a = false) :
    (keyOf (run.flatMap (segOf symbols)), run.flatMap (·.text)) ∈ learnUnits symbols (pre ++ run ++ post) := by
  rw [List.append_assoc]
  apply learnUnits_prefix symbols pre (run ++ post) (fun iv hiv => hne iv (by simp [hiv])) hpre
  unfold learnUnits
  rw [unitsGo_run symbols run post hrun]
  simp only [List.nil_append]
  apply unitsGo_flush symbols post _ _ _ hpost
  cases run with
  | nil => exact absurd rfl hr
  | cons a r =>
    intro h
    have ha := hne a (by simp) (hrun a (List.mem_cons_self ..))
    simp only [List.flatMap_cons, List.append_eq_nil_iff] at h
    exact ha h.1

/-- an explicitly chosen single character (not a break word) whose neighbours are not joinable single
    characters is a learn unit by itself, under its own syllable -/
theorem lone_single_is_unit (symbols : List Sym) (pre post : List Interval) (iv : Interval)
    (hne : JoinableNonEmpty (pre ++ [iv] ++ post)) (hj : joinable iv = true)
    (hpre : ∀ a ∈ pre.getLast?, joinable a = false) (hpost : ∀ a ∈ post.head?, joinable a = false) :
    (keyOf (segOf symbols iv), iv.text) ∈ learnUnits symbols (pre ++ [iv] ++ post) := by
  have := single_run_is_unit symbols pre [iv] post hne (fun a ha => by rw [List.mem_singleton.mp ha]; exact hj)
    (by simp) hpre hpost
  simpa using this

/-- hypotheses of `single_run_is_unit` are satisfiable: 甲 乙 (a run of two) between a two-character phrase and a
    break word -/
example :
    learnUnits [.syl 1, .syl 2, .syl 3, .syl 4, .syl 5]
      [{ start := 0, stop := 2, isPhrase := true, text := [28204, 35430] }, { start := 2, stop := 3, isPhrase := true, text := [30002] },
       { start := 3, stop := 4, isPhrase := true, text := [20057] }, { start := 4, stop := 5, isPhrase := true, text := [30340] }]
      = [([1, 2], [28204, 35430]), ([3, 4], [30002, 20057]), ([5], [30340])] := by decide

/-! ## "with auto-learning disabled, committing never changes the user dictionary" -/

theorem no_learn_when_disabled (ctx : LearnCtx) (symbols : List Sym) (ivs : List Interval) (u : UserMap) :
    commitLearn true ctx symbols ivs u = .ok u := rfl

/-! ## "from then on … that phrase is offered as a candidate for those syllables" -/

/-- a live user entry is listed by the merged lookup of its syllables (`Layered::lookup_all_phrases`), which is
    what the candidate window of that range enumerates (`PhraseSelector::candidates`; completeness of the window
    is C07 — composed with this clause on the editor model by `learned_is_candidate_linked` below) -/
theorem learned_is_candidate (ctx : LearnCtx) (u : UserMap) (key : List Nat) (x : Text) (h : Live u (key, x)) :
    ∃ f, (x, f) ∈ lookupAll ctx u key := by
  obtain ⟨v, hv, h1⟩ := h
  have h2 := get?_le_mergedFreq ctx.sys u key x v hv
  have := lookupAll_bestOf ctx u key x
  exact ⟨_, bestOf_attained (by omega)⟩

/-- "also after the dictionary is closed and reopened": **under the explicit hypothesis** that close + reopen
    preserves the map (durability C10, trie round trip C11; exercised on the real code by
    the file-backed traces of the harness) -/
theorem learned_persists (reopen : UserMap → UserMap) (hre : ∀ m k, (reopen m).get? k = m.get? k)
    (ctx : LearnCtx) (u : UserMap) (key : List Nat) (x : Text) (h : Live u (key, x)) :
    Live (reopen u) (key, x) ∧ ∃ f, (x, f) ∈ lookupAll ctx (reopen u) key := by
  have h' : Live (reopen u) (key, x) := by
    obtain ⟨v, hv, h1⟩ := h
    exact ⟨v, by rw [hre]; exact hv, h1⟩
  exact ⟨h', learned_is_candidate ctx (reopen u) key x h'⟩

/-- one `learn_phrase` of this model is, on the map C09's specification `MapSpec` keeps, the
    `DictionaryMut` call the editor makes: nothing, `add_phrase(key, (text, 1))` (accepted: the phrase
    is not live) or `update_phrase(key, text, new_freq, now)` — so the `UserMap` after a sequence of
    learnings is the `MapSpec` map of a history of C09 operations -/
theorem learn_is_dictionary_call_linked {ctx : LearnCtx} {u u' : UserMap} {m : MapSpec.Map} {key : List Nat}
    {text : Text} (hu : LearnLink.URep u m) (h : learnPhrase ctx u key text = .ok u') :
    (u' = u) ∨ ∃ op : MapSpec.Op,
      (op = .add key text firstFreq none ∨ ∃ nf, op = .update key text nf ctx.lifetime) ∧
      LearnLink.URep u' (m.apply op) := by
  rw [learnPhrase_eq] at h
  cases h
  split
  · right
    unfold learnedVal
    split
    · next hes =>
      -- no layer knows a phrase for the syllables, so the phrase is not live and `add_phrase` is accepted
      refine ⟨.add key text firstFreq none, Or.inl rfl, ?_⟩
      have h3 : u.lookup key = [] := (List.append_eq_nil_iff.mp (List.isEmpty_iff.mp hes)).2
      have h4 : m (key, text) = none := by rw [← hu]; exact LearnLink.lookup_nil_get? h3 text
      simp only [MapSpec.Map.apply, MapSpec.Map.addOk, h4, Option.isNone_none, if_true, Option.getD_none]
      exact LearnLink.urep_insert hu _ _
    · exact ⟨.update key text _ ctx.lifetime, Or.inr ⟨_, rfl⟩, LearnLink.urep_insert hu _ _⟩
  · exact Or.inl rfl

/-- **`learned_persists` without its reopen hypothesis.**  The user dictionary is a file-backed
    `TrieBuf` (C09's concrete layers) opened on a well-formed trie file `t0`; it goes through any
    history of `add_phrase` / `update_phrase` / `remove_phrase` / `flush` / `reopen` under *every*
    schedule of the snapshot writer (C10's protocol) and the editor is dropped (`phase = closed`).
    `u` is this model's abstraction of the result (`URep`: the map `MapSpec` computes from the calls).
    Then every live phrase of `u` is on disk: the file at the path is complete, a `TrieBuf` opened on
    it lists the phrase under its syllables with exactly the learned (frequency, time), and `Layered`
    over any system layers offers it with a positive frequency.
    Discharged: "close + reopen preserves the map" = `C10.durable_lookup_linked` (durability for all
    schedules + C09's snapshot lemma + C09's answers of a settled state) and `C09.layered_over_map`.
    The file is C09's abstract `List Leaf` here; `learned_persists_bytes_linked` below has it as bytes. -/
theorem learned_persists_linked (t0 : List Leaf) (h0 : Trie.SnapOk t0) (tmp : Option DictLink.CFile)
    (htmp : DictLink.TmpOk tmp) (acts : List DictLink.CAct)
    (cw : DictLink.CWorld) (hrun : DictLink.crun (DictLink.cinit t0 tmp) acts = some cw)
    (hcl : cw.phase = .closed)
    (u : UserMap) (hu : LearnLink.URep u (MapSpec.Map.run (TrieBuf.baseGet t0) (DictLink.opsOf acts)))
    (key : List Nat) (x : Text) (hlive : Live u (key, x)) (sys : List Dict) :
    ∃ t, cw.fs .path = some (.complete t) ∧
      (∃ p ∈ TrieBuf.lookupAll (DictLink.freshSt t) key .standard,
        p.text = x ∧ u.get? (key, x) = some (MapSpec.valOf p)) ∧
      ∃ p ∈ Layered.lookupAll (sys ++ [TrieBuf.toDict (DictLink.freshSt t)]) key .standard,
        p.text = x ∧ 1 ≤ p.freq := by
  obtain ⟨t, hpath, _, _, _, hlk, _, _⟩ := C10.durable_lookup_linked t0 h0 tmp htmp acts cw hrun hcl
  obtain ⟨v, hv, h1⟩ := hlive
  exact ⟨t, hpath, LearnLinkEd.lookup_lists hu (hlk key) hv,
    LearnLinkEd.layered_lists_live hu sys _ key (hlk key) ⟨v, hv, h1⟩⟩

/-- **… and with the file as bytes**: nothing about files is assumed.  The chain is
    `C11` (the bytes `TrieBuilder::write` produces, read by `Trie::new` / `lookup_all_phrases`, are the
    entries inserted) → `C09.file_layer_is_C11` (those bytes denote C09's abstract file `Trie.build es`) →
    `Proofs/DictLinkBytes` (along every run of the protocol every complete file is such a `Trie.build es`)
    → `C10.durable_lookup_bytes_linked` → here.  Explicit hypotheses: the initial file was written from
    valid entries, the `DictionaryMut` calls have arguments of the Rust types (`CActValid`), every snapshot
    the history can take fits the limits of the trie format (`SnapshotsOk … FitsInfo` = C11's `Fits`, under
    which `write` cannot fail), the key has non-zero syllables.  Conclusion: the **bytes** of the file at
    the path exist and open, the real reader's exact lookup lists the learned phrase with exactly the
    learned (frequency, time), and `Layered` over any system layers offers it with a positive frequency. -/
theorem learned_persists_bytes_linked (info : TrieCodec.Info) (hinfo : TrieCodec.ValidInfo info)
    (es0 : List Entry) (hv0 : ∀ e ∈ es0, TrieCodec.ValidEntry e) (hfit0 : C10.FitsInfo info es0)
    (tmp : Option DictLink.CFile) (htmp : DictLink.TmpWritten (C10.FitsInfo info) tmp)
    (acts : List DictLink.CAct) (hval : ∀ a ∈ acts, DictLink.CActValid a)
    (hfit : DictLink.SnapshotsOk (C10.FitsInfo info) (DictLink.cinit (Trie.build es0) tmp) acts)
    (cw : DictLink.CWorld) (hrun : DictLink.crun (DictLink.cinit (Trie.build es0) tmp) acts = some cw)
    (hcl : cw.phase = .closed)
    (u : UserMap) (hu : LearnLink.URep u (MapSpec.Map.run (TrieBuf.baseGet (Trie.build es0)) (DictLink.opsOf acts)))
    (key : List Nat) (hkey : C11.ValidKey key) (x : Text) (hlive : Live u (key, x)) (sys : List Dict) :
    ∃ es bytes tr, cw.fs .path = some (.complete (Trie.build es)) ∧
      (TrieCodec.Builder.ofEntries info es).write = some bytes ∧ TrieCodec.openTrie bytes = some tr ∧
      (∃ p ∈ TrieCodec.lookupAll tr key .standard, p.text = x ∧ u.get? (key, x) = some (MapSpec.valOf p)) ∧
      TrieBuf.lookupAll (DictLink.freshSt (Trie.build es)) key .standard = dedup (TrieCodec.lookupAll tr key .standard) ∧
      ∃ p ∈ Layered.lookupAll (sys ++ [TrieBuf.toDict (DictLink.freshSt (Trie.build es))]) key .standard,
        p.text = x ∧ 1 ≤ p.freq := by
  obtain ⟨es, bytes, tr, hpath, _, hw, hopen, _, _, hlk, _, _, hrd, _⟩ :=
    C10.durable_lookup_bytes_linked info hinfo es0 hv0 hfit0 tmp htmp acts hval hfit cw hrun hcl
  have h0 : DictLink.Written (C10.FitsInfo info) (Trie.build es0) := ⟨es0, hv0, hfit0, rfl⟩
  obtain ⟨t, hpath', _, hlay⟩ :=
    learned_persists_linked (Trie.build es0) h0.snapOk tmp htmp.ok acts cw hrun hcl u hu key x hlive sys
  cases (Option.some.inj (hpath.symm.trans hpath'))
  obtain ⟨v, hv, _⟩ := hlive
  exact ⟨es, bytes, tr, hpath, hw, hopen, LearnLinkEd.lookup_lists hu (hlk key hkey) hv, hrd key .standard hkey, hlay⟩

/-! ## "repeating … a bounded number of times makes X the default" -/

/-- "type the syllables, choose X, commit" is one `learn_phrase(syllables, X)` -/
theorem commit_chosen (ctx : LearnCtx) (key : List Nat) (x : Text) (u : UserMap) (hx : x ≠ []) :
    commitLearn false ctx (key.map Sym.syl) [{ start := 0, stop := key.length, isPhrase := true, text := x }] u
      = learnPhrase ctx u key x := by
  have hr : IvsInRange (key.map Sym.syl) [{ start := 0, stop := key.length, isPhrase := true, text := x }] := by
    intro iv hiv _
    rw [List.mem_singleton.mp hiv]
    simp
  have hxe : x.isEmpty = false := by cases x with | nil => exact absurd rfl hx | cons _ _ => rfl
  have hseg : segOf (key.map Sym.syl) { start := 0, stop := key.length, isPhrase := true, text := x } = key.map Sym.syl := by
    simp only [segOf, List.drop_zero, Nat.sub_zero]
    rw [← List.length_map (f := Sym.syl), List.take_length]
  -- joinable or not, the one interval is the one learn unit
  have hu : learnUnits (key.map Sym.syl) [{ start := 0, stop := key.length, isPhrase := true, text := x }] = [(key, x)] := by
    unfold learnUnits unitsGo
    split <;> simp [unitsGo, hxe, hseg, keyOf_map_syl]
  rw [commitLearn_enabled ctx u hr, hu]
  show (learnPhrase ctx u key x).bind _ = _
  cases learnPhrase ctx u key x <;> rfl

/-- `becomes_top` for any starting frequency of X up to `MAX_USER_FREQ` (X may already be ahead: it stays ahead) -/
theorem becomes_top_of_le_max (sys : List Entry) (key : List Nat) (x : Text) (lts : List Nat) (u : UserMap)
    (hlen : key.length = x.length) (hx : x ≠ [])
    (hf : mergedFreq sys u key x ≤ maxUserFreq) (hne : (allEntries sys u key).isEmpty = false)
    (hb : othersMax sys u key x ≤ freqBound) (hk : closeSteps + 1 ≤ lts.length) :
    ∃ u', learnRepeat sys key x lts u = .ok u' ∧
      ∀ t, t ≠ x → mergedFreq sys u' key t < mergedFreq sys u' key x := by
  have hmax : freqBound ≤ maxUserFreq := by decide
  obtain ⟨u', e1, e2, _, e4⟩ := learnRepeat_spec sys key x hlen hx lts u hne hf (by omega)
  refine ⟨u', e1, fun t ht => ?_⟩
  rw [e4 t ht, e2]
  have h1 : mergedFreq sys u key t ≤ othersMax sys u key x := bestOf_le_othersOf _ _ _ ht
  have h2 := learnIter_top (othersMax sys u key x) (mergedFreq sys u key x) hb lts.length hk
  omega

/-- **becomes_top**: X not above the best other homophone, that one at most 1 000 000 (`freqBound`): after any
    number `≥ closeSteps + 1 = 50` of learnings (at arbitrary clock values) nothing panicked and X's merged
    frequency is strictly above every other phrase's.  Proof: the gap to the best homophone loses
    `max(gap/5 + 1, 10)` per learning, this map is monotone, and 49 applications take 1 000 000 to 0
    (`gapIter_bound`, one kernel evaluation on one number); one more learning makes the order strict and later
    ones keep it.  Constants from `Gen/Estimate.lean`. -/
theorem becomes_top (sys : List Entry) (key : List Nat) (x : Text) (lts : List Nat) (u : UserMap)
    (hlen : key.length = x.length) (hx : x ≠ [])
    (hle : mergedFreq sys u key x ≤ othersMax sys u key x) (hne : (allEntries sys u key).isEmpty = false)
    (hb : othersMax sys u key x ≤ freqBound) (hk : closeSteps + 1 ≤ lts.length) :
    ∃ u', learnRepeat sys key x lts u = .ok u' ∧
      ∀ t, t ≠ x → mergedFreq sys u' key t < mergedFreq sys u' key x :=
  becomes_top_of_le_max sys key x lts u hlen hx (Nat.le_trans hle (Nat.le_trans hb (by decide))) hne hb hk

/-- the bound of the statement: 50 ≤ 64 -/
theorem bound_within_64 : closeSteps + 1 ≤ 64 := by decide

/-- 49 learnings are not always enough (frequencies 0 and 1 000 000), so 50 is exact -/
example : learnIter 1000000 49 0 = 1000000 ∧ learnIter 1000000 50 0 = 1000001 := by decide +kernel

/-- hypotheses of `becomes_top` are satisfiable, and the conclusion computed on an instance -/
example :
    let sys : List Entry := [([1, 2], { text := [65, 66], freq := 5 }), ([1, 2], { text := [67, 68], freq := 1000000 })]
    mergedFreq sys [] [1, 2] [65, 66] ≤ othersMax sys [] [1, 2] [65, 66] ∧ othersMax sys [] [1, 2] [65, 66] ≤ freqBound
      ∧ (allEntries sys [] [1, 2]).isEmpty = false := by decide

/-- **top_is_default** (over C08's own small graph model; the hypotheses `hg`, `hedge`, `huniq`, `hrest` describe
    `find_intervals` / `find_k_paths` — `top_is_default_linked` at the end of this file proves the same conclusion on
    C03's engine model WITHOUT them; they are also compared with the real code by every `learn default` record of
    the harness).

    A phrase X whose merged frequency is strictly above every other phrase's of the whole range is what
    `find_best_phrase` attaches to the whole-range edge.  If node 0 of the interval graph has that edge
    (`hedge`; one edge per end, `huniq`), then the breadth-first `shortest_path` — the first k-path — is that
    single edge (`shortestPath_direct`, proved), and `trim_paths` discards every other k-path `rest` because the
    single interval contains it (`firstConversion_direct`, proved).  So the conversion of the bare syllables is
    exactly X, and no competing segmentation is ever scored against it: the
    score proviso is vacuous for this engine.  `rest` only has to consist of non-empty intervals inside the range. -/
theorem top_is_default (ctx : LearnCtx) (u : UserMap) (key : List Nat) (x : Text) (hkey : 0 < key.length)
    (hdom : ∀ t, t ≠ x → mergedFreq ctx.sys u key t < mergedFreq ctx.sys u key x)
    (graph : List (List PInterval)) (es : List PInterval) (rest : List Path)
    (hg : graph[0]? = some es)
    (hedge : ∃ b, bestPhrase (lookupAll ctx u key) = some b ∧
      ({ start := 0, stop := key.length, isPhrase := true, text := b.1, freq := b.2 } : PInterval) ∈ es)
    (huniq : ∀ e ∈ es, ∀ e' ∈ es, e.stop = key.length → e'.stop = key.length → e = e')
    (hrest : ∀ c ∈ rest, ∀ o ∈ c, 0 < o.stop ∧ o.stop ≤ key.length) :
    ∃ sp, shortestPath graph (fun _ _ => false) 0 key.length = some sp ∧
      firstConversion (sp :: rest) = some [{ start := 0, stop := key.length, isPhrase := true, text := x }] := by
  obtain ⟨b, hb, he⟩ := hedge
  rw [bestPhrase_of_dominant ctx u key x hdom] at hb
  injection hb with hb
  subst hb
  refine ⟨_, shortestPath_direct graph key.length _ es hg he rfl rfl hkey
    (fun e hm hstop => huniq e hm _ he hstop rfl), ?_⟩
  rw [firstConversion_direct _ rest (fun c hc o ho => by
    have := hrest c hc o ho
    exact ⟨this.1, Nat.zero_le _, this.2⟩)]
  rfl

/-- the DESIGN proviso, for an engine without trimming: if the single interval scores strictly above every other
    candidate path it is the head of the stable descending sort -/
theorem top_is_default_scored (d : Path) (ps : List Path) (hd : d ∈ ps)
    (hall : ∀ q ∈ ps, q = d ∨ pathScore q < pathScore d) : (sortDesc ps).head? = some d := by
  obtain ⟨h, e, hm, hmax⟩ := sortDesc_head_max ps (List.ne_nil_of_mem hd)
  rcases hall h hm with rfl | hlt
  · exact e
  · exact absurd (hmax d hd) (Int.not_le.mpr hlt)

/-- **becomes_default**: the chain of the statement.  Starting from any user dictionary in which X is not above
    its best homophone (≤ 1 000 000), `k ≥ 50` repetitions of "type the syllables, choose X, commit" (each commit =
    `commitLearn false … [single interval X]`, folded by `learnRepeat` via `commit_chosen`) leave a dictionary in
    which the default conversion of the bare syllables is X — under the graph hypotheses of `top_is_default`. -/
theorem becomes_default (sys : List Entry) (key : List Nat) (x : Text) (lts : List Nat) (u : UserMap)
    (hlen : key.length = x.length) (hx : x ≠ [])
    (hle : mergedFreq sys u key x ≤ othersMax sys u key x) (hne : (allEntries sys u key).isEmpty = false)
    (hb : othersMax sys u key x ≤ freqBound) (hk : closeSteps + 1 ≤ lts.length) :
    ∃ u', learnRepeat sys key x lts u = .ok u' ∧
      ∀ (lt : Nat) (graph : List (List PInterval)) (es : List PInterval) (rest : List Path),
        graph[0]? = some es →
        (∃ b, bestPhrase (lookupAll { sys := sys, lifetime := lt } u' key) = some b ∧
          ({ start := 0, stop := key.length, isPhrase := true, text := b.1, freq := b.2 } : PInterval) ∈ es) →
        (∀ e ∈ es, ∀ e' ∈ es, e.stop = key.length → e'.stop = key.length → e = e') →
        (∀ c ∈ rest, ∀ o ∈ c, 0 < o.stop ∧ o.stop ≤ key.length) →
        ∃ sp, shortestPath graph (fun _ _ => false) 0 key.length = some sp ∧
          firstConversion (sp :: rest) = some [{ start := 0, stop := key.length, isPhrase := true, text := x }] := by
  obtain ⟨u', e1, e2⟩ := becomes_top sys key x lts u hlen hx hle hne hb hk
  have hkey : 0 < key.length := hlen ▸ List.length_pos_iff.mpr hx
  exact ⟨u', e1, fun lt graph es rest hg hedge huniq hrest =>
    top_is_default { sys := sys, lifetime := lt } u' key x hkey e2 graph es rest hg hedge huniq hrest⟩

/-- the hypotheses of `top_is_default` are satisfiable: 測試 (freq 9) against 冊 / 是 with huge single-character
    frequencies; the alternative k-path through the two single characters is trimmed -/
example :
    let sys : List Entry := [([1, 2], { text := [28204, 35430], freq := 9 }), ([1], { text := [20874], freq := 9999999 }),
      ([2], { text := [26159], freq := 9999999 })]
    let d : PInterval := { start := 0, stop := 2, isPhrase := true, text := [28204, 35430], freq := 9 }
    let a : PInterval := { start := 0, stop := 1, isPhrase := true, text := [20874], freq := 9999999 }
    let b : PInterval := { start := 1, stop := 2, isPhrase := true, text := [26159], freq := 9999999 }
    bestPhrase (lookupAll { sys := sys, lifetime := 0 } [] [1, 2]) = some ([28204, 35430], 9) ∧
      shortestPath [[a, d], [b]] (fun _ _ => false) 0 2 = some [d] ∧
      firstConversion [[d], [a, b]] = some [{ start := 0, stop := 2, isPhrase := true, text := [28204, 35430] }] ∧
      pathScore [d] < pathScore [a, b] := by decide

/-- `learnRepeat` is the fold of the commits of the chosen phrase -/
theorem learnRepeat_is_commits (sys : List Entry) (key : List Nat) (x : Text) (hx : x ≠ []) (lt : Nat) (rest : List Nat)
    (u : UserMap) :
    learnRepeat sys key x (lt :: rest) u =
      (commitLearn false { sys := sys, lifetime := lt } (key.map Sym.syl)
        [{ start := 0, stop := key.length, isPhrase := true, text := x }] u).bind (learnRepeat sys key x rest) := by
  rw [commit_chosen _ key x u hx]; rfl

/-! ## linked: the clauses that speak of other properties' models

The two clauses that rest on other properties' models — "the candidate window shows the merged lookup
(C07)" and the graph-construction hypotheses of `top_is_default` (C03) — stated and proved on those models
(`Model/Editor.lean`, `Model/Conversion.lean`); machinery in `Proofs/LearnLinkEditor.lean`. -/

open LearnLinkEd in
/-- **`learned_is_candidate` on the editor model.**  `u` is C08's user dictionary with `x` live under `key`
    (what `learn_records` / `learn_ge_merged` establish after a commit).  Link hypotheses, explicit and minimal:
    * `hu`, `hlk` — the user layer `us` (C09's concrete `TrieBuf`) answers the exact lookup of `key` as the map
      `m` that `u` denotes (`LearnLink.URep`, the relation `learned_persists_linked` uses; `C09.lookup_exact`
      provides `hlk` in every state satisfying `TrieBuf.Inv`);
    * `henv` — for the dictionary state `d`, the environment's `lookupAll` of `key` IS `Layered::lookup_all_phrases`
      over some system layers `sys` and that user layer;
    * `hst`, `hr` — the phrase selector looks up exactly (`LookupStrategy::Standard`) and its highlighted range
      holds the syllables `key` (`C07.RangeIs`; by `C07.range_is_syllables` every open phrase list of every
      reachable editor state has such a `key`).
    Then the list `PhraseSelector::candidates` returns contains `x`.  Proof: `C07.phrase_list_complete` (the
    list is the dictionary's answer, in order) + `C09.layered_over_map` (a live user phrase is in `Layered`'s
    answer). -/
theorem learned_is_candidate_linked {D L : Type} (env : Env D L) {u : UserMap} {m : MapSpec.Map}
    (hu : LearnLink.URep u m) (sys : List Dict) (us : TrieBuf.State) {key : List Nat}
    (hlk : MapSpec.IsLookup m key (TrieBuf.lookupAll us key .standard))
    {d : D} (henv : env.lookupAll d key .standard = Layered.lookupAll (sys ++ [TrieBuf.toDict us]) key .standard)
    {p : PhraseSel} (hst : p.strategy = .standard) (hr : C07.RangeIs p key)
    {l : L} {cs : List Text} (hc : PhraseSel.candidates env p d l = .ok cs)
    {x : Text} (hlive : Live u (key, x)) : x ∈ cs := by
  obtain ⟨ph, hph, e, _⟩ := layered_lists_live hu sys us key hlk hlive
  exact listed_of_lookup env hr hc ⟨ph, by rw [hst, henv]; exact hph, e⟩

/-- … for the list of an editor STATE: whenever an editor shows a phrase list (`Selecting::candidates`) whose
    highlighted symbols are the syllables `key`, the learned phrase is in it -/
theorem learned_in_open_list_linked {D L : Type} (env : Env D L) {u : UserMap} {m : MapSpec.Map}
    (hu : LearnLink.URep u m) (sys : List Dict) (us : TrieBuf.State) {key : List Nat}
    (hlk : MapSpec.IsLookup m key (TrieBuf.lookupAll us key .standard))
    {e : Editor D L}
    (henv : env.lookupAll e.shared.dict key .standard = Layered.lookupAll (sys ++ [TrieBuf.toDict us]) key .standard)
    {s : Selecting} {p : PhraseSel} (hsel : s.sel = .phrase p)
    (hst : p.strategy = .standard) (hr : C07.RangeIs p key)
    {cs : List Text} (hc : Selecting.candidates env s e.shared = .ok cs)
    {x : Text} (hlive : Live u (key, x)) : x ∈ cs := by
  have hc' : PhraseSel.candidates env p e.shared.dict e.shared.syl = .ok cs := by
    unfold Selecting.candidates at hc; rw [hsel] at hc; exact hc
  exact learned_is_candidate_linked env hu sys us hlk henv hst hr hc' hlive

open LearnLinkEd in
/-- … and **"type the syllables alone, open the candidate list"**: the buffer holds exactly the syllables `key`,
    cursor at the beginning, choosing forward, exact lookup.  Then `Selecting::open_phrase` of the editor model
    DOES open a phrase list, over the whole buffer, and the learned phrase is one of its candidates.
    (No hypothesis on the selector is left: its range is computed by `PhraseSelector::init`.) -/
theorem learned_is_candidate_typed_alone_linked {D L : Type} (env : Env D L) {u : UserMap} {m : MapSpec.Map}
    (hu : LearnLink.URep u m) (sys : List Dict) (us : TrieBuf.State) {key : List Nat} (hkey : key ≠ [])
    (hlk : MapSpec.IsLookup m key (TrieBuf.lookupAll us key .standard))
    {sh : Shared D L}
    (henv : env.lookupAll sh.dict key .standard = Layered.lookupAll (sys ++ [TrieBuf.toDict us]) key .standard)
    (hsym : sh.com.inner.symbols = key.map Sym.syl) (hcur : sh.com.cursor = 0)
    (hfw : sh.options.phraseChoiceRearward = false) (hstd : sh.options.lookupStrategy = .standard)
    {x : Text} (hlive : Live u (key, x)) :
    ∃ sh' s p cs, openPhrase env sh = .ok (sh', .toState (.selecting s)) ∧ s.sel = .phrase p ∧
      p.begin_ = 0 ∧ p.end_ = key.length ∧ C07.RangeIs p key ∧
      Selecting.candidates env s sh' = .ok cs ∧ x ∈ cs := by
  obtain ⟨ph, hph, e, _⟩ := layered_lists_live hu sys us key hlk hlive
  have hin : ph ∈ env.lookupAll sh.dict key sh.options.lookupStrategy := by rw [hstd, henv]; exact hph
  obtain ⟨sh', s, p, cs, h1, h2, _, _, h5, h6, h7, h8, h9⟩ :=
    openPhrase_bare env hkey hsym hcur hfw (List.ne_nil_of_mem hin)
  exact ⟨sh', s, p, cs, h1, h2, h5, h6, h7, h8, by rw [← e]; exact h9 ph hin⟩

open LearnLinkEd in
/-- **still a candidate after the dictionary was closed and reopened**: `learned_persists_linked` (C10's
    durability under every schedule of the snapshot writer + C09) composed with C07.  Hypotheses of
    `learned_persists_linked` verbatim, plus the link of the NEW session's environment: whatever complete file
    `t` is at the path, the dictionary state `d` of the new session answers `key` as `Layered` over system
    layers and a `TrieBuf` opened on `t` (`DictLink.freshSt t`).  Then every phrase list over the syllables
    `key` contains the phrase learned in the OLD session. -/
theorem learned_is_candidate_after_reopen_linked {D L : Type} (env : Env D L)
    (t0 : List Leaf) (h0 : Trie.SnapOk t0) (tmp : Option DictLink.CFile)
    (htmp : DictLink.TmpOk tmp) (acts : List DictLink.CAct)
    (cw : DictLink.CWorld) (hrun : DictLink.crun (DictLink.cinit t0 tmp) acts = some cw)
    (hcl : cw.phase = .closed)
    (u : UserMap) (hu : LearnLink.URep u (MapSpec.Map.run (TrieBuf.baseGet t0) (DictLink.opsOf acts)))
    (key : List Nat) (x : Text) (hlive : Live u (key, x)) (sys : List Dict)
    {d : D} (henv : ∀ t, cw.fs .path = some (.complete t) →
      env.lookupAll d key .standard = Layered.lookupAll (sys ++ [TrieBuf.toDict (DictLink.freshSt t)]) key .standard)
    {p : PhraseSel} (hst : p.strategy = .standard) (hr : C07.RangeIs p key)
    {l : L} {cs : List Text} (hc : PhraseSel.candidates env p d l = .ok cs) : x ∈ cs := by
  obtain ⟨t, hpath, _, ph, hph, e, _⟩ := learned_persists_linked t0 h0 tmp htmp acts cw hrun hcl u hu key x hlive sys
  exact listed_of_lookup env hr hc ⟨ph, by rw [hst, henv t hpath]; exact hph, e⟩

/-- the link hypotheses are satisfiable, and the conclusion computed on an instance: an in-memory user layer
    that received `add_phrase([1, 2], 甲乙, 1)`, one system layer with a homophone, the environment whose
    `lookupAll` is `Layered` over them, a selector over the buffer `[1, 2]` -/
example :
    let us := TrieBuf.run TrieBuf.initMem [.add [1, 2] [30002, 20057] 1 none]
    let sysd : Dict := Dict.ofEntries [([1, 2], ⟨[28204, 35430], 40, none⟩)]
    let env : Env Unit Nat := { C07.f40Env with lookupAll := fun _ k st => Layered.lookupAll ([sysd] ++ [TrieBuf.toDict us]) k st }
    let u : UserMap := UserMap.insert [] ([1, 2], [30002, 20057]) (1, 0)
    let p : PhraseSel := { begin_ := 0, end_ := 2, forward := true, orig := 0, strategy := .standard,
                           com := { symbols := [.syl 1, .syl 2], gaps := [.begin, .normal] } }
    LearnLink.URep u (MapSpec.Map.empty.run [.add [1, 2] [30002, 20057] 1 none]) ∧
      MapSpec.IsLookup (MapSpec.Map.empty.run [.add [1, 2] [30002, 20057] 1 none]) [1, 2] (TrieBuf.lookupAll us [1, 2] .standard) ∧
      Live u ([1, 2], [30002, 20057]) ∧ C07.RangeIs p [1, 2] ∧
      PhraseSel.candidates env p () 0 = .ok [[28204, 35430], [30002, 20057]] := by
  refine ⟨?_, ?_, ⟨(1, 0), rfl, Nat.le_refl _⟩, rfl, rfl⟩
  · have h0 : LearnLink.URep [] MapSpec.Map.empty := fun _ => rfl
    exact LearnLink.urep_insert h0 ([1, 2], [30002, 20057]) (1, 0)
  · have := C09.mem_answers [.add [1, 2] [30002, 20057] 1 none]
    have h2 := this.2.1 [1, 2]
    rw [this.1] at h2
    exact h2

/-! ### `top_is_default` without its graph hypotheses -/

open LearnLinkEd in
/-- **`top_is_default` on C03's engine model — `hg`, `hedge`, `huniq`, `hrest` discharged.**
    `d` is the dictionary the engine reads; `hview`: its answer for `key` has the same (text, frequency) pairs as
    C08's merged lookup (order-free; `SamePairs`).  `c` holds exactly the syllables `key` (`Bare`: no selection,
    no `Break` gap inside; `bareComp key` is what typing them alone leaves).  `hdom` as in `top_is_default`.
    Then for every pick oracle in range `ChewingEngine::convert` (C03's `convertChewing`, any lookup strategy)
    returns exactly one alternative: the single interval showing `x`.  The hypotheses of `top_is_default` are proved from
    C03's model: `find_intervals` has the whole-range edge with `find_best_phrase`'s pick = the dominant phrase
    (`findBestPhrase_whole`, `whole_edge`), one edge per (start, end) (`edge_unique`), BFS returns that edge
    (`shortestPath_direct`), it stays the first k-path and every other k-path consists of graph
    edges inside the range (`Conv.rawPaths_live`, `C03.find_intervals_valid`) and is trimmed
    (`trimPaths_direct`); a single path is never scored, so no `ScoreBound`. -/
theorem top_is_default_linked {pick : Nat → List Conv.Path → Nat} (hpick : Conv.PickInRange pick)
    (ctx : LearnCtx) (u : UserMap) (key : List Nat) (x : Text) (hkey : 0 < key.length)
    (hdom : ∀ t, t ≠ x → mergedFreq ctx.sys u key t < mergedFreq ctx.sys u key x)
    {d : Dict} {strat : Strategy} (hview : SamePairs (d.lookup key strat) (lookupAll ctx u key))
    {c : Composition} (hb : Bare c key) :
    Conv.convertChewing pick d strat c =
      .ok [[{ start := 0, stop := key.length, isPhrase := true, text := x }]] :=
  convertChewing_dominant hpick hb (List.length_pos_iff.mp hkey) (dominant_of_mergedFreq hdom hview)

open LearnLinkEd in
/-- … in particular for the engine `ConversionEngine::convert` of C03 (`Conv.convert … .chewing`) -/
theorem top_is_default_engine_linked {pick : Nat → List Conv.Path → Nat} (hpick : Conv.PickInRange pick)
    (ctx : LearnCtx) (u : UserMap) (key : List Nat) (x : Text) (hkey : 0 < key.length)
    (hdom : ∀ t, t ≠ x → mergedFreq ctx.sys u key t < mergedFreq ctx.sys u key x)
    {d : Dict} (hview : SamePairs (d.lookup key .standard) (lookupAll ctx u key)) :
    Conv.convert pick .chewing d (bareComp key) =
      .ok [[{ start := 0, stop := key.length, isPhrase := true, text := x }]] :=
  top_is_default_linked hpick ctx u key x hkey hdom hview (bareComp_bare key)

open LearnLinkEd in
/-- … and when the dictionary is C09's `Layered` over any layers whose RAW answers for `key` (before the
    max-merge) have the same pairs as C08's raw entries: the max-merge of `Layered::lookup_all_phrases` keeps the
    dominance (`dominant_layered`, from `C09.layered_union`) -/
theorem top_is_default_layered_linked {pick : Nat → List Conv.Path → Nat} (hpick : Conv.PickInRange pick)
    (sys : List Entry) (u : UserMap) (key : List Nat) (x : Text) (hkey : 0 < key.length)
    (hdom : ∀ t, t ≠ x → mergedFreq sys u key t < mergedFreq sys u key x)
    {layers : List Dict} {strat : Strategy}
    (hraw : SamePairs (Layered.candidates layers key strat) (allEntries sys u key))
    {c : Composition} (hb : Bare c key) :
    Conv.convertChewing pick { lookup := Layered.lookupAll layers } strat c =
      .ok [[{ start := 0, stop := key.length, isPhrase := true, text := x }]] :=
  convertChewing_dominant hpick hb (List.length_pos_iff.mp hkey) (dominant_layered_of_mergedFreq hdom hraw)

open LearnLinkEd in
/-- **`becomes_default` without graph hypotheses**: after `k ≥ 50` repetitions of "type the syllables, choose X,
    commit" the conversion of the bare syllables by C03's engine model is exactly X — for every clock value,
    every pick oracle in range, every strategy, every dictionary whose answer for the syllables has the pairs of
    C08's merged lookup over the learned user dictionary `u'`, every buffer holding exactly those syllables -/
theorem becomes_default_linked (sys : List Entry) (key : List Nat) (x : Text) (lts : List Nat) (u : UserMap)
    (hlen : key.length = x.length) (hx : x ≠ [])
    (hle : mergedFreq sys u key x ≤ othersMax sys u key x) (hne : (allEntries sys u key).isEmpty = false)
    (hb : othersMax sys u key x ≤ freqBound) (hk : closeSteps + 1 ≤ lts.length) :
    ∃ u', learnRepeat sys key x lts u = .ok u' ∧
      ∀ (lt : Nat) (pick : Nat → List Conv.Path → Nat) (d : Dict) (strat : Strategy) (c : Composition),
        Conv.PickInRange pick → SamePairs (d.lookup key strat) (lookupAll { sys := sys, lifetime := lt } u' key) →
        Bare c key →
        Conv.convertChewing pick d strat c =
          .ok [[{ start := 0, stop := key.length, isPhrase := true, text := x }]] := by
  obtain ⟨u', e1, e2⟩ := becomes_top sys key x lts u hlen hx hle hne hb hk
  have hkey : 0 < key.length := hlen ▸ List.length_pos_iff.mpr hx
  exact ⟨u', e1, fun lt pick d strat c hp hv hbare =>
    top_is_default_linked hp { sys := sys, lifetime := lt } u' key x hkey e2 hv hbare⟩

/-- the hypotheses of `top_is_default_linked` are satisfiable, and the engine evaluated on the instance of
    `top_is_default`'s example: 測試 (freq 9) against 冊 / 是 with huge single-character frequencies — the split
    out-scores 測試 and 測試 is still the only alternative -/
example :
    let sys : List Entry := [([1, 2], { text := [28204, 35430], freq := 9 }), ([1], { text := [20874], freq := 9999999 }),
      ([2], { text := [26159], freq := 9999999 })]
    let ctx : LearnCtx := { sys := sys, lifetime := 0 }
    (∀ t, t ≠ [28204, 35430] → mergedFreq ctx.sys [] [1, 2] t < mergedFreq ctx.sys [] [1, 2] [28204, 35430]) ∧
      LearnLinkEd.SamePairs ((Dict.ofEntries sys).lookup [1, 2] .standard) (lookupAll ctx [] [1, 2]) ∧
      LearnLinkEd.Bare (LearnLinkEd.bareComp [1, 2]) [1, 2] ∧ Conv.PickInRange Conv.pickFirstMin ∧
      Conv.convert Conv.pickFirstMin .chewing (Dict.ofEntries sys) (LearnLinkEd.bareComp [1, 2])
        = .ok [[{ start := 0, stop := 2, isPhrase := true, text := [28204, 35430] }]] := by
  refine ⟨?_, ⟨by decide, by decide⟩, LearnLinkEd.bareComp_bare _, C03.pickFirstMin_inRange, by decide⟩
  intro t ht
  have h1 : mergedFreq [([1, 2], { text := [28204, 35430], freq := 9 }), ([1], { text := [20874], freq := 9999999 }),
      ([2], { text := [26159], freq := 9999999 })] [] [1, 2] [28204, 35430] = 9 := by decide
  have h2 : mergedFreq [([1, 2], { text := [28204, 35430], freq := 9 }), ([1], { text := [20874], freq := 9999999 }),
      ([2], { text := [26159], freq := 9999999 })] [] [1, 2] t = 0 := by
    unfold mergedFreq
    apply bestOf_eq_zero_of_absent
    intro q hq
    have : q = ([28204, 35430], 9) := by simpa [allEntries, sysLookup, UserMap.lookup] using hq
    rw [this]; exact fun h => ht h.symm
  show mergedFreq _ [] [1, 2] t < mergedFreq _ [] [1, 2] [28204, 35430]
  rw [h1, h2]; decide

open LearnLinkEd in
/-- **the chain of the statement, end to end over C09's layers and C03's engine.**  System layers given by entry
    lists `sysL` (`Dict.ofEntries`, exact-key lookup; C08's `ctx.sys` is their concatenation), a user dictionary `u`
    without shadowed entries (`NoShadow`: true of the empty map, kept by learning — `noShadow_learnRepeat`) in which
    X is not above its best homophone (≤ 1 000 000).  After `k ≥ 50` repetitions of "type the syllables, choose X,
    commit": for EVERY user layer `us` (C09's `TrieBuf`) that answers the exact lookup of the syllables as the map
    the learned `u'` denotes (`URep` + `IsLookup`, as in `learned_persists_linked`), `ChewingEngine::convert` reading
    `Layered` over those layers converts the bare syllables to exactly X.  The pairs hypothesis of
    `top_is_default_linked` is discharged here by `samePairs_layers` + `dominant_layered` (`C09.layered_union`). -/
theorem becomes_default_layered_linked (sysL : List (List Entry)) (key : List Nat) (x : Text) (lts : List Nat) (u : UserMap)
    (hns : NoShadow u) (hlen : key.length = x.length) (hx : x ≠ [])
    (hle : mergedFreq sysL.flatten u key x ≤ othersMax sysL.flatten u key x)
    (hne : (allEntries sysL.flatten u key).isEmpty = false)
    (hb : othersMax sysL.flatten u key x ≤ freqBound) (hk : closeSteps + 1 ≤ lts.length) :
    ∃ u', learnRepeat sysL.flatten key x lts u = .ok u' ∧
      ∀ (pick : Nat → List Conv.Path → Nat) (m : MapSpec.Map) (us : TrieBuf.State) (c : Composition),
        Conv.PickInRange pick → LearnLink.URep u' m →
        MapSpec.IsLookup m key (TrieBuf.lookupAll us key .standard) → Bare c key →
        Conv.convertChewing pick { lookup := Layered.lookupAll (sysL.map Dict.ofEntries ++ [TrieBuf.toDict us]) } .standard c =
          .ok [[{ start := 0, stop := key.length, isPhrase := true, text := x }]] := by
  obtain ⟨u', e1, e2⟩ := becomes_top sysL.flatten key x lts u hlen hx hle hne hb hk
  have hkey : 0 < key.length := hlen ▸ List.length_pos_iff.mpr hx
  have hns' : NoShadow u' := noShadow_learnRepeat lts hns e1
  exact ⟨u', e1, fun pick m us c hp hu hlk hbare =>
    top_is_default_layered_linked hp sysL.flatten u' key x hkey e2 (samePairs_layers sysL hu hns' us hlk) hbare⟩

/-- `NoShadow` is satisfiable (the other hypotheses: examples of `becomes_top` and `learned_is_candidate_linked`) -/
example : LearnLinkEd.NoShadow ([] : UserMap) ∧
    LearnLinkEd.NoShadow (UserMap.insert [] ([1, 2], [30002, 20057]) (1, 0)) :=
  ⟨LearnLinkEd.noShadow_nil, LearnLinkEd.noShadow_insert LearnLinkEd.noShadow_nil _ _⟩

open LearnLinkEd in
/-- … and in an editor environment whose engine component is C03's model (`Link.EngineIsC03`, the hypothesis under
    which C03 discharges C01's `EnvOK.convert_ok`; `view d` = the dictionary state read as a lookup function): the
    editor's `env.convert` of the bare syllables (at most 128, none with the empty spelling) is exactly X -/
theorem top_is_default_env_linked {D L : Type} {env : Env D L} {G : D → Prop} {pick : Nat → List Conv.Path → Nat}
    {view : D → Dict} (he : Link.EngineIsC03 env G pick view)
    (ctx : LearnCtx) (u : UserMap) (key : List Nat) (x : Text) (hkey : 0 < key.length) (h128 : key.length ≤ 128)
    (hsp : ∀ k ∈ key, spell k ≠ [])
    (hdom : ∀ t, t ≠ x → mergedFreq ctx.sys u key t < mergedFreq ctx.sys u key x)
    {d : D} (hview : SamePairs ((view d).lookup key .standard) (lookupAll ctx u key)) :
    env.convert .chewing d (bareComp key) = .ok [[{ start := 0, stop := key.length, isPhrase := true, text := x }]] := by
  have hs : Conv.SpellNonempty (bareComp key) := fun k hk => by
    obtain ⟨k', hk', e⟩ := List.mem_map.mp (show Sym.syl k ∈ key.map Sym.syl from hk)
    cases e
    exact hsp k hk'
  have hl : (bareComp key).symbols.length ≤ 128 := by rw [bareComp, List.length_map]; exact h128
  rw [he.engine .chewing d (bareComp key) hl hs]
  exact top_is_default_engine_linked he.pick_ok ctx u key x hkey hdom hview

end Chewing.C08
