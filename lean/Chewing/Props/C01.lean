import Chewing.Proofs.C01Apply
import Chewing.Proofs.C01Conv
/-!
# C01 — no call sequence, key or configuration can crash or hang the engine

Over the executable editor model (`Model/Editor.lean`: every `unwrap` / `expect` / index / slice / `assert!`
/ checked-arithmetic site of `src/editor/mod.rs`, `selection/{phrase,symbol}.rs`, `composition_editor.rs`
and `conversion/mod.rs` is a value `Outcome.panic site`, every loop takes fuel and reports
`Outcome.outOfFuel`) "crash" = `.panic _`, "hang" = `.outOfFuel`.

## What is proved (for EVERY environment `env` satisfying the explicit hypotheses `EnvOK env G`)

* **`theorem C01 : C01_full`** — the property as worded, no exclusion: from every state satisfying the safety
  invariant (`SafeInv`; `initial_safe`: a fresh editor does) EVERY history of valid public operations returns — no
  panic, no exhausted fuel.  `C01_step` is the one-operation form (from every such state EVERY operation
  returns and the invariant holds again), `no_panic` / `no_hang` restate it in the words of the property,
  `C01_reachable`: from every state reachable from a fresh editor every operation returns.
  Until the `fix:` commits d6d8fbe / 0dd7339 / aa19c11 this was refuted by the findings F02 and F03 (a buffered
  syllable without a word: `shortest_path(..).unwrap()`, the `debug_assert!` of `PhraseSelector::init`, the endless
  loop of `PhraseSelector::next`); the witness histories are `f02_history_repaired`,
  `f03_history_repaired`, `f03_hang_repaired`: the syllable is now shown as its spelling, a list without
  candidates is not opened.
* `EditorInv env G w` — the reachable-state invariant in two strengths.  `w = False` (`SafeInv`): composition
  invariant of C04 (`CompInv`, one character per selected symbol, selections over syllables only), `cursor ≤ len`
  (C05), `candidates_per_page > 0`, well-formed symbol tables, and for an open candidate list: the phrase
  selector's range is a non-empty run of syllables inside the buffer, anchored at the position the list was
  opened at, and its composition is the editor's; a replacing symbol list sits on a non-syllable symbol.
  `w = True` adds: every buffered syllable has a word under every active lookup strategy (the engine's, the
  editor's, an open selector's) and prefix lookup only together with the prefix engine — not needed for
  safety; it is what the one-character-per-symbol statements of C02 / C05 / C18 rest on.
* `word_clause_kept` / `C01_partial_run` — the strength-`True` invariant is kept by every operation outside the
  class `Known` (the word-losing operations: `unlearn_phrase` / `set_editor_options` / `set_conversion_engine` after
  which some buffered syllable has no word under an active strategy); `f02_switch_loses_word`: the class is not
  empty.  `C01_plain_histories`: keys, `select(n)`, start / cancel selecting, jumps, `commit`, `clear`, `ack`,
  layout switches and `learn_phrase` are never in it.
* `selector_loops_terminate`, `init_terminates`, `jump_never_panics` — fuel sufficiency of every selector loop,
  with the reason each makes progress; none needs a dictionary hypothesis.
* `f41_history_repaired` — finding F41 (found by the first proof attempt, confirmed as an abort on the real C API,
  repaired by the `fix:` commit 59eba27).

## Coverage

Every key event (all key codes / modifiers / options) in ALL four states — `Entering`, `EnteringSyllable`,
`Highlighting`, and `Selecting` with a phrase list, a special-symbol list or a symbol table (`Selecting::next`:
paging, Down/Space with `PhraseSelector::next` — a bounded loop that stays on its range when no range has a
phrase —, j/k with `retarget` + closing a list without candidates, digits with `Selecting::select`: the chosen
phrase is a valid selection; `SymbolSelector::{menu,select}` index only existing tables) — including the keys
that open a candidate list (`open_phrase`: `PhraseSelector::init` terminates, a list without candidates is not
opened), auto-commit and the dictionary flush; and every other entry point in every state: `select(n)`,
`start_selecting`, `cancel_selecting`, `commit`, `clear`, `ack`, `clear_syllable_editor`, `set_editor_options`,
`set_syllable_editor`, `set_conversion_engine`, `learn_phrase`, `unlearn_phrase` (the last four end with
`revalidate_selecting`), and `jump_to_{first,last,next,prev}_selection_point` in every state.  Outside the
theorems: the C glue `capi/src/io.rs` (correspondence of the Rust API per step and the C-API crash campaign).
The symbol tables enter through the hypothesis `SymWF`, part of `EditorInv`.

The conversion engines enter through `EnvOK.convert_ok` (on EVERY valid composition every engine returns at least
one alternative, each a chain over `0..len` with at least one character per symbol) and `EnvOK.convert_len`
(exactly one character per symbol when every syllable has a word): C03's `nonempty_result` + `alt_chain` +
`text_at_least_one_per_symbol` + `one_char_per_symbol`; `compValid_of_cinv` proves that `EditorInv` implies
C03's `CompValid`, and `engines_satisfy_convert_ok` that C03's engine model satisfies both (buffers ≤ 128 symbols).
-/
namespace Chewing.C01

variable {D L : Type} {env : Env D L} {G : D → Prop} {w : Prop}

/-- the safety invariant: the reachable-state invariant without the clause "every buffered syllable has a word" -/
abbrev SafeInv (env : Env D L) (G : D → Prop) (e : Editor D L) : Prop := EditorInv env G False e

/-- the safety invariant is the word-free part of the full one -/
theorem EditorInv.safe {e : Editor D L} (h : EditorInv env G w e) : SafeInv env G e :=
  ⟨h.sh.safe, h.st.of rfl rfl fun _ _ _ _ _ hw => hw.elim⟩

/-- **C01, one operation — no exclusion.**  From every state satisfying the safety invariant EVERY public
    operation of the editor (`hv`: arguments the C layer validates) returns a value — no panic, fuel not
    exhausted — and the invariant holds again. -/
theorem C01_step (hE : EnvOK env G) (e : Editor D L) (op : Op L) (hi : SafeInv env G e) (hv : OpValid op) :
    ∃ e', e.apply env op = .ok e' ∧ SafeInv env G e' :=
  apply_ok hE hi op hv (fun hw => hw.elim)

/-- … in the words of the property: the call does not panic … -/
theorem no_panic (hE : EnvOK env G) (e : Editor D L) (op : Op L) (hi : SafeInv env G e) (hv : OpValid op)
    (site : String) : e.apply env op ≠ .panic site :=
  (OkAnd.not_panic (C01_step hE e op hi hv)).1 site

/-- … and every loop finishes within the fuel the model supplies (linear in the buffer length) -/
theorem no_hang (hE : EnvOK env G) (e : Editor D L) (op : Op L) (hi : SafeInv env G e) (hv : OpValid op) :
    e.apply env op ≠ .outOfFuel :=
  (OkAnd.not_panic (C01_step hE e op hi hv)).2

/-- **C01, every history — no exclusion** (induction over the history) -/
theorem C01_run (hE : EnvOK env G) (ops : List (Op L)) :
    ∀ e : Editor D L, SafeInv env G e → (∀ op ∈ ops, OpValid op) → ∃ e', e.run env ops = .ok e' ∧ SafeInv env G e' :=
  fun _ hi hv => (Editor.folds env).ok (fun hv hi => C01_step hE _ _ hi hv) ops hv hi

/-- the property as worded, over histories: from a state satisfying the safety invariant (a fresh editor does)
    NO sequence of (valid) public operations panics or hangs -/
def C01_full : Prop :=
  ∀ (D L : Type) (env : Env D L) (G : D → Prop), EnvOK env G → ∀ (e : Editor D L), SafeInv env G e →
    ∀ ops : List (Op L), (∀ op ∈ ops, OpValid op) → ∃ e', e.run env ops = .ok e'

/-- **C01** (full strength; refuted by F02 / F03 until the repair) -/
theorem C01 : C01_full := fun _ _ _ _ hE e hi ops hv => by
  obtain ⟨e', h, _⟩ := C01_run hE ops e hi hv
  exact ⟨e', h⟩

/-- states reachable from `e0` by valid public operations that returned -/
inductive Reachable (env : Env D L) (e0 : Editor D L) : Editor D L → Prop
  | init : Reachable env e0 e0
  | step {e e' : Editor D L} {op : Op L} : Reachable env e0 e → OpValid op → e.apply env op = .ok e' → Reachable env e0 e'

/-- **no panic and no hang for EVERY operation from EVERY reachable state, all histories** -/
theorem C01_reachable (hE : EnvOK env G) {e0 e : Editor D L} (h0 : SafeInv env G e0) (hr : Reachable env e0 e)
    (op : Op L) (hv : OpValid op) :
    SafeInv env G e ∧ (∃ e', e.apply env op = .ok e') ∧ (∀ site, e.apply env op ≠ .panic site) ∧ e.apply env op ≠ .outOfFuel := by
  have hi : SafeInv env G e := by
    induction hr with
    | init => exact h0
    | step _ hv' ha ih => exact OkAnd.get (C01_step hE _ _ ih hv') ha
  obtain ⟨e', h, _⟩ := C01_step hE e op hi hv
  exact ⟨hi, ⟨e', h⟩, no_panic hE e op hi hv, no_hang hE e op hi hv⟩

/-! ## The stronger invariant (every buffered syllable has a word) and the operations that can lose it -/

/-- **the word clause is kept outside `Known`**: from a state satisfying the
    strength-`True` invariant an operation that is not word-losing re-establishes it.  `hk`: not in the class
    `Known` (the class of F02 / F03 — not a crash class since the repair). -/
theorem word_clause_kept (hE : EnvOK env G) (e : Editor D L) (op : Op L) (hi : EditorInv env G True e) (hv : OpValid op)
    (hk : ¬ Known env e op) :
    ∃ e', e.apply env op = .ok e' ∧ EditorInv env G True e' :=
  apply_ok hE hi op hv (fun _ => hk)

/-- a history all of whose steps are valid and outside the word-losing class (evaluated along the run) -/
def Allowed (env : Env D L) : Editor D L → List (Op L) → Prop
  | _, [] => True
  | e, op :: ops => OpValid op ∧ ¬ Known env e op ∧ ∀ e', e.apply env op = .ok e' → Allowed env e' ops

/-- … over histories -/
theorem C01_partial_run (hE : EnvOK env G) (ops : List (Op L)) :
    ∀ e : Editor D L, EditorInv env G True e → Allowed env e ops → ∃ e', e.run env ops = .ok e' ∧ EditorInv env G True e' :=
  fun _ => (Editor.folds env).returns (fun ha h1 => ha.2.2 _ h1) (fun hi ha => word_clause_kept hE _ _ hi ha.1 ha.2.1) ops

/-- operations that can never be word-losing: key events (any code, any modifiers), `select(n)`,
    `start_selecting`, `cancel_selecting`, `commit`, `clear` (reset), `ack`, `clear_syllable_editor`,
    `set_syllable_editor` (keyboard-layout switch at any moment), `learn_phrase`, and the four
    `jump_to_*_selection_point` calls -/
def Plain : Op L → Prop
  | .key _ | .select _ | .startSelecting | .cancelSelecting | .commit | .clear | .ack | .clearSyl
  | .setLayout _ | .learn _ _ | .jump _ => True
  | _ => False

theorem allowed_of_plain (ops : List (Op L)) : ∀ e : Editor D L, (∀ op ∈ ops, Plain op) → Allowed env e ops := by
  induction ops with
  | nil => intro _ _; trivial
  | cons op ops ih =>
    intro e h
    have hp := h op (List.mem_cons_self ..)
    have hrest := fun e' (_ : e.apply env op = .ok e') => ih e' (fun o ho => h o (List.mem_cons_of_mem _ ho))
    cases op <;> first | exact ⟨trivial, fun hk => hk, hrest⟩ | exact absurd hp (fun hh => hh)

/-- histories of keys, candidate choices, jumps, commits, resets, layout switches and learn calls keep the
    word clause -/
theorem C01_plain_histories (hE : EnvOK env G) (e : Editor D L) (hi : EditorInv env G True e) (ops : List (Op L))
    (hp : ∀ op ∈ ops, Plain op) : ∃ e', e.run env ops = .ok e' ∧ EditorInv env G True e' :=
  C01_partial_run hE ops e hi (allowed_of_plain ops e hp)

/-- running a concatenation = running the parts one after the other -/
theorem run_append (env : Env D L) (ops1 : List (Op L)) : ∀ (ops2 : List (Op L)) (a b : Editor D L),
    a.run env ops1 = .ok b → a.run env (ops1 ++ ops2) = b.run env ops2 :=
  fun ops2 _ _ h => (Editor.folds env).append h ops2

/-- a fresh editor (empty buffer, any dictionary that is well formed, any layout; coupled options for the
    strength that carries the word clause) satisfies the invariant -/
theorem initial_inv (sh : Shared D L) (hg : G sh.dict) (hcom : sh.com = {})
    (hcp : w → sh.options.lookupStrategy = .fuzzyPartialPrefix → engStrategy sh.engine = .fuzzyPartialPrefix)
    (hpp : 0 < sh.options.candidatesPerPage) (hsym : SymWF sh.symSel) :
    EditorInv env G w { shared := sh, state := .entering } := by
  refine ⟨⟨hg, hcom ▸ cedInv_new, ?_, hcp, hpp, hsym⟩, trivial⟩
  intro _ c hc
  rw [hcom] at hc
  cases hc

/-- … in particular the safety invariant, whatever the options -/
theorem initial_safe (sh : Shared D L) (hg : G sh.dict) (hcom : sh.com = {})
    (hpp : 0 < sh.options.candidatesPerPage) (hsym : SymWF sh.symSel) :
    SafeInv env G { shared := sh, state := .entering } :=
  initial_inv sh hg hcom (fun hw => hw.elim) hpp hsym

/-- **link to C03**: the engine model of C03 (all three engines, any in-range pick oracle) satisfies the
    hypotheses `EnvOK.convert_ok` / `EnvOK.convert_len` the theorems above make about `env.convert`, on buffers of
    at most 128 symbols over dictionaries with frequencies ≤ 2^23 (`ScoreBound`): a result on EVERY valid
    composition none of whose syllables has the empty spelling (`SpellNonempty`: every syllable but the code 0) … -/
theorem engines_satisfy_convert_ok {pick : Nat → List Conv.Path → Nat} (hp : Conv.PickInRange pick) {d : Dict}
    (hw : Conv.WellFormed d) (hf : ∀ strat key, ∀ p ∈ d.lookup key strat, p.freq ≤ 8388608)
    (k : EngineKind) {c : Composition} (hi : CInv c) (hlen : c.symbols.length ≤ 128) (hn : Conv.SpellNonempty c) :
    OkAnd (fun paths => paths ≠ [] ∧ ∀ p ∈ paths, PathW c p) (Conv.convert pick (toEngine k) d c) :=
  convert_ok_of_C03 hp hw hf k (compValid_of_cinv hi) hlen hn

/-- … with one character per symbol when every syllable has a word under the engine's strategy -/
theorem engines_satisfy_convert_len {pick : Nat → List Conv.Path → Nat} {d : Dict} (hw : Conv.WellFormed d)
    (k : EngineKind) {c : Composition} (hi : CInv c)
    (hword : ∀ x, Sym.syl x ∈ c.symbols → (d.lookup [x] (engStrategy k)).head?.isSome = true)
    {paths : List (List Interval)} (hq : Conv.convert pick (toEngine k) d c = .ok paths) :
    ∀ p ∈ paths, ∀ iv ∈ p, iv.text.length = iv.stop - iv.start :=
  convert_len_of_C03 hw k (compValid_of_cinv hi) hword hq

/-- **`jump_to_{first,last,next,prev}_selection_point`** (`chewing_cand_list_*`) never panic or hang and keep
    the invariant, in every state — also on an open phrase list (`Proofs/C01Jump.lean`: the searches stay on
    the run of syllables around the position the list was opened at; fuel sufficiency: every round of
    `next_selection_point` shortens the range, every round of `prev_selection_point` moves one symbol
    towards an end of the buffer, `jump_to_last_selection_point` shortens the range in every round) -/
theorem jump_never_panics (e : Editor D L) (hi : EditorInv env G w e) (which : Nat) :
    ∃ e' okk, e.jump env which = .ok (e', okk) ∧ EditorInv env G w e' := by
  obtain ⟨⟨e', b⟩, hq, h1⟩ := jump_api_ok hi which
  exact ⟨e', b, hq, h1⟩

/-- **the selector loops terminate — fuel sufficiency, with the reason each loop makes progress.**  For a
    selector whose range is a non-empty run of syllables inside its buffer (`RangeOK`), over ANY dictionary:
    * `PhraseSelector::next` (Down / Space on the last page) is a bounded loop (`len` rounds): every round moves to
      a range that is again a non-empty run of syllables (one symbol shorter, or — wrapping around — up to the
      break point); it ends at the first range with a phrase, or stays on the range it started from (`next_ok`;
      before the F03 repair the loop was unbounded and span forever when no range had a phrase);
    * `next_selection_point` returns within `len + 2` rounds: every round shortens the range, a one-symbol
      range ends the search;  `prev_selection_point` likewise: every round moves the free end one symbol
      towards the end / beginning of the buffer, where the search ends;
    * `jump_to_last_selection_point` returns within `len + 2` rounds: every round strictly shortens the range. -/
theorem selector_loops_terminate (d : D) (s : PhraseSel) (hr : RangeOK s) :
    (∃ s', PhraseSel.next env s d = .ok s' ∧ RangeOK s') ∧
    (∃ r, PhraseSel.nextSelectionPoint env s d = .ok r) ∧ (∃ r, PhraseSel.prevSelectionPoint env s d = .ok r) ∧
    (∃ s', PhraseSel.jumpToLast env s d = .ok s' ∧ RangeOK s') := by
  refine ⟨?_, ?_, ?_, ?_⟩
  · obtain ⟨s', hq, hp⟩ := next_ok (env := env) d s hr; exact ⟨s', hq, hp.range⟩
  · obtain ⟨r, hq, _⟩ := nextSelectionPoint_ok (env := env) d s hr; exact ⟨r, hq⟩
  · obtain ⟨r, hq, _⟩ := prevSelectionPoint_ok (env := env) d s hr; exact ⟨r, hq⟩
  · obtain ⟨s', hq, hp⟩ := jumpToLast_ok (env := env) d s hr; exact ⟨s', hq, hp.range⟩

/-- **`PhraseSelector::init` terminates** (opening a list, `j` / `k`, `chewing_cand_list_first`) at a syllable
    inside the buffer, over ANY dictionary: the shrinking loop makes progress by one symbol per round and stops
    at the latest at the single syllable under the cursor — with or without a word for it (F02 / F03 repair: it
    used to run into `debug_assert!(!syllables.is_empty())`); the fuel `len + 2` suffices.  The range returned is
    a non-empty run of syllables around the cursor. -/
theorem init_terminates (forward : Bool) (strategy : Strategy) (com : Composition) (cursor : Nat) (d : D)
    (hlt : cursor < com.symbols.length) (hsyl : ∃ k, com.symbols[cursor]? = some (Sym.syl k)) :
    ∃ p, PhraseSel.init env forward strategy com cursor d = .ok p ∧ p.com = com ∧ RangeOK p ∧ p.orig = cursor ∧
      p.begin_ ≤ cursor ∧ cursor < p.end_ := by
  obtain ⟨p, hq, p1, _, p3, p4, p5, p6, _, p8⟩ := init_ok (env := env) forward strategy com cursor d hlt hsyl
  exact ⟨p, hq, p1, ⟨p3, p1 ▸ p4, p1 ▸ p5⟩, p8, p8 ▸ (p6.mem p3).1, p8 ▸ (p6.mem p3).2⟩

/-! ## The witness histories of F02 and F03 in a small environment that satisfies `EnvOK`: repaired -/

/-- one interval per symbol; a syllable without a word (`has = false`) is shown as a two-character "spelling" -/
def singles (has : Sym → Bool) : List Sym → Nat → List Interval
  | [], _ => []
  | s :: r, i =>
    { start := i, stop := i + 1, isPhrase := s.isSyl,
      text := (match s with | .syl x => if has s then [x] else [x, x] | .chr x => [x]) } :: singles has r (i + 1)

theorem singles_chain (has : Sym → Bool) (l : List Sym) : ∀ i, Conv.IvChain i (i + l.length) (singles has l i) := by
  induction l with
  | nil => intro i; simp [singles, Conv.IvChain]
  | cons s r ih =>
    intro i
    refine ⟨rfl, by show i < i + 1; omega, ?_⟩
    have := ih (i + 1)
    simp only [List.length_cons]
    rw [show i + (r.length + 1) = i + 1 + r.length by omega]
    exact this

theorem singles_ge (has : Sym → Bool) (l : List Sym) : ∀ i, ∀ iv ∈ singles has l i, iv.stop - iv.start ≤ iv.text.length := by
  induction l with
  | nil => intro i iv h; cases h
  | cons s r ih =>
    intro i iv h
    simp only [singles, List.mem_cons] at h
    rcases h with rfl | h
    · show i + 1 - i ≤ _
      cases s with
      | syl x => dsimp only; split <;> simp
      | chr x => simp
    · exact ih (i + 1) iv h

theorem singles_text (has : Sym → Bool) (l : List Sym) (hall : ∀ s ∈ l, has s = true) :
    ∀ i, ∀ iv ∈ singles has l i, iv.text.length = iv.stop - iv.start := by
  induction l with
  | nil => intro i iv h; cases h
  | cons s r ih =>
    intro i iv h
    simp only [singles, List.mem_cons] at h
    rcases h with rfl | h
    · show _ = i + 1 - i
      cases s with
      | syl x => dsimp only; rw [if_pos (hall _ (List.mem_cons_self ..))]; simp
      | chr x => simp
    · exact ih (fun s hs => hall s (List.mem_cons_of_mem _ hs)) (i + 1) iv h

theorem singles_pathW (has : Sym → Bool) (c : Composition) :
    OkAnd (fun paths => paths ≠ [] ∧ ∀ p ∈ paths, PathW c p) (.ok [singles has c.symbols 0]) :=
  .ok ⟨List.cons_ne_nil _ _, fun p hp => by
    cases List.mem_singleton.mp hp
    exact ⟨by simpa using singles_chain has c.symbols 0, singles_ge _ _ 0⟩⟩

/-- dictionary = the syllables that have a word; syllable `0` is a *partial* syllable: it has a word by
    prefix matching only -/
def toyLookup (d : List Nat) (k : List Nat) (s : Strategy) : List Phrase :=
  match k with
  | [c] => if d.contains c || (s == .fuzzyPartialPrefix && c == 0) then [{ text := [c], freq := 1 }] else []
  | _ => []

def toyHas (d : List Nat) (k : EngineKind) : Sym → Bool
  | .syl x => (toyLookup d [x] (engStrategy k)).head?.isSome
  | .chr _ => true

/-- layout: key 32 types the partial syllable `0`, key 33 the syllable `3` (two key presses each) -/
def toyEnv : Env (List Nat) Nat where
  lookupAll := toyLookup
  userLookupAll := toyLookup
  addPhrase d _ _ := some d
  updatePhrase d _ _ _ _ := d
  removePhrase d k _ := match k with
    | [c] => d.erase c
    | _ => d
  reopenFlush d := d
  convert k d c := .ok [singles (toyHas d k) c.symbols 0]
  estimate _ f _ := .ok f
  keyPress l ev := if l == 0 then (if ev.code == 32 then (.absorb, 1) else if ev.code == 33 then (.absorb, 4) else (.keyError, 0))
                   else (.commit, l)
  fuzzyKeyPress l ev := if l == 0 then (if ev.code == 32 then (.absorb, 1) else if ev.code == 33 then (.absorb, 4) else (.keyError, 0))
                        else (.commit, l)
  removeLast _ := 0
  clearSyl _ := 0
  sylIsEmpty l := l == 0
  read l := l - 1
  altSyllables _ _ := []

theorem toyLookup_mem {d : List Nat} {k : List Nat} {s : Strategy} {p : Phrase} (h : p ∈ toyLookup d k s) :
    p.text.length = k.length := by
  unfold toyLookup at h
  split at h
  · split at h
    · simp only [List.mem_cons, List.not_mem_nil, or_false] at h; subst h; rfl
    · cases h
  · cases h

theorem toyEnv_ok : EnvOK toyEnv (fun _ => True) where
  wf := fun d _ k s p hp => toyLookup_mem hp
  std_fuzzy := by
    intro d c _ h
    have hf : (Strategy.standard == Strategy.fuzzyPartialPrefix) = false := rfl
    simp only [Env.hasPhrase, toyEnv, toyLookup] at h ⊢
    by_cases hc : c ∈ d
    · simp [hc]
    · simp [hc, hf] at h
  add_good := fun _ _ _ _ _ _ _ => trivial
  add_mono := by intro d k p d' h c s hh; simp only [toyEnv] at h; cases h; exact hh
  update_good := fun _ _ _ _ _ _ _ => trivial
  update_mono := fun _ _ _ _ _ _ _ hh => hh
  flush_good := fun _ _ => trivial
  flush_mono := fun _ _ _ hh => hh
  remove_good := fun _ _ _ _ => trivial
  convert_ok := fun _ _ c _ _ => singles_pathW _ c
  convert_len := by
    intro k d c paths _ _ hw hq p hp
    simp only [toyEnv] at hq
    cases Outcome.ok.inj hq
    simp only [List.mem_cons, List.not_mem_nil, or_false] at hp
    subst hp
    refine singles_text _ _ ?_ 0
    intro x hx
    cases x with
    | syl y => exact hw y hx
    | chr y => rfl
  estimate_ok := fun _ f _ => ⟨f, rfl⟩

theorem symWF_empty : SymWF {} :=
  ⟨fun c h => (by cases h), fun n h => (by cases h), fun n i h => (by cases h)⟩

/-- a fresh editor over the dictionary `d` with the fuzzy engine and prefix lookup (what
    `chewing.conversion_engine = 2` configures) -/
def fuzzyEditor (d : List Nat) : Editor (List Nat) Nat :=
  { shared := { syl := 0, dict := d, engine := .fuzzy,
                options := { lookupStrategy := .fuzzyPartialPrefix, conversionEngine := .fuzzy } } }

/-- a fresh editor with the default (standard) engine -/
def stdEditor (d : List Nat) : Editor (List Nat) Nat := { shared := { syl := 0, dict := d } }

theorem fuzzyEditor_inv (d : List Nat) : EditorInv toyEnv (fun _ => True) w (fuzzyEditor d) :=
  initial_inv _ trivial rfl (fun _ _ => rfl) (by show (0 : Nat) < 10; omega) symWF_empty

theorem stdEditor_inv (d : List Nat) : EditorInv toyEnv (fun _ => True) w (stdEditor d) :=
  initial_inv _ trivial rfl (fun _ h => by cases h) (by show (0 : Nat) < 10; omega) symWF_empty

def keyH : KeyEvent := { index := 32, code := 32, unicode := 104 }
def keyJ : KeyEvent := { index := 33, code := 33, unicode := 106 }
def keyEnter : KeyEvent := { index := 50, code := KC.enter, unicode := 65533 }

def keyDown : KeyEvent := { index := 57, code := KC.down, unicode := 65533 }
def key1 : KeyEvent := { index := 1, code := KC.n1, unicode := 49 }

/-- **F02 repaired**: fuzzy engine, type the partial syllable `0`, switch to the standard engine, Enter.  Before
    the fix the conversion had no path (`shortest_path(..).unwrap()`, the process aborted); now the syllable
    without a word is shown — and committed — as its spelling (here the two-character text `[0, 0]`) -/
theorem f02_history_repaired :
    ∃ e, (fuzzyEditor []).run toyEnv [.key keyH, .key keyH, .setEngine .chewing, .key keyEnter] = .ok e ∧
      e.shared.commitBuf = [0, 0] ∧ e.shared.com.inner.symbols = [] ∧ e.state = .entering :=
  ⟨_, rfl, rfl, rfl, rfl⟩

/-- **F03 repaired**: type a syllable, remove its only word, Enter ⇒ committed as its spelling (formerly the same
    abort) -/
theorem f03_history_repaired :
    ∃ e, (stdEditor [3]).run toyEnv [.key keyJ, .key keyJ, .unlearn [3] [3], .key keyEnter] = .ok e ∧
      e.shared.commitBuf = [3, 3] ∧ e.shared.com.inner.symbols = [] :=
  ⟨_, rfl, rfl, rfl⟩

/-- **F03, the former hang and `debug_assert!`, repaired**: type a syllable, remove its only word, then Down
    (`PhraseSelector::init` at the word-less syllable: stays on it; the list has no candidates, so it is not
    opened: the key is ignored and nothing changes), `start_selecting` (refused the same way), and with the
    simple engine a list that is open when the word disappears is closed by `revalidate_selecting` -/
theorem f03_hang_repaired :
    (∃ e e', (stdEditor [3]).run toyEnv [.key keyJ, .key keyJ, .unlearn [3] [3]] = .ok e ∧
      e.processKey toyEnv keyDown = .ok (e', .ignore) ∧ e'.state = .entering ∧ e'.shared.com = e.shared.com ∧
      (e.startSelecting toyEnv).map (·.2) = .ok false) ∧
    (∃ e s e', (stdEditor [3]).run toyEnv [.setOptions { conversionEngine := .simple }, .key keyJ, .key keyJ] = .ok e ∧
      e.state = .selecting s ∧ e.run toyEnv [.unlearn [3] [3], .key keyDown, .key keyDown] = .ok e' ∧
      e'.state = .entering ∧ e'.shared.com.inner.symbols = [.syl 3]) :=
  ⟨⟨_, _, rfl, rfl, rfl, rfl, rfl⟩, ⟨_, _, _, rfl, rfl, rfl, rfl, rfl⟩⟩

/-- the selector itself on a buffer none of whose syllables has a word: `init` returns the one-syllable range at
    the cursor, `next` (formerly an endless loop) returns to the range it started from -/
theorem selector_on_wordless :
    ∃ p p', PhraseSel.init toyEnv true .standard { symbols := [.syl 3, .syl 3], gaps := [.begin, .normal] } 0 ([] : List Nat) = .ok p ∧
      (p.begin_, p.end_) = (0, 1) ∧ PhraseSel.next toyEnv { p with end_ := 2 } ([] : List Nat) = .ok p' ∧
      (p'.begin_, p'.end_) = (0, 2) :=
  ⟨_, _, rfl, rfl, rfl, rfl⟩

/-- the statement of C01 applied to the F02 history: since the repair an ordinary history -/
example : ∃ e', (fuzzyEditor []).run toyEnv [.key keyH, .key keyH, .setEngine .chewing, .key keyEnter] = .ok e' :=
  C01 _ _ toyEnv _ toyEnv_ok (fuzzyEditor []) (fuzzyEditor_inv []) _ (by intro op _; cases op <;> trivial)

/-- the engine switch of the F02 history is word-losing: the state right before it satisfies the invariant at
    strength `True`, and `Known` holds of the switch (so the class is not empty; the switch is nevertheless safe) -/
theorem f02_switch_loses_word :
    ∃ e, (fuzzyEditor []).run toyEnv [.key keyH, .key keyH] = .ok e ∧ EditorInv toyEnv (fun _ => True) True e ∧
      Known toyEnv e (.setEngine .chewing) := by
  refine ⟨_, rfl, OkAnd.get (C01_partial_run toyEnv_ok [.key keyH, .key keyH] (fuzzyEditor []) (fuzzyEditor_inv [])
    (allowed_of_plain _ _ (by simp [Plain]))) rfl, fun hk => ?_⟩
  exact absurd (hk.1 0 (List.mem_cons_self ..)) (by decide)

/-! ## Finding F41 (found by the proof attempt, confirmed on the real C API, repaired)

`jump_to_first_selection_point` re-runs `PhraseSelector::init` from the position `orig` the list was opened
at.  With the SIMPLE engine a typed syllable opens a single-word list; before the repair its `orig` was the
cursor *after* the syllable, so re-initialising there (backwards: `end = orig + 1`) made the range swallow
the symbol that follows the syllable — also a non-syllable.  The prefix look-up still found the syllable's
words, so choosing a candidate recorded a selection of ONE character over TWO symbols, one of them a
character: the composition left `CompValid` (C03's precondition; the F31 class), and the next conversion
with `ChewingEngine` aborted at `shortest_path(..).unwrap()` (`chewing_cand_list_first`,
`chewing_cand_choose_by_index(0)`, `chewing.conversion_engine = 1`, read the buffer).  The fix (59eba27) makes
`init_single_word` record the position of the word, as `init` does; the model follows.  The former witness
history now keeps the selector on the syllable and the choice is a valid selection: -/

def keyA : KeyEvent := { index := 20, code := 20, unicode := 97 }
def keyHome : KeyEvent := { index := 58, code := KC.home, unicode := 65533 }
def keyDel : KeyEvent := { index := 51, code := KC.del, unicode := 65533 }

/-- buffer `[a]`, cursor 0, simple engine, type a syllable (single-word list opens),
    `jump_to_first_selection_point`, choose the first candidate: the range stays `[0, 1)` and the recorded
    selection is `0..1` with one character (before the repair: `[0, 2)` and a 1-character selection over 2 symbols) -/
theorem f41_history_repaired :
    ∃ e e' e'' s p, (stdEditor [3]).run toyEnv [.key keyJ, .key keyJ, .key keyA, .key keyHome, .key keyDel,
        .setOptions { conversionEngine := .simple }, .key keyJ, .key keyJ] = .ok e ∧
      e.shared.com.inner.symbols = [.syl 3, .chr 97] ∧
      e.apply toyEnv (.jump 0) = .ok e' ∧ e'.state = .selecting s ∧ s.sel = .phrase p ∧ p.begin_ = 0 ∧ p.end_ = 1 ∧
      e'.apply toyEnv (.select 0) = .ok e'' ∧
      e''.shared.com.inner.selections = [{ start := 0, stop := 1, isPhrase := true, text := [3] }] :=
  ⟨_, _, _, _, _, rfl, rfl, rfl, rfl, rfl, rfl, rfl, rfl, rfl⟩

/-! ## Non-vacuity: the hypotheses are satisfiable and the covered histories are not trivial -/

/-- a covered history that types a syllable with a word, opens its candidate list through the API,
    closes it again and commits: allowed, so by `C01_partial_run` it returns and keeps the invariant -/
example : ∃ e', (stdEditor [3]).run toyEnv [.key keyJ, .key keyJ, .startSelecting, .cancelSelecting, .commit] = .ok e' ∧
    EditorInv toyEnv (fun _ => True) True e' ∧ e'.shared.commitBuf = [3] :=
  ⟨_, rfl, OkAnd.get (C01_partial_run toyEnv_ok [.key keyJ, .key keyJ, .startSelecting, .cancelSelecting, .commit]
    (stdEditor [3]) (stdEditor_inv [3]) (allowed_of_plain _ _ (by
      intro op hop; simp only [List.mem_cons, List.not_mem_nil, or_false] at hop
      rcases hop with rfl | rfl | rfl | rfl | rfl <;> trivial))) rfl, rfl⟩

/-- keys only: type a syllable, Down (opens the phrase list), Down again (`PhraseSelector::next`), `1`
    (chooses the first candidate: a selection is pushed), Enter: by `C01_plain_histories` -/
example : ∃ e', (stdEditor [3]).run toyEnv [.key keyJ, .key keyJ, .key keyDown, .key keyDown, .key key1, .key keyEnter] = .ok e' ∧
    EditorInv toyEnv (fun _ => True) True e' :=
  C01_plain_histories toyEnv_ok _ (stdEditor_inv [3]) _ (by intro op hop; simp only [List.mem_cons, List.not_mem_nil, or_false] at hop; rcases hop with rfl | rfl | rfl | rfl | rfl | rfl <;> trivial)

/-- … and that history does what it says: the list opens, the choice is recorded, Enter commits it -/
example : ∃ e1 s e2 e3, (stdEditor [3]).run toyEnv [.key keyJ, .key keyJ, .key keyDown] = .ok e1 ∧ e1.state = .selecting s ∧
    e1.run toyEnv [.key keyDown, .key key1] = .ok e2 ∧ e2.shared.com.inner.selections.length = 1 ∧
    e2.run toyEnv [.key keyEnter] = .ok e3 ∧ e3.shared.commitBuf = [3] :=
  ⟨_, _, _, _, rfl, rfl, rfl, rfl, rfl, rfl⟩

/-- the four jumps on an open phrase list (two syllables, cursor at the beginning: `init` shrinks 0..2 to 0..1,
    `prev_selection_point` searches up to the break point, `next_selection_point` / `jump_to_last_selection_point` stop at the
    one-syllable range) are plain operations: by `C01_plain_histories` they return and keep the invariant; the
    list stays open on the syllable -/
example : ∃ e' s p, (stdEditor [3]).run toyEnv [.key keyJ, .key keyJ, .key keyJ, .key keyJ, .key keyHome, .startSelecting,
      .jump 3, .jump 2, .jump 1, .jump 0] = .ok e' ∧ EditorInv toyEnv (fun _ => True) True e' ∧
    e'.state = .selecting s ∧ s.sel = .phrase p ∧ (p.begin_, p.end_, p.orig) = (0, 1, 0) :=
  ⟨_, _, _, rfl, OkAnd.get (C01_plain_histories toyEnv_ok _ (stdEditor_inv [3])
    [.key keyJ, .key keyJ, .key keyJ, .key keyJ, .key keyHome, .startSelecting, .jump 3, .jump 2, .jump 1, .jump 0]
    (by intro op hop; simp only [List.mem_cons, List.not_mem_nil, or_false] at hop
        rcases hop with rfl | rfl | rfl | rfl | rfl | rfl | rfl | rfl | rfl | rfl <;> trivial)) rfl, rfl, rfl, rfl⟩

/-- the candidate list of that history really opens (so `PhraseSelector::init` is exercised) -/
example : ∃ e' s, (stdEditor [3]).run toyEnv [.key keyJ, .key keyJ, .startSelecting] = .ok e' ∧ e'.state = .selecting s :=
  ⟨_, _, rfl, rfl⟩

end Chewing.C01
