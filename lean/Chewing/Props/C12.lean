import Chewing.Proofs.Uhash
import Chewing.Proofs.Loader
import Chewing.Proofs.WalkLookup
import Chewing.Proofs.WalkEntries
import Chewing.Proofs.WalkValid
import Chewing.Proofs.WalkLinear
import Chewing.Proofs.WalkThreads
import Chewing.Proofs.WalkOpen
import Chewing.Proofs.TrieWitness
import Chewing.Proofs.Estimate
/-!
# C12 — Corrupt dictionary or legacy user files never crash or hang the host

Models: `Model/Uhash.lean` (the two readers of the legacy `uhash.dat`, every slice / index a checked
accessor), `Model/Loader.lean` (`UserDictionaryLoader::load` over an abstract directory) and
`Model/TrieWalk.lean` (the repository's own traversal code of `trie.rs` — `lookup_first_n_phrases`
and the explicit-stack iterator of `entries()` — over an arbitrary index table).

What is assumed about DER decoding (crate `der`, trusted): `Trie::new` turns the file into
(index bytes, phrase bytes) or an error without panicking, and `PhrasesIter` over `data[db..de]`
is a total function `leaf db de : List P`.  A `Tbl P` is therefore (records, data length, leaf
function); the theorems quantify over ALL tables — all record lists with arbitrary naturals in every
field, in particular `parseIndex ib` for every byte string `ib` — and never inspect `P`.

"never panics" = `Returns` (the outcome is `.ok _`, neither `.panic _` nor `.outOfFuel`);
"never loops forever" = a fuel bound that depends on the size of the table only;
"never allocates without bound" = a bound on the thread set / result length.

Findings F16 / F17 (an index that is not a tree laid out parent-before-child made `entries()` loop for
ever and multiplied the thread set of a lookup; a zero syllable at a non-first child position panicked
`entries()`) were repaired by a `fix:` commit: `Trie::new` / `TrieOpenOptions::read_from` since then run
`validate_index` (`Model/TrieValidate.lean`, one linear pass) over the decoded index and return an ordinary
`Err` unless the index is a tree in breadth-first order.  A traversal therefore only ever runs on a table
with `validate t = true`, and for EVERY such table (`C12`): `entries()` never panics and returns within
`16·n + 2` loop iterations (`n` = number of index records), a lookup returns for every query with a thread
set of at most `n` members and an answer of at most `first` phrases.  The witnesses of F16 / F17:
`validate` rejects each of them (`witnesses_rejected`), and what the traversals do on them without the
validation is proved as well (`unvalidated_*`).  `validate (write b) = true` is C11's `validate_write`.
Since the repair of C13's F47 `Syllable::try_from` rejects every value that is not a syllable code (`validCode`), and the
`Syllable::try_from(syl).unwrap()` of `entries()` is modelled with it; `validate_index` checks the syllable of every node
record, so `C12` holds for every accepted table (`valid_validSyls`; `unvalidated_entries_invalid_syllable` shows the
check is needed), and a legacy record with such a value is an ordinary load error (`uhash_invalid_syllable_is_error`).
The legacy-file findings F14/F15/F39 were repaired by `fix:` commits; the model is of the repaired
code and `uhash_total` holds without hypothesis (`uhash_orig_panics`: the witnesses on the pre-fix record decoder).
F40 — a stored frequency within reach of `u32::MAX` aborted the first commit that learned the phrase
(plain `+` in C08's `estimate`, outside the traversal code) — was repaired by a `fix:` commit
(`saturating_add`): `stored_freq_never_overflows` (all `u32` frequencies), `stored_freq_overflow_witness`
(the witness evaluates to the cap).
-/
namespace Chewing.C12
open Chewing.Uhash Chewing.Loader Chewing.TrieWalk

deriving instance DecidableEq for Except

/-- the legacy importer never panics and never loops, on every byte string -/
def LegacyTotal : Prop := ∀ b : List Nat, Returns (loadUhash b)

/-- its result is no larger than the file -/
def LegacyBounded : Prop := ∀ (b : List Nat) (rs : List Uhash.Rec), loadUhash b = .ok (.ok rs) → rs.length ≤ b.length

/-- creating the user dictionary over a directory with any legacy file returns -/
def StartTotal : Prop := ∀ (feat : Bool) (d : UserDir), Returns (load feat d)

/-- a lookup in any index table returns (structural recursion: no fuel needed) -/
def LookupTotal : Prop :=
  ∀ (P : Type) (t : Tbl P) (pred : Nat → Nat → Bool) (first : Nat) (q : List Nat), Returns (lookup t pred first q)

/-- … and, on a table `Trie::new` accepted, its thread set stays linear in the table -/
def LookupThreadsLinear : Prop :=
  ∀ (P : Type) (t : Tbl P) (pred : Nat → Nat → Bool) (q : List Nat) (th : List Node),
    validate t = true → (∀ syl ∈ q, pred 0 syl = false) → threads t pred q = .ok (some th) → th.length ≤ t.n

/-- enumerating any table `Trie::new` accepted never panics -/
def EntriesNoPanic : Prop :=
  ∀ (P : Type) (t : Tbl P) (fuel : Nat) (s : String), validate t = true → entriesFuel t fuel ≠ .panic s

/-- … and finishes within a number of loop iterations linear in the number of index records -/
def EntriesTerminates : Prop := ∀ (P : Type) (t : Tbl P), validate t = true → Returns (entriesFuel t (16 * t.n + 2))

/-- the full statement.  `validate t = true` is not an assumption about the file: it is the check `Trie::new`
    performs (the model follows the code); a file that fails it is never traversed — `Trie::new` returns `Err`,
    which the loaders pass on (`chewing_new2` returns NULL, the file is left untouched). -/
def C12_full : Prop :=
  LegacyTotal ∧ LegacyBounded ∧ StartTotal ∧ LookupTotal ∧ LookupThreadsLinear ∧ EntriesNoPanic ∧ EntriesTerminates

/-! ## Legacy files: proved for all byte strings (after the `fix:` commits) -/

theorem uhash_bin_total (b : List Nat) : Returns (loadBin b) := (loadBin_spec b).returns
theorem uhash_text_total (b : List Nat) : Returns (loadText b) := (loadText_spec b).returns

theorem uhash_total : LegacyTotal := loadUhash_returns

theorem start_total : StartTotal := load_returns

/-- the importer yields at most one record per byte of the file (binary: one per 125 bytes) -/
theorem uhash_bounded : LegacyBounded := fun b rs h => by
  obtain ⟨r, hr, hb⟩ := loadUhash_spec b
  exact hb rs (Outcome.ok.inj (hr.symm.trans h))

/-! ### the repaired defects, as theorems about the pre-fix record decoder -/

/-- a 125-byte record: the four non-negative integers, then `tail` padded with zeros -/
def recOf (tail : List Nat) : List Nat :=
  let r := [1, 0, 0, 0, 2, 0, 0, 0, 3, 0, 0, 0, 4, 0, 0, 0] ++ tail
  r ++ List.replicate (125 - r.length) 0

def fileOf (tail : List Nat) : List Nat := binSig ++ [0, 0, 0, 0] ++ recOf tail

/-- F14: length byte 54 -> `buf[17 + 2*54 + 1]` = `buf[126]` of 125 -/
def f14File : List Nat := fileOf [54]
/-- F15: one syllable, phrase-bytes field 200 -> `buf[20..220]` -/
def f15File : List Nat := fileOf [1, 1, 0, 200, 65]
/-- F39: zero syllables, phrase "A" -> imported under the empty key -/
def f39File : List Nat := fileOf [0, 1, 65]

theorem uhash_orig_panics :
    loadUhashOrig f14File = .panic "uhash:index-out-of-bounds" ∧
    loadUhashOrig f15File = .panic "uhash:slice-out-of-range" ∧
    loadUhashOrig f39File = .ok (.ok [{ syls := [], phrase := [65], freq := 1, time := 2 }]) := by
  decide +kernel

/-- the repaired reader skips all three records -/
theorem uhash_fixed_skips :
    loadUhash f14File = .ok (.ok []) ∧ loadUhash f15File = .ok (.ok []) ∧ loadUhash f39File = .ok (.ok []) := by
  decide +kernel

/-- a stored syllable that is not a syllable (C13's F47 repaired: `Syllable::try_from` rejects `0x6a07`) is an ordinary
    load error of both readers — the whole file is refused, nothing is imported, nothing panics; the same records with
    a valid code are imported (the examples at the end of the file) -/
theorem uhash_invalid_syllable_is_error :
    loadBin (fileOf [1, 0x07, 0x6a, 1, 65]) = .ok (.error ()) ∧
    loadUhash (fileOf [1, 0x07, 0x6a, 1, 65]) = .ok (.error ()) ∧
    loadText [52, 50, 10, 80, 32, 50, 55, 49, 52, 51, 32, 49, 32, 50, 32, 51, 32, 52, 10] = .ok (.error ()) := by
  decide +kernel

/-! ## Trie lookup: total for every table; thread set bounded by `n` on every validated table -/

/-- no panic, and termination: the model is structurally recursive -/
theorem lookup_total : LookupTotal := fun _ t pred first q => lookup_returns t pred first q

/-- without the validation: after `k` query syllables there are at most `n^k` threads -/
theorem lookup_threads_bound {P : Type} (t : Tbl P) (pred : Nat → Nat → Bool) (q : List Nat) (th : List Node)
    (h : threads t pred q = .ok (some th)) : th.length ≤ t.n ^ q.length := by
  simpa using walk_length t pred q _ th (threads_some h).2

/-- on a table `Trie::new` accepted the threads are distinct records in
    ascending order, at most `n` of them whatever the query (`Proofs/WalkThreads.lean`) -/
theorem lookup_threads_linear : LookupThreadsLinear :=
  fun _ _ pred q th hv hp h => threads_length_linear hv pred q th hp h

/-- the answer of a lookup is bounded by the caller's `first`, for every index table (repair of F11) -/
theorem lookup_answer_bounded {P : Type} (t : Tbl P) (pred : Nat → Nat → Bool) (first : Nat) (q : List Nat) (r : List P)
    (h : lookup t pred first q = .ok r) : r.length ≤ first :=
  lookup_length_le_first t pred first q r h

/-- no panic on any validated table, whatever the fuel -/
theorem entries_no_panic : EntriesNoPanic :=
  fun _ _ fuel s hv => entriesFuel_no_panic (valid_noZeroChild hv) (valid_validSyls hv) fuel s

/-- at most `16·n + 2` iterations of the closure's loop.  The termination measure is
    `phi` of `Proofs/WalkEntries.lean` with twice the subtree size as the weight of a record
    (`tick_spec` — every loop iteration strictly decreases it; `Proofs/WalkLinear.lean`: `sz_root_le` — the
    subtree of the root of a validated table has at most `n` records) -/
theorem entries_terminates : EntriesTerminates := fun _ _ hv => entriesFuel_returns_linear hv _ (Nat.le_refl _)

/-- the measure argument itself: one iteration of the closure's loop strictly decreases `phi` -/
theorem entries_measure_decreases {P : Type} {t : Tbl P} (hv : validate t = true) {st st' : ESt P}
    (hi : EInv t st) (hnf : st.phase ≠ .finished) (h : tick t st = .ok st') :
    phi (subtreeWeights (valid_forward hv)) st' < phi (subtreeWeights (valid_forward hv)) st := by
  obtain ⟨_, h', _, hlt⟩ := tick_spec (valid_noZeroChild hv) (valid_validSyls hv) hi
  cases h.symm.trans h'
  exact hlt _ hnf

/-- what `validate_index` establishes (the negations of the finding classes F16 / F17, and — since the repair of
    C13's F47 — that every syllable `entries()` will hand to `Syllable::try_from(..).unwrap()` is a valid code) -/
theorem validate_sound {P : Type} {t : Tbl P} (hv : validate t = true) :
    Forward t ∧ NoZeroChild t ∧ DisjointRanges t ∧ Mono t ∧ AllInside t ∧ ValidSyls t :=
  ⟨valid_forward hv, valid_noZeroChild hv, valid_disjoint hv, valid_mono hv, valid_allInside hv, valid_validSyls hv⟩

/-- the syllable field of every node record (every record but the root whose field is not zero) of an accepted table
    is a value `Syllable::try_from` accepts -/
theorem validate_node_syllables {P : Type} {t : Tbl P} (hv : validate t = true) (i : Nat) (h0 : 0 < i) (hi : i < t.n)
    (hs : (t.get i).s ≠ 0) : validCode (t.get i).s = true := valid_syl hv h0 hi hs

theorem C12 : C12_full :=
  ⟨uhash_total, uhash_bounded, start_total, lookup_total, lookup_threads_linear, entries_no_panic, entries_terminates⟩

/-- the walks over a table that passed `validate_index`: a lookup returns at most `first` phrases (that much holds of
    any table) from at most `n` threads, and `entries()` returns within `16·n + 2` loop iterations -/
theorem valid_walks {P : Type} {t : Tbl P} (hv : validate t = true) :
    (∀ pred first q, ∃ r, lookup t pred first q = .ok r ∧ r.length ≤ first) ∧
    (∀ pred q th, (∀ syl ∈ q, pred 0 syl = false) → threads t pred q = .ok (some th) → th.length ≤ t.n) ∧
    Returns (entriesFuel t (16 * t.n + 2)) :=
  ⟨fun pred first q =>
      let ⟨r, hr⟩ := lookup_returns t pred first q
      ⟨r, hr, lookup_length_le_first t pred first q r hr⟩,
    threads_length_linear hv, entriesFuel_returns_linear hv _ (Nat.le_refl _)⟩

/-- session form, for ALL index bytes, data lengths and phrase decoders: `Trie::new` either rejects the
    index, or every lookup and the whole enumeration return (no panic, linear bounds) -/
theorem walk_total_after_open {P : Type} (ib : List Nat) (dl : Nat) (leaf : Nat → Nat → List P) :
    let t : Tbl P := { recs := parseIndex ib, dataLen := dl, leaf := leaf }
    validate t = false ∨
    (validate t = true ∧
      (∀ pred first q, ∃ r, lookup t pred first q = .ok r ∧ r.length ≤ first) ∧
      (∀ pred q th, (∀ syl ∈ q, pred 0 syl = false) → threads t pred q = .ok (some th) → th.length ≤ t.n) ∧
      Returns (entriesFuel t (16 * t.n + 2))) := by
  intro t
  cases hv : validate t with
  | false => exact Or.inl rfl
  | true => exact Or.inr ⟨rfl, valid_walks hv⟩

/-- **open_total** and the traversals, for ALL byte strings (byte-level model of `Trie::new`: C11's DER model of the
    `der` crate, then `validate_index`): opening a file returns — `none` = an ordinary `Err` — and on every `Trie` it
    returns, every lookup returns at most `first` phrases with at most `n` threads, and `entries()` returns without
    panic within `16·n + 2` loop iterations (`n` = records of the index, at most one per 8 bytes of the file) -/
theorem trie_file_total (bytes : Der.Bytes) :
    TrieCodec.openTrie bytes = none ∨
    ∃ t, TrieCodec.openTrie bytes = some t ∧
      (∀ pred first q, ∃ r, lookup (tblOf t) pred first q = .ok r ∧ r.length ≤ first) ∧
      (∀ pred q th, (∀ syl ∈ q, pred 0 syl = false) → threads (tblOf t) pred q = .ok (some th) →
        th.length ≤ (tblOf t).n) ∧
      (∀ fuel s, entriesFuel (tblOf t) fuel ≠ .panic s) ∧
      Returns (entriesFuel (tblOf t) (16 * (tblOf t).n + 2)) := by
  rcases open_then_valid bytes with h | ⟨t, h1, hv⟩
  · exact Or.inl h
  · obtain ⟨hl, ht, he⟩ := valid_walks hv
    exact Or.inr ⟨t, h1, hl, ht, fun fuel s => entries_no_panic _ _ fuel s hv, he⟩

/-! ### the findings F16 / F17 (repaired): rejected by `validate_index`; what they did to the traversals -/

/-- F16, allocation form: three records, all with child range `[0, 3)`; record 0 doubles as the leaf.
    Two query syllables give four threads (and four copies of the one phrase) from a three-record
    table (`witness-F16-blowup-cyclic` of the harness is the same shape with 16 records) -/
def blowupTbl : Tbl Nat :=
  { recs := [⟨0, 3, 0⟩, ⟨0, 3, 10268⟩, ⟨0, 3, 10268⟩], dataLen := 3, leaf := fun _ _ => [7] }

/-- every witness of F16 / F17 is rejected when the file is opened — and so are the two tables whose only flaw is a node
    syllable that is not a syllable (`0x6a07`, `0x8208`; they pass the structural scan: `invalidSyl_scan_ok`) -/
theorem witnesses_rejected :
    validate loopTbl = false ∧ validate blowupTbl = false ∧ validate zeroSecondTbl = false ∧
    validate zeroSiblingTbl = false ∧ validate invalidSylTbl = false ∧ validate markerSylTbl = false := by decide +kernel

/-- without the validation (the walk of the pre-fix code = the same walk on an unvalidated table):
    F16, the self-loop table never finishes … -/
theorem unvalidated_entries_loop (fuel : Nat) : entriesFuel loopTbl fuel = .outOfFuel := loop_never_finishes fuel

/-- … F16, overlapping child ranges multiply the thread set (4 threads from 3 records) … -/
theorem unvalidated_lookup_blowup :
    threads blowupTbl (fun n s => n == s) [10268, 10268] =
      .ok (some [(1, ⟨0, 3, 10268⟩), (2, ⟨0, 3, 10268⟩), (1, ⟨0, 3, 10268⟩), (2, ⟨0, 3, 10268⟩)]) := by rfl

/-- … F17, both panic sites -/
theorem unvalidated_entries_panic :
    entriesFuel zeroSecondTbl 100 = .panic "trie:invalid-syllable-unwrap" ∧
    entriesFuel zeroSiblingTbl 100 = .panic "trie:debug-assert-zero-syllable" :=
  ⟨zeroSecond_panics, zeroSibling_panics⟩

/-- … and a node syllable outside the range of `Syllable::try_from` (C13's F47 repaired in `try_from` only) reaches the
    `unwrap()` of `entries()`: the syllable check of `validate_index` is necessary as well -/
theorem unvalidated_entries_invalid_syllable :
    entriesFuel invalidSylTbl 100 = .panic "trie:invalid-syllable-unwrap" ∧
    entriesFuel markerSylTbl 100 = .panic "trie:invalid-syllable-unwrap" ∧
    NoZeroChild invalidSylTbl ∧ Forward invalidSylTbl :=
  ⟨invalidSyl_panics, markerSyl_panics, invalidSyl_noZeroChild, invalidSyl_forward⟩

/-- so the validation is necessary: the statement without its hypothesis is false -/
theorem validation_needed :
    ¬ (∀ (P : Type) (t : Tbl P), ∃ fuel, Returns (entriesFuel t fuel)) ∧
    ¬ (∀ (P : Type) (t : Tbl P) (fuel : Nat) (s : String), entriesFuel t fuel ≠ .panic s) := by
  refine ⟨fun h => ?_, fun h => h Unit zeroSecondTbl 100 _ zeroSecond_panics⟩
  obtain ⟨fuel, hr⟩ := h Unit loopTbl
  exact hr.ne_outOfFuel (loop_never_finishes fuel)

/-- raw-bytes form: any index bytes, any data length, any phrase decoder -/
theorem walk_total_on_bytes {P : Type} (ib : List Nat) (dl : Nat) (leaf : Nat → Nat → List P)
    (pred : Nat → Nat → Bool) (first : Nat) (q : List Nat) :
    Returns (lookup { recs := parseIndex ib, dataLen := dl, leaf := leaf } pred first q) :=
  lookup_returns _ pred first q

/-! ## Beyond creation: a stored frequency next to `u32::MAX` (F40, repaired)

Not part of the traversal: committing a phrase whose STORED frequency was within reach of `u32::MAX`
overflowed the plain `phrase.freq() + delta` in `LaxUserFreqEstimate::estimate` (overflow-check profile: an
abort of the host at the first commit that learns the phrase; the context over such a file is created).
The repair (`fix:` commit, `phrase.freq().saturating_add(delta).min(MAX_USER_FREQ)`) is what C08's model of
`estimate.rs` follows (the translator pins `saturating_add`), and for it: -/

/-- what `learn_phrase` calls on a commit — no timestamp, `orig_freq` = the phrase's own stored frequency, which is
    at most the maximum `mx` over its homophones — returns a value within `MAX_USER_FREQ` for EVERY stored
    frequency and every clock value: no panic, no wrap-around -/
theorem stored_freq_never_overflows (lifetime f mx : Nat) (h : f ≤ mx) :
    ∃ v, Learn.estimate lifetime f none f mx = .ok v ∧ v ≤ Gen.Est.maxUserFreq :=
  ⟨_, Learn.estimate_editor lifetime f mx h, Learn.stepFreq_le_max f mx⟩

/-- the same for the bare function with any timestamp in a rising band (`orig ≤ max`): the result is within the cap -/
theorem stored_freq_rising_le_cap (div plus inc f o m : Nat) (h : o ≤ m) :
    ∃ v, Learn.risingBand div plus inc f o m = .ok v ∧ v ≤ Gen.Est.maxUserFreq :=
  ⟨_, Learn.risingBand_eq div plus inc f o m h, Nat.min_le_right _ _⟩

/-- the witness (stored frequency `u32::MAX`, an overflow abort before the repair): clamped to the cap -/
theorem stored_freq_overflow_witness : Learn.estimate 5 4294967295 none 0 0 = .ok 99999999 := by
  decide +kernel

/-! ## Non-vacuity -/

/-- the index of a real three-entry file passes `validate_index`, and the walk yields its three leaves within
    the linear bound (7 records: 114 iterations) -/
example : validate goodTbl = true ∧
    entriesFuel goodTbl (16 * goodTbl.n + 2) = .ok [([6664], [0]), ([8712, 6664], [20]), ([8712], [10])] :=
  ⟨by rfl, by rfl⟩

/-- one overwritten field of it (record 2's child begin 4 -> 2: the node becomes its own child) is rejected -/
example : validate ({ goodTbl with recs := [⟨1, 2, 0⟩, ⟨3, 1, 6664⟩, ⟨2, 2, 8712⟩, ⟨0, 10, 0⟩, ⟨10, 10, 0⟩, ⟨6, 1, 6664⟩, ⟨20, 13, 0⟩] } : Tbl Nat) = false := by
  rfl

/-- a valid binary legacy file with one live record is imported (the total theorems are not about
    a reader that rejects everything) -/
example : loadUhash (fileOf [1, 1, 0, 1, 65]) = .ok (.ok [{ syls := [1], phrase := [65], freq := 1, time := 2 }]) := by
  decide +kernel

example : loadUhash [52, 50, 10, 80, 32, 49, 32, 49, 32, 50, 32, 51, 32, 52, 10] =
    .ok (.ok [{ syls := [1], phrase := [80], freq := 1, time := 2 }]) := by decide +kernel

end Chewing.C12
