import Chewing.Props.C13
import Chewing.Proofs.LayoutSound
import Chewing.Proofs.LayoutPinyinSound
import Chewing.Proofs.ReadingsTable
import Chewing.Proofs.KeyboardTables
import Chewing.Proofs.LayoutComplete_table
import Chewing.Proofs.LayoutComplete_26key
import Chewing.Proofs.LayoutComplete_pinyin
import Chewing.Proofs.LayoutUnreach26
import Chewing.Proofs.LayoutUnreachAll
import Chewing.Proofs.Bisim
import Chewing.Proofs.LayoutEditor
import Chewing.Proofs.ReadingsMini
import Chewing.Proofs.EditorLinkSyl2
/-!
# C14 — Every phonetic layout is sound, and complete for the dictionary's readings

Models: `Model/Keyboard.lean` (key codes, key indices, `KEYCODE_MAP`, the keyboard matrices),
`Model/Layout.lean` (Standard, Hsu, IBM, Gin-Yieh, ET, ET26, DaChen26: state = one 16-bit syllable code,
`key_press` written with C13's `update` / `remove_*` / `pop`), `Model/LayoutPinyin.lean` (three Pinyin
variants: typed letters + last syllable + its alternative), `Model/LayoutKeys.lean` (explicit inverses).
Every table is regenerated from the Rust source, the readings from `data/word.src`.

* **Soundness** (`sound_layout`, `sound_buffer`, `sound_pinyin`, `sound_pinyin_buffer`): for ANY list of
  operations on a layout (key presses with arbitrary key events, fuzzy key presses, `remove_last`,
  `clear` — every schedule the editor can produce is such a list) every state, hence every syllable handed
  over by `Commit`, and every `Fuzzy(s)` is well-formed in C13's sense (composable: components in range,
  decodable, re-spellable); what the editor then *inserts* is moreover non-empty, because it inserts only
  syllables the dictionary has a word for and the shipped dictionary has none for the empty syllable.
  At the layout itself the empty syllable CAN be committed (`pinyin_commits_empty`: F38;
  `dc26_commits_empty`) — the editor drops it.
* **Completeness** (`complete_*`): every reading of `data/word.src` can be entered — by an explicit key list
  typed unmodified on Qwerty from the fresh state, committing the reading itself or a syllable that has a
  word of its own and whose `alt_syllables` contain the reading.  Full strength for Standard, ET, IBM and
  Gin-Yieh (the latter two after the repairs F19 / F20); for Hsu, ET26, DaChen26 and the Pinyin variants
  the statement is false (known finding F21) and proved with the listed readings excluded.
* **ASCII round trip** (`ascii_roundtrip`, `ascii_roundtrip_qwerty`): on the seven keyboards implemented by
  `generic_map_keycode` (all but Dvorak-on-Qwerty, which remaps) `map_ascii(c)` carries the character `c`,
  for the 95 printable characters.
-/
namespace Chewing.C14
open Gen

/-- a well-formed syllable: C13's composable syllables -/
def WellFormed (c : Nat) : Prop := C13.Composable c

theorem wellFormed_iff {c : Nat} : WellFormed c ↔ Comp c := C13.composable_iff

/-- … which are exactly the decodable, re-spellable ones (C13) -/
theorem wellFormed_respellable {c : Nat} (h : WellFormed c) :
    tryFromU16 c = some c ∧ parse (spell c) = .ok c :=
  ⟨C13.code_roundtrip h, C13.parse_spell h⟩

/-- the seven layouts whose state is one syllable -/
def finiteLayouts : List Layout := [standardL, hsuL, ibmL, ginyiehL, etL, et26L, dc26L]

theorem finite_sound {L : Layout} (hL : L ∈ finiteLayouts) : SoundLayout L := by
  simp only [finiteLayouts, List.mem_cons, List.not_mem_nil, or_false] at hL
  rcases hL with rfl | rfl | rfl | rfl | rfl | rfl | rfl
  · exact sound_standard
  · exact sound_hsu
  · exact sound_ibm
  · exact sound_ginyieh
  · exact sound_et
  · exact sound_et26
  · exact sound_dc26

/-- Soundness at the layout, for all operation lists of any length: no step panics, every state (so every
    syllable `read()` after `Commit`) is well-formed, every `Fuzzy(s)` carries a well-formed non-empty `s`. -/
theorem sound_layout {L : Layout} (hL : L ∈ finiteLayouts) (ops : List LOp) :
    ∃ tr, L.run clearSyl ops = some tr ∧
      ∀ x ∈ tr, WellFormed x.2 ∧ ∀ s, x.1 = .fuzzy s → WellFormed s ∧ s ≠ emptyPattern := by
  obtain ⟨tr, h, hall⟩ := run_ok (finite_sound hL) ops clearSyl comp_clear
  refine ⟨tr, h, fun x hx => ?_⟩
  obtain ⟨h1, h2⟩ := hall x hx
  exact ⟨wellFormed_iff.mpr h1, fun s hs => ⟨wellFormed_iff.mpr (h2 s hs).1, (h2 s hs).2⟩⟩

/-- what `EnteringSyllable::next` inserts into the pre-edit buffer after a layout step with behaviour `b`
    and `read() = c`, for a dictionary that has a word exactly for the syllables with `hasWord` -/
def inserted (hasWord : Nat → Bool) (b : Behavior) (c : Nat) : Option Nat :=
  match b with
  | .commit => if hasWord c then some c else none
  | .fuzzy s => if hasWord s then some s else none
  | _ => none

/-- Soundness at the buffer: if the dictionary has no word for the empty syllable, every syllable the
    editor inserts — after any operation list — is well-formed and non-empty. -/
theorem sound_buffer {L : Layout} (hL : L ∈ finiteLayouts) (hasWord : Nat → Bool)
    (hne : hasWord emptyPattern = false) (ops : List LOp) :
    ∃ tr, L.run clearSyl ops = some tr ∧
      ∀ x ∈ tr, ∀ s, inserted hasWord x.1 x.2 = some s → WellFormed s ∧ s ≠ emptyPattern := by
  obtain ⟨tr, h, hall⟩ := sound_layout hL ops
  refine ⟨tr, h, fun x hx s hs => ?_⟩
  obtain ⟨h1, h2⟩ := hall x hx
  unfold inserted at hs
  split at hs
  · split at hs
    · rename_i hw
      cases hs
      exact ⟨h1, by intro e; rw [e, hne] at hw; cases hw⟩
    · cases hs
  · rename_i s' hb
    split at hs
    · cases hs
      exact h2 s hb
    · cases hs
  · cases hs

/-- … and the shipped character dictionary has no word for the empty syllable (table fact), and all its
    readings are well-formed -/
theorem shipped_no_empty_reading : readingCodes.contains emptyPattern = false := readings_no_empty

theorem parsed_wellFormed : ∀ (sp : List (List Nat)) (cs : List Nat), sp.map parse = cs.map .ok →
    (sp.all fun s => s.all fun c => c != 713) = true → ∀ r ∈ cs, WellFormed r := by
  intro sp
  induction sp with
  | nil =>
    intro cs h _ r hr
    cases cs with
    | nil => cases hr
    | cons _ _ => simp at h
  | cons s ss ih =>
    intro cs h hno r hr
    cases cs with
    | nil => cases hr
    | cons c cs' =>
      simp only [List.map_cons, List.cons.injEq] at h
      simp only [List.all_cons, Bool.and_eq_true] at hno
      rcases List.mem_cons.mp hr with rfl | hr'
      · refine (C13.spell_parse h.1 ?_).1
        intro x hx
        have := List.all_eq_true.mp hno.1 x hx
        simpa using this
      · exact ih cs' h.2 hno.2 r hr'

theorem shipped_readings_wellFormed : ∀ r ∈ readingCodes, WellFormed r :=
  parsed_wellFormed readingSpellings readingCodes readings_parse readings_no_tone1

theorem pinyinRun_eq_runM (v : Nat) : ∀ (ops : List POp) (st : PinyinState),
    pinyinRun v st ops = runM (pinyinStep v) st ops := by
  intro ops
  induction ops with
  | nil => intro _; rfl
  | cons op ops ih =>
    intro st
    unfold pinyinRun runM
    cases pinyinStep v st op with
    | none => rfl
    | some p => simp only [ih]

/-- Pinyin: whatever a run leaves in `syllable` (what `Commit` hands over) and `syllable_alt` is
    well-formed, and `Fuzzy` is never returned.  (`none` = a builder `unwrap()` would panic; that this never
    happens is established by the correspondence run, not by this theorem.) -/
theorem sound_pinyin (v : Nat) : ∀ (ops : List POp) (st : PinyinState) (tr : List (Behavior × PinyinState)),
    PinyinInv st → pinyinRun v st ops = some tr →
      ∀ x ∈ tr, WellFormed x.2.syl ∧ WellFormed x.2.alt := by
  intro ops st tr hst h x hx
  have hx' := runM_states (pinyinStep v) PinyinInv (fun _ => True) (fun s op b s' hs _ hstep => by
      cases op with
      | key k => exact pinyinPress_inv hs hstep
      | removeLast => cases hstep; exact hs
      | clear => cases hstep; exact pinyinInv_init) ops st tr hst (fun _ _ => trivial)
    (pinyinRun_eq_runM v ops st ▸ h) x hx
  exact ⟨wellFormed_iff.mpr hx'.1, wellFormed_iff.mpr hx'.2⟩

theorem sound_pinyin_buffer (v : Nat) (hasWord : Nat → Bool) (hne : hasWord emptyPattern = false)
    (ops : List POp) (tr : List (Behavior × PinyinState)) (h : pinyinRun v PinyinState.init ops = some tr) :
    ∀ x ∈ tr, x.1 = .commit → hasWord x.2.syl = true → WellFormed x.2.syl ∧ x.2.syl ≠ emptyPattern := by
  intro x hx _ hw
  refine ⟨(sound_pinyin v ops _ tr pinyinInv_init h x hx).1, ?_⟩
  intro e
  rw [e, hne] at hw
  cases hw

/-- F38 (layout level only): every Pinyin variant commits the empty syllable on `i h Space` … -/
theorem pinyin_commits_empty :
    (List.range 3).all (fun v => pinyinEnter v PinyinState.init ([22, 32, 48].map qwertyKey) == some emptyPattern) = true := by
  decide

/-- … and DaChen26, left in the state `ㄧㄚˊ` by a Commit, goes through the tone-only state `ˊ` and commits
    the empty syllable on Space (`K21 K21 K21 K17 K21 K48`).  Both are dropped by the editor (`sound_buffer`). -/
theorem dc26_commits_empty :
    (dc26L.run clearSyl ([21, 21, 21, 17, 21, 48].map fun c => LOp.key (qwertyKey c))).map (·.getLast?) =
      some (some (.commit, emptyPattern)) := by
  decide

/-- the reading `r` can be entered on `L`: some list of Qwerty key codes, typed unmodified from the fresh
    state the way the editor drives the layout (Backspace = `remove_last`; every other key but the last is
    absorbed; the last commits), commits `r` itself, or a syllable that is itself a reading of the
    dictionary (so the editor inserts it) and whose `alt_syllables` contain `r` -/
def Enters (L : Layout) (r : Nat) : Prop := ∃ keys : List Nat, entersB L keys r = true

/-- Pinyin has no `alt_syllables`: the reading itself must be committed -/
def PinyinEnters (v r : Nat) : Prop := ∃ keys : List Nat, entersPinyinB v keys r = true

def Complete (L : Layout) : Prop := ∀ r ∈ readingCodes, Enters L r
def PinyinComplete (v : Nat) : Prop := ∀ r ∈ readingCodes, PinyinEnters v r

/-- the full-strength statement -/
def C14_complete_full : Prop := (∀ L ∈ finiteLayouts, Complete L) ∧ ∀ v, v < 3 → PinyinComplete v

/-- a table-driven layout enters every reading: `table_enters` at the shipped readings, which are composable and
    not the empty syllable -/
theorem table_complete {L : Layout} {tbl : List (Nat × Nat)} (hL : L.press = tablePress tbl)
    (hinv : tableInvB tbl = true) : Complete L := fun r hr => by
  obtain ⟨i, m, x, t, ht, rfl⟩ := wellFormed_iff.mp (shipped_readings_wellFormed _ hr)
  have hne : ¬ (i = 0 ∧ m = 0 ∧ x = 0 ∧ t = 0) := by
    rintro ⟨rfl, rfl, rfl, rfl⟩
    exact absurd (List.contains_iff_mem.mpr hr) (by rw [show encode 0 0 0 0 = emptyPattern from rfl, shipped_no_empty_reading]; simp)
  refine ⟨tableKeysFor tbl (encode i m x t), ?_⟩
  unfold entersB
  rw [table_enters hL hinv ht hne]
  simp

theorem complete_standard : Complete standardL := table_complete rfl (tables_inv _ (by simp))

theorem complete_et : Complete etL := table_complete rfl (tables_inv _ (by simp))

/-- IBM, after the repair of F19 (`K18 → ㄓ`) -/
theorem complete_ibm : Complete ibmL := table_complete rfl (tables_inv _ (by simp))

/-- Gin-Yieh, after the repair of F20 (`K35 → ㄠ`, `K25 → ㄨ`) -/
theorem complete_ginyieh : Complete ginyiehL := table_complete rfl (tables_inv _ (by simp))

theorem enters_of_any {L : Layout} {cands : List (List Nat)} {r : Nat} (h : entersAny L cands r = true) :
    Enters L r := by
  unfold entersAny at h
  obtain ⟨keys, _, hk⟩ := List.any_eq_true.mp h
  exact ⟨keys, hk⟩

theorem pinyinEnters_of_any {v : Nat} {cands : List (List Nat)} {r : Nat}
    (h : entersPinyinAny v cands r = true) : PinyinEnters v r := by
  unfold entersPinyinAny at h
  obtain ⟨keys, _, hk⟩ := List.any_eq_true.mp h
  exact ⟨keys, hk⟩

/-- an evaluated check "`r` is a listed gap or `p`", read at a reading outside the gaps -/
theorem outside_gaps {gaps : List Nat} {r : Nat} {p : Bool} (h : (gaps.contains r || p) = true) (hg : r ∉ gaps) :
    p = true := by
  simp only [Bool.or_eq_true, List.contains_eq_mem, decide_eq_true_eq] at h
  exact h.resolve_left hg

/-- known finding F21, 26-key layouts: (layout, reading) pairs that cannot be entered -/
theorem complete_hsu_partial : ∀ r ∈ readingCodes, r ∉ hsuGaps → Enters hsuL r :=
  fun r hr hg => enters_of_any (outside_gaps (List.all_eq_true.mp complete_hsu_tbl r hr) hg)

theorem complete_et26_partial : ∀ r ∈ readingCodes, r ∉ et26Gaps → Enters et26L r :=
  fun r hr hg => enters_of_any (outside_gaps (List.all_eq_true.mp complete_et26_tbl r hr) hg)

theorem complete_dc26_partial : ∀ r ∈ readingCodes, r ∉ dc26Gaps → Enters dc26L r :=
  fun r hr hg => ⟨_, outside_gaps (List.all_eq_true.mp complete_dc26_tbl r hr) hg⟩

/-- known finding F21, Pinyin -/
theorem complete_pinyin_partial : ∀ v, v < 3 → ∀ r ∈ readingCodes, r ∉ pinyinGaps v → PinyinEnters v r :=
  fun v hv r hr hg => pinyinEnters_of_any (outside_gaps
    (List.all_eq_true.mp (List.all_eq_true.mp complete_pinyin_tbl r hr) v (List.mem_range.mpr hv)) hg)

/-! ### the refuted side of known finding F21: the excluded readings really cannot be entered

For Hsu / ET26 / DaChen26: an invariant of the editor's way of driving the layout (no tone; the lone rimes
ㄝ / ㄟ / ㄥ never stand alone) holds along every key list, from no such state does a key commit a listed reading
(by argument over `key_press`, Proofs/LayoutUnreach26.lean), and no `alt_syllables` list offers one.  For Pinyin: no exact-match row and no (initial row, final row, tone)
combination of the tables builds a listed reading. -/

theorem hsu_gap_unenterable {r : Nat} (hr : r ∈ hsuGaps) : r ∈ readingCodes ∧ ¬ Enters hsuL r :=
  ⟨gaps_are_readings r (by simp [hr]), fun ⟨keys, hk⟩ => by rw [never_enters hsu_unreach hr keys] at hk; cases hk⟩

theorem et26_gap_unenterable {r : Nat} (hr : r ∈ et26Gaps) : r ∈ readingCodes ∧ ¬ Enters et26L r :=
  ⟨gaps_are_readings r (by simp [hr]), fun ⟨keys, hk⟩ => by rw [never_enters et26_unreach hr keys] at hk; cases hk⟩

theorem dc26_gap_unenterable {r : Nat} (hr : r ∈ dc26Gaps) : r ∈ readingCodes ∧ ¬ Enters dc26L r :=
  ⟨gaps_are_readings r (by simp [hr]), fun ⟨keys, hk⟩ => by rw [never_enters dc26_unreach hr keys] at hk; cases hk⟩

theorem pinyin_gap_unenterable {v : Nat} (hv : v < 3) {r : Nat} (hr : r ∈ pinyinGaps v) :
    r ∈ readingCodes ∧ ¬ PinyinEnters v r := by
  refine ⟨gaps_are_readings r ?_, fun ⟨keys, hk⟩ => by rw [pinyin_never_enters (pinyin_unreach v hv) hr keys] at hk; cases hk⟩
  match v, hv with
  | 0, _ => simp [hr]
  | 1, _ => simp [hr]
  | 2, _ => simp [hr]

/-- so the excluded sets are exact: a reading can be entered iff it is not listed -/
theorem complete_hsu_exact : ∀ r ∈ readingCodes, (Enters hsuL r ↔ r ∉ hsuGaps) := fun r hr =>
  ⟨fun he hg => (hsu_gap_unenterable hg).2 he, complete_hsu_partial r hr⟩

theorem complete_et26_exact : ∀ r ∈ readingCodes, (Enters et26L r ↔ r ∉ et26Gaps) := fun r hr =>
  ⟨fun he hg => (et26_gap_unenterable hg).2 he, complete_et26_partial r hr⟩

theorem complete_dc26_exact : ∀ r ∈ readingCodes, (Enters dc26L r ↔ r ∉ dc26Gaps) := fun r hr =>
  ⟨fun he hg => (dc26_gap_unenterable hg).2 he, complete_dc26_partial r hr⟩

theorem complete_pinyin_exact : ∀ v, v < 3 → ∀ r ∈ readingCodes, (PinyinEnters v r ↔ r ∉ pinyinGaps v) :=
  fun v hv r hr => ⟨fun he hg => (pinyin_gap_unenterable hv hg).2 he, complete_pinyin_partial v hv r hr⟩

theorem complete_hsu_refuted : ¬ Complete hsuL := fun h =>
  (hsu_gap_unenterable (r := 36) (by decide)).2 (h 36 (hsu_gap_unenterable (r := 36) (by decide)).1)

theorem complete_et26_refuted : ¬ Complete et26L := fun h =>
  (et26_gap_unenterable (r := 36) (by decide)).2 (h 36 (et26_gap_unenterable (r := 36) (by decide)).1)

theorem complete_dc26_refuted : ¬ Complete dc26L := fun h =>
  (dc26_gap_unenterable (r := 96) (by decide)).2 (h 96 (dc26_gap_unenterable (r := 96) (by decide)).1)

theorem complete_pinyin_refuted : ∀ v, v < 3 → ¬ PinyinComplete v := fun v hv h =>
  have hg : 170 ∈ pinyinGaps v := by unfold pinyinGaps; split <;> simp
  (pinyin_gap_unenterable hv hg).2 (h 170 (pinyin_gap_unenterable hv hg).1)

/-- the full-strength completeness statement is false for the current code (F21) -/
theorem C14_complete_full_refuted : ¬ C14_complete_full := fun h =>
  complete_hsu_refuted (h.1 hsuL (by simp [finiteLayouts]))


/-- the key events of the witnesses are what `Qwerty.map(code)` returns -/
theorem qwertyKey_spec {code : Nat} (h : code < 63) : genericMap qwertyKb code 0 = some (qwertyKey code) := by
  have := KbWF.genericMap_get qwerty_wf h 0
  rwa [qwerty_getD h] at this

/-- on Qwerty the event is the physical key of that character (position = key code = key index, not the
    `Unknown` key), and mapping its code and modifiers again returns the same event -/
theorem ascii_roundtrip_qwerty {a : Nat} (h1 : 32 ≤ a) (h2 : a < 127) :
    ∃ e, mapAsciiT qwertyKb a = some e ∧ e.unicode = a ∧ e.index = e.code ∧ e.code ≠ 0 ∧
      genericMap qwertyKb e.code e.mods = some e := by
  have := allLt_spec ascii_roundtrip_tbl (a - 32) (by omega)
  rw [show 32 + (a - 32) = a by omega] at this
  split at this
  · next e he =>
    simp only [Bool.and_eq_true, beq_iff_eq, bne_iff_ne, ne_eq] at this
    obtain ⟨i, hi, hc, rfl⟩ := KbWF.genericMap_inv qwerty_wf he
    exact ⟨_, he, this.1, (qwerty_getD hi).symm.trans hc, this.2, he⟩
  · cases this

/-- on every keyboard implemented by `generic_map_keycode` (Qwerty, Dvorak, Qgmlwy, Colemak, Colemak-DH ANSI /
    Orth, Workman) the key event of a printable ASCII character carries that character: it does on Qwerty, and the
    key `KEYCODE_MAP` names carries the same character on every keyboard (`genericMap_unicode`) -/
theorem ascii_roundtrip {kb : String × KbTables} (hkb : kb ∈ genericKeyboards) {a : Nat} (h1 : 32 ≤ a) (h2 : a < 127) :
    ∃ e, mapAsciiT kb.2 a = some e ∧ e.unicode = a := by
  obtain ⟨e, he, hu, -⟩ := ascii_roundtrip_qwerty h1 h2
  have hwf := List.all_eq_true.mp tables_wf.1 kb hkb
  obtain ⟨i, hi, hc⟩ := KbWF.exists_pos hwf (KbWF.code_lt_of_map qwerty_wf he)
  have he' := KbWF.genericMap_get hwf hi (asciiItem keycodeMap a).2
  rw [hc] at he'
  exact ⟨_, he', (genericMap_unicode hkb he').trans
    ((genericMap_unicode (kb := ("qwerty", qwertyKb)) List.mem_cons_self he).symm.trans hu)⟩

/-- every keyboard produces every key index and every key code, so the key lists above (Qwerty key codes =
    key indices) can be typed on each of the 17 keyboard types' keyboards -/
theorem keyboards_surjective {kb : String × KbTables} (hkb : kb ∈ genericKeyboards) {x : Nat} (hx : x < 63) :
    (∃ code e, genericMap kb.2 code 0 = some e ∧ e.index = x) ∧
    (∃ code e, genericMap kb.2 code 0 = some e ∧ e.code = x) := by
  have hwf : KbWF kb.2 = true := List.all_eq_true.mp tables_wf.1 kb hkb
  obtain ⟨i, hi, hc⟩ := KbWF.exists_pos hwf hx
  exact ⟨⟨_, _, KbWF.genericMap_get hwf hx 0, rfl⟩, ⟨_, _, KbWF.genericMap_get hwf hi 0, hc⟩⟩

/-! ## The tie: from the exhaustive transition comparison to every key sequence -/

theorem layout_run_eq_runM (L : Layout) : ∀ (ops : List LOp) (c : Nat), L.run c ops = runM L.step c ops := by
  intro ops
  induction ops with
  | nil => intro c; rfl
  | cons op ops ih =>
    intro c
    unfold Layout.run runM
    cases L.step c op with
    | none => rfl
    | some p => simp only [ih]

/-- `bisim_lift` for the layouts.  `impl` stands for the real layout (observed through `read()` = the
    16-bit code, driven through `clone()`), `S` for the set of states the exhaustive run visited, `I` for the
    operations it tried from each of them.  If the visited set contains the fresh state and is closed under
    the implementation's own steps (the BFS work list ran empty) and implementation and model agree on every
    transition out of it (zero DIFF records), then on EVERY operation list over `I`, of any length, the
    implementation produces the model's run — so it never panics, every state it goes through (what `read()`
    returns after `Commit`) is well-formed, and every `Fuzzy(s)` carries a well-formed non-empty `s`. -/
theorem correspondence_lift {L : Layout} (hL : L ∈ finiteLayouts) (impl : Nat → LOp → PressResult)
    (S : Nat → Prop) (I : LOp → Prop) (h0 : S clearSyl)
    (hclosed : ∀ s i o s', S s → I i → impl s i = some (o, s') → S s')
    (hagree : ∀ s i, S s → I i → impl s i = L.step s i)
    (ops : List LOp) (hI : ∀ op ∈ ops, I op) :
    runM impl clearSyl ops = L.run clearSyl ops ∧
    ∃ tr, runM impl clearSyl ops = some tr ∧
      ∀ x ∈ tr, S x.2 ∧ WellFormed x.2 ∧ ∀ s, x.1 = .fuzzy s → WellFormed s ∧ s ≠ emptyPattern := by
  have e := bisim_lift impl L.step S I hclosed hagree ops clearSyl h0 hI
  rw [← layout_run_eq_runM] at e
  obtain ⟨tr, htr, hall⟩ := sound_layout hL ops
  refine ⟨e, tr, by rw [e, htr], fun x hx => ⟨?_, hall x hx⟩⟩
  exact runM_states impl S I hclosed ops clearSyl tr h0 hI (by rw [e, htr]) x hx

/-- the layout models read exactly one field of a key event (key index for the table-driven layouts and
    DaChen26, key code for Hsu and ET26): comparing the 63 values of that field covers every key event -/
theorem press_reads_one_field :
    (∀ L ∈ [standardL, etL, ibmL, ginyiehL, dc26L], ∀ c k, L.press c k = L.press c (mkKey k.index)) ∧
    (∀ L ∈ [hsuL, et26L], ∀ c k, L.press c k = L.press c (mkKey k.code)) := by
  constructor
  · intro L hL c k
    simp only [List.mem_cons, List.not_mem_nil, or_false] at hL
    rcases hL with rfl | rfl | rfl | rfl | rfl <;> rfl
  · intro L hL c k
    simp only [List.mem_cons, List.not_mem_nil, or_false] at hL
    rcases hL with rfl | rfl <;> rfl

/-! ## The layouts inside the editor

`Proofs/LayoutEditor.lean`, over the validated editor model (`Model/Editor.lean`, any environment whose
layout component is one of the layout models): one key in state `EnteringSyllable` changes the pre-edit
buffer only by inserting the syllable the layout handed over. -/

/-- what the editor inserts is exactly what the layout's `read()` spelled after `Commit` (or the `Fuzzy`
    payload), it is well-formed and non-empty, and the layout is left in a well-formed state -/
theorem editor_inserts_what_layout_read {D : Type} {L : Layout} (hL : L ∈ finiteLayouts) (base : Env D Nat)
    (sh : Shared D Nat) (ev : KeyEvent) (hc : WellFormed sh.syl)
    (hne : (layoutEnv L base).hasPhrase sh.dict [emptyPattern] sh.options.lookupStrategy = false)
    (sh' : Shared D Nat) (t : Trans) (h : enteringSyllableNext (layoutEnv L base) sh ev = .ok (sh', t)) :
    WellFormed sh'.syl ∧
    (sh'.com = sh.com.clear ∨ sh'.com.inner = sh.com.inner ∨
      ∃ s com1, WellFormed s ∧ s ≠ emptyPattern ∧
        HandedOver (layoutStepFor L sh.options.lookupStrategy sh.syl (toKeyEv ev)) s ∧
        sh.com.insert (.syl s) = .ok com1 ∧ sh'.com.inner = com1.inner) := by
  obtain ⟨h1, h2⟩ := enteringSyllable_sound (finite_sound hL) base sh ev (wellFormed_iff.mp hc) hne sh' t h
  refine ⟨wellFormed_iff.mpr h1, ?_⟩
  rcases h2 with h2 | h2 | ⟨s, com1, hs, hne', hh, hi, hcm⟩
  · exact Or.inl h2
  · exact Or.inr (Or.inl h2)
  · exact Or.inr (Or.inr ⟨s, com1, wellFormed_iff.mpr hs, hne', hh, hi, hcm⟩)

/-! ## Completeness for the built-in fallback dictionary (`data/mini.src`) -/

def CompleteMini (L : Layout) : Prop := ∀ r ∈ miniReadingCodes, Enters L r

theorem complete_mini_of_complete {L : Layout} (h : Complete L) : CompleteMini L :=
  fun r hr => h r (mini_readings_subset r hr)

theorem complete_mini_table_layouts : ∀ L ∈ [standardL, etL, ibmL, ginyiehL], CompleteMini L := by
  intro L hL
  simp only [List.mem_cons, List.not_mem_nil, or_false] at hL
  rcases hL with rfl | rfl | rfl | rfl
  · exact complete_mini_of_complete complete_standard
  · exact complete_mini_of_complete complete_et
  · exact complete_mini_of_complete complete_ibm
  · exact complete_mini_of_complete complete_ginyieh

/-- for the other layouts: exactly the F21 readings that also occur in `data/mini.src` are missing -/
theorem complete_mini_26key_partial :
    (∀ r ∈ miniReadingCodes, r ∉ hsuGaps → Enters hsuL r) ∧
    (∀ r ∈ miniReadingCodes, r ∉ et26Gaps → Enters et26L r) ∧
    (∀ r ∈ miniReadingCodes, r ∉ dc26Gaps → Enters dc26L r) ∧
    (∀ v, v < 3 → ∀ r ∈ miniReadingCodes, r ∉ pinyinGaps v → PinyinEnters v r) :=
  ⟨fun r hr => complete_hsu_partial r (mini_readings_subset r hr),
   fun r hr => complete_et26_partial r (mini_readings_subset r hr),
   fun r hr => complete_dc26_partial r (mini_readings_subset r hr),
   fun v hv r hr => complete_pinyin_partial v hv r (mini_readings_subset r hr)⟩

/-! ### non-vacuity -/

example : standardL ∈ finiteLayouts ∧ dc26L ∈ finiteLayouts := by simp [finiteLayouts]
example : readingCodes.contains 10268 = true ∧ entersB standardL (tableKeysFor standardTable 10268) 10268 = true := by
  decide +kernel
example : readingCodes.contains 52 = true ∧ 52 ∈ hsuGaps ∧ readingCodes.contains 44 = true ∧ 44 ∉ hsuGaps := by
  decide +kernel
example : ("dvorak", (genericKeyboards.getD 1 ("", [], [], [])).2) ∈ genericKeyboards := by decide
/-- Dvorak-on-Qwerty does remap: `q` arrives as `'` -/
example : (mapAscii "dvorak_on_qwerty" 113).map (·.unicode) = some 39 := by decide
/-- a `hasWord` as in `sound_buffer`: membership in the shipped readings -/
example : (fun c => readingCodes.contains c) emptyPattern = false := readings_no_empty

/-- `correspondence_lift` is not vacuous: the model itself is an implementation satisfying its premises -/
example (ops : List LOp) : runM hsuL.step clearSyl ops = hsuL.run clearSyl ops :=
  (correspondence_lift (L := hsuL) (by simp [finiteLayouts]) hsuL.step (fun _ => True) (fun _ => True) trivial
    (fun _ _ _ _ _ _ _ => trivial) (fun _ _ _ _ => rfl) ops (fun _ _ => trivial)).1

/-- an environment for `editor_inserts_what_layout_read`: the dictionary is the list of syllables that have a
    word; everything the layout arms do not use is trivial -/
def wordEnv : Env (List Nat) Nat :=
  { lookupAll := fun d key _ => match key with
      | [s] => if d.contains s then [{ text := [19968], freq := 1 }] else []
      | _ => []
    userLookupAll := fun _ _ _ => []
    addPhrase := fun d _ _ => some d
    updatePhrase := fun d _ _ _ _ => d
    removePhrase := fun d _ _ => d
    reopenFlush := fun d => d
    convert := fun _ _ _ => .ok []
    estimate := fun _ _ _ => .ok 0
    keyPress := fun c _ => (.error, c)
    fuzzyKeyPress := fun c _ => (.error, c)
    removeLast := fun c => c
    clearSyl := fun c => c
    sylIsEmpty := fun _ => true
    read := fun c => c
    altSyllables := fun _ _ => [] }

/-- its hypotheses hold for the shipped readings, and the Standard layout in the state `ㄅㄚ` (keys `1 8`)
    answers Space by handing over `ㄅㄚ`, which the editor inserts -/
example :
    (layoutEnv standardL wordEnv).hasPhrase readingCodes [emptyPattern] .standard = false ∧
    (match enteringSyllableNext (layoutEnv standardL wordEnv)
        { syl := 1088, dict := readingCodes } { index := 48, code := 48, unicode := 32 } with
      | .ok (sh', _) => sh'.com.inner.symbols == [.syl 1088] && sh'.syl == clearSyl
      | _ => false) = true := by
  decide +kernel

/-! ## linked: the layouts inside the editor, over whole key histories

`editor_inserts_what_layout_read` is about ONE key in state `EnteringSyllable`.  Here it is lifted to an
invariant of the editor model (`Model/Editor.lean`) that holds after EVERY history of key events (and of the
other public operations), in all four states, for the environment `layoutEnv L base` whose layout component is
the layout model `L` (everything else — dictionary, engines, estimator — arbitrary):

* the layout state is well formed, and
* every syllable symbol in the pre-edit buffer was handed over by the layout (it is the `Commit` reading or the
  `Fuzzy` payload of some step of `L` from a well-formed layout state), is well formed (C13) and non-empty.

Proof (`Proofs/EditorLinkSyl.lean`, `Proofs/EditorLinkSyl2.lean`): syllable symbols enter the buffer only in
`syllableAnswer` (state `EnteringSyllable`; `enteringSyllable_sound`); every arm of `Entering`, `Selecting`,
`Highlighting`, the auto-commit tail and every other entry point of `Editor` inserts / writes CHARACTER
symbols only, or removes / keeps symbols (`LinkSyl.NoNewSyl`, arm by arm, for every environment); the layout
state changes only by `key_press` / `fuzzy_key_press` / `remove_last` / `clear` of the sound layout `L`.

Relation to C01.  C01's invariant has two facts about buffered syllables that are DIFFERENT from this one:
`SylInv` (Props/C04.lean, `CInv.syl` in Proofs/C01Inv.lean) says that *selections cover syllable symbols only*,
and `ShInv.word` says that *every buffered syllable has a word in the dictionary* (a fact about the dictionary,
kept under hypotheses on learning).  Neither says where the syllable came from or that it is a well-formed
code; `BufferFromLayout` says exactly that, needs no hypothesis on the dictionary operations, and is independent
of C01 (of `Proofs/C01Inv.lean` the proof uses only the list lemmas `LinkSyl.insert_mem` / `replace_mem`, nothing of
C01's invariant). -/

/-- `s` was handed over by layout `L`: it is the `Commit` reading or the `Fuzzy` payload of some step of `L`
    (plain or fuzzy key press) from a well-formed layout state -/
def HandedBy (L : Layout) (s : Nat) : Prop :=
  ∃ c k strat, WellFormed c ∧ HandedOver (layoutStepFor L strat c k) s

/-- invariant: the layout state is well formed and every syllable in the pre-edit buffer was handed over by
    the layout, is well formed (C13) and non-empty -/
def BufferFromLayout {D : Type} (L : Layout) (e : Editor D Nat) : Prop :=
  WellFormed e.shared.syl ∧
    ∀ s, Sym.syl s ∈ e.shared.com.inner.symbols → HandedBy L s ∧ WellFormed s ∧ s ≠ emptyPattern

theorem handedBy_iff {L : Layout} {s : Nat} : HandedBy L s ↔ LinkSyl.HandedByC L s :=
  ⟨fun ⟨c, k, strat, hc, h⟩ => ⟨c, k, strat, wellFormed_iff.mp hc, h⟩,
   fun ⟨c, k, strat, hc, h⟩ => ⟨c, k, strat, wellFormed_iff.mpr hc, h⟩⟩

theorem bufferFromLayout_iff {D : Type} {L : Layout} {e : Editor D Nat} :
    BufferFromLayout L e ↔ LinkSyl.BufInv L e.shared :=
  ⟨fun ⟨h1, h2⟩ => ⟨wellFormed_iff.mp h1, fun s hs =>
      ⟨handedBy_iff.mp (h2 s hs).1, wellFormed_iff.mp (h2 s hs).2.1, (h2 s hs).2.2⟩⟩,
   fun ⟨h1, h2⟩ => ⟨wellFormed_iff.mpr h1, fun s hs =>
      ⟨handedBy_iff.mpr (h2 s hs).1, wellFormed_iff.mpr (h2 s hs).2.1, (h2 s hs).2.2⟩⟩⟩

/-- the operations covered besides keys: all of them (`select`, `start_selecting`, `cancel_selecting`, `commit`,
    `clear`, `ack`, `clear_syllable_editor`, `set_editor_options`, `set_conversion_engine`, `learn_phrase`,
    `unlearn_phrase`, the four jumps); `set_syllable_editor` must install a well-formed layout state -/
def OpAllowed : Op Nat → Prop
  | .setLayout l => WellFormed l
  | _ => True

/-- **Every history of public operations.**  `hne`: the dictionary has no word under the empty
    syllable — for every dictionary value and strategy, because keys change the dictionary (learning). -/
theorem buffer_syllables_from_layout_ops {D : Type} {L : Layout} (hL : L ∈ finiteLayouts) (base : Env D Nat)
    (hne : ∀ d strat, (layoutEnv L base).hasPhrase d [emptyPattern] strat = false)
    (ops : List (Op Nat)) (hops : ∀ op ∈ ops, OpAllowed op) (e e' : Editor D Nat) (h0 : BufferFromLayout L e)
    (hrun : e.run (layoutEnv L base) ops = .ok e') : BufferFromLayout L e' := by
  refine bufferFromLayout_iff.mpr
    (LinkSyl.run_inv (finite_sound hL) base hne ops e e' (fun op ho => ?_) (bufferFromLayout_iff.mp h0) hrun)
  have := hops op ho
  cases op <;> first | trivial | exact wellFormed_iff.mp this

/-- **Every key history.** -/
theorem buffer_syllables_from_layout {D : Type} {L : Layout} (hL : L ∈ finiteLayouts) (base : Env D Nat)
    (hne : ∀ d strat, (layoutEnv L base).hasPhrase d [emptyPattern] strat = false)
    (keys : List KeyEvent) (e e' : Editor D Nat) (h0 : BufferFromLayout L e)
    (hrun : e.run (layoutEnv L base) (keys.map Op.key) = .ok e') : BufferFromLayout L e' :=
  bufferFromLayout_iff.mpr
    (LinkSyl.run_inv (finite_sound hL) base hne _ e e' (LinkSyl.opOK_keys keys) (bufferFromLayout_iff.mp h0) hrun)

/-- a fresh editor (empty pre-edit buffer, well-formed layout state — e.g. the cleared one) satisfies the
    invariant -/
theorem bufferFromLayout_fresh {D : Type} (L : Layout) (e : Editor D Nat) (hcom : e.shared.com = {})
    (hsyl : WellFormed e.shared.syl) : BufferFromLayout L e := by
  refine ⟨hsyl, fun s hs => ?_⟩
  rw [hcom] at hs
  cases hs

/-- from a fresh editor: after every key history every buffered syllable was handed over by the layout, is
    well formed — so it decodes and re-spells (C13) — and is not the empty syllable -/
theorem buffer_syllables_from_layout_fresh {D : Type} {L : Layout} (hL : L ∈ finiteLayouts) (base : Env D Nat)
    (hne : ∀ d strat, (layoutEnv L base).hasPhrase d [emptyPattern] strat = false)
    (keys : List KeyEvent) (e e' : Editor D Nat) (hcom : e.shared.com = {}) (hsyl : WellFormed e.shared.syl)
    (hrun : e.run (layoutEnv L base) (keys.map Op.key) = .ok e') :
    WellFormed e'.shared.syl ∧
    ∀ s, Sym.syl s ∈ e'.shared.com.inner.symbols →
      HandedBy L s ∧ WellFormed s ∧ s ≠ emptyPattern ∧ tryFromU16 s = some s ∧ parse (spell s) = .ok s := by
  obtain ⟨h1, h2⟩ := buffer_syllables_from_layout hL base hne keys e e' (bufferFromLayout_fresh L e hcom hsyl) hrun
  exact ⟨h1, fun s hs => ⟨(h2 s hs).1, (h2 s hs).2.1, (h2 s hs).2.2, wellFormed_respellable (h2 s hs).2.1⟩⟩

theorem wellFormed_clearSyl : WellFormed clearSyl := wellFormed_iff.mpr comp_clear

/-- the words of a dictionary that has one exactly for the shipped readings -/
def readingsLookup (key : List Nat) : List Phrase :=
  match key with
  | [s] => if readingCodes.contains s then [{ text := [19968], freq := 1 }] else []
  | _ => []

/-- an environment for `buffer_syllables_from_layout`: the dictionary (no state) has a word exactly for the
    shipped readings -/
def readingsEnv : Env Unit Nat :=
  { lookupAll := fun _ key _ => readingsLookup key
    userLookupAll := fun _ _ _ => []
    addPhrase := fun d _ _ => some d
    updatePhrase := fun d _ _ _ _ => d
    removePhrase := fun d _ _ => d
    reopenFlush := fun d => d
    convert := fun _ _ _ => .ok []
    estimate := fun _ _ _ => .ok 0
    keyPress := fun c _ => (.error, c)
    fuzzyKeyPress := fun c _ => (.error, c)
    removeLast := fun c => c
    clearSyl := fun c => c
    sylIsEmpty := fun _ => true
    read := fun c => c
    altSyllables := fun _ _ => [] }

theorem readingsLookup_empty : readingsLookup [emptyPattern] = [] := by
  simp only [readingsLookup, readings_no_empty, Bool.false_eq_true, ↓reduceIte]

/-- its `hne` hypothesis holds … -/
theorem readingsEnv_no_empty (L : Layout) :
    ∀ d strat, (layoutEnv L readingsEnv).hasPhrase d [emptyPattern] strat = false := by
  intro d strat
  simp only [Env.hasPhrase, layoutEnv, readingsEnv, readingsLookup_empty, List.head?_nil, Option.isSome_none]

/-- … and the key history `1 8 Space` on the Standard layout, from the fresh editor, goes through
    `Entering → EnteringSyllable → Entering` and really inserts the syllable `ㄅㄚ` -/
example :
    (match ({ shared := { syl := clearSyl, dict := () } } : Editor Unit Nat).run (layoutEnv standardL readingsEnv)
        ([{ index := 1, code := 1, unicode := 49 }, { index := 8, code := 8, unicode := 56 },
          { index := 48, code := 48, unicode := 32 }].map Op.key) with
      | .ok e' => e'.shared.com.inner.symbols == [.syl 520] && e'.shared.syl == clearSyl && e'.state == .entering
      | _ => false) = true := by
  decide +kernel

/-- so the theorem applies to that history -/
example (e' : Editor Unit Nat)
    (h : ({ shared := { syl := clearSyl, dict := () } } : Editor Unit Nat).run (layoutEnv standardL readingsEnv)
        ([{ index := 1, code := 1, unicode := 49 }, { index := 8, code := 8, unicode := 56 },
          { index := 48, code := 48, unicode := 32 }].map Op.key) = .ok e') : BufferFromLayout standardL e' :=
  buffer_syllables_from_layout (by simp [finiteLayouts]) readingsEnv (readingsEnv_no_empty _) _ _ e'
    (bufferFromLayout_fresh _ _ rfl wellFormed_clearSyl) h

end Chewing.C14
