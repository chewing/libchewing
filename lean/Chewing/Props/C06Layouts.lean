import Chewing.Props.C06
import Chewing.Proofs.LayoutQuiet
import Chewing.Proofs.LayoutEditor
/-!
# C06, bell and the phonetic buffer — over the layout MODELS

`C06.bell_keeps_phonetic` needs `LayoutQuietAt`: the layout does not change state on the key it rejects.  Here the
premise is discharged for the editor model running over any of the seven one-syllable layout models
(`layoutEnv L base`, `Proofs/LayoutEditor.lean`; C14 ties the models to the Rust layouts): in `EnteringSyllable`
always, in `Entering` when the phonetic buffer is empty (the state invariant of `Entering` along key histories; with
a non-empty buffer an end key would be answered *commit*, which `Entering` treats as "not absorbed").
-/
namespace Chewing.C06

variable {D : Type}

/-- a key press of a layout model, lifted into the editor's environment: if the layout keeps its state on the
    answers `b` that satisfy `R`, and the editor's `rejected` answers satisfy `R`, then the state after a rejected
    key is the one before it -/
theorem liftPress_quiet {r : PressResult} {c : Nat} {st : St} {R : Behavior → Prop}
    (hR : ∀ b, rejected st (toLB b) = true → R b) (hq : ∀ b c', r = some (b, c') → R b → c' = c)
    (hr : rejected st (liftPress r c).1 = true) : (liftPress r c).2 = c := by
  unfold liftPress at hr ⊢
  split at hr
  · next b c' => exact hq b c' rfl (hR b hr)
  · rfl

theorem toLB_rejected (b : Behavior) (h : rejected .enteringSyllable (toLB b) = true) : b.isRejected = true := by
  cases b <;> first | rfl | cases h

theorem toLB_not_absorb (b : Behavior) (h : rejected .entering (toLB b) = true) : b ≠ .absorb := by
  intro e; subst e; cases h

/-- **the layout models satisfy `LayoutQuietAt`** -/
theorem layout_models_quiet {L : Layout} (hL : QuietLayout L) (base : Env D Nat) (e : Editor D Nat) (ev : KeyEvent)
    (hst : e.state = .enteringSyllable ∨ isEmptySyl e.shared.syl = true) :
    LayoutQuietAt (layoutEnv L base) e ev := by
  intro hask hr
  cases hs : e.state with
  | enteringSyllable =>
    rw [hs] at hr
    cases hstrat : e.shared.options.lookupStrategy with
    | fuzzyPartialPrefix =>
      simp only [layoutAnswer, hstrat] at hr ⊢
      exact liftPress_quiet toLB_rejected (fun b c' h1 h2 => fuzzyPress_quiet hL _ _ b c' h1 h2) hr
    | standard =>
      simp only [layoutAnswer, hstrat] at hr ⊢
      exact liftPress_quiet toLB_rejected (fun b c' h1 h2 => (hL _ _ b c' h1).1 h2) hr
  | entering =>
    rw [hs] at hr
    have hem : isEmptySyl e.shared.syl = true := hst.resolve_left fun h => by rw [hs] at h; cases h
    exact liftPress_quiet (r := L.press e.shared.syl (toKeyEv ev)) toLB_not_absorb
      (fun b c' h1 h2 => (hL _ _ b c' h1).2 hem h2) hr
  | selecting s => rw [hs] at hask; cases hask
  | highlighting m => rw [hs] at hask; cases hask

/-- **C06, bell, phonetic buffer, over the layout models.**  Standard, ET, IBM, Gin-Yieh, Hsu, ET26, DaChen CP26:
    a key answered with *bell* leaves the phonetic buffer as it was — in `EnteringSyllable`, in `Selecting`, in
    `Highlighting`, and in `Entering` with an empty phonetic buffer. -/
theorem bell_keeps_phonetic_layout_models {L : Layout} (hL : QuietLayout L) (base : Env D Nat)
    {e e' : Editor D Nat} {ev : KeyEvent}
    (h : e.processKey (layoutEnv L base) ev = .ok (e', .bell))
    (hst : e.state ≠ .entering ∨ isEmptySyl e.shared.syl = true) :
    e'.shared.syl = e.shared.syl := by
  cases hs : e.state with
  | entering =>
    exact bell_keeps_phonetic _ h (layout_models_quiet hL base e ev (hst.elim (fun c => absurd hs c) Or.inr))
  | enteringSyllable => exact bell_keeps_phonetic _ h (layout_models_quiet hL base e ev (Or.inl hs))
  | selecting s => exact bell_keeps_phonetic_of_not_asked _ h (by rw [hs]; rfl)
  | highlighting m => exact bell_keeps_phonetic_of_not_asked _ h (by rw [hs]; rfl)

/-- by name, as the editor installs them -/
theorem bell_keeps_phonetic_by_name {n : String} {L : Layout} (hn : layoutByName n = some L) (base : Env D Nat)
    {e e' : Editor D Nat} {ev : KeyEvent}
    (h : e.processKey (layoutEnv L base) ev = .ok (e', .bell))
    (hst : e.state ≠ .entering ∨ isEmptySyl e.shared.syl = true) :
    e'.shared.syl = e.shared.syl :=
  bell_keeps_phonetic_layout_models (layoutByName_quiet hn) base h hst

/-! ### non-vacuity -/

/-- the Standard layout model under the editor model, nothing typed -/
def stdEditor : Editor Unit Nat := { shared := { syl := clearSyl, dict := () } }

/-- `Entering`, empty phonetic buffer: a key without a character is handed to the Standard layout (key error) and
    answered with a bell; the theorem's premises hold -/
example : ∃ e', stdEditor.processKey (layoutEnv standardL toyEnv) keyNoChar = .ok (e', .bell) ∧
    (stdEditor.state ≠ .entering ∨ isEmptySyl stdEditor.shared.syl = true) ∧ e'.shared.syl = stdEditor.shared.syl := by
  refine ⟨_, rfl, Or.inr (by decide), ?_⟩
  exact bell_keeps_phonetic_layout_models standardL_quiet toyEnv (ev := keyNoChar) rfl (Or.inr (by decide))

/-- `EnteringSyllable` under Hsu: `c` typed (absorbed), then a key Hsu has no symbol for (no word) → bell -/
example : ∃ e e', stdEditor.run (layoutEnv hsuL toyEnv) [.key { index := 32, code := 32, unicode := 99 }] = .ok e ∧
    e.state = .enteringSyllable ∧ e.processKey (layoutEnv hsuL toyEnv) keyNoChar = .ok (e', .bell) ∧
    e'.shared.syl = e.shared.syl := by
  refine ⟨_, _, rfl, by decide, rfl, ?_⟩
  exact bell_keeps_phonetic_layout_models hsuL_quiet toyEnv (ev := keyNoChar) rfl (Or.inl (by decide))

end Chewing.C06
