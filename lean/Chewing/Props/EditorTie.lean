import Chewing.Proofs.Bisim
import Chewing.Props.C05Bound
/-!
# The exhaustive tie between the editor model and the real `Editor` on closed small worlds

WHAT THE HARNESS ESTABLISHES (by enumeration on the real code, `editor --bfs`, harness/src/bin/editor/bfs.rs): for a
configuration (one engine, one `auto_commit_threshold`, one option profile, one tiny dictionary, auto-learning off, a
finite operation alphabet Σ without option / layout / engine / learn / unlearn operations) the set `R` of states
reachable from the freshly built editor is explored breadth-first on the REAL editor; one `ed` transcript record is
written for every pair (state of `R`, operation of Σ); `Driver/Ed.lean` recomputes every record with the model from the
implementation's exported pre-state (0 DIFF = `hagree` below); the work list ran empty (`closed = 1` = `hclosed`
below: every successor of a state of `R` under an operation of Σ is in `R`).  State = the complete snapshot (hook H1) +
the dictionary snapshot; the driver checks that decoding a snapshot into a model value and printing it back is the
identity (`decode-mismatch`), so implementation states and model values are identified here.  The estimator clock is
the one field the exploration normalises (argument in bfs.rs: it is read by `learnPhrase` only, which no operation of Σ
reaches with auto-learning off); the records carry its real value.

WHAT LEAN PROVES (this file): the LIFT — `editor_tie_lift`, the instance of `bisim_lift` for `Editor.apply env`: under
exactly those two premises the implementation and the model produce the same run (same post-state after every step,
same panics) on EVERY list of operations of ANY length over Σ from every state of `R`; `editor_tie_states`: every
state such a run goes through is in `R` — so a property checked on the states of `R` holds along every history over Σ;
and the boundedness half of the finiteness argument, `closed_world_bounded` (from `C05.bounded_everywhere_full`): in a
closed world (no option operation) the pre-edit buffer never holds more than `auto_commit_threshold + 1` symbols.

NOT proved here: finiteness of `R` itself (it is observed: the exploration terminates).  It FAILS for alphabets with
Tab: Tab at the end of a non-empty buffer increments `nth` without bound (`enteringNext`, arm Tab; not a theorem here),
so no exploration with Tab can close; and Shift+Left / Shift+Right (and Ctrl+digit) grow the user dictionary.  Which
configurations closed on a given run is in the evidence (`exhaustive_closed_worlds`), never assumed.
-/
namespace Chewing.EditorTie

variable {D L : Type}

/-- the model's step as a machine in the sense of `Proofs/Bisim.lean`: `none` = the operation panics (or runs out of
    fuel); the observation of a step is the whole post-state, so the output component is `Unit` -/
def modelStep (env : Env D L) (e : Editor D L) (op : Op L) : Option (Unit × Editor D L) :=
  match e.apply env op with
  | .ok e' => some ((), e')
  | _ => none

/-- **the lift**: an implementation step function `I` that agrees with the model on every (state of `R`, operation of
    `Sig`), `R` closed under `I` over `Sig`, agrees with the model on every operation list over `Sig`, of any length,
    from every state of `R` (in particular the initial one) -/
theorem editor_tie_lift (env : Env D L) (I : Editor D L → Op L → Option (Unit × Editor D L))
    (R : Editor D L → Prop) (Sig : Op L → Prop)
    (hclosed : ∀ s op o s', R s → Sig op → I s op = some (o, s') → R s')
    (hagree : ∀ s op, R s → Sig op → I s op = modelStep env s op) :
    ∀ (ops : List (Op L)) (s : Editor D L), R s → (∀ op ∈ ops, Sig op) →
      runM I s ops = runM (modelStep env) s ops :=
  bisim_lift I (modelStep env) R Sig hclosed hagree

/-- every state a run over `Sig` goes through was visited by the exploration -/
theorem editor_tie_states (I : Editor D L → Op L → Option (Unit × Editor D L))
    (R : Editor D L → Prop) (Sig : Op L → Prop)
    (hclosed : ∀ s op o s', R s → Sig op → I s op = some (o, s') → R s') :
    ∀ (ops : List (Op L)) (s : Editor D L) (tr : List (Unit × Editor D L)), R s → (∀ op ∈ ops, Sig op) →
      runM I s ops = some tr → ∀ x ∈ tr, R x.2 :=
  runM_states I R Sig hclosed

/-- the model's machine and `Editor.run` are the same thing: a run that does not fail ends in `Editor.run`'s state -/
theorem run_of_runM (env : Env D L) : ∀ (ops : List (Op L)) (s : Editor D L) (tr : List (Unit × Editor D L)),
    runM (modelStep env) s ops = some tr → Editor.run env s ops = .ok ((tr.getLast?.map (·.2)).getD s) := by
  intro ops
  induction ops with
  | nil => intro s tr h; cases h; rfl
  | cons op ops ih =>
    intro s tr h
    obtain ⟨o, e', tr', hf, hr, rfl⟩ := runM_cons_some h
    have ha : Editor.apply env s op = .ok e' := by
      unfold modelStep at hf
      split at hf
      · next h1 => cases hf; exact h1
      · cases hf
    rw [(Editor.folds env).cons_eq ha]
    -- the last state of the longer run is that of the shorter one, or `e'` if that is empty
    rw [ih e' tr' hr, List.getLast?_cons]
    cases tr'.getLast? <;> rfl

/-- **the closed world is bounded** (the finiteness argument's theorem): no option operation in the history (the
    BFS alphabets have none), fresh editor configured with threshold `t`: whatever the operations, the pre-edit buffer
    holds at most `t + 1` symbols.  Instance of `C05.bounded_everywhere_full`. -/
theorem closed_world_bounded (env : Env D L) (G : D → Prop) (hE : C01.EnvOK env G)
    (sh : Shared D L) (hg : G sh.dict) (hcom : sh.com = {}) (hpp : 0 < sh.options.candidatesPerPage)
    (hsym : C01.SymWF sh.symSel) (ops : List (Op L)) (hno : ∀ o, Op.setOptions o ∉ ops)
    (e' : Editor D L) (hr : ({ shared := sh, state := .entering } : Editor D L).run env ops = .ok e') :
    e'.shared.com.len ≤ sh.options.autoCommitThreshold + 1 := by
  refine C05.bounded_everywhere_full D L env G hE sh hg hcom hpp hsym _ (Nat.le_refl _) ops ?_ ?_ e' hr
  · intro op hop
    cases op with
    | setOptions o => exact absurd hop (hno o)
    | _ => trivial
  · exact fun o ho => absurd ho (hno o)

end Chewing.EditorTie
