import Chewing.Proofs.CStr
import Chewing.Proofs.Owned
import Chewing.Gen.CApi
import Chewing.Gen.Bopomofo
/-!
# C15 — The C API stays memory-safe and its strings well-formed under any call order

Level: **partial** (see the MANIFEST text).  What the theorems carry:

* the byte-level contract of `copy_cstr` — for ALL texts and ALL capacities ≥ 1 the buffer holds a NUL-terminated,
  valid-UTF-8, longest whole-character prefix of the text; it is the whole text (= the heap variant) whenever the
  text is shorter than the buffer (`cstr_wellformed`, `cstr_wellformed_all`, `static_eq_heap_partial`);
* the byte-level contract of every write into a buffer the CALLER supplies (`chewing_userphrase_get`,
  `chewing_phone_to_bopomofo`; the translator enumerates every `*mut c_char` parameter) — for ALL texts and ALL
  capacities the bytes written stay inside the capacity, the buffer is NUL-terminated valid UTF-8 cut at a character
  boundary, the whole text when it fits (`caller_copy_in_bounds`, `caller_copy_len_le`, `fit_copy_in_bounds`,
  `caller_buf_params_reviewed`; `old_caller_copy_refuted` for the byte cut before the fix);
* the ownership protocol — all FOUR stored iterators own their data (since `fix: chewing_userphrase_enumerate takes a
  snapshot …` the user-phrase iterator too; since `fix: chewing_kbtype_String stops at the end …` the keyboard-type
  counter is fused): every call other than `chewing_free` is defined in every state (`collected_iters_safe`,
  `ub_only_at`), NO history of calls whatsoever is undefined (`history_defined`, `userphrase_iter_safe` — the former
  finding F22, refuted for the code before the fix in `old_userphrase_iter_refuted`), an interleaved call cannot change
  a pending user-phrase enumeration (`userphrase_iter_frame`: it is a snapshot), an exhausted enumeration stays
  exhausted (`kbtype_walk_total`; `old_kbtype_counter_refuted` for the earlier `u8` counter), and under the allocator's
  contract every live heap result is registered with its true kind and released by `chewing_free` (`history_ok`,
  `free_releases`, `free_total`);
* `chewing_config_get_str("chewing.selection_keys")` hands out valid UTF-8 (one character per key) or ERROR for EVERY
  array of integers the legacy setters may have stored (`selkeys_getter_wellformed`);
* table facts regenerated from the source: buffer capacities, keyboard names < 32 bytes, the syllable buffer
  text < 16 bytes, the inventory of exported functions / `unsafe` blocks / iterator sites.

"The process performs no invalid access" is inferred through the ghost model (validated against valgrind memcheck
and a layout-checking allocator by the harness) and Rust's type system for the safe code; it is not a theorem.
-/
namespace Chewing.C15
open Chewing.CStr Chewing.Owned Chewing.Gen.CApi

/-- **cstr_wellformed** (DESIGN §8).  For every byte string shorter than the buffer, `copy_cstr` leaves the string
followed by NULs — for all strings and all capacities. -/
theorem cstr_wellformed (cap : Nat) (s : List Nat) (h : s.length < cap) :
    copyCstr cap s = s ++ List.replicate (cap - s.length) 0 := by
  unfold copyCstr copyLen
  have : min (cap - 1) s.length = s.length := by omega
  rw [this, floorBoundary_length, List.take_length]

/-- … hence NUL-terminated, and the C reader sees exactly the text the heap variant (`CString::new`) holds. -/
theorem cstr_text_eq_heap (cap : Nat) (s : List Nat) (h : s.length < cap) (h0 : ∀ b ∈ s, b ≠ 0) :
    cText (copyCstr cap s) = some s ∧ ∃ buf, heapCstr s = some buf ∧ cText buf = some s := by
  refine ⟨?_, heapCstr_text s h0⟩
  rw [cstr_wellformed cap s h]
  exact cText_append_zeros s h0 (by omega)

/-- the text of a Rust `str`: scalar values; the C API never stores U+0000 in a text it returns -/
def IsText (cs : List Nat) : Prop := ∀ c ∈ cs, IsScalar c ∧ c ≠ 0

theorem IsText.take {cs : List Nat} (h : IsText cs) (k : Nat) : IsText (cs.take k) :=
  fun c hc => h c (List.mem_of_mem_take hc)

theorem IsText.nonzero {cs : List Nat} (h : IsText cs) : ∀ b ∈ utf8Encode cs, b ≠ 0 :=
  utf8Encode_nonzero cs fun c hc => (h c hc).2

theorem IsText.decode {cs : List Nat} (h : IsText cs) : utf8Decode (utf8Encode cs) = some cs :=
  decode_encode cs fun c hc => (h c hc).1

/-- **cstr_wellformed_all** (after `fix: copy_cstr …`).  For EVERY text and every capacity ≥ 1 the buffer is
`cap` bytes long, NUL-terminated, and what a C reader sees is the encoding of the longest whole-character prefix
`cs.take k` that fits in `cap - 1` bytes — valid UTF-8 that decodes to that prefix; the whole text iff it fits. -/
theorem cstr_wellformed_all (cap : Nat) (hcap : 1 ≤ cap) (cs : List Nat) (hcs : IsText cs) :
    (copyCstr cap (utf8Encode cs)).length = cap ∧
    ∃ k, k ≤ cs.length ∧
      cText (copyCstr cap (utf8Encode cs)) = some (utf8Encode (cs.take k)) ∧
      utf8Decode (utf8Encode (cs.take k)) = some (cs.take k) ∧
      utf8Len (cs.take k) ≤ cap - 1 ∧
      (k = cs.length ∨ cap - 1 < utf8Len (cs.take (k + 1))) ∧
      (utf8Len cs < cap → k = cs.length) := by
  obtain ⟨k, hk, hcl, hle, hmax, hfit⟩ := copyLen_encode cs cap
  have hcopy : copyCstr cap (utf8Encode cs) =
      utf8Encode (cs.take k) ++ List.replicate (cap - utf8Len (cs.take k)) 0 := by
    unfold copyCstr; rw [hcl, utf8Len, take_encode_prefix]
  refine ⟨?_, k, hk, ?_, (hcs.take k).decode, hle, hmax, hfit⟩ <;> rw [hcopy]
  · simp only [List.length_append, List.length_replicate, utf8Len] at hle ⊢; omega
  · exact cText_append_zeros _ (hcs.take k).nonzero (by omega)

/-- in particular: every string a static getter returns is NUL-terminated valid UTF-8 -/
theorem static_text_valid (cap : Nat) (hcap : 1 ≤ cap) (cs : List Nat) (hcs : IsText cs) :
    ∃ t, cText (copyCstr cap (utf8Encode cs)) = some t ∧ ValidUtf8 t := by
  obtain ⟨_, k, _, ht, hd, _⟩ := cstr_wellformed_all cap hcap cs hcs
  exact ⟨_, ht, by unfold ValidUtf8; rw [hd]; rfl⟩

/-- the heap variant holds the whole text, NUL-terminated, valid UTF-8 -/
theorem heap_text_valid (cs : List Nat) (hcs : IsText cs) :
    ∃ buf, heapCstr (utf8Encode cs) = some buf ∧ cText buf = some (utf8Encode cs) ∧ ValidUtf8 (utf8Encode cs) := by
  obtain ⟨buf, h1, h2⟩ := heapCstr_text (utf8Encode cs) hcs.nonzero
  exact ⟨buf, h1, h2, valid_encode cs (fun c hc => (hcs c hc).1)⟩

/-- FULL statement "the static-buffer and heap variants of a getter return the same text", for a buffer of `cap` bytes -/
def StaticEqHeap (cap : Nat) : Prop :=
  ∀ cs, IsText cs → cText (copyCstr cap (utf8Encode cs)) = some (utf8Encode cs)

/-- **refuted** for every fixed capacity (known finding F35: a pre-edit text longer than the 256-byte buffer is
reachable — word-less syllables displayed as their spelling after an engine change): `cap` letters `a` do not fit -/
theorem static_eq_heap_refuted (cap : Nat) (hcap : 1 ≤ cap) : ¬ StaticEqHeap cap := by
  intro h
  have hcs : IsText (List.replicate cap 97) := by
    intro c hc; rw [List.eq_of_mem_replicate hc]; exact ⟨Or.inl (by omega), by omega⟩
  have hlen : ∀ n, (utf8Encode (List.replicate n 97)).length = n := by
    intro n; induction n with
    | zero => rfl
    | succ n ih => simp [List.replicate_succ, utf8Encode, encChar, ih]
  obtain ⟨_, k, _, ht, _, hk, _⟩ := cstr_wellformed_all cap hcap _ hcs
  rw [h _ hcs] at ht
  have := congrArg List.length (Option.some.inj ht)
  unfold utf8Len at hk
  rw [hlen] at this
  omega

/-- **partial**: the two variants agree for every text shorter than the buffer (excluded class: F35 `same-overlong`) -/
theorem static_eq_heap_partial (cap : Nat) (cs : List Nat) (hcs : IsText cs) (hfit : utf8Len cs < cap) :
    cText (copyCstr cap (utf8Encode cs)) = some (utf8Encode cs) :=
  (cstr_text_eq_heap cap _ hfit hcs.nonzero).1

/-- the code BEFORE the fix (recorded as `fixed:`): a text of exactly the buffer size was stored without a NUL, and a
longer one could be cut inside a character — two `測` (6 bytes) into 4 bytes: no terminator, invalid UTF-8 -/
theorem old_copy_cstr_refuted :
    cText (copyCstrOld 4 (utf8Encode [0x6E2C, 0x6E2C])) = none ∧
    utf8Decode (copyCstrOld 4 (utf8Encode [0x6E2C, 0x6E2C])) = none := by
  constructor <;> decide +kernel

/-! ### text written into a buffer the CALLER supplies

`chewing_userphrase_get(ctx, phrase_buf, phrase_len, bopomofo_buf, bopomofo_len)` and
`chewing_phone_to_bopomofo(phone, buf, len)` write into memory the library does not own: the only bound is the length
the caller passes — whatever it is (the caller may pass less than `chewing_userphrase_has_next` reported). -/

/-- the number of bytes `copy_cstr_to_caller` writes never exceeds the capacity — for EVERY byte string (valid UTF-8 or
not) and EVERY capacity; nothing at all is written into a buffer of 0 bytes -/
theorem caller_copy_len_le (cap : Nat) (s : List Nat) :
    (callerCopy cap s).length ≤ cap ∧ (cap = 0 → callerCopy cap s = []) := by
  unfold callerCopy
  by_cases h : cap = 0
  · simp [h]
  · have hle := copyLen_le cap s
    simp only [if_neg h, List.length_append, List.length_take, List.length_cons, List.length_nil]
    exact ⟨by omega, fun h0 => absurd h0 h⟩

/-- FULL contract of a truncating caller-buffer write `w` of the text `cs` into `cap` bytes: in bounds; nothing for
`cap = 0`; else the encoding of a whole-character prefix `cs.take k` followed by one NUL — so whatever the buffer held
before (`old`, `cap` bytes), a C reader now sees exactly that prefix, which is valid UTF-8 decoding to `cs.take k`, the
longest prefix that fits, and the whole text whenever the text fits -/
def CallerCopyContract (cap : Nat) (cs w : List Nat) : Prop :=
  w.length ≤ cap ∧ (cap = 0 → w = []) ∧
  (1 ≤ cap → ∃ k, k ≤ cs.length ∧
    w = utf8Encode (cs.take k) ++ [0] ∧
    (∀ old, cText (overwrite w old) = some (utf8Encode (cs.take k))) ∧
    utf8Decode (utf8Encode (cs.take k)) = some (cs.take k) ∧
    (k = cs.length ∨ cap - 1 < utf8Len (cs.take (k + 1))) ∧
    (utf8Len cs < cap → k = cs.length))

/-- **caller_copy_in_bounds**: `copy_cstr_to_caller` (after `fix: chewing_userphrase_get truncates at a character
boundary`) meets the full contract for ALL texts and ALL capacities -/
theorem caller_copy_in_bounds (cap : Nat) (cs : List Nat) (hcs : IsText cs) :
    CallerCopyContract cap cs (callerCopy cap (utf8Encode cs)) := by
  refine ⟨(caller_copy_len_le cap _).1, (caller_copy_len_le cap _).2, fun hcap => ?_⟩
  obtain ⟨k, hk, hcl, _, hmax, hfit⟩ := copyLen_encode cs cap
  have hw : callerCopy cap (utf8Encode cs) = utf8Encode (cs.take k) ++ [0] := by
    unfold callerCopy; rw [if_neg (by omega), hcl, utf8Len, take_encode_prefix]
  refine ⟨k, hk, hw, fun old => ?_, (hcs.take k).decode, hmax, hfit⟩
  rw [hw]; unfold overwrite
  rw [List.append_assoc]
  exact cText_append_zero_cons _ (hcs.take k).nonzero _

/-- in particular: what `chewing_userphrase_get` leaves in either buffer of ≥ 1 byte is NUL-terminated valid UTF-8 -/
theorem caller_text_valid (cap : Nat) (hcap : 1 ≤ cap) (cs : List Nat) (hcs : IsText cs) (old : List Nat) :
    ∃ t, cText (overwrite (callerCopy cap (utf8Encode cs)) old) = some t ∧ ValidUtf8 t := by
  obtain ⟨_, _, h⟩ := caller_copy_in_bounds cap cs hcs
  obtain ⟨k, _, _, ht, hd, _⟩ := h hcap
  exact ⟨_, ht old, by unfold ValidUtf8; rw [hd]; rfl⟩

/-- the caller's buffer keeps its length: an in-bounds write over `cap` bytes leaves `cap` bytes -/
theorem overwrite_length (w old : List Nat) (h : w.length ≤ old.length) : (overwrite w old).length = old.length := by
  unfold overwrite; simp only [List.length_append, List.length_drop]; omega

/-- the code BEFORE that fix (recorded as `fixed:` F35b): in bounds and NUL-terminated, but the cut fell wherever byte
`cap - 1` was — `測` (3 bytes) into a 3-byte buffer left the first two bytes of the character: not valid UTF-8 -/
theorem old_caller_copy_refuted :
    callerCopyOld 3 (utf8Encode [0x6E2C]) = [0xE6, 0xB8, 0] ∧ utf8Decode [0xE6, 0xB8] = none ∧
    ¬ CallerCopyContract 3 [0x6E2C] (callerCopyOld 3 (utf8Encode [0x6E2C])) := by
  have h1 : callerCopyOld 3 (utf8Encode [0x6E2C]) = [0xE6, 0xB8, 0] := by decide
  refine ⟨h1, by decide, fun h => ?_⟩
  obtain ⟨k, hk, hw, _⟩ := h.2.2 (by omega)
  rw [h1] at hw
  have hk' : k = 0 ∨ k = 1 := by simp at hk; omega
  rcases hk' with rfl | rfl <;> exact absurd hw (by decide)

/-- `chewing_phone_to_bopomofo`: all or nothing — in bounds for every text and capacity; the whole text and one NUL when
the caller's length admits it, not a single byte otherwise -/
theorem fit_copy_in_bounds (cap : Nat) (s : List Nat) :
    (fitCopy cap s).length ≤ cap ∧
    (s.length + 1 ≤ cap → fitCopy cap s = s ++ [0]) ∧ (cap < s.length + 1 → fitCopy cap s = []) := by
  unfold fitCopy
  by_cases h : s.length + 1 ≤ cap
  · rw [if_pos h]
    exact ⟨by simp only [List.length_append, List.length_cons, List.length_nil]; omega, fun _ => rfl, fun h' => by omega⟩
  · rw [if_neg h]
    exact ⟨Nat.zero_le _, fun h' => absurd h' h, fun _ => rfl⟩

/-- … and when it is written, the reader sees the text itself (the syllable texts contain no NUL: `bopo_chars_short`) -/
theorem fit_copy_text (cap : Nat) (s : List Nat) (hs : ∀ b ∈ s, b ≠ 0) (h : s.length + 1 ≤ cap) (old : List Nat) :
    cText (overwrite (fitCopy cap s) old) = some s := by
  rw [(fit_copy_in_bounds cap s).2.1 h]; unfold overwrite
  rw [List.append_assoc]; exact cText_append_zero_cons s hs _

/-- the translator's enumeration of EVERY `*mut c_char` parameter of an exported function is the reviewed one — three
caller buffers, two written by `copy_cstr_to_caller`, one all-or-nothing; a new caller buffer in capi/src/io.rs
breaks this theorem (and the harness's `cstr callerparams` record) -/
theorem caller_buf_params_reviewed :
    callerBufParams = [("chewing_phone_to_bopomofo", "buf", "len", 1),
                       ("chewing_userphrase_get", "bopomofo_buf", "bopomofo_len", 0),
                       ("chewing_userphrase_get", "phrase_buf", "phrase_len", 0)] ∧ callerCopyShape = 1 := ⟨rfl, rfl⟩

example : callerCopy 3 (utf8Encode [0x6E2C]) = [0] ∧ callerCopy 4 (utf8Encode [0x6E2C]) = [0xE6, 0xB8, 0xAC, 0] ∧
    callerCopy 0 (utf8Encode [0x6E2C]) = [] ∧ callerCopy 6 (utf8Encode [0x6E2C, 0x8A66]) = [0xE6, 0xB8, 0xAC, 0] := by decide +kernel
example : cText (overwrite (callerCopy 6 (utf8Encode [0x6E2C, 0x8A66])) [7, 7, 7, 7, 7, 7]) = some [0xE6, 0xB8, 0xAC] ∧
    overwrite (callerCopy 6 (utf8Encode [0x6E2C, 0x8A66])) [7, 7, 7, 7, 7, 7] = [0xE6, 0xB8, 0xAC, 0, 7, 7] := by decide +kernel
example : fitCopy 9 [0xE3, 0x84, 0x98] = [0xE3, 0x84, 0x98, 0] ∧ fitCopy 3 [0xE3, 0x84, 0x98] = [] := by decide +kernel

/-- the translator recognised the fixed shapes of `copy_cstr`, of `chewing_free`, of the user-phrase iterator (an owned
`vec::IntoIter` filled by `entries().collect()`, no borrow of the dictionary), of the fused keyboard-type counter and
of the selection-keys arm of `chewing_config_get_str` (chars collected into a `String`, `CString::new`) -/
theorem source_shapes :
    copyCstrShape = 1 ∧ freeShape = 1 ∧ freeRemoves = 1 ∧ userphraseIterBorrows = 0 ∧ kbIterFused = 1 ∧
    selKeysGetterShape = 1 := by decide +kernel

/-! ### the selection keys as a string

`chewing_set_selKey` / `chewing_Configure` store ANY ten integers (finding F05b of C16: not only ASCII codes);
`chewing_config_get_str("chewing.selection_keys")` must still hand out well-formed text. -/

theorem selKeysChars_lt (keys : List Int) : ∀ c ∈ selKeysChars keys, c < 256 := by
  intro c hc
  obtain ⟨k, _, rfl⟩ := List.mem_map.mp hc
  omega

theorem zero_mem_utf8Encode {cs : List Nat} : 0 ∈ utf8Encode cs ↔ 0 ∈ cs := by
  refine ⟨fun h => Decidable.byContradiction fun hn => utf8Encode_nonzero cs (fun c hc h0 => hn (h0 ▸ hc)) 0 h rfl,
    fun h => ?_⟩
  induction cs with
  | nil => cases h
  | cons c r ih =>
    simp only [utf8Encode, List.mem_append]
    rcases List.mem_cons.mp h with h0 | hr
    · left; rw [← h0]; decide
    · right; exact ih hr

/-- **selkeys_getter_wellformed**: for EVERY ten (or any number of) integers the context may hold as selection keys —
Latin-1 codes, 0, values beyond a byte, negative values — the getter either reports ERROR, exactly when some key's low
byte is 0, or hands out a NUL-terminated buffer whose text is valid UTF-8 and decodes to one character per key, the
key's low byte as a code point. -/
theorem selkeys_getter_wellformed (keys : List Int) :
    (selKeysCStr keys = none ↔ ∃ k ∈ keys, k % 256 = 0) ∧
    ∀ buf, selKeysCStr keys = some buf →
      cText buf = some (utf8Encode (selKeysChars keys)) ∧
      utf8Decode (utf8Encode (selKeysChars keys)) = some (selKeysChars keys) ∧
      ValidUtf8 (utf8Encode (selKeysChars keys)) := by
  have hsc : ∀ c ∈ selKeysChars keys, IsScalar c := fun c hc => Or.inl (by have := selKeysChars_lt keys c hc; omega)
  have hzero : 0 ∈ utf8Encode (selKeysChars keys) ↔ ∃ k ∈ keys, k % 256 = 0 := by
    simp only [zero_mem_utf8Encode, selKeysChars, List.mem_map]
    exact exists_congr fun k => and_congr_right fun _ => by omega
  unfold selKeysCStr heapCstr
  rw [← hzero]
  split
  · exact ⟨by simpa, nofun⟩
  · next hz =>
    refine ⟨by simpa, fun buf hb => ?_⟩
    cases hb
    exact ⟨cText_append_zero_cons _ (fun b hb h0 => hz (h0 ▸ hb)) [], decode_encode _ hsc, valid_encode _ hsc⟩

/-- a C string built from the RAW low bytes instead (NOT the code; the shape the translator rejects and the harness
oracle catches): ten keys 0xE9 — the keysym of `é` — would be handed out as ten bytes 0xE9, which is not UTF-8 -/
theorem raw_selkeys_refuted :
    ∃ buf, selKeysCStrRaw (List.replicate 10 0xE9) = some buf ∧ cText buf = some (List.replicate 10 0xE9) ∧
      ¬ ValidUtf8 (List.replicate 10 0xE9) := ⟨_, rfl, by decide, by unfold ValidUtf8; decide⟩

/-- … while the code hands out `é` ten times: 20 bytes `C3 A9`; and an array with 0 in unused slots is an ERROR -/
example : (selKeysCStr (List.replicate 10 0xE9)).bind cText = some ((List.replicate 10 [0xC3, 0xA9]).flatten) := by decide +kernel
example : selKeysCStr [49, 50, 51, 52, 53, 0, 0, 0, 0, 0] = none ∧ selKeysCStr [256, 49, 50, 51, 52, 53, 54, 55, 56, 57] = none := by
  decide +kernel
example : (selKeysCStr [-1, -128, 0x1E9, 65]).bind cText = some [0xC3, 0xBF, 0xC2, 0x80, 0xC3, 0xA9, 65] := by decide +kernel

/-! ## Buffers suffice (tables regenerated from the source) -/

def capOf (field : String) : Nat := ((ctxBuffers.find? (fun p => p.1 == field)).map (·.2)).getD 0

/-- the capacities the model and the harness use are the ones declared in `struct ChewingContext` -/
theorem buffers_reviewed :
    ctxBuffers = [("commit_buf", 256), ("preedit_buf", 256), ("bopomofo_buf", 16), ("cand_buf", 256),
                  ("aux_buf", 256), ("kbtype_buf", 32)] := rfl

/-- every static getter writes one of these buffers, each of capacity ≥ 1 (so `cstr_wellformed_all` applies) -/
theorem static_getters_buffers : ∀ g ∈ staticGetters, 1 ≤ capOf g.2 := by decide +kernel

theorem static_getters_reviewed :
    staticGetters.map (·.1) = ["chewing_commit_String_static", "chewing_buffer_String_static",
      "chewing_bopomofo_String_static", "chewing_cand_String_static", "chewing_cand_string_by_index_static",
      "chewing_aux_String_static", "chewing_kbtype_String_static"] := rfl

/-- keyboard-type names are ASCII without NUL and shorter than their buffer: `kbtype_String_static = kbtype_String` -/
theorem kbnames_fit : ∀ n ∈ kbNames, n.length < capOf "kbtype_buf" ∧ ∀ b ∈ n, b ≠ 0 ∧ b < 128 := by decide +kernel

theorem kbnames_static_eq_heap (n : List Nat) (hn : n ∈ kbNames) :
    copyCstr (capOf "kbtype_buf") n = n ++ List.replicate (capOf "kbtype_buf" - n.length) 0 :=
  cstr_wellformed _ n (kbnames_fit n hn).1

theorem bopo_chars_short : ∀ c ∈ Chewing.Gen.bopoChar, (encChar c).length ≤ 3 ∧ IsScalar c ∧ c ≠ 0 := by decide +kernel

/-- a syllable is displayed with at most four Bopomofo symbols: its text is shorter than `bopomofo_buf` -/
theorem bopomofo_fits (syms : List Nat) (hn : syms.length ≤ 4) (hs : ∀ c ∈ syms, c ∈ Chewing.Gen.bopoChar) :
    utf8Len syms < capOf "bopomofo_buf" := by
  have key : ∀ l : List Nat, (∀ c ∈ l, c ∈ Chewing.Gen.bopoChar) → utf8Len l ≤ 3 * l.length := by
    intro l
    induction l with
    | nil => intro _; simp [utf8Len, utf8Encode]
    | cons c r ih =>
      intro h
      have h1 := (bopo_chars_short c (h c (by simp))).1
      have h2 := ih (fun x hx => h x (by simp [hx]))
      unfold utf8Len at *
      simp only [utf8Encode, List.length_append, List.length_cons]
      omega
  have := key syms hs
  have hc : capOf "bopomofo_buf" = 16 := by decide
  omega

/-- Pinyin layouts display the typed keys: at most `MAX_PINYIN_LEN` ASCII letters -/
theorem pinyin_fits : maxPinyinLen < capOf "bopomofo_buf" := by decide +kernel

/-! ## Inventory of the unsafe surface (a new exported function / unsafe block / iterator site breaks these) -/

/- reviewed at the integration of C01's F06 fix (`fix: chewing_userphrase_get truncates …`): the two in-line
   `slice::from_raw_parts_mut(buf, size)` + unchecked copies of `chewing_userphrase_get` became two calls of the new
   helper `copy_cstr_to_caller(buf, cap, src)`, which writes `min(src.len(), cap-1) + 1 ≤ cap` bytes and nothing for
   `cap = 0` (one `unsafe` block more, one helper more; exported functions unchanged). -/
theorem inventory :
    exportedFns.length = 126 ∧ unsafeBlocksTotal = 65 ∧
    helperUnsafeFns = ["slice_from_ptr_with_nul", "copy_cstr_to_caller", "str_from_ptr_with_nul"] ∧
    ownedKinds = ["CString", "CUShortSlice"] ∧
    iterFields = ["kbcompat_iter", "cand_iter", "interval_iter", "userphrase_iter"] := ⟨rfl, rfl, rfl, rfl, rfl⟩

/-- the functions that hand out heap results: ten `CString` getters and the phone sequence (`u16` slice) — each
registers its result in `OWNED` (the translator rejects an `into_raw` that is not wrapped in `owned_into_raw`) -/
theorem heap_getters_reviewed :
    heapGetters = [("chewing_config_get_str", 0), ("chewing_get_KBString", 0), ("chewing_get_phoneSeq", 1),
      ("chewing_commit_String", 0), ("chewing_buffer_String", 0), ("chewing_bopomofo_String", 0),
      ("chewing_cand_String", 0), ("chewing_cand_string_by_index", 0), ("chewing_aux_String", 0),
      ("chewing_kbtype_String", 0), ("chewing_zuin_String", 0)] := rfl

/-- each stored iterator is touched by exactly its enumerate / hasNext / get functions, and by `chewing_Reset`,
    which drops all four (C17 fix "chewing_Reset drops the pending enumeration iterators"; model op `.reset`) -/
theorem iter_sites_reviewed :
    iterSites =
      [("kbcompat_iter", ["chewing_Reset", "chewing_kbtype_Enumerate", "chewing_kbtype_hasNext", "chewing_kbtype_String",
                          "chewing_kbtype_String_static"]),
       ("cand_iter", ["chewing_Reset", "chewing_cand_Enumerate", "chewing_cand_hasNext", "chewing_cand_String",
                      "chewing_cand_String_static"]),
       ("interval_iter", ["chewing_Reset", "chewing_interval_Enumerate", "chewing_interval_hasNext", "chewing_interval_Get"]),
       ("userphrase_iter", ["chewing_Reset", "chewing_userphrase_enumerate", "chewing_userphrase_has_next",
                            "chewing_userphrase_get"])] := rfl

/-- functions classified as possibly mutating the user dictionary take the context mutably, and none of the
functions of the user-phrase protocol itself is among them -/
theorem dict_mut_sane :
    (∀ f ∈ dictMutFns, (exportedFns.find? (fun r => r.1 == f)).map (·.2.1) = some 2) ∧
    "chewing_userphrase_enumerate" ∉ dictMutFns ∧ "chewing_userphrase_has_next" ∉ dictMutFns ∧
    "chewing_userphrase_get" ∉ dictMutFns := by decide +kernel

/-- every call that is not `chewing_free`: the operations on the FOUR stored iterators (candidates, intervals,
keyboard types, user phrases) and every call without an arm of its own -/
def IsCollectedOp (op : Op) : Prop := ∀ a, op ≠ .free a

/-- **collected_iters_safe**: the candidate, interval, keyboard-type AND user-phrase iterators own their data — in
EVERY state of the context (after any history, mutating calls included) every operation on them is defined. -/
theorem collected_iters_safe (c : Ctx) (op : Op) (h : IsCollectedOp op) : ∃ c' r, step c op = .ok (c', r) :=
  step_collected_ok c op h

/-- undefined behaviour can only arise at `chewing_free` (and only on a registry that names a block which is not a
live result of that kind — never the case after a history, see `history_defined`) -/
theorem ub_only_at (c : Ctx) (op : Op) (s : String) (h : step c op = .ub s) : ∃ a, op = .free a := by
  by_cases h3 : ∃ a, op = .free a
  · exact h3
  · exfalso
    obtain ⟨c', r, hs⟩ := step_collected_ok c op (fun a ha => h3 ⟨a, ha⟩)
    rw [hs] at h; cases h

/-- **history_defined** — the FULL statement of the ownership half of C15: NO history of calls, in any order, of any
length, with any arguments (any pointer passed to `chewing_free`, any address handed out by the allocator), makes the
context use an invalid object.  No premise. -/
theorem history_defined (ops : List Op) : ∃ c rs, run init ops = .ok (c, rs) := by
  obtain ⟨c, rs, h, _⟩ := run_defined ops init regSound_init
  exact ⟨c, rs, h⟩

/-- FULL statement for the user-phrase enumeration: no history makes it touch a stale dictionary -/
def UserphraseIterSafe : Prop := ∀ ops, run init ops ≠ .ub "userphrase_iter"

/-- **userphrase_iter_safe** (finding F22 before the fix; holds at full strength, no excluded history) -/
theorem userphrase_iter_safe : UserphraseIterSafe := by
  intro ops h
  obtain ⟨c, rs, hr⟩ := history_defined ops
  rw [hr] at h; cases h

/-- F22 witness: enumerate, get, a key that learns (⇒ reload replaces the `Trie`), get -/
def witnessF22 : List Op := [.upEnumerate 3, .upGet, .mutate, .upGet]

/-- the code BEFORE `fix: chewing_userphrase_enumerate takes a snapshot …` (recorded as `fixed:`): the stored iterator
borrowed the dictionary, the witness history was undefined at its last call; `Peekable`'s cached entry was an owned
clone, so a `has_next` before the mutation made the NEXT `get` safe and the one after it undefined -/
theorem old_userphrase_iter_refuted :
    runWith stepBorrow init witnessF22 = .ub "userphrase_iter" ∧
    runWith stepBorrow init [.upEnumerate 3, .upHasNext, .mutate, .upGet, .upGet] = .ub "userphrase_iter" ∧
    (runWith stepBorrow init [.upEnumerate 3, .upHasNext, .mutate, .upGet]).results = some [0, 1, 0, 0] := by
  refine ⟨by decide +kernel, by decide +kernel, by decide +kernel⟩

/-- the same histories on the current code: defined, and the enumeration goes on over the snapshot of 3 entries -/
example : (run init witnessF22).results = some [0, 0, 0, 0] := by decide +kernel
example : (run init [.upEnumerate 3, .upHasNext, .mutate, .upGet, .upGet, .upGet, .upGet, .upHasNext]).results =
    some [0, 1, 0, 0, 0, 0, -1, 0] := by decide +kernel

/-- calls that write the stored user-phrase iterator -/
def touchesU : Op → Bool
  | .reset | .upEnumerate _ | .upHasNext | .upGet => true
  | _ => false

/-- **userphrase_iter_frame** (the enumeration is a SNAPSHOT taken at `chewing_userphrase_enumerate`): no other call —
learning keys, `chewing_userphrase_add` / `remove`, anything — changes the pending enumeration … -/
theorem userphrase_iter_frame (c : Ctx) (op : Op) (h : touchesU op = false) (c' : Ctx) (r : Res)
    (hs : step c op = .ok (c', r)) : c'.uiter = c.uiter :=
  step_uiter_frame c op (by cases op <;> simp_all [touchesU]) c' r hs

/-- … and what `has_next` / `get` answer and leave behind is a function of the pending enumeration alone -/
theorem userphrase_iter_local (c₁ c₂ : Ctx) (h : c₁.uiter = c₂.uiter) (op : Op) (hop : op = .upHasNext ∨ op = .upGet) :
    ∃ u r c₁' c₂', step c₁ op = .ok (c₁', r) ∧ step c₂ op = .ok (c₂', r) ∧ c₁'.uiter = u ∧ c₂'.uiter = u := by
  have h2 : c₂.uiter = c₁.uiter := h.symm
  rcases hop with rfl | rfl
  · simp only [step, h2]
    cases hu : c₁.uiter with
    | none => exact ⟨none, _, _, _, rfl, rfl, hu, by rw [h2, hu]⟩
    | some u => dsimp only; split <;> exact ⟨_, _, _, _, rfl, rfl, rfl, rfl⟩
  · simp only [step, h2]
    cases hu : c₁.uiter with
    | none => exact ⟨none, _, _, _, rfl, rfl, hu, by rw [h2, hu]⟩
    | some u => exact ⟨_, _, _, _, rfl, rfl, rfl, rfl⟩

/-- **kbtype_walk_total** (after `fix: chewing_kbtype_String stops at the end of the enumeration`): however often the
keyboard-type enumeration of `n` names is read, the first `n` reads deliver a name and EVERY later one the empty
string; the history is defined for every `m` -/
theorem kbtype_walk_total (n m : Nat) :
    ∃ c, run init (.kbEnumerate n :: List.replicate m .kbStringStatic) =
      .ok (c, 0 :: (List.replicate (min n m) 1 ++ List.replicate (m - n) 0)) := by
  obtain ⟨hw, hl⟩ := PeekVec.new_wf n
  obtain ⟨c, h⟩ := kb_walk_static m { init with kbt := some (PeekVec.new n) } (PeekVec.new n) rfl hw
  rw [hl] at h
  exact ⟨c, run_cons_ok rfl h⟩

/-- the code BEFORE that fix (recorded as `fixed:`): the counter was an un-fused `RangeFrom<u8>` that every read past
the end advanced again — the 256th pull after one `chewing_kbtype_Enumerate` overflowed it (abort in a debug build;
wrap-around and a second enumeration in a release build), for any number of valid layouts; 255 pulls were fine -/
theorem old_kbtype_counter_refuted (valid : Nat) :
    KbOld.pulls 256 { start := 0, valid := valid } = none ∧
    (KbOld.pulls 255 { start := 0, valid := 17 }).isSome = true :=
  ⟨KbOld.pulls_overflow valid, by decide +kernel⟩

/-- **history_ok** + **free_releases** along histories: if the allocator keeps its contract (`heapOkRun`: a fresh block
is never at the address of a live result; `chewing_free` has no precondition), then EVERY history — no discipline on the
order of calls — ends with exactly the live heap results registered, each under its true kind. -/
theorem history_ok (ops : List Op) (hh : heapOkRun init ops = true) :
    ∃ c rs, run init ops = .ok (c, rs) ∧ RegOK c :=
  run_ok ops init regOK_init hh

/-- **free_releases**: in a state where the registry and the live results agree (`RegOK`, an invariant of all
histories by `history_ok`), `chewing_free` of a live result is defined, releases exactly that block (as the kind
it was allocated with), forgets it, and keeps the invariant. -/
theorem free_releases (c : Ctx) (hr : RegOK c) (a : Nat) (k : Kind) (ha : a ≠ 0) (hl : lookup a c.live = some k) :
    lookup a c.owned = some k ∧
    ∃ c', step c (.free a) = .ok (c', 0) ∧ lookup a c'.live = none ∧ lookup a c'.owned = none ∧ RegOK c' ∧
      ∀ b, b ≠ a → lookup b c'.live = lookup b c.live := by
  obtain ⟨c', hs, hr', _, _, hrest, hgone⟩ := freeStep_ok c hr a
  exact ⟨(hr.1 a k hl).1, c', hs, (hgone ha).1, (hgone ha).2, hr', hrest⟩

/-- **chewing_free is total** (after `fix: chewing_free forgets …`): ANY pointer may be passed, any number of times —
NULL, a foreign pointer, the interior pointer of `chewing_get_selKey`, a pointer released before: it is either a live
result (released) or ignored; live results at other addresses are untouched. -/
theorem free_total (c : Ctx) (hr : RegOK c) (a : Nat) :
    ∃ c', step c (.free a) = .ok (c', 0) ∧ RegOK c' ∧ ∀ b, b ≠ a → lookup b c'.live = lookup b c.live := by
  obtain ⟨c', hs, hr', _, _, hrest, _⟩ := freeStep_ok c hr a
  exact ⟨c', hs, hr', hrest⟩

/-- releasing twice is harmless: the second call finds no entry -/
theorem free_twice (c : Ctx) (hr : RegOK c) (a : Nat) (ha : a ≠ 0) :
    ∃ c', step c (.free a) = .ok (c', 0) ∧ step c' (.free a) = .ok (c', 0) := by
  obtain ⟨c', hs, _, _, _, _, hgone⟩ := freeStep_ok c hr a
  refine ⟨c', hs, ?_⟩
  simp [step, freeStep, ha, (hgone ha).2]

/-- the code BEFORE that fix (recorded as `fixed:`): entries were never removed, so a pointer that is not a live
result but whose address equals a released result's — the allocator reuses addresses; `chewing_get_selKey` returns an
interior pointer of the context that the documentation tells the caller to pass to `chewing_free` — was released
again: result at 1000 released, then `chewing_free(1000)` for a block the library does not own -/
theorem stale_registry_refuted :
    ∃ c, (match stepOld init (.heapGet 1000 .cstring) with
          | .ok (c1, _) => (match stepOld c1 (.free 1000) with | .ok (c2, _) => some c2 | _ => none)
          | _ => none) = some c ∧
      stepOld c (.free 1000) = .ub "free-not-live" := by
  refine ⟨_, rfl, ?_⟩
  decide +kernel

/-! ## Non-vacuity -/

/-- a history satisfying the premise of `history_ok` that exercises every kind of call: enumerations of all four kinds
interleaved, mutations INSIDE the user-phrase window, heap results of both kinds released -/
def sampleHistory : List Op :=
  [.mutate, .upEnumerate 2, .candEnumerate true 3, .upHasNext, .candHasNext true, .candString 1000, .mutate, .upGet,
   .intvEnumerate 1, .kbEnumerate 17, .kbString 1008, .free 1000, .mutate, .upGet, .upHasNext, .mutate, .candString 1000,
   .heapGet 1016 (.u16slice 4), .heapGet 2 (.u16slice 0), .free 1016, .free 2, .free 77, .free 1016, .free 0,
   .intvGet, .intvGet, .upEnumerate 1, .mutate, .upGet, .free 1008, .free 1000, .free 1000]

example : heapOkRun init sampleHistory = true := by decide +kernel

/-- `userphrase_iter_frame` applies to the mutating calls -/
example : touchesU .mutate = false ∧ touchesU (.free 5) = false ∧ touchesU (.heapGet 8 .cstring) = false := by decide

example : IsText [0x6E2C, 0x8A66, 97, 0x20000] := by
  intro c hc; simp at hc; rcases hc with h | h | h | h <;> subst h <;> exact ⟨by unfold IsScalar; omega, by omega⟩

/-- truncation at a character boundary, concretely: `測試a𠀀` (3+3+1+4 bytes) into 9 bytes keeps `測試a` -/
example : cText (copyCstr 9 (utf8Encode [0x6E2C, 0x8A66, 97, 0x20000])) = some (utf8Encode [0x6E2C, 0x8A66, 97]) := by
  decide +kernel

end Chewing.C15
