import Chewing.Proofs.EditorKey
import Chewing.Proofs.EditorBell
import Chewing.Proofs.EditorCursor
import Chewing.Model.Candidates
/-!
# C06 — Keys are passed through when nothing is being composed; key results are truthful

Model: `Chewing.Model.Editor` (`Editor.processKey` = `BasicEditor::process_keyevent`), validated per
step against the real editor from its own pre-state (harness `editor`, hook H1).  The theorems hold
for EVERY environment `env` (dictionary, phonetic layout, conversion engine, estimator): they are
facts about the editor's own control flow.

Reading.  *Persistent* observables: state kind and selector, composition editor (symbols, gaps,
selections, cursor, saved cursors), phonetic buffer, options, installed engine, chosen alternative
(`nth`).  Per-key outputs (notice buffer, commit buffer) are reset at the start of every key (the
commit buffer unconditionally since the F29 fix), so after an ignored key nothing is committed.
"Nothing is being composed" is formalised as: state `Entering` with an empty pre-edit.  On the
unchanged tree both buffers could also be empty in `EnteringSyllable` (after an API call or a Pinyin
key emptied the phonetic buffer) and Enter etc. were answered with *bell* (F37); repaired by a
`fix:` commit, the model follows the repaired code, and `f37_history_now_ignored` replays the former
counter-example history.  With a candidate list or a highlight open something *is* being composed.
-/
namespace Chewing.C06

variable {D L : Type} (env : Env D L)

/-- exactly one of the four results is reported (the result is one value of a four-valued type) -/
theorem result_exclusive (b : KB) :
    (b = .ignore ∨ b = .commit ∨ b = .bell ∨ b = .absorb) ∧
    (KB.ignore ≠ KB.commit ∧ KB.ignore ≠ KB.bell ∧ KB.ignore ≠ KB.absorb ∧
     KB.commit ≠ KB.bell ∧ KB.commit ≠ KB.absorb ∧ KB.bell ≠ KB.absorb) := by
  refine ⟨?_, by decide⟩
  cases b <;> simp

/-- the shared state right after the state machine answered *bell* (before the dictionary flush): the pre-state
    after the preamble, except `last`, and — only in the named arms — the phonetic buffer and the notification -/
structure BellEffect (e : Editor D L) (ev : KeyEvent) (sh : Shared D L) : Prop where
  rest : sh = { preamble e.shared with last := .bell, syl := sh.syl, noticeBuf := sh.noticeBuf }
  syl : sh.syl = e.shared.syl ∨
    (bellAsksLayout e.state e.shared ev = true ∧ rejected e.state (layoutAnswer env e.state e.shared ev).1 = true ∧
      sh.syl = (layoutAnswer env e.state e.shared ev).2)
  notice : sh.noticeBuf = [] ∨
    (bellMayNotify e.state ev = true ∧ (sh.noticeBuf = Shared.msgFail ∨ ∃ p, sh.noticeBuf = Shared.msgExists p))

/-- what the state machine part of a key leaves alone when it answers *ignore* (shared state and state value are
    exactly the pre-state after the preamble, `last` recorded) or *bell* (the state value is the pre-state's and the
    shared state is as `BellEffect` says) -/
def QuietStep (e : Editor D L) (ev : KeyEvent) (x : Shared D L × St) : Prop :=
  (x.1.last = .ignore → x.1 = { preamble e.shared with last := .ignore } ∧ x.2 = e.state) ∧
  (x.1.last = .bell → x.2 = e.state ∧ BellEffect env e ev x.1)

/-- `QuietStep` from what the two answers promise of a state's `next` (`Truthful`, `Proofs/EditorBell.lean`): the state
    value `st` handed to the transition is the editor's whenever the answer is *ignore* or *bell* -/
theorem quiet_of_truthful {e : Editor D L} {ev : KeyEvent} {sh' : Shared D L} {st : St} {t : Trans}
    (h : (t = .spin .ignore → sh' = preamble e.shared) ∧
      (t = .spin .bell → Near (BellP env e.state (preamble e.shared) ev) (preamble e.shared) sh'))
    (hst : t = .spin .ignore ∨ t = .spin .bell → st = e.state) :
    QuietStep env e ev (applyTrans sh' st t) := by
  refine ⟨fun hl => ?_, fun hl => ?_⟩
  · cases applyTrans_last (by decide) hl
    cases h.1 rfl
    exact ⟨rfl, hst (.inl rfl)⟩
  · cases applyTrans_last (by decide) hl
    obtain ⟨hn, hsyl, hno⟩ := h.2 rfl
    exact ⟨hst (.inr rfl), congrArg (fun x : Shared D L => { x with last := KB.bell }) hn, hsyl, hno⟩

theorem dispatch_quiet {e : Editor D L} {ev : KeyEvent} {sh : Shared D L} {st : St}
    (h : dispatch env e ev = .ok (sh, st)) :
    (sh.last = .ignore → sh = { preamble e.shared with last := .ignore } ∧ st = e.state) ∧
    (sh.last = .bell → st = e.state ∧ BellEffect env e ev sh) :=
  dispatch_all env (Q := QuietStep env e ev)
    (fun hs sh' t hr => quiet_of_truthful env (hs ▸ truthful_enteringNext env _ ev sh' t hr) fun _ => hs.symm)
    (fun hs sh' t hr => quiet_of_truthful env (hs ▸ truthful_enteringSyllableNext env _ ev sh' t hr) fun _ => hs.symm)
    (fun s hs r hr =>
      -- `Selecting` answers *ignore* and *bell* with the shared state and the list it was given
      have hq := selectingNext_quiet env s _ ev r hr
      quiet_of_truthful env ⟨fun ht => (hq (.inl ht)).1, fun ht => (hq (.inr ht)).1 ▸ near_self env _ _ ev⟩
        fun ht => by rw [(hq ht).2, hs])
    (fun m _ x hr =>
      have hf := highlighting_no_ignore_bell env m _ ev _ hr
      quiet_of_truthful env ⟨fun ht => absurd ht hf.1, fun ht => absurd ht hf.2⟩
        fun ht => ht.elim (absurd · hf.1) (absurd · hf.2))
    _ h

/-- **C06, ignore.**  A key reported as *ignored* changes nothing: the state, the whole composition
    editor, the phonetic buffer, every option, the engine and the chosen alternative are exactly as
    before; the per-key outputs are reset as for every key; a dirty user dictionary is flushed. -/
theorem ignore_frame {e e' : Editor D L} {ev : KeyEvent}
    (h : e.processKey env ev = .ok (e', .ignore)) :
    e'.state = e.state ∧
    e'.shared = (if (preamble e.shared).dirty > 0
      then { preamble e.shared with last := .ignore, dict := env.reopenFlush (preamble e.shared).dict, dirty := 0 }
      else { preamble e.shared with last := .ignore }) := by
  obtain ⟨sh, hd, hl, hsh⟩ := processKey_quiet env (.inl rfl) h
  obtain ⟨h1, h2⟩ := (dispatch_quiet env hd).1 hl
  exact ⟨h2, by rw [hsh, h1]⟩

/-- the persistent observables are untouched by an ignored key (corollary in field form) -/
theorem ignore_persistent {e e' : Editor D L} {ev : KeyEvent}
    (h : e.processKey env ev = .ok (e', .ignore)) :
    e'.state = e.state ∧ e'.shared.com = e.shared.com ∧ e'.shared.syl = e.shared.syl ∧
    e'.shared.options = e.shared.options ∧ e'.shared.engine = e.shared.engine ∧
    e'.shared.nth = e.shared.nth ∧ e'.shared.noticeBuf = [] ∧ e'.shared.commitBuf = [] ∧
    (e'.shared.dict = e.shared.dict ∨ (0 < e.shared.dirty ∧ e'.shared.dict = env.reopenFlush e.shared.dict)) := by
  obtain ⟨hst, hsh⟩ := ignore_frame env h
  rw [hsh]
  split
  · next hd => exact ⟨hst, rfl, rfl, rfl, rfl, rfl, rfl, rfl, .inr ⟨hd, rfl⟩⟩
  · exact ⟨hst, rfl, rfl, rfl, rfl, rfl, rfl, rfl, .inl rfl⟩

/-! ### an ignored key and the open candidate list

`ignore_frame` is about the WHOLE state value `e.state : St`: for an open list that is the page number, the action
(insert / replace) and the selector itself (phrase range, direction, strategy and the copy of the buffer it works
on; the symbol table's sub-menu; the symbol of a special-symbol list), and about the whole shared state apart from
the documented volatile fields (`last` = the answer, the per-key outputs `commitBuf` / `noticeBuf` reset to empty,
the clock `time`, and `dict` / `dirty` when a pending flush is carried out).  The corollaries below spell this out
for the open list and for what the candidate getters (`Model/Candidates.lean`) answer. -/

/-- an ignored key leaves an open list exactly as it was: same page, same action, same selector -/
theorem ignore_keeps_open_list {e e' : Editor D L} {ev : KeyEvent}
    (h : e.processKey env ev = .ok (e', .ignore)) (s : Selecting) (hs : e.state = .selecting s) :
    e'.state = .selecting s ∧
    (∀ s', e'.state = .selecting s' → s'.pageNo = s.pageNo ∧ s'.action = s.action ∧ s'.sel = s.sel) := by
  have h1 := (ignore_frame env h).1
  rw [hs] at h1
  refine ⟨h1, fun s' hs' => ?_⟩
  rw [h1] at hs'; cases hs'; exact ⟨rfl, rfl, rfl⟩

/-- … and never opens or closes one -/
theorem ignore_keeps_list_closed {e e' : Editor D L} {ev : KeyEvent}
    (h : e.processKey env ev = .ok (e', .ignore)) (hs : ∀ s, e.state ≠ .selecting s) :
    ∀ s, e'.state ≠ .selecting s := by
  intro s; rw [(ignore_frame env h).1]; exact hs s

/-- reopening + flushing the dictionary `d` does not change what lookups answer (C09 / C10 prove this of the
    real dictionaries; here it is a premise, needed only when a flush is pending) -/
def FlushNeutralAt (d : D) : Prop :=
  ∀ k st, env.lookupAll (env.reopenFlush d) k st = env.lookupAll d k st

/-- the candidates of a list depend on the dictionary only through its lookup answers -/
theorem candidates_dict_congr (s : Selecting) {sh sh' : Shared D L} (hsyl : sh'.syl = sh.syl)
    (hd : ∀ k st, env.lookupAll sh'.dict k st = env.lookupAll sh.dict k st) :
    Selecting.candidates env s sh' = Selecting.candidates env s sh :=
  candidates_of_lookups env s hd fun _ => by rw [hsyl]

/-- the candidate getters read the state value, the options and, for an open list, its candidates -/
theorem getters_congr {e e' : Editor D L} (hst : e'.state = e.state) (hopt : e'.shared.options = e.shared.options)
    (hc : ∀ s, e.state = .selecting s → Selecting.candidates env s e'.shared = Selecting.candidates env s e.shared) :
    e'.currentPageNo = e.currentPageNo ∧ e'.allCandidates env = e.allCandidates env ∧
    e'.paginatedCandidates env = e.paginatedCandidates env ∧ e'.totalPage env = e.totalPage env := by
  unfold Editor.currentPageNo Editor.allCandidates Editor.paginatedCandidates Editor.totalPage Selecting.totalPage
  rw [hst]
  cases hs : e.state with
  | selecting s => simp only [hc s hs, hopt, and_self]
  | _ => exact ⟨rfl, rfl, rfl, rfl⟩

/-- … and the C functions read those getters and `candidates_per_page` -/
theorem capi_getters_congr {e e' : Editor D L} (hopt : e'.shared.options = e.shared.options)
    (h1 : e'.currentPageNo = e.currentPageNo) (h2 : e'.allCandidates env = e.allCandidates env)
    (h3 : e'.paginatedCandidates env = e.paginatedCandidates env) (h4 : e'.totalPage env = e.totalPage env) :
    CApi.currentPage e' = CApi.currentPage e ∧ CApi.choicePerPage e' = CApi.choicePerPage e ∧
    CApi.totalChoice env e' = CApi.totalChoice env e ∧ CApi.totalPage env e' = CApi.totalPage env e ∧
    CApi.enumerate env e' = CApi.enumerate env e := by
  unfold CApi.currentPage CApi.choicePerPage CApi.totalChoice CApi.totalPage CApi.enumerate
  rw [hopt, h1, h2, h3, h4]
  exact ⟨rfl, rfl, rfl, rfl, rfl⟩

/-- lookups after a key that at most flushed the dictionary -/
theorem lookups_kept {d d' : D} {dirty : Nat} (hd : d' = d ∨ (0 < dirty ∧ d' = env.reopenFlush d))
    (hfl : 0 < dirty → FlushNeutralAt env d) : ∀ k st, env.lookupAll d' k st = env.lookupAll d k st := by
  intro k st
  rcases hd with rfl | ⟨hpos, rfl⟩
  · rfl
  · exact hfl hpos k st

/-- **C06, ignore, as the getters see it.**  After an ignored key `current_page_no`, `all_candidates`,
    `paginated_candidates` and `total_page` (hence `chewing_cand_CurrentPage / TotalChoice / TotalPage /
    ChoicePerPage / Enumerate`) answer exactly what they answered before — for every environment; if a dictionary
    flush is pending (`dirty > 0`, which no key leaves behind) the flush must not change lookup answers. -/
theorem ignore_keeps_candidates {e e' : Editor D L} {ev : KeyEvent}
    (h : e.processKey env ev = .ok (e', .ignore))
    (hfl : 0 < e.shared.dirty → FlushNeutralAt env e.shared.dict) :
    e'.currentPageNo = e.currentPageNo ∧
    e'.allCandidates env = e.allCandidates env ∧
    e'.paginatedCandidates env = e.paginatedCandidates env ∧
    e'.totalPage env = e.totalPage env ∧
    CApi.currentPage e' = CApi.currentPage e ∧ CApi.choicePerPage e' = CApi.choicePerPage e ∧
    CApi.totalChoice env e' = CApi.totalChoice env e ∧ CApi.totalPage env e' = CApi.totalPage env e ∧
    CApi.enumerate env e' = CApi.enumerate env e := by
  obtain ⟨hst, _, hsyl, hopt, _, _, _, _, hdict⟩ := ignore_persistent env h
  obtain ⟨h1, h2, h3, h4⟩ := getters_congr env hst hopt fun s _ =>
    candidates_dict_congr env s hsyl (lookups_kept env hdict hfl)
  exact ⟨h1, h2, h3, h4, capi_getters_congr env hopt h1 h2 h3 h4⟩

/-! ### a bell and everything else the user can observe

Below: the WHOLE state value and the whole shared state after a key answered *bell*, exactly (`bell_effect`), and the
user-visible corollary `bell_keeps_display`: state kind, open list (selector, range, page, action), pre-edit, cursor
and saved cursors, chosen alternative, options, engine, the displayed text and every candidate getter answer as
before — for every environment and every state of all four kinds.  The two things a bell does change are named arm by
arm (`Proofs/EditorBell.lean`): the layout's own state after a key it rejected (the arms that ask the layout first),
and the notification of a failed Ctrl-digit "add phrase". -/

/-- **C06, bell, exactly.**  A key answered with *bell* leaves the state value as it was (state kind; for an open
    list its selector, range, action and page; for a highlight its mark), and the shared state is the pre-state
    after the preamble (per-key outputs reset, clock ticked) with `last = bell`, up to the two named effects and
    the flush of a dirty dictionary. -/
theorem bell_effect {e e' : Editor D L} {ev : KeyEvent}
    (h : e.processKey env ev = .ok (e', .bell)) :
    e'.state = e.state ∧
    ∃ sh, BellEffect env e ev sh ∧
      e'.shared = if sh.dirty > 0 then { sh with dict := env.reopenFlush sh.dict, dirty := 0 } else sh := by
  obtain ⟨sh, hd, hl, hsh⟩ := processKey_quiet env (.inr rfl) h
  obtain ⟨h1, h2⟩ := (dispatch_quiet env hd).2 hl
  exact ⟨h1, sh, h2, hsh⟩

/-- the persistent fields after a bell (corollary in field form) -/
theorem bell_persistent {e e' : Editor D L} {ev : KeyEvent}
    (h : e.processKey env ev = .ok (e', .bell)) :
    e'.state = e.state ∧ e'.shared.com = e.shared.com ∧ e'.shared.options = e.shared.options ∧
    e'.shared.engine = e.shared.engine ∧ e'.shared.nth = e.shared.nth ∧ e'.shared.abbr = e.shared.abbr ∧
    e'.shared.symSel = e.shared.symSel ∧ e'.shared.commitBuf = [] ∧
    (e'.shared.dict = e.shared.dict ∨ (0 < e.shared.dirty ∧ e'.shared.dict = env.reopenFlush e.shared.dict)) ∧
    (e'.shared.syl = e.shared.syl ∨
      (bellAsksLayout e.state e.shared ev = true ∧ rejected e.state (layoutAnswer env e.state e.shared ev).1 = true ∧
        e'.shared.syl = (layoutAnswer env e.state e.shared ev).2)) ∧
    (e'.shared.noticeBuf = [] ∨
      (bellMayNotify e.state ev = true ∧
        (e'.shared.noticeBuf = Shared.msgFail ∨ ∃ p, e'.shared.noticeBuf = Shared.msgExists p))) := by
  obtain ⟨hst, sh, hE, hsh⟩ := bell_effect env h
  rw [hsh, hE.rest]
  split
  · next hd => exact ⟨hst, rfl, rfl, rfl, rfl, rfl, rfl, rfl, .inr ⟨hd, rfl⟩, hE.syl, hE.notice⟩
  · exact ⟨hst, rfl, rfl, rfl, rfl, rfl, rfl, rfl, .inl rfl, hE.syl, hE.notice⟩

/-- **C06, bell.**  A key answered with *bell* leaves pre-edit symbols, gaps, selections, cursor and
    saved cursors unchanged. -/
theorem bell_frame {e e' : Editor D L} {ev : KeyEvent}
    (h : e.processKey env ev = .ok (e', .bell)) : e'.shared.com = e.shared.com :=
  (bell_persistent env h).2.1

/-- reopening + flushing the dictionary `d` does not change what the conversion engines answer (needed only when a
    flush is pending, which no key leaves behind) -/
def ConvFlushNeutralAt (d : D) : Prop :=
  ∀ k c, env.convert k (env.reopenFlush d) c = env.convert k d c

/-- what the user can observe of the pre-edit, the cursor and an open list, before (`e`) and after (`e'`) -/
structure SameView (e e' : Editor D L) : Prop where
  /-- state kind; an open list's selector (phrase range, direction, …), action and page; a highlight's mark -/
  state : e'.state = e.state
  /-- symbols, gaps, selections, cursor and saved cursors -/
  com : e'.shared.com = e.shared.com
  /-- the chosen conversion alternative -/
  nth : e'.shared.nth = e.shared.nth
  options : e'.shared.options = e.shared.options
  engine : e'.shared.engine = e.shared.engine
  /-- the conversion and the displayed pre-edit text -/
  conversion : Shared.conversion env e'.shared = Shared.conversion env e.shared
  display : Shared.display env e'.shared = Shared.display env e.shared
  /-- the candidate getters -/
  pageNo : e'.currentPageNo = e.currentPageNo
  all : e'.allCandidates env = e.allCandidates env
  paginated : e'.paginatedCandidates env = e.paginatedCandidates env
  totalPage : e'.totalPage env = e.totalPage env

/-- **C06, bell, as the user sees it.**  For every environment, every state (all four kinds) and every key answered
    with *bell*: state kind, open list (selector, range, action, page), pre-edit, cursor, saved cursors, chosen
    alternative, options and engine are unchanged, `display()` shows the same text and `current_page_no`,
    `all_candidates`, `paginated_candidates`, `total_page` answer the same.  (If a dictionary flush is pending —
    `dirty > 0`, which no key leaves behind — the flush must not change lookup / conversion answers.) -/
theorem bell_keeps_display {e e' : Editor D L} {ev : KeyEvent}
    (h : e.processKey env ev = .ok (e', .bell))
    (hfl : 0 < e.shared.dirty → FlushNeutralAt env e.shared.dict ∧ ConvFlushNeutralAt env e.shared.dict) :
    SameView env e e' := by
  obtain ⟨hst, hcom, hopt, heng, hnth, _, _, _, hdict, hsyl, _⟩ := bell_persistent env h
  have hcv : Shared.conversion env e'.shared = Shared.conversion env e.shared := by
    unfold Shared.conversion
    rw [hcom, hnth, heng]
    rcases hdict with hd | ⟨hpos, hd⟩
    · rw [hd]
    · rw [hd, (hfl hpos).2]
  -- an open list: the arms that ask the layout are not `Selecting` arms, so the phonetic buffer is the same there
  obtain ⟨h1, h2, h3, h4⟩ := getters_congr env hst hopt fun s hs =>
    candidates_dict_congr env s (hsyl.elim id fun h1 => by rw [hs] at h1; cases h1.1)
      (lookups_kept env hdict fun hpos => (hfl hpos).1)
  exact ⟨hst, hcom, hnth, hopt, heng, hcv, by unfold Shared.display; rw [hcv], h1, h2, h3, h4⟩

theorem bell_keeps_capi_getters {e e' : Editor D L} {ev : KeyEvent}
    (h : e.processKey env ev = .ok (e', .bell))
    (hfl : 0 < e.shared.dirty → FlushNeutralAt env e.shared.dict ∧ ConvFlushNeutralAt env e.shared.dict) :
    CApi.currentPage e' = CApi.currentPage e ∧ CApi.choicePerPage e' = CApi.choicePerPage e ∧
    CApi.totalChoice env e' = CApi.totalChoice env e ∧ CApi.totalPage env e' = CApi.totalPage env e ∧
    CApi.enumerate env e' = CApi.enumerate env e :=
  have v := bell_keeps_display env h hfl
  capi_getters_congr env v.options v.pageNo v.all v.paginated v.totalPage

/-! #### the phonetic buffer after a bell

The arms that hand the key to the phonetic layout before they bell keep whatever state the layout is in after the
rejected key.  The editor's code does not undo it, so "the phonetic buffer is unchanged by a bell" is a fact about
the LAYOUT (it must not change state on a key it rejects), not about the editor: over the model's arbitrary
environment the unconditional statement is false (`bell_keeps_phonetic_anyLayout_refuted`), and it holds exactly
under `LayoutQuietAt` (`bell_keeps_phonetic`).  On the shipped layouts the harness oracle checks it on every step
answered with a bell. -/

/-- the layout, asked by the arm that went on to bell, left its state alone when it rejected this key -/
def LayoutQuietAt (e : Editor D L) (ev : KeyEvent) : Prop :=
  bellAsksLayout e.state e.shared ev = true → rejected e.state (layoutAnswer env e.state e.shared ev).1 = true →
    (layoutAnswer env e.state e.shared ev).2 = e.shared.syl

/-- full statement: a bell never changes the phonetic buffer, whatever the layout -/
def BellKeepsPhoneticAnyLayout : Prop :=
  ∀ {D L : Type} (env : Env D L) (e e' : Editor D L) (ev : KeyEvent),
    e.processKey env ev = .ok (e', .bell) → e'.shared.syl = e.shared.syl

/-- partial statement: … whenever the layout does not change state on the key it rejects -/
theorem bell_keeps_phonetic {e e' : Editor D L} {ev : KeyEvent}
    (h : e.processKey env ev = .ok (e', .bell)) (hq : LayoutQuietAt env e ev) :
    e'.shared.syl = e.shared.syl := by
  obtain ⟨_, _, _, _, _, _, _, _, _, hsyl, _⟩ := bell_persistent env h
  rcases hsyl with h1 | ⟨h1, h2, h3⟩
  · exact h1
  · rw [h3]; exact hq h1 h2

/-- … and outside the arms that ask the layout (an open list, a highlight, `Entering` in English mode or with a
    modifier) unconditionally -/
theorem bell_keeps_phonetic_of_not_asked {e e' : Editor D L} {ev : KeyEvent}
    (h : e.processKey env ev = .ok (e', .bell)) (hn : bellAsksLayout e.state e.shared ev = false) :
    e'.shared.syl = e.shared.syl :=
  bell_keeps_phonetic env h (fun h1 => by rw [hn] at h1; cases h1)

/-- the notification after a bell is empty except after Ctrl + digit in `Entering` -/
theorem bell_notice_empty {e e' : Editor D L} {ev : KeyEvent}
    (h : e.processKey env ev = .ok (e', .bell)) (hn : bellMayNotify e.state ev = false) :
    e'.shared.noticeBuf = [] := by
  obtain ⟨_, _, _, _, _, _, _, _, _, _, hno⟩ := bell_persistent env h
  rcases hno with h1 | ⟨h1, _⟩
  · exact h1
  · rw [hn] at h1; cases h1

/-- the keys the property names: Enter, Esc, Tab, Backspace, Delete, arrows, Home, End, PageUp, PageDown -/
def IdleKey (c : Nat) : Prop :=
  c = KC.enter ∨ c = KC.esc ∨ c = KC.tab ∨ c = KC.backspace ∨ c = KC.del ∨ c = KC.left ∨ c = KC.right ∨
  c = KC.up ∨ c = KC.down ∨ c = KC.home ∨ c = KC.end_ ∨ c = KC.pageUp ∨ c = KC.pageDown

/-- none of the named keys is the CapsLock pseudo-key or a digit; Backspace and Delete have arms of their own in
    `Entering::next`, the other eleven are the keys it ignores on an empty buffer -/
theorem idleKey_cases {c : Nat} (hk : IdleKey c) :
    c ≠ KC.unknown ∧ isDigitCode c = false ∧ (c = KC.backspace ∨ c = KC.del ∨ isIdleKey c = true) := by
  unfold IdleKey at hk
  rcases hk with h | h | h | h | h | h | h | h | h | h | h | h | h <;> subst h <;> decide

theorem entering_idle {sh : Shared D L} {ev : KeyEvent} (hempty : sh.com.isEmpty = true)
    (hcur : sh.com.cursor ≤ sh.com.len) (hk : IdleKey ev.code) :
    enteringNext env sh ev = .ok (sh, .spin .ignore) := by
  obtain ⟨hu, hdig, hk⟩ := idleKey_cases hk
  rcases hk with hb | hd | hi
  · rw [enteringNext_backspace env hb]
    exact if_pos hempty
  · -- Delete is not among the keys of the *ignore* arm; its own arm ignores it at the end of the buffer
    have heob : sh.com.isEob = true := by
      have hlen : sh.com.inner.len = 0 := eq_of_beq hempty
      simp only [CompEditor.len, hlen, Nat.le_zero_eq] at hcur
      simp only [CompEditor.isEob, hlen, hcur, beq_self_eq_true]
    rw [enteringNext_del env hd]
    exact if_pos heob
  · unfold enteringNext
    rw [if_neg, if_neg (by simp [hu]), if_neg (by simp [hdig]), if_pos (by simp [hi, hempty])]
    rintro hb
    rw [beq_iff_eq.mp hb] at hi
    cases hi

/-- **C06, pass-through.**  With nothing being composed (state `Entering`, empty pre-edit) each of the
    thirteen named keys, with any modifiers, is reported as *ignored* — and by `ignore_frame` nothing
    changes and nothing is committed. -/
theorem idle_passthrough {e : Editor D L} {ev : KeyEvent} (hs : e.state = .entering)
    (hempty : e.shared.com.isEmpty = true) (hcur : e.shared.com.cursor ≤ e.shared.com.len)
    (hk : IdleKey ev.code) :
    ∃ e', e.processKey env ev = .ok (e', .ignore) := by
  have h1 : enteringNext env (preamble e.shared) ev = .ok (preamble e.shared, .spin .ignore) :=
    entering_idle env hempty hcur hk
  rw [processKey_eq]
  unfold dispatch
  rw [hs]
  simp only [h1, Outcome.map, applyTrans, tail]
  have : (KB.ignore == KB.absorb) = false := by decide
  simp only [this, Bool.and_false, Bool.false_eq_true, if_false]
  split <;> exact ⟨_, rfl⟩

/-! ### F37: both buffers empty does not imply `Entering` (known finding) -/

/-- a minimal environment: the layout absorbs key `H` (code 32) into a one-key buffer and rejects
    everything else; no dictionary, no conversion -/
def toyEnv : Env Unit Nat where
  lookupAll _ _ _ := []
  userLookupAll _ _ _ := []
  addPhrase _ _ _ := some ()
  updatePhrase _ _ _ _ _ := ()
  removePhrase _ _ _ := ()
  reopenFlush _ := ()
  convert _ _ _ := .ok [[]]
  estimate _ f _ := .ok f
  keyPress l ev := if ev.code = 32 then (.absorb, 1) else (.keyError, l)
  fuzzyKeyPress l ev := if ev.code = 32 then (.absorb, 1) else (.keyError, l)
  removeLast _ := 0
  clearSyl _ := 0
  sylIsEmpty l := l == 0
  read l := l
  altSyllables _ _ := []

def toyEditor : Editor Unit Nat := { shared := { syl := 0, dict := () } }

/-- the former counter-example (F37): type `h`, clear the phonetic buffer through the API, press Enter.
    On the repaired code the editor is back in `Entering` and Enter is ignored. -/
theorem f37_history_now_ignored :
    ∃ (e : Editor Unit Nat) (e' : Editor Unit Nat),
      toyEditor.run toyEnv [.key { index := 32, code := 32, unicode := 104 }, .clearSyl] = .ok e ∧
      e.state = .entering ∧
      e.processKey toyEnv { index := 50, code := KC.enter, unicode := 65533 } = .ok (e', .ignore) := by
  refine ⟨_, _, rfl, ?_, rfl⟩; decide

/-! ### non-vacuity -/

example : ∃ e', toyEditor.processKey toyEnv { index := 50, code := KC.enter, unicode := 65533 } = .ok (e', .ignore) :=
  idle_passthrough toyEnv rfl (by decide) (by decide) (Or.inl rfl)

/-- an editor whose symbol table has three entries, shown one per page -/
def pagedEditor : Editor Unit Nat :=
  { shared := { syl := 0, dict := (), options := { candidatesPerPage := 1 },
                symSel := { category := [([8230], none), ([8251], none), ([65292], none)] } } }

def keyGrave : KeyEvent := { index := 14, code := KC.grave, unicode := 96 }
def keyRight : KeyEvent := { index := 55, code := KC.right, unicode := 65533 }
def keyJ : KeyEvent := { index := 33, code := KC.j, unicode := 106 }
def keyK : KeyEvent := { index := 34, code := KC.k, unicode := 107 }

/-- the history behind the seeded change "ignored j / k resets the page": the symbol table opened on an EMPTY
    buffer, paged forward once; `j` (and `k`) is ignored there and the list is still on page 1 of 3 -/
theorem ignored_j_on_second_page :
    ∃ (e e' : Editor Unit Nat),
      pagedEditor.run toyEnv [.key keyGrave, .key keyRight] = .ok e ∧
      e.shared.com.isEmpty = true ∧ e.currentPageNo = some 1 ∧ e.totalPage toyEnv = .ok (some 3) ∧
      e.processKey toyEnv keyJ = .ok (e', .ignore) ∧
      e'.currentPageNo = some 1 ∧ e'.totalPage toyEnv = .ok (some 3) ∧
      e'.paginatedCandidates toyEnv = .ok (some [[8251], [65292]]) := by
  refine ⟨_, _, rfl, ?_, ?_, ?_, rfl, ?_, ?_, ?_⟩ <;> decide

example : ∃ e e', pagedEditor.run toyEnv [.key keyGrave, .key keyRight] = .ok e ∧
    e.processKey toyEnv keyK = .ok (e', .ignore) ∧ e'.currentPageNo = some 1 := by
  refine ⟨_, _, rfl, rfl, ?_⟩; decide

/-- `ignore_keeps_candidates` applies to it (its premises hold: the key is ignored, no flush is pending) -/
example (e e' : Editor Unit Nat) (_ : pagedEditor.run toyEnv [.key keyGrave, .key keyRight] = .ok e)
    (h : e.processKey toyEnv keyJ = .ok (e', .ignore)) :
    e'.currentPageNo = e.currentPageNo ∧ e'.paginatedCandidates toyEnv = e.paginatedCandidates toyEnv :=
  have hk := ignore_keeps_candidates toyEnv h (fun _ _ _ => rfl)
  ⟨hk.1, hk.2.2.1⟩

/-! ### bell: witnesses and non-vacuity -/

/-- a layout that counts the keys it rejects: `H` (code 32) is absorbed, every other key is a key error AND moves
    the layout state on -/
def countingEnv : Env Unit Nat :=
  { toyEnv with keyPress := fun l ev => if ev.code = 32 then (.absorb, 1) else (.keyError, l + 1) }

/-- a key no arm has a use for: no character, no modifiers -/
def keyNoChar : KeyEvent := { index := 0, code := KC.unknown, unicode := 65533 }

/-- the unconditional statement about the phonetic buffer is false over arbitrary layouts: the counting layout
    rejects the key (key error), the editor bells and keeps the layout's new state -/
theorem bell_keeps_phonetic_anyLayout_refuted : ¬ BellKeepsPhoneticAnyLayout := by
  intro hall
  have h : (1 : Nat) = 0 := hall countingEnv toyEditor _ keyNoChar rfl
  cases h

/-- … and that is exactly the excluded class: `LayoutQuietAt` fails there -/
example : ¬ LayoutQuietAt countingEnv toyEditor keyNoChar := by
  intro h; have := h rfl rfl; cases this

/-- `Entering`: a key without a character is answered with a bell (layout asked, key rejected) -/
example : ∃ e', toyEditor.processKey toyEnv keyNoChar = .ok (e', .bell) ∧
    bellAsksLayout toyEditor.state toyEditor.shared keyNoChar = true ∧ LayoutQuietAt toyEnv toyEditor keyNoChar :=
  ⟨_, rfl, rfl, fun _ _ => rfl⟩

/-- `EnteringSyllable`: `h` typed, then a key the layout rejects: bell, and `bell_keeps_display` /
    `bell_keeps_phonetic` apply -/
example : ∃ e e', toyEditor.run toyEnv [.key { index := 32, code := 32, unicode := 104 }] = .ok e ∧
    e.state = .enteringSyllable ∧ e.processKey toyEnv keyNoChar = .ok (e', .bell) ∧
    SameView toyEnv e e' ∧ e'.shared.syl = e.shared.syl := by
  refine ⟨_, _, rfl, by decide, rfl, ?_, ?_⟩
  · exact bell_keeps_display toyEnv (ev := keyNoChar) rfl (fun hd => absurd hd (by decide))
  · exact bell_keeps_phonetic toyEnv (ev := keyNoChar) rfl (fun _ _ => rfl)

/-- an open list on its second page: Shift + `j` is answered with a bell; same list, same page, same candidates -/
example : ∃ e e', pagedEditor.run toyEnv [.key keyGrave, .key keyRight] = .ok e ∧
    e.processKey toyEnv { keyJ with mods := { shift := true } } = .ok (e', .bell) ∧
    e'.currentPageNo = some 1 ∧ e'.paginatedCandidates toyEnv = .ok (some [[8251], [65292]]) := by
  refine ⟨_, _, rfl, rfl, ?_, ?_⟩ <;> decide

/-- … a digit without a candidate on that page (one candidate per page, page 1 of 3, key `3`) bells too -/
example : ∃ e e', pagedEditor.run toyEnv [.key keyGrave, .key keyRight] = .ok e ∧
    e.processKey toyEnv { index := 3, code := 3, unicode := 51 } = .ok (e', .bell) ∧
    SameView toyEnv e e' ∧ e'.currentPageNo = some 1 := by
  refine ⟨_, _, rfl, rfl, ?_, ?_⟩
  · exact bell_keeps_display toyEnv (ev := { index := 3, code := 3, unicode := 51 }) rfl (fun hd => absurd hd (by decide))
  · decide

/-- Ctrl + 2 on an empty buffer: "add phrase" fails, bell WITH the notification (the one arm of `bellMayNotify`) -/
example : ∃ e', toyEditor.processKey toyEnv { index := 2, code := 2, unicode := 50, mods := { ctrl := true } } =
      .ok (e', .bell) ∧ e'.shared.noticeBuf = Shared.msgFail ∧
    bellMayNotify toyEditor.state { index := 2, code := 2, unicode := 50, mods := { ctrl := true } } = true :=
  ⟨_, rfl, by decide +kernel, rfl⟩

end Chewing.C06
