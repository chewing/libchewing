import Chewing.Proofs.CliFile
import Chewing.Proofs.CliSqlOrder
import Chewing.Proofs.CliAccept
import Chewing.Proofs.CliRaw
import Chewing.Proofs.CliLeaf
import Chewing.Proofs.CliTrieLink
import Chewing.Proofs.CliTrieOrder
/-!
# C20 — The dictionary compiler and dumper are inverse on well-formed sources

Model: `Chewing.Model.Cli` — `parse_line`, the `init-database` loop, `dump` (both formats) as coded in
`tools/src/{init_database,dump}.rs` (delimiters, quote / comment characters, skipped fields, line-number
base and dump format strings regenerated from the source into `Chewing.Gen.CliFormat`), and the two
builders at the level of entry lists (`TrieBuilder::insert` + `Trie::entries`,
`SqliteDictionaryBuilder::insert` + `entries()` + lookup order).  The syllable fields go through the C13
model (`Chewing.parse` / `Chewing.spell`).

How the statement is carried
* "compiling and dumping reproduces every record of the source":
  `parse_dump` / `parse_source_line` (a well-formed line parses to its record, one-character
  frequencies zeroed unless kept), `inserted_are_valid_records` (the builder gets exactly the records
  of the parsing lines), `dump_lists_last_records` (both back ends enumerate exactly the last record of
  every (syllables, phrase) pair), `dump` = one `dumpLine` per enumerated entry (definition);
* the whole statement for a file: `wellformed_source_roundtrip` (any file of well-formed free-style lines,
  LF / CRLF / no final newline, both back ends, all flags: compiles, the dump lists exactly its last
  records, the dump text compiles to the same entries and dumps to the same text again, lookups agree
  outside the exact class of F34);
* "compiling the dump again yields an equivalent dictionary": `dump_compile_roundtrip` (nothing is
  reported, the same entries come out in the same order — trie and SQLite), `recompiled_lookup_trie`
  (every key looks up the same phrases in the same order), `recompiled_lookup_iff` (exactly when);
* "a malformed line is reported with its line number and no output file is produced unless skipping
  was requested": `malformed_full` (every line outside the documented format is rejected — full strength
  since the fixes of F27), `malformed_reported` / `malformed_reported_full`, `reported_iff`,
  `skip_invalid_keeps_valid`; at the level of bytes (lines that are not valid UTF-8 included, fix of F45)
  `malformed_reported_bytes`, `invalid_utf8_reported`, `skip_invalid_full`, `raw_run_is_text_run`.

Fixed findings (the statements hold at full strength):
* F27 `no-syllables`, `length-mismatch`, `empty-phrase`, `phrase-whitespace`, `word-freq-unchecked` — `parse_line`
  rejects these lines since the fixes: `malformed_full`, `f27_witnesses_rejected`; consequently whatever the
  compiler accepts from a source without the first-tone mark is a well-formed record
  (`entries_wellFormed_of_source` needs no hypothesis on the phrases);
* F45 `invalid-utf8` — a line that is not valid UTF-8 is reported with its number and skipped by
  `--skip-invalid`: `skip_invalid_full`.

Known findings (the unchanged code violates the full-strength statements; each has a refutation with
a concrete witness and a partial theorem that excludes exactly the class):
* F18 `F18-tone1`: accepted lines whose dump does not read back —
  `roundtrip_full_refuted`, `dump_compile_roundtrip` (hypothesis `WellFormedRecord`),
  `dump_compile_roundtrip_source` (hypothesis: no first-tone mark in the source — the only excluded class);
* F34 `F34-sqlite-order`: the SQLite file compiled from the dump lists the candidates of a one-syllable
  key in ascending order of their text instead of insertion order — `recompiled_lookup_sqlite_refuted`,
  `recompiled_lookup_sqlite_single` (what it answers), `recompiled_lookup_iff` (exact class `F34Changes`),
  `recompiled_lookup_partial`.
-/
namespace Chewing.C20
open Chewing.Cli Gen

/-! ## 1. one line: `parse_line` reads back what `dump` writes -/

/-- for every well-formed record (any non-empty phrase without comma / whitespace and
    without a quote at either end, any `u32` frequency, one syllable per character of the phrase, each of
    which spells and parses back) the
    dumped line parses to the record, with the one-character frequency rule applied; for the plain
    dump read with `' '` and for the CSV dump read with `','` -/
theorem parse_dump (keep : Bool) (r : Rec) (h : WellFormedRecord r) :
    parseLine cliSsvDelim keep (dumpLine r) = .ok (zeroFreq keep r) ∧
    parseLine cliCsvDelim keep (dumpCsvLine r) = .ok (zeroFreq keep r) :=
  ⟨parse_dump_ssv keep r h, parse_dump_csv keep r h⟩

/-- distinct well-formed records are dumped as distinct lines (both formats): the dump loses nothing -/
theorem dumpLine_injective {r r' : Rec} (h : WellFormedRecord r) (h' : WellFormedRecord r') :
    (dumpLine r = dumpLine r' → r = r') ∧ (dumpCsvLine r = dumpCsvLine r' → r = r') := by
  -- a line that parses back to its record determines the record
  have key : ∀ {d : Nat} {P : Rec → Text},
      (∀ x, WellFormedRecord x → parseLine d true (P x) = .ok (zeroFreq true x)) → P r = P r' → r = r' := by
    intro d P hP e
    have z : ∀ x : Rec, zeroFreq true x = x := fun x => by simp [zeroFreq]
    have a := hP r h
    rw [e, hP r' h', z, z] at a
    exact (Except.ok.inj a).symm
  exact ⟨key fun x hx => (parse_dump true x hx).1, key fun x hx => (parse_dump true x hx).2⟩

theorem wellFormedRecord_iff {r : Rec} : WellFormedRecord r ↔
    (r.phrase ≠ [] ∧ r.phrase.head? ≠ some cliQuote ∧ r.phrase.getLast? ≠ some cliQuote ∧
      (∀ c ∈ r.phrase, sylSep c = false)) ∧ r.freq < 4294967296 ∧
    (∀ c ∈ r.syls, Chewing.parse (spell c) = .ok c ∧ spell c ≠ []) ∧
    r.syls ≠ [] ∧ r.syls.length = r.phrase.length := wellFormed_iff

/-- every syllable composed from components (C13) other than the empty one qualifies -/
theorem composable_sylOK {c : Nat} (h : C13.Composable c) (hne : spell c ≠ []) : sylOK c = true := by
  simp [sylOK, C13.parse_spell h, hne]

/-- the same for a source line in free style: optional quotes around the phrase and
    around the frequency, runs of the delimiter between the fields, any run of commas / whitespace between
    the syllables, an optional trailing `# comment` of arbitrary text; `' '` and `','` both qualify as `d` -/
theorem parse_source_line (d : Nat) (keep qp qf : Bool) (g1 g2 gs : Text) (cm : Option (Text × Text)) (r : Rec)
    (h : WellFormedRecord r) (hd : sylSep d = true)
    (hg1 : g1 ≠ [] ∧ ∀ c ∈ g1, c = d) (hg2 : g2 ≠ [] ∧ ∀ c ∈ g2, c = d)
    (hgs : gs ≠ [] ∧ AllSep sylSep gs) (hcm : ∀ gc c, cm = some (gc, c) → gc ≠ [] ∧ AllSep sylSep gc) :
    parseLine d keep (renderLine qp qf g1 g2 gs cm r) = .ok (zeroFreq keep r) :=
  parse_renderLine d keep qp qf g1 g2 gs cm r h hd hg1 hg2 hgs hcm

/-- … and with one pair of quotes around everything after the frequency (`qs`), the CSV style of the
    repository's fourth parser test `"鑰匙",668,"ㄧㄠˋ ㄔˊ # not official"` -/
theorem parse_source_line_quoted (d : Nat) (keep qp qf qs : Bool) (g1 g2 gs : Text) (cm : Option (Text × Text)) (r : Rec)
    (h : WellFormedRecord r) (hd : sylSep d = true)
    (hg1 : g1 ≠ [] ∧ ∀ c ∈ g1, c = d) (hg2 : g2 ≠ [] ∧ ∀ c ∈ g2, c = d)
    (hgs : gs ≠ [] ∧ AllSep sylSep gs) (hcm : ∀ gc c, cm = some (gc, c) → gc ≠ [] ∧ AllSep sylSep gc) :
    parseLine d keep (renderLineQ qp qf qs g1 g2 gs cm r) = .ok (zeroFreq keep r) :=
  parse_renderLineQ d keep qp qf qs g1 g2 gs cm r h hd hg1 hg2 hgs hcm

/-- quotes around any text after the frequency are invisible to the syllable loop of `parse_line` -/
theorem quoted_syllable_fields (s : Text) :
    parseSyls (tokens sylSep (cliQuote :: (s ++ [cliQuote]))) = parseSyls (tokens sylSep s) :=
  parseSyls_tokens_quoted quote_not_sep s

/-- token-level reading (covers every other style, e.g. one pair of quotes around all syllables and the
    comment): if the first two delimiter fields strip to the phrase (not empty, no comma / whitespace) and
    a `u32` and the remaining syllable fields parse to `syls`, one per character, the line parses to that
    record -/
theorem parse_tokens {d : Nat} {keep : Bool} {line fp ff p : Text} {rest1 : List Text} {f : Nat}
    {syls : List Nat} (h1 : tokens (· == d) line = fp :: ff :: rest1) (hp : trimQ fp = p)
    (hf : parseU32 (trimQ ff) = some f) (hs : parseSyls ((tokens sylSep line).drop 2) = .ok syls)
    (hpne : p ≠ []) (hpsep : ∀ c ∈ p, sylSep c = false) (hsne : syls ≠ []) (hlen : syls.length = p.length) :
    parseLine d keep line = .ok (zeroFreq keep ⟨p, f, syls⟩) :=
  parseLine_of_tokens h1 hp hf hs hpne hpsep hsne hlen

/-- the four parser unit tests of `tools/src/init_database.rs`, evaluated in the model:
    `鑰匙 668 ㄧㄠˋ ㄔˊ # not official`, the same with five spaces, `鑰匙,668,ㄧㄠˋ ㄔˊ # not official`,
    `"鑰匙",668,"ㄧㄠˋ ㄔˊ # not official"` -/
theorem repo_unit_tests :
    let cm : Text := [32, 35, 32, 110, 111, 116, 32, 111, 102, 102, 105, 99, 105, 97, 108]
    let want : Except LineErr Rec := .ok ⟨[38000, 21273], 668, [188, 8194]⟩
    parseLine 32 false ([38000, 21273, 32, 54, 54, 56, 32, 12583, 12576, 715, 32, 12564, 714] ++ cm) = want ∧
    parseLine 32 false ([38000, 21273, 32, 32, 32, 32, 32, 54, 54, 56, 32, 12583, 12576, 715, 32, 12564, 714] ++ cm) = want ∧
    parseLine 44 false ([38000, 21273, 44, 54, 54, 56, 44, 12583, 12576, 715, 32, 12564, 714] ++ cm) = want ∧
    parseLine 44 false ([34, 38000, 21273, 34, 44, 54, 54, 56, 44, 34, 12583, 12576, 715, 32, 12564, 714] ++ cm ++ [34]) = want := by
  decide +kernel

/-- the one-character rule: a record that went through the compiler keeps its frequency only if
    the phrase is not a single character or `--keep-word-freq` was given -/
theorem compiled_frequency {d : Nat} {keep : Bool} {l : Text} {r : Rec} (h : parseLine d keep l = .ok r) :
    r.phrase.length = 1 → keep = false → r.freq = 0 := by
  intro h1 hk
  rw [← parseLine_zeroFreq h]
  simp [zeroFreq, h1, hk]

/-! ## 2. the dump lists the records of the source -/

/-- the builder receives exactly the records of the lines that parse, in file order (all of them
    when nothing fails or `--skip-invalid` is given; otherwise nothing is built) -/
theorem inserted_are_valid_records (f : Flags) (src : List Text) :
    (compileRun f src).inserted =
      if (compileRun f src).reported ≠ [] ∧ f.skip = false then none else some (validRecs f src) :=
  compileRun_inserted f src

/-- **both back ends enumerate exactly the last record of every (syllables, phrase) pair** that was
    inserted (a duplicate replaces the earlier record; nothing else is lost or invented) -/
theorem dump_lists_last_records (db : Db) (rs : List Rec) (x : Rec) : x ∈ entries db rs ↔ LastWins rs x := by
  cases db with
  | trie => exact mem_trie_entries_iff rs x
  | sqlite => exact mem_sql_entries_iff rs x

theorem mem_of_mem_entries {db : Db} {rs : List Rec} {x : Rec} (h : x ∈ entries db rs) : x ∈ rs := by
  obtain ⟨pre, post, e, _⟩ := (dump_lists_last_records db rs x).mp h
  rw [e]; simp

theorem inserted_eq_validRecs {f : Flags} {src : List Text} {ins : List Rec}
    (hc : (compileRun f src).inserted = some ins) : ins = validRecs f src := by
  rw [inserted_are_valid_records] at hc
  split at hc
  · cases hc
  · exact (Option.some.inj hc).symm

/-! ## 3. compiling the dump again -/

/-- full-strength round trip over *everything* the compiler accepts -/
def RoundTripFull : Prop :=
  ∀ (db : Db) (f : Flags) (src : List Text) (ins : List Rec), (compileRun f src).inserted = some ins →
    compileRun f (dump f.csv (entries db ins)) = { reported := [], inserted := some (entries db ins) }

/-- refuted on the unchanged tree (F18): `吧 3 ㄅㄚˉ` compiles to the syllable 0x20d, is dumped as
    `吧 0 ㄅㄚ` and compiles again to 0x208 -/
theorem roundtrip_full_refuted : ¬ RoundTripFull := by
  intro h
  have := h .trie ⟨false, false, false⟩ [[21543, 32, 51, 32, 12549, 12570, 713]] [⟨[21543], 0, [525]⟩] (by decide +kernel)
  revert this
  decide +kernel

/-- entries dump and read back unchanged: they satisfy `WellFormedRecord`; the frequency rule is
    already applied to whatever the compiler inserted -/
theorem entries_dumpable (db : Db) (f : Flags) (src : List Text) (ins : List Rec)
    (hc : (compileRun f src).inserted = some ins) (hwf : ∀ r ∈ entries db ins, WellFormedRecord r) :
    ∀ r ∈ entries db ins, Dumpable f.keep r :=
  fun r hr => ⟨hwf r hr, validRecs_zeroFreq (inserted_eq_validRecs hc ▸ mem_of_mem_entries hr)⟩

/-- building from what a built dictionary enumerates changes nothing, not even the order -/
theorem entries_idem (db : Db) (rs : List Rec) : entries db (entries db rs) = entries db rs := by
  cases db with
  | trie => exact trie_roundtrip (trieBuild_inv rs)
  | sqlite => exact sql_roundtrip (sqlBuild_inv rs)

/-- for both back ends, both formats and all flags: if the source compiles
    and its entries are well-formed records, then compiling the dump (same `--csv`, same
    `--keep-word-freq`) reports nothing, inserts exactly the dumped entries in dump order, and building
    and enumerating again gives the same entries **in the same order**
    (`entries (compile (dump (compile src))) = entries (compile src)`) -/
theorem dump_compile_roundtrip (db : Db) (f : Flags) (src : List Text) (ins : List Rec)
    (hc : (compileRun f src).inserted = some ins) (hwf : ∀ r ∈ entries db ins, WellFormedRecord r) :
    compileRun f (dump f.csv (entries db ins)) = { reported := [], inserted := some (entries db ins) } ∧
    entries db (entries db ins) = entries db ins :=
  ⟨compileRun_dump f _ (entries_dumpable db f src ins hc hwf), entries_idem db ins⟩

/-- the same through `compile` (the `Except` view: `.ok` = exit status 0) -/
theorem dump_compile_roundtrip_except (db : Db) (f : Flags) (src : List Text) (ins : List Rec)
    (hc : compile f src = .ok ins) (hwf : ∀ r ∈ entries db ins, WellFormedRecord r) :
    ∃ ins', compile f (dump f.csv (entries db ins)) = .ok ins' ∧ entries db ins' = entries db ins := by
  have hc' : (compileRun f src).inserted = some ins := by
    unfold compile at hc
    split at hc
    · rename_i rs h; cases hc; exact h
    · cases hc
  obtain ⟨h1, h2⟩ := dump_compile_roundtrip db f src ins hc' hwf
  exact ⟨entries db ins, by simp [compile, h1], h2⟩

/-- the hypothesis of the round trip from ONE fact about the source text: no line contains the first-tone
    mark `ˉ` (F18).  (Since the fixes of F27 `parse_line` itself guarantees that every compiled phrase is
    non-empty and without comma / whitespace.) -/
theorem entries_wellFormed_of_source (db : Db) (f : Flags) (src : List Text) (ins : List Rec)
    (hc : (compileRun f src).inserted = some ins) (hno : ∀ l ∈ src, ∀ c ∈ l, c ≠ 713) :
    ∀ r ∈ entries db ins, WellFormedRecord r := by
  intro r hr
  obtain ⟨l, hl, hp⟩ := mem_validRecs (inserted_eq_validRecs hc ▸ mem_of_mem_entries hr)
  exact parsed_wellFormed hp (hno l hl)

/-- **the round trip from the source** — for EVERYTHING the compiler accepts from a source without the
    first-tone mark (the class of F18, the only excluded one): `dump_compile_roundtrip` with its hypothesis
    discharged by `entries_wellFormed_of_source`, and the dump taken through the file (`writeln!` /
    `BufRead::lines`) -/
theorem dump_compile_roundtrip_source (db : Db) (f : Flags) (src : List Text) (ins : List Rec)
    (hc : (compileRun f src).inserted = some ins) (hno : ∀ l ∈ src, ∀ c ∈ l, c ≠ 713) :
    compileRun f (readLines (writeLines (dump f.csv (entries db ins)))) =
      { reported := [], inserted := some (entries db ins) } ∧
    entries db (entries db ins) = entries db ins := by
  have hwf := entries_wellFormed_of_source db f src ins hc hno
  rw [dump_file_roundtrip f.csv _ hwf]
  exact dump_compile_roundtrip db f src ins hc hwf

/-- what the recompiled dictionary answers, for both back ends and every key: the same phrases in the same order,
    except that the SQLite file lists the phrases of a one-syllable key in ascending (bytewise) order of their
    text — the primary-key order of the dump has become the `sort_id` order (F34) -/
theorem recompiled_lookup_eq (db : Db) (ins : List Rec) (k : Key) :
    dictLookup db (entries db ins) k =
      if db = .sqlite ∧ k.length = 1 then insSort pfLe (dictLookup db ins k) else dictLookup db ins k := by
  cases db with
  | trie => exact (trie_roundtrip_lookup (trieBuild_inv ins) k).trans (if_neg (by simp)).symm
  | sqlite =>
    by_cases hk : k.length = 1
    · exact (sql_recompiled_lookup_single ins k hk).trans (if_pos ⟨rfl, hk⟩).symm
    · exact (sql_roundtrip_lookup ins k hk).trans (if_neg fun h => hk h.2).symm

/-- trie: the recompiled dictionary answers every lookup with the same phrases in the same order -/
theorem recompiled_lookup_trie (ins : List Rec) (k : Key) :
    dictLookup .trie (entries .trie ins) k = dictLookup .trie ins k :=
  trie_roundtrip_lookup (trieBuild_inv ins) k

/-- "equivalent dictionary" in the sense of lookup order, for every back end -/
def RecompiledLookupFull : Prop :=
  ∀ (db : Db) (ins : List Rec) (k : Key), dictLookup db (entries db ins) k = dictLookup db ins k

/-- refuted for SQLite (F34): `測 冊 策 側` under ㄘㄜˋ come back as `側 冊 測 策`, because the dump is
    in primary-key order and `sort_id` is assigned in insertion order -/
theorem recompiled_lookup_sqlite_refuted : ¬ RecompiledLookupFull := by
  intro h
  have := h .sqlite [⟨[28204], 0, [10268]⟩, ⟨[20874], 0, [10268]⟩, ⟨[31574], 0, [10268]⟩, ⟨[20596], 0, [10268]⟩] [10268]
  revert this
  decide +kernel

/-- the class of F34, coarsely: the SQLite back end and a key of exactly one syllable (the exact class is
    `F34Changes`) -/
def KnownF34 (db : Db) (k : Key) : Prop := db = .sqlite ∧ k.length = 1

/-- outside that class the recompiled dictionary answers every lookup with
    the same phrases in the same order (trie: all keys; SQLite: every key that is not one syllable long) -/
theorem recompiled_lookup_partial (db : Db) (ins : List Rec) (k : Key) (h : ¬ KnownF34 db k) :
    dictLookup db (entries db ins) k = dictLookup db ins k :=
  (recompiled_lookup_eq db ins k).trans (if_neg h)

example : KnownF34 .sqlite [10268] := ⟨rfl, rfl⟩

/-- **F34, what the recompiled SQLite file answers**: a one-syllable key lists its phrases in ascending
    (bytewise) order of their text — the primary-key order of the dump has become the `sort_id` order -/
theorem recompiled_lookup_sqlite_single (ins : List Rec) (k : Key) (hk : k.length = 1) :
    dictLookup .sqlite (entries .sqlite ins) k = insSort pfLe (dictLookup .sqlite ins k) :=
  sql_recompiled_lookup_single ins k hk

/-- the exact class of F34: SQLite, a one-syllable key, and candidates that are not in ascending order of
    their text -/
def F34Changes (db : Db) (ins : List Rec) (k : Key) : Prop :=
  db = .sqlite ∧ k.length = 1 ∧ ¬ (dictLookup .sqlite ins k).Pairwise (fun a b => pfLe a b = true)

/-- the recompiled dictionary answers a key with the same phrases in the same
    order **iff** the key is outside that class (both back ends, every key, every list of records) -/
theorem recompiled_lookup_iff (db : Db) (ins : List Rec) (k : Key) :
    dictLookup db (entries db ins) k = dictLookup db ins k ↔ ¬ F34Changes db ins k := by
  rw [recompiled_lookup_eq, F34Changes]
  split
  · rename_i h
    obtain ⟨rfl, hk⟩ := h
    simp [insSort_eq_self_iff pfLe_total pfLe_trans, hk]
  · rename_i hn
    exact ⟨fun _ h => hn ⟨h.1, h.2.1⟩, fun _ => rfl⟩

/-- the F34 witness is in the class, a sorted one (`側 冊` under ㄘㄜˋ) is not -/
example : F34Changes .sqlite [⟨[28204], 0, [10268]⟩, ⟨[20874], 0, [10268]⟩] [10268] := by
  refine ⟨rfl, rfl, ?_⟩
  decide +kernel
example : ¬ F34Changes .sqlite [⟨[20596], 0, [10268]⟩, ⟨[20874], 0, [10268]⟩] [10268] := by
  rintro ⟨_, _, h⟩
  exact h (by decide +kernel)

/-! ## 3b. the whole statement for a source file of well-formed lines -/

/-- for every source file made of well-formed lines in free style
    (`SrcLine`: optional quotes around phrase, frequency and the syllable part, runs of the delimiter, any commas / whitespace
    between syllables, optional `# comment`; duplicates, homophones and prefix keys allowed; with `--csv`
    any header line), written with LF line ends, for both back ends and all flags:
    1. the file compiles — nothing is reported, every line's record is inserted (one-character frequencies
       zeroed unless `--keep-word-freq`);
    2. the built dictionary enumerates exactly the last record of every (syllables, phrase) pair;
    3. the dump text, compiled again with the same flags, reports nothing and inserts exactly the dumped
       entries; building and dumping again gives the same entries in the same order (same dump text);
    4. every key outside the exact class of F34 looks up the same phrases in the same order in the
       recompiled dictionary. -/
theorem wellformed_source_roundtrip (db : Db) (f : Flags) (hdr : Text) (ls : List SrcLine)
    (hok : ∀ l ∈ ls, l.OK f.delim) (hfile : ∀ t ∈ sourceLines f hdr ls, FileLine t) :
    compileRun f (readLines (writeLines (sourceLines f hdr ls))) =
        { reported := [], inserted := some (sourceRecs f ls) } ∧
    (∀ x, x ∈ entries db (sourceRecs f ls) ↔ LastWins (sourceRecs f ls) x) ∧
    compileRun f (readLines (writeLines (dump f.csv (entries db (sourceRecs f ls))))) =
        { reported := [], inserted := some (entries db (sourceRecs f ls)) } ∧
    dump f.csv (entries db (entries db (sourceRecs f ls))) = dump f.csv (entries db (sourceRecs f ls)) ∧
    ∀ k, ¬ F34Changes db (sourceRecs f ls) k →
      dictLookup db (entries db (sourceRecs f ls)) k = dictLookup db (sourceRecs f ls) k := by
  have hd := sourceRecs_dumpable f ls hok
  have hde : ∀ r ∈ entries db (sourceRecs f ls), Dumpable f.keep r := fun r hr => hd r (mem_of_mem_entries hr)
  refine ⟨?_, dump_lists_last_records db _, ?_, by rw [entries_idem], fun k hk => (recompiled_lookup_iff db _ k).mpr hk⟩
  · rw [readLines_writeLines _ hfile]
    exact compileRun_wellformed f hdr ls hok
  · rw [dump_file_roundtrip f.csv _ (fun r hr => (hde r hr).1)]
    exact compileRun_dump f _ hde

/-- the same source with CRLF line ends, or without a line end after the last line, compiles to the same
    result (`BufRead::lines` drops one carriage return before the line feed) -/
theorem wellformed_source_line_ends (f : Flags) (hdr : Text) (ls : List SrcLine)
    (hok : ∀ l ∈ ls, l.OK f.delim) (hfile : ∀ t ∈ sourceLines f hdr ls, FileLine t) :
    compileRun f (readLines (writeLinesCrlf (sourceLines f hdr ls))) =
        { reported := [], inserted := some (sourceRecs f ls) } ∧
    ∀ (init : List Text) (last : Text), sourceLines f hdr ls = init ++ [last] → last ≠ [] →
      compileRun f (readLines (writeLines init ++ last)) = { reported := [], inserted := some (sourceRecs f ls) } := by
  constructor
  · rw [readLines_writeLinesCrlf _ (fun l hl => (hfile l hl).1)]
    exact compileRun_wellformed f hdr ls hok
  · intro init last e hne
    rw [readLines_no_final_newline init last (fun x hx => hfile x (by rw [e]; simp [hx]))
      (hfile last (by rw [e]; simp)).1 hne, ← e]
    exact compileRun_wellformed f hdr ls hok

/-! ## 4. malformed lines -/

/-- a line (not the skipped CSV header) that `parse_line` rejects is reported
    with its 1-based line number, and without `--skip-invalid` nothing is built (exit status 1, no
    output file) -/
theorem malformed_reported (f : Flags) (src : List Text) (i : Nat) (l : Text) (e : LineErr)
    (hl : src[i]? = some l) (hh : f.csv = true → i ≠ 0) (hbad : parseLine f.delim f.keep l = .error e) :
    (i + 1, e) ∈ (compileRun f src).reported ∧ (f.skip = false → (compileRun f src).inserted = none) := by
  have hm : (i + 1, e) ∈ (compileRun f src).reported :=
    (mem_reported f src (i + 1) e).mpr ⟨i, l, hl, hh, rfl, hbad⟩
  refine ⟨hm, fun hs => ?_⟩
  rw [inserted_are_valid_records, if_pos ⟨List.ne_nil_of_mem hm, hs⟩]

/-- exactly the rejected lines are reported: no line that parses is ever reported, and no number
    other than a rejected line's -/
theorem reported_iff (f : Flags) (src : List Text) (n : Nat) (e : LineErr) :
    (n, e) ∈ (compileRun f src).reported ↔
      ∃ i l, src[i]? = some l ∧ (f.csv = true → i ≠ 0) ∧ n = i + 1 ∧ parseLine f.delim f.keep l = .error e :=
  mem_reported f src n e

/-- the malformed-source stream, exactly: `parse_line` accepts a line iff (1) it has two
    non-empty delimiter-separated fields, (2) the first strips to a non-empty phrase without comma / whitespace,
    (3) the second strips to a `u32` — with or without `--keep-word-freq`, (4) every syllable field
    (`sylFields`: fields after the first two, stripped, empty ones dropped, up to the first one starting
    with `#`) is an ordered Bopomofo syllable, (5) there is at least one, and as many as the phrase has
    characters.  By `reported_iff` every other line — and no accepted one — is reported with its number. -/
theorem accepted_iff (d : Nat) (keep : Bool) (l : Text) :
    (∃ r, parseLine d keep l = .ok r) ↔
      ∃ f0 f1 fs, tokens (· == d) l = f0 :: f1 :: fs ∧
        trimQ f0 ≠ [] ∧ (∀ c ∈ trimQ f0, sylSep c = false) ∧ (parseU32 (trimQ f1)).isSome = true ∧
        (∀ s ∈ sylFields l, ∃ c, Chewing.parse s = .ok c) ∧
        sylFields l ≠ [] ∧ (sylFields l).length = (trimQ f0).length :=
  Cli.accepted_iff d keep l

/-- … and each reported cause names the defect: no field at all; a phrase of nothing but quotes; a comma or
    whitespace in the phrase; no second field; a second field that is not a `u32`; a syllable field that is not
    a syllable; no syllable field; a number of syllable fields other than the number of characters.  (The
    tenth cause, `invalidUtf8`, belongs to the read loop, not to `parse_line`.) -/
theorem rejected_cause (d : Nat) (keep : Bool) (l : Text) (e : LineErr) (h : parseLine d keep l = .error e) :
    (e = .noPhrase → tokens (· == d) l = []) ∧
    (e = .emptyPhrase → ∃ f0 fs, tokens (· == d) l = f0 :: fs ∧ trimQ f0 = []) ∧
    (e = .phraseSep → ∃ f0 fs, tokens (· == d) l = f0 :: fs ∧ ∃ c ∈ trimQ f0, sylSep c = true) ∧
    (e = .noFreq → ∃ f0, tokens (· == d) l = [f0]) ∧
    (e = .badFreq → ∃ f0 f1 fs, tokens (· == d) l = f0 :: f1 :: fs ∧ parseU32 (trimQ f1) = none) ∧
    (e = .bopomofo ∨ e = .syllable → ∃ s ∈ sylFields l, ∃ e', Chewing.parse s = .error e') ∧
    (e = .noSyllables → sylFields l = []) ∧
    (e = .lengthMismatch → ∃ f0 fs, tokens (· == d) l = f0 :: fs ∧ (sylFields l).length ≠ (trimQ f0).length) ∧
    e ≠ .invalidUtf8 :=
  Cli.rejected_cause d keep l e h

/-- with `--skip-invalid` the tool always builds, from exactly the
    records of the lines that parse, in file order -/
theorem skip_invalid_keeps_valid (f : Flags) (src : List Text) (hs : f.skip = true) :
    (compileRun f src).inserted = some (validRecs f src) := by
  rw [inserted_are_valid_records]
  simp [hs]

/-- a source without rejected lines builds with or without the flag -/
theorem clean_source_builds (f : Flags) (src : List Text) (h : (compileRun f src).reported = []) :
    (compileRun f src).inserted = some (validRecs f src) := by
  rw [inserted_are_valid_records]
  simp [h]

/-- a line in the documented format: it parses even when the frequency is checked
    (`--keep-word-freq`), has a phrase without comma / white space, at least one syllable, and one syllable
    per character -/
def StrictLine (d : Nat) (l : Text) : Prop :=
  ∃ r, parseLine d true l = .ok r ∧ r.phrase ≠ [] ∧ (∀ c ∈ r.phrase, sylSep c = false) ∧ r.syls ≠ [] ∧
    r.syls.length = r.phrase.length

/-- full-strength: every line that is not in the documented format is rejected -/
def MalformedFull : Prop :=
  ∀ (d : Nat) (keep : Bool) (l : Text), ¬ StrictLine d l → ∃ e, parseLine d keep l = .error e

/-- the documented format is what `parse_line` accepts, with or without `--keep-word-freq` -/
theorem strict_iff_accepted (d : Nat) (keep : Bool) (l : Text) :
    StrictLine d l ↔ ∃ r, parseLine d keep l = .ok r := by
  constructor
  · rintro ⟨r, hr, _⟩
    exact (Cli.accepted_keep_irrelevant d true keep l).mp ⟨r, hr⟩
  · intro h
    obtain ⟨r, hr⟩ := (Cli.accepted_keep_irrelevant d keep true l).mp h
    obtain ⟨f0, fs, n, syls, _, hne, hsep, _, _, hsne, hlen, rfl⟩ := parseLine_ok_iff.mp hr
    exact ⟨_, hr, hne, hsep, hsne, hlen⟩

/-- FULL strength since the fixes of F27 (before them `測 5` was accepted): every line that is not
    in the documented format is rejected, whatever the delimiter and `--keep-word-freq` -/
theorem malformed_full : MalformedFull := fun d keep l hns =>
  (Cli.rejected_iff_not_accepted d keep l).mpr fun h => hns ((strict_iff_accepted d keep l).mpr h)

/-- every line (not the skipped CSV header) outside the documented format is
    reported with its 1-based line number, and without `--skip-invalid` nothing is built.  No class is
    excluded. -/
theorem malformed_reported_full (f : Flags) (src : List Text) (i : Nat) (l : Text)
    (hl : src[i]? = some l) (hh : f.csv = true → i ≠ 0) (hmal : ¬ StrictLine f.delim l) :
    (∃ e, (i + 1, e) ∈ (compileRun f src).reported) ∧ (f.skip = false → (compileRun f src).inserted = none) := by
  obtain ⟨e, he⟩ := malformed_full f.delim f.keep l hmal
  have := malformed_reported f src i l e hl hh he
  exact ⟨⟨e, this.1⟩, this.2⟩

/-- the witnesses of F27 are rejected, each with the cause that names its defect: `測 5` (no syllable),
    `測試 5 # ㄘㄜˋ ㄕˋ` (syllables behind the comment mark), `甲乙 7 ㄘㄜˋ` (two characters, one syllable),
    `測 abc ㄘㄜˋ` and `測` (frequency of a one-character phrase, without `--keep-word-freq`), `"" 5 ㄘㄜˋ`
    (empty phrase), and with `--csv` `測試 ,5,ㄘㄜˋ ㄕˋ` / ` 策,3,ㄘㄜˋ` (white space in the phrase field) -/
theorem f27_witnesses_rejected :
    parseLine 32 false [28204, 32, 53] = .error .noSyllables ∧
    parseLine 32 false [28204, 35430, 32, 53, 32, 35, 32, 12568, 12572, 715, 32, 12565, 715] = .error .noSyllables ∧
    parseLine 32 false [30002, 20057, 32, 55, 32, 12568, 12572, 715] = .error .lengthMismatch ∧
    parseLine 32 false [28204, 32, 97, 98, 99, 32, 12568, 12572, 715] = .error .badFreq ∧
    parseLine 32 false [28204] = .error .noFreq ∧
    parseLine 32 false [34, 34, 32, 53, 32, 12568, 12572, 715] = .error .emptyPhrase ∧
    parseLine 44 false [28204, 35430, 32, 44, 53, 44, 12568, 12572, 715, 32, 12565, 715] = .error .phraseSep ∧
    parseLine 44 false [32, 31574, 44, 51, 44, 12568, 12572, 715] = .error .phraseSep := by decide +kernel

/-- the phrase and the syllables of an accepted line do not depend on `--keep-word-freq` -/
theorem parse_keep_irrelevant {d : Nat} {k k' : Bool} {l : Text} {r r' : Rec}
    (h : parseLine d k l = .ok r) (h' : parseLine d k' l = .ok r') : r.phrase = r'.phrase ∧ r.syls = r'.syls := by
  obtain ⟨f0, fs, n, syls, ht, _, _, _, hs, _, _, rfl⟩ := parseLine_ok_iff.mp h
  obtain ⟨g0, gs, n', syls', ht', _, _, _, hs', _, _, rfl⟩ := parseLine_ok_iff.mp h'
  rw [ht] at ht'
  obtain ⟨rfl, rfl⟩ := List.cons.inj ht'
  rw [hs] at hs'
  cases hs'
  exact ⟨rfl, rfl⟩

/-! ## 4b. source files as bytes: lines that are not valid UTF-8 (F45, fixed) -/

theorem skip_invalid_raw (f : Flags) (src : RawLines) (hs : f.skip = true) :
    (compileRaw f src).inserted = some (validRawRecs f src) := by
  rw [compileRaw_inserted]
  simp [hs]

/-- full-strength, on files given as bytes: with `--skip-invalid` the tool always gets through the file
    and builds -/
def SkipInvalidFull : Prop :=
  ∀ (f : Flags) (src : RawLines), f.skip = true → (compileRaw f src).inserted.isSome = true

/-- FULL strength since the fix of F45 (before it `測 5 ㄘㄜˋ` followed by a line that is
    not valid UTF-8 built nothing: `line?` ended the run).  What is built: exactly the records of the lines that are valid
    UTF-8 and parse, in file order. -/
theorem skip_invalid_full : SkipInvalidFull := fun f src hs => by rw [skip_invalid_raw f src hs]; rfl

/-- byte level `malformed_reported`: a line the loop reads — `none` = not valid UTF-8 — that is rejected is
    reported with its 1-based number, and without `--skip-invalid` nothing is built -/
theorem malformed_reported_raw (f : Flags) (src : RawLines) (i : Nat) (l : Option Text) (e : LineErr)
    (hl : src[i]? = some l) (hh : f.csv = true → i ≠ 0) (hbad : parseRawLine f l = .error e) :
    (i + 1, e) ∈ (compileRaw f src).reported ∧ (f.skip = false → (compileRaw f src).inserted = none) := by
  have hm : (i + 1, e) ∈ (compileRaw f src).reported :=
    (mem_raw_reported f src (i + 1) e).mpr ⟨i, l, hl, hh, rfl, hbad⟩
  refine ⟨hm, fun hs => ?_⟩
  rw [compileRaw_inserted, if_pos ⟨List.ne_nil_of_mem hm, hs⟩]

/-- a line that is not valid UTF-8 (any line but the CSV header, which is skipped
    unread) is reported with its line number, cause `invalidUtf8`; without `--skip-invalid` nothing is built -/
theorem invalid_utf8_reported (f : Flags) (src : RawLines) (i : Nat) (h : InvalidAt f src i) :
    (i + 1, LineErr.invalidUtf8) ∈ (compileRaw f src).reported ∧
    (f.skip = false → (compileRaw f src).inserted = none) :=
  malformed_reported_raw f src i none _ h.1 h.2 rfl

/-- the property's last clause for a file given as bytes, no class excluded: a
    line the loop reads that is not valid UTF-8, or whose text is not in the documented format, is reported
    with its line number, and without `--skip-invalid` nothing is built -/
theorem malformed_reported_bytes (f : Flags) (src : RawLines) (i : Nat) (l : Option Text)
    (hl : src[i]? = some l) (hh : f.csv = true → i ≠ 0) (hmal : ∀ t, l = some t → ¬ StrictLine f.delim t) :
    (∃ e, (i + 1, e) ∈ (compileRaw f src).reported) ∧ (f.skip = false → (compileRaw f src).inserted = none) := by
  -- the read loop rejects the line: not valid UTF-8, or a text `parse_line` rejects
  have ⟨e, he⟩ : ∃ e, parseRawLine f l = .error e := by
    cases l with
    | none => exact ⟨_, rfl⟩
    | some t => exact malformed_full f.delim f.keep t (hmal t rfl)
  have := malformed_reported_raw f src i l e hl hh he
  exact ⟨⟨e, this.1⟩, this.2⟩

theorem raw_reported_iff (f : Flags) (src : RawLines) (n : Nat) (e : LineErr) :
    (n, e) ∈ (compileRaw f src).reported ↔
      ∃ i l, src[i]? = some l ∧ (f.csv = true → i ≠ 0) ∧ n = i + 1 ∧ parseRawLine f l = .error e :=
  mem_raw_reported f src n e

/-- some line the loop reads (any line but the skipped CSV header) is not valid UTF-8 -/
def HasInvalidUtf8 (f : Flags) (src : RawLines) : Prop := ∃ i, InvalidAt f src i

/-- **without such a line the byte-level run is the text-level run** all theorems of sections 1–4 are about (an
    invalid CSV header, which is skipped unread, counts as the empty line) -/
theorem raw_run_is_text_run (f : Flags) (src : RawLines) (h : ¬ HasInvalidUtf8 f src) :
    compileRaw f src = compileRun f (src.map rawText) :=
  compileRaw_valid f src (fun i hi => h ⟨i, hi⟩)

/-- the witness of F45, `測 5 ㄘㄜˋ` / a line that is not valid UTF-8 / `策 1 ㄘㄜˋ`: line 2 is reported; nothing
    is built without `--skip-invalid`, both other records with it -/
example : compileRaw ⟨false, false, false⟩ [some [28204, 32, 53, 32, 12568, 12572, 715], none, some [31574, 32, 49, 32, 12568, 12572, 715]] =
    { reported := [(2, .invalidUtf8)], inserted := none } := by decide +kernel
example : compileRaw ⟨false, false, true⟩ [some [28204, 32, 53, 32, 12568, 12572, 715], none, some [31574, 32, 49, 32, 12568, 12572, 715]] =
    { reported := [(2, .invalidUtf8)], inserted := some [⟨[28204], 0, [10268]⟩, ⟨[31574], 0, [10268]⟩] } := by decide +kernel
/-- an invalid CSV header is not read: `\xff\xfe` / `測試,5,ㄘㄜˋ ㄕˋ` compiles with `--csv` -/
example : ¬ HasInvalidUtf8 ⟨true, false, false⟩ [none, some [28204, 35430, 44, 53, 44, 12568, 12572, 715, 32, 12565, 715]] := by
  rintro ⟨i, h1, h2⟩
  match i with
  | 0 => exact h2 rfl rfl
  | 1 => simp at h1
  | i + 2 => simp at h1
example : compileRaw ⟨true, false, false⟩ [none, some [28204, 35430, 44, 53, 44, 12568, 12572, 715, 32, 12565, 715]] =
    { reported := [], inserted := some [⟨[28204, 35430], 5, [10268, 8708]⟩] } := by decide +kernel
/-- bytes: `readRawLines` finds the invalid line of `測 5 ㄘㄜˋ\n\xff\xfe 5\n` -/
example : readRawLines [230, 184, 172, 32, 53, 32, 227, 132, 152, 227, 132, 156, 203, 139, 10, 255, 254, 32, 53, 10] =
    [some [28204, 32, 53, 32, 12568, 12572, 715], none] := by decide +kernel

/-! ## 5. what the trie model assumes of `slice::sort_by`, reduced -/

/-- a leaf of a well-formed source under a one-syllable key (one-character phrases): any *stable* sort leaves
    it in insertion order, as the model does — the comparator says `Equal` for every pair -/
theorem leaf_sort_single {ps : List PF} (h : ∀ p ∈ ps, p.1.length = 1) : phraseSort ps = ps ∧
    ∀ a ∈ ps, ∀ b ∈ ps, phraseLess a b = false :=
  ⟨phraseSort_single h, fun a ha b hb => phraseLess_single (h a ha) (h b hb)⟩

/-- a leaf of longer phrases: the comparator is a total order there (frequency descending, then text
    descending), so *every* sorting algorithm — stable or not — produces the model's leaf -/
theorem leaf_sort_multi_unique {ps qs : List PF} (hm : ∀ p ∈ ps, p.1.length ≠ 1) (hperm : qs.Perm ps)
    (hsorted : qs.Pairwise (fun a b => phraseLess b a = false)) : qs = phraseSort ps := by
  apply List.Perm.eq_of_pairwise (le := fun a b => phraseLess b a = false)
  · intro a b ha hb h1 h2
    have ma := hm a (hperm.mem_iff.mp ha)
    have mb := hm b ((phraseSort_perm ps).mem_iff.mp hb)
    exact descLe_antisymm ((notAfter_iff ma mb).mp h1) ((notAfter_iff mb ma).mp h2)
  · exact hsorted
  · exact phraseSort_sorted hm
  · exact hperm.trans (phraseSort_perm ps).symm

/-! ## 6. linked: the trie back end is C11's byte-level file

Sections 1–5 use the entry-list model of the trie back end (`trieBuild`, `trieLookup`, `trieEntries`).
What that model assumes of the trie file — (a) insert = replace the same (key, phrase text) in place, else
append; (c) lookup = the leaf, stably sorted by the comparator of `write`; (d) no 16-bit overflow — is
derived here from C11's theorems about the **bytes** (`Proofs/CliTrieOrder.lean: trie_file_is_model`, from the fields
`exact` and `order` of the `Answers` that `C11.opened` gives, with `Proofs/CliTrieLink.lean`: `lookup_trieBuild` for C11's reference map `refFind`
and `phraseSort_map` for `sortLeaf`; and `C11.writes_within_limits`), for records valid for the Rust types (`ValidRec`) and files within the limits of
the format (`Fits`, or simply: `write` returned `Ok`).  Of (b), the enumeration, this section uses the *set* (each
(key, phrase) once, leaves in written order); the exact depth-first ORDER of the keys, `trieOrder`, is section 7
(`dump_order_linked`, from the `order` field of that `Answers`, which C11 states as `entries_order`). -/

open CliTrieLink in
/-- **the trie back end of the model is the concrete file**: for the records the compiler inserts, inside
    the limits `TrieBuilder::write` succeeds (no silent 16-bit truncation: outside them it fails), and
    for whatever bytes it wrote: `Trie::new` opens them with the metadata given, the real reader's
    `lookup_all_phrases(key)` is the model's `dictLookup .trie` (same phrases, same frequencies, same
    order) for every key of non-zero syllables, and `entries()` yields exactly the records of the model's
    `entries .trie` — by `dump_lists_last_records`, the last record of every (syllables, phrase) -/
theorem trie_backend_linked (info : TrieCodec.Info) (hinfo : TrieCodec.ValidInfo info) (rs : List Rec)
    (hv : ∀ r ∈ rs, ValidRec r) :
    ((TrieCodec.Builder.ofEntries info (rs.map toEntry)).Fits →
      ((TrieCodec.Builder.ofEntries info (rs.map toEntry)).write).isSome = true) ∧
    ∀ bytes, (TrieCodec.Builder.ofEntries info (rs.map toEntry)).write = some bytes →
      ∃ tr, TrieCodec.openTrie bytes = some tr ∧ TrieCodec.about tr = info ∧
        (∀ k, C11.ValidKey k → (TrieCodec.lookupAll tr k .standard).map ofPhrase = dictLookup .trie rs k) ∧
        ∃ ents, TrieCodec.entries tr = .ok ents ∧ ∀ x, x ∈ ents.map ofEntry ↔ LastWins rs x := by
  refine ⟨C11.writes_within_limits _, fun bytes hw => ?_⟩
  obtain ⟨tr, ents, h1, h2, h3, h4, h5⟩ := trie_file_is_model info hinfo rs hv bytes hw
  exact ⟨tr, h1, h2, h3, ents, h4, fun x => h5 ▸ dump_lists_last_records .trie rs x⟩

open CliTrieLink in
/-- the model's leaf order is C11's `sortLeaf` (the comparator regenerated from the source as
    `Gen.trieMixedCmp` is C11's `phraseLt`, UTF-8 being order preserving; `hv` is not used: the model's encoder
    preserves the order of all code points, not only of those a Rust string holds) -/
theorem leaf_sort_is_C11 (ps : List Phrase) (hv : ∀ p ∈ ps, ∀ c ∈ p.text, Der.IsScalar c) :
    phraseSort (ps.map ofPhrase) = (TrieCodec.sortLeaf ps).map ofPhrase := phraseSort_map ps

/-- the syllable clause of `ValidRec` is not an assumption about compiled records: every syllable of a record
    `parse_line` accepts comes from the spelling parser and is a value `Syllable::try_from` accepts (`validCode`,
    the invariant of the type since the repair of C13's F47; C13 `parse_valid`) -/
theorem parsed_record_syllables_valid {d : Nat} {keep : Bool} {l : Text} {r : Rec}
    (h : parseLine d keep l = .ok r) : ∀ s ∈ r.syls, 0 < s ∧ s < 65536 ∧ validCode s = true := by
  obtain ⟨f0, fs, n, syls, -, -, -, -, hs, -, -, rfl⟩ := parseLine_ok_iff.mp h
  intro s hs'
  obtain ⟨t, -, -, hp⟩ := parseSyls_mem hs s hs'
  obtain ⟨hlt, hv⟩ := C13.parse_valid hp
  exact ⟨Nat.pos_of_ne_zero fun e => Bool.false_ne_true (validCode_zero ▸ e ▸ hv), hlt, hv⟩

open CliTrieLink in
/-- **`slice::sort_by` is not assumed to be an insertion sort** — for *every* leaf of Rust
    strings, mixed ones included: the comparator is a total preorder (since the trie fix ddfe893, C11's
    `comparator_total_preorder`), so any arrangement that is sorted by it and stable is the model's leaf
    (`leaf_sort_single` / `leaf_sort_multi_unique` treat the two unmixed kinds of leaf) -/
theorem leaf_sort_stable_unique (ps r : List PF) (hps : ∀ p ∈ ps, ValidPF p) (hr : ∀ p ∈ r, ValidPF p)
    (hs : StableSort.Sorted phraseLess r) (hst : StableSort.StableOf phraseLess ValidPF ps r) : r = phraseSort ps := by
  unfold phraseSort
  rw [stableSort_eq_sortBy]
  exact StableSort.stable_sort_is_sortBy tp_phraseLess ps r hps hr hs hst

open CliTrieLink in
theorem entries_valid {ins : List Rec} (hv : ∀ r ∈ ins, ValidRec r) : ∀ r ∈ entries .trie ins, ValidRec r :=
  fun r hr => hv r (mem_of_mem_entries hr)

open CliTrieLink in
/-- **recompiled_lookup_trie for the concrete files**: `bytes₁` written from the compiler's records,
    `bytes₂` written from the records read back from the dump (= the model's `entries .trie`): both open,
    and every key of non-zero syllables looks up the same phrases with the same frequencies in the same
    order in the two **byte-level** files -/
theorem recompiled_lookup_trie_linked (info : TrieCodec.Info) (hinfo : TrieCodec.ValidInfo info) (ins : List Rec)
    (hv : ∀ r ∈ ins, ValidRec r) (bytes₁ bytes₂ : Der.Bytes)
    (hw₁ : (TrieCodec.Builder.ofEntries info (ins.map toEntry)).write = some bytes₁)
    (hw₂ : (TrieCodec.Builder.ofEntries info ((entries .trie ins).map toEntry)).write = some bytes₂) :
    ∃ tr₁ tr₂, TrieCodec.openTrie bytes₁ = some tr₁ ∧ TrieCodec.openTrie bytes₂ = some tr₂ ∧
      (∀ k, C11.ValidKey k → (TrieCodec.lookupAll tr₂ k .standard).map ofPhrase =
        (TrieCodec.lookupAll tr₁ k .standard).map ofPhrase) ∧
      ∃ ents₁ ents₂, TrieCodec.entries tr₁ = .ok ents₁ ∧ TrieCodec.entries tr₂ = .ok ents₂ ∧
        ∀ x, x ∈ ents₂.map ofEntry ↔ x ∈ ents₁.map ofEntry := by
  obtain ⟨tr₁, e1, o1, _, l1, he1, m1⟩ := trie_file_is_model info hinfo ins hv bytes₁ hw₁
  obtain ⟨tr₂, e2, o2, _, l2, he2, m2⟩ := trie_file_is_model info hinfo _ (entries_valid hv) bytes₂ hw₂
  refine ⟨tr₁, tr₂, o1, o2, fun k hk => ?_, e1, e2, he1, he2, fun x => ?_⟩
  · rw [l1 k hk, l2 k hk]
    exact recompiled_lookup_trie ins k
  · rw [m1, m2, entries_idem]

open CliTrieLink in
/-- **wellformed_source_roundtrip for the concrete trie files.**  A source file of well-formed free-style
    lines (as in `wellformed_source_roundtrip`) whose records are valid for the Rust types; `bytes₁` is
    what `TrieBuilder::write` produced for the compiled records, `bytes₂` what it produced when the dump
    of the first dictionary was compiled again.  Then: the source compiles with nothing reported; the
    first **byte-level** file opens and its `entries()` yields exactly the last record of every
    (syllables, phrase) of the source; the dump text compiles again (nothing reported) to exactly those
    records; the second byte-level file opens, enumerates the same records, and answers every exact
    lookup of a key of non-zero syllables with the same phrases in the same order as the first. -/
theorem wellformed_source_roundtrip_linked (info : TrieCodec.Info) (hinfo : TrieCodec.ValidInfo info)
    (f : Flags) (hdr : Text) (ls : List SrcLine)
    (hok : ∀ l ∈ ls, l.OK f.delim) (hfile : ∀ t ∈ sourceLines f hdr ls, FileLine t)
    (hv : ∀ r ∈ sourceRecs f ls, ValidRec r) (bytes₁ bytes₂ : Der.Bytes)
    (hw₁ : (TrieCodec.Builder.ofEntries info ((sourceRecs f ls).map toEntry)).write = some bytes₁)
    (hw₂ : (TrieCodec.Builder.ofEntries info ((entries .trie (sourceRecs f ls)).map toEntry)).write = some bytes₂) :
    compileRun f (readLines (writeLines (sourceLines f hdr ls))) =
        { reported := [], inserted := some (sourceRecs f ls) } ∧
    compileRun f (readLines (writeLines (dump f.csv (entries .trie (sourceRecs f ls))))) =
        { reported := [], inserted := some (entries .trie (sourceRecs f ls)) } ∧
    ∃ tr₁ tr₂ ents₁ ents₂, TrieCodec.openTrie bytes₁ = some tr₁ ∧ TrieCodec.openTrie bytes₂ = some tr₂ ∧
      TrieCodec.entries tr₁ = .ok ents₁ ∧ TrieCodec.entries tr₂ = .ok ents₂ ∧
      (∀ x, x ∈ ents₁.map ofEntry ↔ LastWins (sourceRecs f ls) x) ∧
      (∀ x, x ∈ ents₂.map ofEntry ↔ LastWins (sourceRecs f ls) x) ∧
      ∀ k, C11.ValidKey k → (TrieCodec.lookupAll tr₂ k .standard).map ofPhrase =
        (TrieCodec.lookupAll tr₁ k .standard).map ofPhrase := by
  obtain ⟨h1, _, h3, _, _⟩ := wellformed_source_roundtrip .trie f hdr ls hok hfile
  obtain ⟨tr₁, e1, o1, _, l1, he1, m1⟩ := trie_file_is_model info hinfo _ hv bytes₁ hw₁
  obtain ⟨tr₂, e2, o2, _, l2, he2, m2⟩ := trie_file_is_model info hinfo _ (entries_valid hv) bytes₂ hw₂
  refine ⟨h1, h3, tr₁, tr₂, e1, e2, o1, o2, he1, he2, fun x => ?_, fun x => ?_, fun k hk => ?_⟩
  · rw [m1, dump_lists_last_records]
  · rw [m2, entries_idem, dump_lists_last_records]
  · rw [l1 k hk, l2 k hk]
    exact recompiled_lookup_trie _ k

/-! ## 7. linked: the ORDER of the dump is the real reader's

The model's `trieEntries` visits the keys in the order `trieOrder` (sorted lexicographically by syllable code with
a prefix first, cut into the maximal runs "each key a prefix of the next", each run reversed), a
transcription of `Trie::entries()`.  C11's `entries_order` proves that the
explicit-stack depth-first walk of the real reader over the bytes `TrieBuilder::write` produced yields exactly
this order (descents along first children in ascending syllable order, `results.pop()` = deepest first), so
`trieOrder` is not an assumption: the enumeration of the concrete file, record for record and in order, IS
the model's `entries .trie`, and the text of `chewing-cli dump` is the model's text. -/

open CliTrieLink in
/-- for the records the compiler inserts (valid for the Rust types) and the bytes
    `TrieBuilder::write` produced for them: `Trie::new` opens the bytes, and the list the real `entries()` yields is,
    as records, EQUAL to the model's `entries .trie rs` (same records, same order — an equation of lists, not of
    sets); so both output formats of `dump` print the model's lines in the model's order -/
theorem dump_order_linked (info : TrieCodec.Info) (hinfo : TrieCodec.ValidInfo info) (rs : List Rec)
    (hv : ∀ r ∈ rs, ValidRec r) (bytes : Der.Bytes)
    (hw : (TrieCodec.Builder.ofEntries info (rs.map toEntry)).write = some bytes) :
    ∃ tr ents, TrieCodec.openTrie bytes = some tr ∧ TrieCodec.entries tr = .ok ents ∧
      ents.map ofEntry = entries .trie rs ∧
      ∀ csv, dump csv (ents.map ofEntry) = dump csv (entries .trie rs) := by
  obtain ⟨tr, ents, ho, _, _, he, heq⟩ := trie_file_is_model info hinfo rs hv bytes hw
  exact ⟨tr, ents, ho, he, heq, fun csv => by rw [heq]⟩

/-- the order spelled out: the model's enumeration lists the keys of the builder in `trieOrder`, every key with
    its leaf in written order (definitional; with `dump_order_linked` this is the real reader's order) -/
theorem dump_order_spelled (rs : List Rec) :
    entries .trie rs = (trieOrder (keysOf (trieBuild rs))).flatMap fun k =>
      (trieLookup (trieBuild rs) k).map (mkRec k) := rfl

open CliTrieLink in
/-- **recompiling the dump, concrete files, in order**: the file compiled from the dump of the first file
    enumerates the SAME list as the first (the model's `dump_compile_roundtrip` "same entries in the same order"
    holds of the two byte-level files) -/
theorem recompiled_entries_trie_linked (info : TrieCodec.Info) (hinfo : TrieCodec.ValidInfo info) (ins : List Rec)
    (hv : ∀ r ∈ ins, ValidRec r) (bytes₁ bytes₂ : Der.Bytes)
    (hw₁ : (TrieCodec.Builder.ofEntries info (ins.map toEntry)).write = some bytes₁)
    (hw₂ : (TrieCodec.Builder.ofEntries info ((entries .trie ins).map toEntry)).write = some bytes₂) :
    ∃ tr₁ tr₂ ents₁ ents₂, TrieCodec.openTrie bytes₁ = some tr₁ ∧ TrieCodec.openTrie bytes₂ = some tr₂ ∧
      TrieCodec.entries tr₁ = .ok ents₁ ∧ TrieCodec.entries tr₂ = .ok ents₂ ∧
      ents₂.map ofEntry = ents₁.map ofEntry := by
  obtain ⟨tr₁, e1, o1, _, _, he1, q1⟩ := trie_file_is_model info hinfo ins hv bytes₁ hw₁
  obtain ⟨tr₂, e2, o2, _, _, he2, q2⟩ := trie_file_is_model info hinfo _ (entries_valid hv) bytes₂ hw₂
  exact ⟨tr₁, tr₂, e1, e2, o1, o2, he1, he2, by rw [q1, q2, entries_idem]⟩

/-! ## non-vacuity: concrete instances of the hypotheses -/

/-- §7: a sorted key list with two descents: `[1] ⊂ [1,2]` comes out deepest first, `[1,3]` and `[2]` follow -/
example : trieOrder [[2], [1, 3], [1], [1, 2]] = [[1, 2], [1], [1, 3], [2]] := by decide +kernel

/-- `測試 9318 ㄘㄜˋ ㄕˋ` -/
example : WellFormedRecord ⟨[28204, 35430], 9318, [10268, 8708]⟩ := by decide +kernel
/-- a phrase starting with `#`, containing a quote and a non-BMP character, maximal frequency -/
example : WellFormedRecord ⟨[35, 34, 131072], 4294967295, [10268, 8708, 8]⟩ := by decide +kernel
example : dumpLine ⟨[28204, 35430], 9318, [10268, 8708]⟩ =
    [28204, 35430, 32, 57, 51, 49, 56, 32, 12568, 12572, 715, 32, 12565, 715] := by decide +kernel
example : dumpCsvLine ⟨[28204], 7, [10268]⟩ = [28204, 44, 55, 44, 12568, 12572, 715] := by decide +kernel
/-- a source that compiles (with a duplicate, a comment and a quoted field) and whose entries are well formed -/
example :
    let src : List Text := [[28204, 32, 53, 32, 12568, 12572, 715],
      [34, 28204, 35430, 34, 32, 32, 57, 32, 12568, 12572, 715, 32, 12565, 715, 32, 35, 32, 120],
      [28204, 35430, 32, 49, 48, 32, 12568, 12572, 715, 32, 12565, 715]]
    (compileRun ⟨false, false, false⟩ src).inserted =
        some [⟨[28204], 0, [10268]⟩, ⟨[28204, 35430], 9, [10268, 8708]⟩, ⟨[28204, 35430], 10, [10268, 8708]⟩] ∧
    entries .trie [⟨[28204], 0, [10268]⟩, ⟨[28204, 35430], 9, [10268, 8708]⟩, ⟨[28204, 35430], 10, [10268, 8708]⟩] =
        [⟨[28204, 35430], 10, [10268, 8708]⟩, ⟨[28204], 0, [10268]⟩] ∧
    ∀ r ∈ entries .trie [⟨[28204], 0, [10268]⟩, ⟨[28204, 35430], 9, [10268, 8708]⟩, ⟨[28204, 35430], 10, [10268, 8708]⟩],
      WellFormedRecord r := by decide +kernel
/-- a well-formed free-style line: `"測試"  "9" "ㄘㄜˋ,ㄕˋ # x"` -/
example : (⟨true, true, true, [32, 32], [32], [44], some ([32], [32, 120]), ⟨[28204, 35430], 9, [10268, 8708]⟩⟩ : SrcLine).text =
    [34, 28204, 35430, 34, 32, 32, 34, 57, 34, 32, 34, 12568, 12572, 715, 44, 12565, 715, 32, 35, 32, 120, 34] := by decide +kernel
example : (⟨true, true, true, [32, 32], [32], [44], some ([32], [32, 120]), ⟨[28204, 35430], 9, [10268, 8708]⟩⟩ : SrcLine).OK 32 :=
  ⟨by decide, ⟨by decide, by decide⟩, ⟨by decide, by decide⟩,
   ⟨by decide, fun c hc => by simp at hc; subst hc; decide⟩,
   fun gc c h => by cases h; exact ⟨by decide, fun c hc => by simp at hc; subst hc; decide⟩⟩
/-- a rejected line, reported as line 2 -/
example : (compileRun ⟨false, false, false⟩ [[28204, 32, 53, 32, 12568, 12572, 715], [28204, 35430, 32, 120, 32, 12568]]).reported
    = [(2, .badFreq)] := by decide +kernel
/-- a line outside the documented format, and one inside it (hypothesis / conclusion of `malformed_full`) -/
example : ¬ StrictLine 32 [28204, 32, 53] := by
  have h1 : parseLine 32 true [28204, 32, 53] = .error .noSyllables := by decide +kernel
  rintro ⟨r, hr, _⟩; rw [h1] at hr; cases hr
example : StrictLine 32 [28204, 35430, 32, 57, 32, 12568, 12572, 715, 32, 12565, 715] :=
  ⟨⟨[28204, 35430], 9, [10268, 8708]⟩, by decide, by decide, by decide, by decide, by decide⟩

/-- §6: the records of the sample source are valid for the Rust types, the concrete file is written (so
    the hypotheses of `trie_backend_linked` / `recompiled_lookup_trie_linked` are met), and its byte-level
    exact lookup is the model's -/
example : ∀ r ∈ ([⟨[28204], 0, [10268]⟩, ⟨[28204, 35430], 9, [10268, 8708]⟩, ⟨[28204, 35430], 10, [10268, 8708]⟩] : List Rec),
    CliTrieLink.ValidRec r := by
  intro r hr
  simp only [List.mem_cons, List.not_mem_nil, or_false] at hr
  rcases hr with rfl | rfl | rfl <;> exact ⟨by decide, by decide, by decide⟩
example : ((TrieCodec.Builder.ofEntries {} (([⟨[28204], 0, [10268]⟩, ⟨[28204, 35430], 9, [10268, 8708]⟩,
    ⟨[28204, 35430], 10, [10268, 8708]⟩] : List Rec).map CliTrieLink.toEntry)).write).isSome = true := by decide +kernel
/-- §6: a mixed leaf — the one-character phrase first, then by descending frequency, in both models -/
example : phraseSort [([1, 2], 5), ([3], 1), ([4, 5], 7)] = [([3], 1), ([4, 5], 7), ([1, 2], 5)] := by decide +kernel

end Chewing.C20
