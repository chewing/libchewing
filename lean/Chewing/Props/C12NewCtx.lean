import Chewing.Proofs.Loader
import Chewing.Proofs.SysLoader
import Chewing.Proofs.C01Shared
import Chewing.Proofs.ProcessState
/-!
# C12 (creation clause) and C17 (locality of creation) over the model of context creation

"Creating an input context over such files likewise either fails cleanly or succeeds" (C12, last sentence) and
"contexts are independent … freshly created" (C17) rest on `chewing_new2`, the `SystemDictionaryLoader`, `src/path.rs`
and the two text parsers — `Model/SysLoader.lean`.  Everything below is for EVERY file system (`FS = Path → Node`),
EVERY environment, EVERY `Trie::open` (a total function `bytes → Option D`) and every path argument, the three kinds of
`const char *` included (NULL, a UTF-8 string, a C string that is not UTF-8).

**C12.**
* `newContext_no_panic` — `chewing_new2` returns (no panic, no fuel) provided the embedded `mini.dat` opens
  (`builtin_needed`: necessary) and the user-side loader returns (`userFileStd_total`: true of `Model/Loader.lean`'s
  `load`, C12 `start_total`); `newContext_std_no_panic` = both plugged in.  No class of path arguments is excluded: the
  model follows the repaired code; `newContextOrig_panics_notUtf8` / `loadUserOrig_panics_empty_path` are the witnesses
  of the defects repaired by 8bbf0a3 / 37fe7c3.
* `newContext_null_iff` — NULL exactly when a path argument is not UTF-8 or the user dictionary cannot be loaded;
  `loadUser_none_iff` spells the latter out.
* `sys_dicts_of_created`, `corrupt_system_pair_falls_back`, `loadSys_error_iff` — a missing / corrupt `word.dat` +
  `tsi.dat` pair falls back to the built-in dictionary (and the drop-ins are still loaded).
* `drop_in_corrupt_skipped`, `drop_in_order`, `mem_dropInNames`, `drop_in_loaded_sublist`, `drop_in_sort_canonical` — a drop-in that does not open is
  skipped, the others keep their order; order = search-path order, then file-name order.
* `search_path_split` — `split(':')` keeps empty segments; `find_path_first_complete` / `find_path_none_iff`.
* parsers: total by type (`parseAbbrev`, `parseSymbols : List Nat → Option _`); `parse_fails_iff_not_utf8`;
  `parseSymbols_wf` — every table `symbols.dat` can produce satisfies C01's `SymWF` (the hypothesis `symOK` of C01's
  invariant is discharged at creation); `created_symbols_wf` — … of every created context; `symbols_orig_blank_line_not_wf` / `abbrev_orig_panics` = the
  repaired defects;
  line-level print → parse round trips.

**C17.** `sysHalf_local` / `newContext_local`: the result depends on the file system only at the paths built from ITS
syspath / userpath (`SysReach`, `UserReach`, plus the legacy-directory probe for NULL arguments);
`write_outside_invisible`: changing any other path changes nothing; `disjoint_creations_independent`; the link to
`Proofs/ProcessState.lean` (`creation_args_local` of `Props/C17.lean`): `createArgs` computes the `CreateArgs` of the
process model from the file system, `process_creation_local` = a process history whose creations read file systems that
agree on each context's own reach produces the same events.
-/
namespace Chewing.C12NewCtx
open Chewing.SysLoader Chewing.Gen.SysLoader

variable {D U : Type}

/-! ## the translator's pins -/

theorem file_names :
    (wordFileS, tsiFileS, abbrevFileS, symbolsFileS, dictFolderS, dropInExtS) =
      ("word.dat", "tsi.dat", "swkb.dat", "symbols.dat", "dictionary.d", "dat") ∧
    (userFileS, uhashFileS, sqliteFileS, memFileS) = ("chewing.dat", "uhash.dat", "chewing.sqlite3", ":memory:") ∧
    searchPathSep = ':' ∧ defaultUnixSysPathS = "/usr/share/libchewing" ∧
    wordFile = wordFileS.toList ∧ tsiFile = tsiFileS.toList ∧ abbrevFile = abbrevFileS.toList ∧
    symbolsFile = symbolsFileS.toList ∧ dictFolder = dictFolderS.toList ∧ dropInExt = dropInExtS.toList ∧
    userFile = userFileS.toList ∧ uhashFile = uhashFileS.toList ∧ sqliteFile = sqliteFileS.toList ∧
    memFile = memFileS.toList ∧ defaultUnixSysPath = defaultUnixSysPathS.toList := by decide +kernel

/-- the `unwrap()` / `expect()` sites of `chewing_new2` are exactly the two `.panic` values of `sysHalf` -/
theorem new2_panic_sites :
    new2PanicSites = ["builtin.unwrap()", "SymbolSelector::new(b\"\".as_slice()).unwrap()"] := rfl

/-- the loaders run in the order `newContext` composes them (system, drop-ins, abbreviations, symbols, user) -/
theorem new2_load_order :
    new2LoadOrder = ["load", "load_drop_in", "load_abbrev", "load_symbol_selector", "user", "user"] := rfl

/-- selection keys `1234567890`, buffers 256/256/16/256/256/32 bytes -/
theorem initial_context_constants :
    initialSelKeys = [49, 50, 51, 52, 53, 54, 55, 56, 57, 48] ∧
    contextBuffers.map (·.2) = [256, 256, 16, 256, 256, 32] := ⟨rfl, rfl⟩

/-- `split(':')`: joining the segments with `:` gives the search path back, there is one segment more than `:`
    characters (EMPTY segments are kept), no segment contains a `:` -/
theorem search_path_split (sp : Path) :
    joinSep searchPathSep (segments sp) = sp ∧ (segments sp).length = sp.count searchPathSep + 1 ∧
      ∀ seg ∈ segments sp, searchPathSep ∉ seg :=
  ⟨joinSep_splitSep _ sp, splitSep_length _ sp, splitSep_no_sep _ sp⟩

/-- `find_path_by_files` answers the FIRST segment under which ALL files exist -/
theorem find_path_first_complete {fs : FS} {sp : Path} {files : List Path} {d : Path}
    (h : findPathByFiles fs sp files = some d) :
    ∃ before after, segments sp = before ++ d :: after ∧
      (∀ f ∈ files, (fs (joinPath d f)).present = true) ∧
      ∀ seg ∈ before, ∃ f ∈ files, (fs (joinPath seg f)).present = false := by
  unfold findPathByFiles at h
  rcases List.find?_eq_some_iff_append.1 h with ⟨hp, before, after, hs, hb⟩
  refine ⟨before, after, hs, ?_, ?_⟩
  · simpa [List.all_eq_true] using hp
  · intro seg hseg
    have := hb seg hseg
    simpa [List.all_eq_true] using this

theorem find_path_none_iff {fs : FS} {sp : Path} {files : List Path} :
    findPathByFiles fs sp files = none ↔ ∀ seg ∈ segments sp, ∃ f ∈ files, (fs (joinPath seg f)).present = false := by
  unfold findPathByFiles
  simp [List.find?_eq_none, List.all_eq_true]

/-- exactly the regular files `*.dat` of `<seg>/dictionary.d` -/
theorem mem_dropInNames {fs : FS} {seg n : Path} :
    n ∈ dropInNames fs seg ↔
      ∃ names, fs (joinPath seg dictFolder) = .dir names ∧ n ∈ names ∧
        (fs (joinPath (joinPath seg dictFolder) n)).isFile = true ∧ extension n = some dropInExt := by
  unfold dropInNames
  cases fs (joinPath seg dictFolder) <;> simp [mem_sortNames]

/-- **drop-in order = search-path order, then file-name order**: the list is the concatenation over the segments in
    order (duplicate and empty segments included), each segment's part sorted by name -/
theorem drop_in_order (fs : FS) (sp : Path) :
    findDropIn fs sp = (segments sp).flatMap (fun seg => (dropInNames fs seg).map (joinPath (joinPath seg dictFolder))) ∧
      ∀ seg, Sorted (dropInNames fs seg) := by
  refine ⟨rfl, fun seg => ?_⟩
  unfold dropInNames
  split
  · exact sortNames_sorted _
  · exact List.Pairwise.nil

/-- the sort loses and invents nothing -/
theorem drop_in_names_perm {fs : FS} {seg : Path} {names : List Path} (h : fs (joinPath seg dictFolder) = .dir names) :
    (dropInNames fs seg).Perm
      (names.filter (fun n => (fs (joinPath (joinPath seg dictFolder) n)).isFile && extension n == some dropInExt)) := by
  unfold dropInNames; rw [h]; exact sortNames_perm _

/-- the model's insertion sort stands for ANY sorting algorithm (`slice::sort` is a merge sort): a list that is sorted and
    holds exactly the regular `*.dat` files of the directory IS `dropInNames` -/
theorem drop_in_sort_canonical {fs : FS} {seg : Path} {names l : List Path} (h : fs (joinPath seg dictFolder) = .dir names)
    (hs : Sorted l)
    (hp : l.Perm (names.filter (fun n => (fs (joinPath (joinPath seg dictFolder) n)).isFile && extension n == some dropInExt))) :
    l = dropInNames fs seg :=
  sorted_perm_eq hs ((drop_in_order fs [] ).2 seg) (hp.trans (drop_in_names_perm h).symm)

/-- **a corrupt drop-in is skipped and the others keep their order** -/
theorem drop_in_corrupt_skipped (op : List Nat → Option D) (fs : FS) (sp : Path) (l1 l2 : List Path) (p : Path)
    (hl : findDropIn fs sp = l1 ++ p :: l2) (hp : openFile op fs p = none) :
    loadDropIn op fs sp = l1.filterMap (openFile op fs) ++ l2.filterMap (openFile op fs) := by
  unfold loadDropIn
  rw [hl, List.filterMap_append, List.filterMap_cons, hp]

/-- what is loaded is, in order, what opens -/
theorem drop_in_loaded_sublist (op : List Nat → Option D) (fs : FS) (sp : Path) :
    ((loadDropIn op fs sp).map some).Sublist ((findDropIn fs sp).map (openFile op fs)) := by
  unfold loadDropIn
  induction findDropIn fs sp with
  | nil => simp
  | cons p ps ih =>
    simp only [List.filterMap_cons, List.map_cons]
    cases h : openFile op fs p with
    | none => exact ih.cons _
    | some d => simpa using ih.cons_cons (some d)

/-- a drop-in that opens is loaded -/
theorem drop_in_valid_loaded (op : List Nat → Option D) (fs : FS) (sp : Path) (p : Path) (d : D)
    (hp : p ∈ findDropIn fs sp) (ho : openFile op fs p = some d) : d ∈ loadDropIn op fs sp := by
  unfold loadDropIn
  exact List.mem_filterMap.2 ⟨p, hp, ho⟩

theorem loadSys_error_iff (op : List Nat → Option D) (fs : FS) (sp : Path) :
    (∃ e, loadSys op fs sp = .error e) ↔
      findPathByFiles fs sp [wordFile, tsiFile] = none ∨
      ∃ d, findPathByFiles fs sp [wordFile, tsiFile] = some d ∧
        (openFile op fs (joinPath d wordFile) = none ∨ openFile op fs (joinPath d tsiFile) = none) := by
  unfold loadSys
  cases findPathByFiles fs sp [wordFile, tsiFile] with
  | none => simp
  | some d =>
    dsimp only
    cases hw : openFile op fs (joinPath d wordFile) <;> cases ht : openFile op fs (joinPath d tsiFile) <;>
      simp [hw, ht]

theorem loadSys_ok_iff (op : List Nat → Option D) (fs : FS) (sp : Path) (ds : List D) :
    loadSys op fs sp = .ok ds ↔
      ∃ d w t, findPathByFiles fs sp [wordFile, tsiFile] = some d ∧ openFile op fs (joinPath d wordFile) = some w ∧
        openFile op fs (joinPath d tsiFile) = some t ∧ ds = [w, t] := by
  unfold loadSys
  cases hf : findPathByFiles fs sp [wordFile, tsiFile] with
  | none => simp
  | some d =>
    cases hw : openFile op fs (joinPath d wordFile) with
    | none => simp [hw]
    | some w =>
      cases ht : openFile op fs (joinPath d tsiFile) with
      | none => simp [hw, ht]
      | some t =>
        simp only [hw, ht]
        constructor
        · intro h; injection h with h; subst h; exact ⟨d, w, t, rfl, hw, ht, rfl⟩
        · rintro ⟨d', w', t', hd, hw', ht', rfl⟩
          cases hd; rw [hw] at hw'; rw [ht] at ht'; cases hw'; cases ht'; rfl

theorem allSome_isSome_iff {α β : Type} (f : α → Option β) : ∀ l : List α, (allSome f l).isSome ↔ ∀ x ∈ l, (f x).isSome
  | [] => by simp [allSome]
  | x :: xs => by
    have ih := allSome_isSome_iff f xs
    unfold allSome
    cases h : f x with
    | none => simp [h]
    | some y => simp [h, ih]

/-- both parsers fail (an ordinary `io::Error`, `InvalidData`) exactly when some line is not UTF-8 — nothing else can go
    wrong on ANY byte string -/
theorem parse_fails_iff_not_utf8 (b : List Nat) :
    ((parseAbbrev b).isSome ↔ ∀ l ∈ rawLines b, (CStr.utf8Decode l).isSome) ∧
    ((parseSymbols b).isSome ↔ ∀ l ∈ rawLines b, (CStr.utf8Decode l).isSome) := by
  unfold parseAbbrev parseSymbols textLines
  simp [Option.isSome_map, allSome_isSome_iff]

/-- the empty tables `chewing_new2` falls back to -/
theorem empty_tables : parseAbbrev [] = some [] ∧ parseSymbols [] = some {} := ⟨rfl, rfl⟩

/-- invariant of the `symbols.dat` loop -/
def SymAccWF (a : SymAcc) : Prop :=
  (∀ name, (name, none) ∈ a.category → name ≠ []) ∧ ∀ name i, (name, some i) ∈ a.category → i < a.table.length

/-- appending one category (with the tables it brings) keeps the invariant -/
theorem SymAccWF.push {a : SymAcc} (h : SymAccWF a) (name : Text) (o : Option Nat) (ts : List Text)
    (hleaf : o = none → name ≠ []) (htab : ∀ i, o = some i → i < (a.table ++ ts).length) :
    SymAccWF { category := a.category ++ [(name, o)], table := a.table ++ ts } := by
  refine ⟨fun n hm => ?_, fun n i hm => ?_⟩ <;>
    simp only [List.mem_append, List.mem_singleton, Prod.mk.injEq] at hm <;> rcases hm with hm | ⟨rfl, ho⟩
  · exact h.1 n hm
  · exact hleaf ho.symm
  · exact Nat.lt_of_lt_of_le (h.2 n i hm) (by simp)
  · exact htab i ho.symm

theorem symbolLine_wf {a : SymAcc} (h : SymAccWF a) (l : Text) : SymAccWF (symbolLine a l) := by
  unfold symbolLine
  split
  · exact h
  · next hl =>
    split
    · exact h.push _ _ [_] nofun fun i hi => by cases hi; simp
    · simpa using h.push l none [] (fun _ => hl) nofun

theorem foldl_symbolLine_wf : ∀ (ls : List Text) (a : SymAcc), SymAccWF a → SymAccWF (ls.foldl symbolLine a)
  | [], _, h => h
  | l :: ls, _, h => foldl_symbolLine_wf ls _ (symbolLine_wf h l)

/-- **every table `SymbolSelector::new` can produce is well formed in the sense of C01** (`C01.SymWF`: a leaf category
    has a name, a table category points to an existing table even after the `as u8` cast, no category is open): the
    hypothesis `symOK` of C01's invariant holds at creation for EVERY `symbols.dat` -/
theorem parseSymbols_wf (b : List Nat) (y : SymSel) (h : parseSymbols b = some y) : C01.SymWF y := by
  unfold parseSymbols at h
  cases hl : textLines b with
  | none => simp [hl] at h
  | some ls =>
    simp only [hl, Option.map_some, Option.some.injEq] at h
    subst h
    have h0 : SymAccWF {} := ⟨fun _ hm => absurd hm List.not_mem_nil, fun _ _ hm => absurd hm List.not_mem_nil⟩
    have hw := foldl_symbolLine_wf ls {} h0
    refine ⟨fun c hc => (by cases hc), hw.1, fun name i hm => ?_⟩
    have := hw.2 name i hm
    exact Nat.lt_of_le_of_lt (Nat.mod_le _ _) this

/-- before fix 0301be3: a blank line became a leaf category without a name (choosing it ran `chars().next().unwrap()` on
    the empty string — `SymWF.leaf` is exactly what C01's `symSelect_ok` needs) -/
theorem symbols_orig_blank_line_not_wf : ¬ C01.SymWF ((symbolLineOrig {} []).toSel) := by
  intro h
  exact h.leaf [] (by simp [symbolLineOrig, splitOnce, SymAcc.toSel]) rfl

/-- before fix 90b92ad: a `swkb.dat` line without a space, or starting with one, panicked (`nospace`, ` x`) -/
theorem abbrev_orig_panics :
    abbrevLineOrig [] [110, 111, 115, 112, 97, 99, 101] = .panic "each line should have at last one separator" ∧
    abbrevLineOrig [] [32, 120] = .panic "abbr.chars().nth(0).unwrap()" ∧
    abbrevLine [] [110, 111, 115, 112, 97, 99, 101] = [] ∧ abbrevLine [] [32, 120] = [] := ⟨rfl, rfl, rfl, rfl⟩

theorem splitOnce_append (sep : Nat) : ∀ (c t : Text), sep ∉ c → splitOnce sep (c ++ sep :: t) = some (c, t)
  | [], t, _ => by simp [splitOnce]
  | x :: xs, t, h => by
    have hx : x ≠ sep := fun e => h (by simp [e])
    have hxs : sep ∉ xs := fun e => h (by simp [e])
    simp [splitOnce, hx, splitOnce_append sep xs t hxs]

theorem splitOnce_none (sep : Nat) : ∀ c : Text, sep ∉ c → splitOnce sep c = none
  | [], _ => rfl
  | x :: xs, h => by
    have hx : x ≠ sep := fun e => h (by simp [e])
    simp [splitOnce, hx, splitOnce_none sep xs fun e => h (by simp [e])]

/-- print → parse, one `swkb.dat` line: `<c…> <expansion>` binds the first character of the abbreviation -/
theorem abbrev_line_roundtrip (t : AbbrevTable) (c : Nat) (rest e : Text) (hc : abbrevSep ∉ c :: rest) :
    abbrevLine t ((c :: rest) ++ abbrevSep :: e) = (c, e) :: t := by
  unfold abbrevLine
  rw [splitOnce_append abbrevSep (c :: rest) e hc]

/-- print → parse, one `symbols.dat` line of either kind -/
theorem symbol_line_roundtrip (a : SymAcc) (c t : Text) (hc : symbolSep ∉ c) :
    symbolLine a (c ++ symbolSep :: t) = { category := a.category ++ [(c, some a.table.length)], table := a.table ++ [t] } ∧
    (c ≠ [] → symbolLine a c = { a with category := a.category ++ [(c, none)] }) := by
  constructor
  · unfold symbolLine
    rw [splitOnce_append symbolSep c t hc]
    simp
  · intro hne
    unfold symbolLine
    simp [hne, splitOnce_none symbolSep c hc]

/-- a later binding of the same character wins (`BTreeMap::insert`) -/
theorem abbrev_last_wins (t : AbbrevTable) (c : Nat) (e : Text) : AbbrevTable.find ((c, e) :: t) c = some e := by
  simp [AbbrevTable.find]

def UserTotal (us : UserSide U) : Prop := ∀ fs p, Returns (us.file fs p)

/-- `UserDictionaryLoader::load` once it has a path -/
def loadUserAt (us : UserSide U) (fs : FS) (p : Path) : Outcome (Option U) :=
  if isMem p then .ok (some us.memory)
  else if (fs p).present then us.file fs p
  else if parentNone p then .ok none
  else us.file fs p

/-- `data_path = arg.or_else(userphrase_path)` -/
theorem loadUser_eq (us : UserSide U) (fs : FS) (env : SysLoader.Env) (arg : Option Path) :
    loadUser us fs env arg = match arg.or (userphrasePath fs env) with
      | none => .ok none
      | some p => loadUserAt us fs p := by
  cases arg <;> rfl

theorem loadUser_returns {us : UserSide U} (hu : UserTotal us) (fs : FS) (env : SysLoader.Env) (arg : Option Path) :
    Returns (loadUser us fs env arg) := by
  rw [loadUser_eq]
  split
  · exact .ok _
  · exact .ite (fun _ => .ok _) fun _ => .ite (fun _ => hu _ _) fun _ => .ite (fun _ => .ok _) fun _ => hu _ _

/-- the search path a creation uses -/
def searchPathOf (fs : FS) (env : SysLoader.Env) : PathArg → Path
  | .str p => p
  | _ => sysPathFromEnv fs env

def userArgOf : PathArg → Option Path
  | .str p => some p
  | _ => none

/-- what the system half yields with the built-in dictionary `b` at hand: every loader that reports an error is replaced
    by its fall-back -/
def sysPart (P : Params D U) (b : D) (fs : FS) (sp : Path) : List D × AbbrevTable × SymSel :=
  ((match loadSys P.openTrie fs sp with
    | .ok ds => ds
    | .error _ => [b]) ++ loadDropIn P.openTrie fs sp,
   (match loadAbbrev fs sp with
    | .ok a => a
    | .error _ => []),
   (match loadSymbols fs sp with
    | .ok s => s
    | .error _ => {}))

/-- … so neither `unwrap()` of the system half can fail -/
theorem sysHalf_ok (P : Params D U) {b : D} (hb : P.builtin = some b) (fs : FS) (sp : Path) :
    sysHalf P fs sp = .ok (sysPart P b fs sp) := by
  unfold sysHalf sysPart
  simp only [hb, show parseSymbols [] = some {} from rfl]
  cases loadSys P.openTrie fs sp <;> cases loadSymbols fs sp <;> rfl

def ctxOf (r : List D × AbbrevTable × SymSel) (u : U) : NewCtx D U :=
  { sysDicts := r.1, user := u, abbr := r.2.1, symbols := r.2.2 }

/-- `chewing_new2` in one piece: the two exits for an argument that is not UTF-8, the system half over `searchPathOf`, the
    user dictionary at `userArgOf` -/
theorem newContext_eq (P : Params D U) (fs : FS) (env : SysLoader.Env) (syspath userpath : PathArg) :
    newContext P fs env syspath userpath =
      if syspath = .notUtf8 then .ok none
      else (sysHalf P fs (searchPathOf fs env syspath)).bind fun r =>
        if userpath = .notUtf8 then .ok none
        else (loadUser P.user fs env (userArgOf userpath)).map (·.map (ctxOf r)) := by
  unfold newContext
  cases syspath <;> cases userpath <;> simp only [searchPathOf, userArgOf, reduceCtorEq, if_true, if_false] <;>
    rcases sysHalf P fs _ with ⟨d, a, s⟩ | _ | _ <;> try rfl
  all_goals rcases loadUser P.user fs env _ with (_ | u) | _ | _ <;> rfl

/-- … and with the built-in dictionary at hand: NULL for an argument that is not UTF-8, else the user dictionary decides,
    and the context is `ctxOf (sysPart …)` of it -/
theorem newContext_char (P : Params D U) {b : D} (hb : P.builtin = some b) (fs : FS) (env : SysLoader.Env)
    (syspath userpath : PathArg) :
    newContext P fs env syspath userpath =
      if syspath = .notUtf8 ∨ userpath = .notUtf8 then .ok none
      else (loadUser P.user fs env (userArgOf userpath)).map
        (·.map (ctxOf (sysPart P b fs (searchPathOf fs env syspath)))) := by
  rw [newContext_eq, sysHalf_ok P hb]
  by_cases hs : syspath = .notUtf8 <;> simp [hs, Outcome.bind]

/-- **`chewing_new2` never panics** — for every file system, environment, `Trie::open` and all three kinds of path
    argument (a C string that is not UTF-8 included: it yields NULL since fix 8bbf0a3) -/
theorem newContext_no_panic (P : Params D U) (hb : P.builtin.isSome) (hu : UserTotal P.user) (fs : FS)
    (env : SysLoader.Env) (syspath userpath : PathArg) : Returns (newContext P fs env syspath userpath) := by
  obtain ⟨b, hb⟩ := Option.isSome_iff_exists.1 hb
  rw [newContext_char P hb]
  exact .ite (fun _ => .ok _) fun _ => .map (loadUser_returns hu ..) _

/-- **NULL exactly when a path argument is not UTF-8 or the user dictionary cannot be loaded** -/
theorem newContext_null_iff (P : Params D U) (hb : P.builtin.isSome) (fs : FS) (env : SysLoader.Env)
    (syspath userpath : PathArg) :
    newContext P fs env syspath userpath = .ok none ↔
      syspath = .notUtf8 ∨ userpath = .notUtf8 ∨ loadUser P.user fs env (userArgOf userpath) = .ok none := by
  obtain ⟨b, hb⟩ := Option.isSome_iff_exists.1 hb
  rw [newContext_char P hb, ← or_assoc]
  split <;> simp [*]
  rcases loadUser P.user fs env (userArgOf userpath) with (_ | _) | _ | _ <;> simp [Outcome.map]

/-- when the user dictionary cannot be loaded: no path at all (NULL argument and no home directory), an existing path
    or a creatable one that the file-level loader refuses, or a path without a file name -/
theorem loadUser_none_iff (us : UserSide U) (fs : FS) (env : SysLoader.Env) (arg : Option Path) :
    loadUser us fs env arg = .ok none ↔
      (arg = none ∧ userphrasePath fs env = none) ∨
      ∃ p, (arg = some p ∨ (arg = none ∧ userphrasePath fs env = some p)) ∧ isMem p = false ∧
        (((fs p).present = true ∨ parentNone p = false) ∧ us.file fs p = .ok none ∨
         (fs p).present = false ∧ parentNone p = true) := by
  rw [loadUser_eq, ← Option.or_eq_none_iff]
  simp only [← Option.or_eq_some_iff]
  cases arg.or (userphrasePath fs env) with
  | none => simp
  | some p =>
    by_cases hm : isMem p = true <;> by_cases he : (fs p).present = true <;> by_cases hn : parentNone p = true <;>
      simp [loadUserAt, hm, he, hn]

/-- the dictionaries of a created context: the pair found on the search path, or the built-in one; then the drop-ins -/
theorem sys_dicts_of_created (P : Params D U) (b : D) (hb : P.builtin = some b) (fs : FS) (env : SysLoader.Env)
    (syspath userpath : PathArg) (c : NewCtx D U) (h : newContext P fs env syspath userpath = .ok (some c)) :
    c.sysDicts =
      (match loadSys P.openTrie fs (searchPathOf fs env syspath) with
        | .ok ds => ds
        | .error _ => [b]) ++ loadDropIn P.openTrie fs (searchPathOf fs env syspath) ∧
    c.abbr = (match loadAbbrev fs (searchPathOf fs env syspath) with
        | .ok a => a
        | .error _ => []) ∧
    c.symbols = (match loadSymbols fs (searchPathOf fs env syspath) with
        | .ok s => s
        | .error _ => {}) ∧
    c.selKeys = initialSelKeys ∧ c.bufferSizes = contextBuffers.map (·.2) := by
  rw [newContext_char P hb] at h
  split at h
  · cases h
  · obtain ⟨_ | u, -, h⟩ := Outcome.of_map_ok h <;> cases h
    exact ⟨rfl, rfl, rfl, rfl, rfl⟩

theorem loadSymbols_wf {fs : FS} {sp : Path} {y : SymSel} (h : loadSymbols fs sp = .ok y) : C01.SymWF y := by
  unfold loadSymbols loadTable at h
  split at h
  · cases h
  · split at h
    · split at h
      · next hp => cases h; exact parseSymbols_wf _ _ hp
      · cases h
    · cases h

/-- **the symbol table of EVERY created context is well formed** (`C01.SymWF`, the clause `symOK` of C01's invariant):
    whatever `symbols.dat` holds — or if it is missing, unreadable, not UTF-8 — no later choice in the symbol menu can hit
    the `unwrap()` / the out-of-range index of `SymbolSelector::select` -/
theorem created_symbols_wf (P : Params D U) (b : D) (hb : P.builtin = some b) (fs : FS) (env : SysLoader.Env)
    (syspath userpath : PathArg) (c : NewCtx D U) (h : newContext P fs env syspath userpath = .ok (some c)) :
    C01.SymWF c.symbols := by
  have := (sys_dicts_of_created P b hb fs env syspath userpath c h).2.2.1
  rw [this]
  cases hl : loadSymbols fs (searchPathOf fs env syspath) with
  | ok y => exact loadSymbols_wf hl
  | error e => exact parseSymbols_wf [] _ rfl

/-- **a corrupt or missing system dictionary pair falls back to the built-in dictionary** (the drop-ins are still loaded
    behind it) -/
theorem corrupt_system_pair_falls_back (P : Params D U) (b : D) (hb : P.builtin = some b) (fs : FS) (env : SysLoader.Env)
    (syspath userpath : PathArg) (c : NewCtx D U) (h : newContext P fs env syspath userpath = .ok (some c))
    (hbad : findPathByFiles fs (searchPathOf fs env syspath) [wordFile, tsiFile] = none ∨
      ∃ d, findPathByFiles fs (searchPathOf fs env syspath) [wordFile, tsiFile] = some d ∧
        (openFile P.openTrie fs (joinPath d wordFile) = none ∨ openFile P.openTrie fs (joinPath d tsiFile) = none)) :
    c.sysDicts = b :: loadDropIn P.openTrie fs (searchPathOf fs env syspath) := by
  obtain ⟨e, he⟩ := (loadSys_error_iff P.openTrie fs _).2 hbad
  have := (sys_dicts_of_created P b hb fs env syspath userpath c h).1
  rw [he] at this
  simpa using this

/-- the hypothesis on the embedded dictionary is necessary: were `mini.dat` rejected, every creation without a system
    dictionary pair would abort -/
theorem builtin_needed (P : Params D U) (hb : P.builtin = none) (fs : FS) (env : SysLoader.Env) (q : Path)
    (userpath : PathArg) (e : LoadErr) (he : loadSys P.openTrie fs q = .error e) :
    newContext P fs env (.str q) userpath = .panic "builtin.unwrap()" := by
  unfold newContext sysHalf
  simp [he, hb]

/-- before fix 8bbf0a3: a syspath or userpath that is not UTF-8 (a legal unix path) aborted the host -/
theorem newContextOrig_panics_notUtf8 (P : Params D U) (fs : FS) (env : SysLoader.Env) (other : PathArg) :
    newContextOrig P fs env .notUtf8 other = .panic "invalid syspath string" ∧
    (P.builtin.isSome → ∀ q, newContextOrig P fs env (.str q) .notUtf8 = .panic "invalid syspath string") := by
  refine ⟨by cases other <;> rfl, fun hb q => ?_⟩
  obtain ⟨b, hb⟩ := Option.isSome_iff_exists.1 hb
  unfold newContextOrig
  simp only [sysHalf_ok P hb]

/-- before fix 37fe7c3: the empty user path aborted the host (`parent().expect("path should contain a filename")`) -/
theorem loadUserOrig_panics_empty_path (us : UserSide U) (fs : FS) (env : SysLoader.Env) (h : fs [] = .absent) :
    loadUserOrig us fs env (some []) = .panic "path should contain a filename" ∧
    loadUser us fs env (some []) = .ok none := by
  unfold loadUserOrig loadUser
  simp [isMem, components, splitSep, h, Node.present, parentNone]

theorem userFileStd_total (feat : Bool) (openDat : List Nat → Option Loader.UMap)
    (openLegacySql : List Nat → Option (List Uhash.Rec)) (sqlite : FS → Path → Option Loader.UMap) (fs : FS) (p : Path) :
    Returns (userFileStd feat openDat openLegacySql sqlite fs p) :=
  .ite (fun _ => .ok _) fun _ => .ite (fun _ => .ok _) fun _ =>
    .ite (fun _ => .map (Loader.load_returns ..) _) fun _ => .ok _

/-- the parameters with the standard user side -/
def stdParams (openTrie : List Nat → Option D) (b : D) (mem : Loader.UMap) (feat : Bool)
    (openDat : List Nat → Option Loader.UMap) (openLegacySql : List Nat → Option (List Uhash.Rec))
    (sqlite : FS → Path → Option Loader.UMap) : Params D Loader.UMap where
  openTrie := openTrie
  builtin := some b
  user := ⟨mem, userFileStd feat openDat openLegacySql sqlite⟩

/-- `chewing_new2` with the user-dictionary loader of `Model/Loader.lean` (C12 `start_total`) plugged in: the only
    hypothesis left is that the embedded `mini.dat` opens -/
theorem newContext_std_no_panic (openTrie : List Nat → Option D) (b : D) (mem : Loader.UMap) (feat : Bool)
    (openDat : List Nat → Option Loader.UMap) (openLegacySql : List Nat → Option (List Uhash.Rec))
    (sqlite : FS → Path → Option Loader.UMap) (fs : FS) (env : SysLoader.Env) (syspath userpath : PathArg) :
    Returns (newContext (stdParams openTrie b mem feat openDat openLegacySql sqlite) fs env syspath userpath) :=
  newContext_no_panic _ rfl (fun fs p => userFileStd_total feat openDat openLegacySql sqlite fs p) fs env syspath userpath

/-! ## C17: locality of creation -/

/-- the paths a creation with search path `sp` can look at: the five probes under every segment and the entries of
    every segment's `dictionary.d` -/
def SysReach (sp : Path) (p : Path) : Prop :=
  ∃ seg ∈ segments sp,
    (∃ f ∈ [wordFile, tsiFile, abbrevFile, symbolsFile, dictFolder], p = joinPath seg f) ∨
    ∃ n, p = joinPath (joinPath seg dictFolder) n

section
variable {fs fs' : FS} {sp : Path} (h : ∀ p, SysReach sp p → fs p = fs' p)
include h

theorem loadSys_local (op : List Nat → Option D) : loadSys op fs sp = loadSys op fs' sp := by
  have hf : findPathByFiles fs sp [wordFile, tsiFile] = findPathByFiles fs' sp [wordFile, tsiFile] :=
    findPathByFiles_congr fun seg hseg f hf => h _ ⟨seg, hseg, .inl ⟨f, by
      simp only [List.mem_cons, List.not_mem_nil, or_false] at hf ⊢; rcases hf with rfl | rfl <;> simp, rfl⟩⟩
  unfold loadSys
  rw [← hf]
  cases hd : findPathByFiles fs sp [wordFile, tsiFile] with
  | none => rfl
  | some d =>
    have hm := findPathByFiles_mem hd
    simp only
    rw [openFile_congr op (h _ ⟨d, hm, .inl ⟨wordFile, by simp, rfl⟩⟩),
      openFile_congr op (h _ ⟨d, hm, .inl ⟨tsiFile, by simp, rfl⟩⟩)]

theorem findDropIn_local : findDropIn fs sp = findDropIn fs' sp := by
  unfold findDropIn
  apply flatMap_congr'
  intro seg hseg
  unfold dropInsOf
  rw [dropInNames_congr (h _ ⟨seg, hseg, .inl ⟨dictFolder, by simp, rfl⟩⟩) (fun n => h _ ⟨seg, hseg, .inr ⟨n, rfl⟩⟩)]

theorem loadDropIn_local (op : List Nat → Option D) : loadDropIn op fs sp = loadDropIn op fs' sp := by
  unfold loadDropIn
  rw [← findDropIn_local h]
  apply filterMap_congr'
  intro p hp
  unfold findDropIn at hp
  rcases List.mem_flatMap.1 hp with ⟨seg, hseg, hp⟩
  obtain ⟨n, rfl⟩ := mem_dropInsOf hp
  exact openFile_congr op (h _ ⟨seg, hseg, .inr ⟨n, rfl⟩⟩)

theorem loadTable_local {T : Type} (parse : List Nat → Option T) {file : Path}
    (hfile : file ∈ [wordFile, tsiFile, abbrevFile, symbolsFile, dictFolder]) :
    loadTable parse file fs sp = loadTable parse file fs' sp := by
  have hf : findPathByFiles fs sp [file] = findPathByFiles fs' sp [file] :=
    findPathByFiles_congr fun seg hseg f hf => h _ ⟨seg, hseg, .inl ⟨f, by
      simp only [List.mem_singleton] at hf; subst hf; exact hfile, rfl⟩⟩
  unfold loadTable
  rw [← hf]
  cases hd : findPathByFiles fs sp [file] with
  | none => rfl
  | some d =>
    simp only
    rw [h _ ⟨d, findPathByFiles_mem hd, .inl ⟨file, hfile, rfl⟩⟩]

end

/-- **the system half of a creation reads nothing but its own search path** -/
theorem sysHalf_local (P : Params D U) {fs fs' : FS} {sp : Path} (h : ∀ p, SysReach sp p → fs p = fs' p) :
    sysHalf P fs sp = sysHalf P fs' sp := by
  unfold sysHalf loadAbbrev loadSymbols
  rw [loadSys_local h, loadDropIn_local h, loadTable_local h parseAbbrev (by simp),
    loadTable_local h parseSymbols (by simp)]

/-- the user side looks at nothing but the user path, `uhash.dat` and `chewing.sqlite3` beside it -/
def UserReach (up : Path) (p : Path) : Prop :=
  p = up ∨ p = joinPath (parentOf up) uhashFile ∨ p = joinPath (parentOf up) sqliteFile

/-- … as a property of a user-side loader -/
def UserLocal (us : UserSide U) : Prop :=
  ∀ fs fs' up, (∀ p, UserReach up p → fs p = fs' p) → us.file fs up = us.file fs' up

theorem userFileStd_local (feat : Bool) (openDat : List Nat → Option Loader.UMap)
    (openLegacySql : List Nat → Option (List Uhash.Rec)) (sqlite : FS → Path → Option Loader.UMap)
    (hsql : ∀ fs fs' up, (∀ p, UserReach up p → fs p = fs' p) → sqlite fs up = sqlite fs' up) (mem : Loader.UMap) :
    UserLocal ({ memory := mem, file := userFileStd feat openDat openLegacySql sqlite } : UserSide Loader.UMap) := by
  intro fs fs' up h
  show userFileStd feat openDat openLegacySql sqlite fs up = userFileStd feat openDat openLegacySql sqlite fs' up
  unfold userFileStd userDirOf
  rw [h up (.inl rfl), h _ (.inr (.inl rfl)), h _ (.inr (.inr rfl)), hsql fs fs' up h]

/-- two file systems that yield the same search path and the same user path, and agree on what is reachable through
    them, give the same result (context or NULL) -/
theorem newContext_congr (P : Params D U) (hl : UserLocal P.user) {fs fs' : FS} (env : SysLoader.Env)
    (syspath userpath : PathArg) (hsp : searchPathOf fs env syspath = searchPathOf fs' env syspath)
    (hup : (userArgOf userpath).or (userphrasePath fs env) = (userArgOf userpath).or (userphrasePath fs' env))
    (hs : ∀ p, SysReach (searchPathOf fs env syspath) p → fs p = fs' p)
    (hu : ∀ up, (userArgOf userpath).or (userphrasePath fs env) = some up → ∀ p, UserReach up p → fs p = fs' p) :
    newContext P fs env syspath userpath = newContext P fs' env syspath userpath := by
  have hlu : loadUser P.user fs env (userArgOf userpath) = loadUser P.user fs' env (userArgOf userpath) := by
    rw [loadUser_eq, loadUser_eq, ← hup]
    cases hp : (userArgOf userpath).or (userphrasePath fs env) with
    | none => rfl
    | some up =>
      -- the loader looks at the user path itself, then hands it to the local `UserSide.file`
      have hh := hu up hp
      simp only [loadUserAt]
      rw [hh up (.inl rfl), hl fs fs' up hh]
  rw [newContext_eq, newContext_eq, ← hsp, sysHalf_local P hs, hlu]

/-- **locality of `chewing_new2(syspath, userpath)` for string arguments**: two file systems that agree on what is
    reachable through ITS syspath and ITS userpath give the same result (context or NULL) -/
theorem newContext_local (P : Params D U) (hl : UserLocal P.user) {fs fs' : FS} (env : SysLoader.Env) (sp up : Path)
    (hs : ∀ p, SysReach sp p → fs p = fs' p) (hu : ∀ p, UserReach up p → fs p = fs' p) :
    newContext P fs env (.str sp) (.str up) = newContext P fs' env (.str sp) (.str up) :=
  newContext_congr P hl env (.str sp) (.str up) rfl rfl hs fun _ h => by cases h; exact hu

/-- … and for NULL arguments (`chewing_new()`): additionally the probe of the legacy directory `$HOME/.chewing`, and
    the reach is that of the paths the ENVIRONMENT yields -/
theorem newContext_local_env (P : Params D U) (hl : UserLocal P.user) {fs fs' : FS} (env : SysLoader.Env)
    (syspath userpath : PathArg)
    (hleg : ∀ p, legacyDataDir env = some p → fs p = fs' p)
    (hs : ∀ p, SysReach (searchPathOf fs env syspath) p → fs p = fs' p)
    (hu : ∀ up, (userArgOf userpath = some up ∨ (userArgOf userpath = none ∧ userphrasePath fs env = some up)) →
      ∀ p, UserReach up p → fs p = fs' p) :
    newContext P fs env syspath userpath = newContext P fs' env syspath userpath := by
  have hdd : dataDir fs env = dataDir fs' env := by
    unfold dataDir
    cases env.chewingUserPath with
    | some _ => rfl
    | none =>
      cases hlg : legacyDataDir env with
      | none => rfl
      | some p => simp only; rw [hleg p hlg]
  refine newContext_congr P hl env syspath userpath ?_ (by unfold userphrasePath; rw [hdd]) hs
    fun up h => hu up (Option.or_eq_some_iff.1 h)
  cases syspath <;> simp only [searchPathOf, sysPathFromEnv, hdd]

def FS.write (fs : FS) (q : Path) (n : Node) : FS := fun p => if p = q then n else fs p

/-- **changing a file outside the searched directories changes nothing** -/
theorem write_outside_invisible (P : Params D U) (hl : UserLocal P.user) (fs : FS) (env : SysLoader.Env) (sp up q : Path)
    (n : Node) (hq : ¬ SysReach sp q) (hq' : ¬ UserReach up q) :
    newContext P (FS.write fs q n) env (.str sp) (.str up) = newContext P fs env (.str sp) (.str up) :=
  newContext_local P hl env sp up (fun p hp => if_neg fun e : p = q => hq (e ▸ hp)) fun p hp =>
    if_neg fun e : p = q => hq' (e ▸ hp)

/-- **two creations over disjoint directories do not influence each other**: whatever is written into the reach of
    context B's arguments (its data directory, its user file) leaves the creation of context A as it was, provided
    the two reaches are disjoint -/
theorem disjoint_creations_independent (P : Params D U) (hl : UserLocal P.user) (fs : FS) (env : SysLoader.Env)
    (spA upA spB upB : Path)
    (hdis : ∀ p, (SysReach spB p ∨ UserReach upB p) → ¬ SysReach spA p ∧ ¬ UserReach upA p)
    (fs' : FS) (hfs : ∀ p, ¬ (SysReach spB p ∨ UserReach upB p) → fs' p = fs p) :
    newContext P fs' env (.str spA) (.str upA) = newContext P fs env (.str spA) (.str upA) :=
  newContext_local P hl env spA upA (fun p hp => hfs p fun hb => (hdis p hb).1 hp) fun p hp =>
    hfs p fun hb => (hdis p hb).2 hp

/-! ### link to the process model of `Props/C17.lean` (`creation_args_local`) -/

/-- the `CreateArgs` of `Proofs/ProcessState.lean`, COMPUTED from the file system by the creation model: `layer` =
    `Layered::new(system dictionaries, user dictionary)`, `clock` = `LaxUserFreqEstimate::max_from(user dictionary)` -/
def createArgs {DD : Type} (layer : List D → U → DD) (clock : U → Nat) (withLogger : Bool) (c : NewCtx D U) :
    CreateArgs DD :=
  { dict := layer c.sysDicts c.user, abbr := c.abbr, symSel := c.symbols, time := clock c.user, withLogger := withLogger }

/-- one `chewing_new2` of a process history, with the file system it runs over: `none` when it returns NULL -/
def new2Call {DD L : Type} (P : Params D U) (layer : List D → U → DD) (clock : U → Nat) (id : Nat) (fs : FS)
    (env : SysLoader.Env) (sp up : Path) (withLogger : Bool) : Option (PCall DD L) :=
  match newContext P fs env (.str sp) (.str up) with
  | .ok (some c) => some (.new2 id (createArgs layer clock withLogger c))
  | _ => none

/-- **creation inside a process is local**: the process-level call `chewing_new2` contributes (hence, by
    `C17.creation_args_local`, the whole event history of that context) is the same over any two file systems that agree
    on the reach of its own arguments — other contexts' directories, user files and anything else may differ -/
theorem process_creation_local {DD L : Type} (P : Params D U) (hl : UserLocal P.user) (layer : List D → U → DD)
    (clock : U → Nat) (id : Nat) {fs fs' : FS} (env : SysLoader.Env) (sp up : Path) (withLogger : Bool)
    (hs : ∀ p, SysReach sp p → fs p = fs' p) (hu : ∀ p, UserReach up p → fs p = fs' p) :
    (new2Call P layer clock id fs env sp up withLogger : Option (PCall DD L)) =
      new2Call P layer clock id fs' env sp up withLogger := by
  unfold new2Call
  rw [newContext_local P hl env sp up hs hu]

/-- … so a process history run over either file system gives the same events (any environment of the editor model) -/
theorem process_history_local {DD L : Type} (eenv : Chewing.Env DD L) (dflt : NewDefaults L) (P : Params D U)
    (hl : UserLocal P.user) (layer : List D → U → DD) (clock : U → Nat) (id : Nat) {fs fs' : FS} (env : SysLoader.Env)
    (sp up : Path) (withLogger : Bool) (rest : List (PCall DD L))
    (hs : ∀ p, SysReach sp p → fs p = fs' p) (hu : ∀ p, UserReach up p → fs p = fs' p) :
    (Proc.empty : Proc DD L).run eenv dflt ((new2Call P layer clock id fs env sp up withLogger).toList ++ rest) =
      (Proc.empty : Proc DD L).run eenv dflt ((new2Call P layer clock id fs' env sp up withLogger).toList ++ rest) := by
  rw [process_creation_local P hl layer clock id env sp up withLogger hs hu]

/-- deleting NULL does nothing; deleting a context removes exactly that one -/
theorem delete_spec {α : Type} (live : List (Nat × α)) :
    deleteContext live none = live ∧ ∀ i j a, (j, a) ∈ deleteContext live (some i) ↔ (j, a) ∈ live ∧ j ≠ i := by
  refine ⟨rfl, fun i j a => ?_⟩
  simp [deleteContext, List.mem_filter]

/-! ## non-vacuity -/

/-- search path `A::B:A` (an EMPTY segment = the current directory, a duplicate): `A` has only `word.dat`; the current
    directory has both files and a drop-in; `B` has `dictionary.d` with `b.dat`, `a.dat`, a directory `d.dat`, `c.txt` -/
def exFS : FS := fun p =>
  if p = "A/word.dat".toList then .file [1] false
  else if p = "word.dat".toList then .file [2] false
  else if p = "tsi.dat".toList then .file [3] false
  else if p = "dictionary.d".toList then .dir ["z.dat".toList]
  else if p = "dictionary.d/z.dat".toList then .file [9] false
  else if p = "B/dictionary.d".toList then .dir ["b.dat".toList, "c.txt".toList, "d.dat".toList, "a.dat".toList, ".dat".toList]
  else if p = "B/dictionary.d/b.dat".toList then .file [5] false
  else if p = "B/dictionary.d/a.dat".toList then .file [0] false
  else if p = "B/dictionary.d/c.txt".toList then .file [6] false
  else if p = "B/dictionary.d/d.dat".toList then .dir []
  else if p = "B/dictionary.d/.dat".toList then .file [7] false
  else if p = "B/swkb.dat".toList then .file [97, 32, 120, 10, 110, 111, 10, 32, 121, 10, 98, 32, 255, 10] false
  else if p = "A/symbols.dat".toList then .file [10, 0xE2, 0x80, 0xA6, 10, 99, 61, 44, 46, 13, 10] false
  else .absent

/-- `Trie::open` of the example: a file whose first byte is 0 is corrupt -/
def exOpen (b : List Nat) : Option Nat := match b with
  | 0 :: _ => none
  | x :: _ => some x
  | [] => none

def exParams : Params Nat Nat := { openTrie := exOpen, builtin := some 1000, user := { memory := 77, file := fun _ _ => .ok none } }

example : segments "A::B:A".toList = ["A".toList, [], "B".toList, "A".toList] := by decide +kernel
example : findPathByFiles exFS "A::B:A".toList [wordFile, tsiFile] = some [] := by decide +kernel
example : findDropIn exFS "A::B:A".toList =
    ["dictionary.d/z.dat".toList, "B/dictionary.d/a.dat".toList, "B/dictionary.d/b.dat".toList] := by decide +kernel
/-- `a.dat` is corrupt and skipped; the system pair comes from the EMPTY segment -/
example : (newContext exParams exFS {} (.str "A::B:A".toList) (.str ":memory:".toList)).map (·.map (·.sysDicts)) =
    .ok (some [2, 3, 9, 5]) := by decide +kernel
/-- without the empty segment there is no complete pair: built-in dictionary, then the drop-ins -/
example : (newContext exParams exFS {} (.str "A:B".toList) (.str "x/:memory:".toList)).map (·.map (·.sysDicts)) =
    .ok (some [1000, 5]) := by decide +kernel
/-- a user path that cannot be loaded: NULL; not UTF-8: NULL -/
example : (newContext exParams exFS {} (.str "A:B".toList) (.str "u/chewing.dat".toList)).map (·.isSome) = .ok false := by decide +kernel
example : (newContext exParams exFS {} .notUtf8 .null).map (·.isSome) = .ok false := rfl
/-- `swkb.dat` with a non-UTF-8 line is refused as a whole (empty table); `symbols.dat`: blank line skipped, `\r\n` -/
example : loadAbbrev exFS "B".toList = .error .io := by decide +kernel
example : parseAbbrev [97, 32, 120, 10, 110, 111, 10, 32, 121, 10, 97, 98, 32, 122] = some [(97, [122]), (97, [120])] := by decide +kernel
example : loadSymbols exFS "A".toList = .ok { category := [([0x2026], none), ([99], some 0)], table := [[44, 46]] } := by decide +kernel
/-- `chewing_new()`: the search path from the environment -/
example : sysPathFromEnv exFS { homeDir := some "/h".toList } = "/h/.local/share/chewing:/usr/share/libchewing".toList := by decide +kernel
example : userphrasePath exFS { xdgDataHome := some "/x".toList, homeDir := some "/h".toList } = some "/x/chewing/chewing.dat".toList := by decide +kernel
example : isMem "/a/b/:memory:".toList = true ∧ isMem "a:memory:".toList = false ∧ parentNone [] = true ∧
    parentNone "//".toList = true ∧ parentNone "a".toList = false ∧ parentOf "/a/b//c.dat".toList = "/a/b".toList ∧
    parentOf "c.dat".toList = [] ∧ parentOf "/c.dat".toList = "/".toList := by decide +kernel
example : extension ".dat".toList = none ∧ extension "a.b.dat".toList = some "dat".toList ∧ extension "dat".toList = none ∧
    extension "a.".toList = some [] := by decide +kernel
/-- the hypotheses of the locality theorems are satisfiable: a write outside the reach -/
example : ¬ SysReach "B".toList "A/word.dat".toList := by
  rintro ⟨seg, hseg, h⟩
  have : seg = "B".toList := by
    have : segments "B".toList = ["B".toList] := by decide
    rw [this] at hseg; simpa using hseg
  subst this
  rcases h with ⟨f, hf, h⟩ | ⟨n, h⟩
  · simp only [List.mem_cons, List.not_mem_nil, or_false] at hf
    rcases hf with rfl | rfl | rfl | rfl | rfl <;> exact absurd h (by decide)
  · have h2 := congrArg (fun l => l.head?) h
    simp only [joinPath_head? (show joinPath "B".toList dictFolder ≠ [] by decide)] at h2
    exact absurd h2 (by decide)

end Chewing.C12NewCtx
