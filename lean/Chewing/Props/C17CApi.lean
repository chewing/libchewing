import Chewing.Model.CApiGetters
import Chewing.Props.C06CApi
import Chewing.Props.C07
import Chewing.Props.C05
import Chewing.Props.C15
import Chewing.Proofs.Collects
/-!
# The C getters of `capi/src/io.rs` in the model (C17 / C06, with links to C02 / C05 / C07 / C15)

`Model/CApiGetters.lean` defines every modelled getter as an interpretation of the table `Gen.CApiGetters.getterTable`
(regenerated from `capi/src/io.rs` by `tools/extractors/capi_getters.py` on every run) over the facts `GFacts` the
getters read from the editor.  This file proves

1. **the generated table is the documented meaning** (`getter_table_documented`, `enum_shapes_reviewed`), and what each
   plain getter computes (`value_*`: one closed form per getter, all facts, all slots);
2. **purity at the C level (C17)**: no getter call changes the context of the call-glue model — editor, selection keys,
   keyboard (`get_keeps_ctx`); a plain / mode / by-index getter does not read the getter-only slots
   (`blind_step_sim`), the iterator slots are written by the enumeration protocol only (`plain_keeps_iters`); hence
   inserting ANY list of getter calls ANYWHERE in a history of modelled calls changes neither a return value nor the
   final context (`getters_do_not_disturb`), inserting one getter call (of any kind) changes no result of a history of
   calls and slot-blind getters (`insert_getter`), and a repeated getter gives an equal value (`repeat_getter`);
3. **consistency** between the getters the properties speak about: `buffer_Check = 1 ↔ buffer_Len > 0`
   (`buffer_check_iff_len`), `cursor_Current ≤ buffer_Len` under C05's invariant (`cursor_le_len`,
   `cursor_le_len_history` = `C05.cursor_le_len_editor`), `commit_Check` = the call-glue model's `CCtx.commitCheck` and
   `= 1 ↔` the commit string is non-empty (`commit_check_iff`, with `C06CApi.C_getters_truthful`: `↔` the key result is
   Commit), `cand_TotalPage = ⌈TotalChoice / ChoicePerPage⌉` and `CurrentPage < TotalPage` while a list is open
   (`total_page_ceil`, `current_page_in_range`: C07's `page_count` and `Editor.PageInv`), `cand_CheckDone`
   (`check_done_iff`, `counters_zero_when_done`), `aux_Check = 1 ↔ aux_Length > 0` (`aux_check_iff_length`), the
   enumeration loop hands out `paginated_candidates()` (`cand_loop_hands_out`);
4. **`_static` variants**: equal to the heap variant whenever the text fits the buffer (`static_eq_heap_fits`), a
   NUL-terminated whole-character prefix otherwise (`static_prefix`: C15's `cstr_wellformed_all`); a `_static` call
   writes its own buffer only (`plain_keeps_iters`);
5. **histories** (§5): `insert_getter_anywhere` (a getter call of any kind inserted after any prefix),
   `apply_keeps_cursorInv` / `run_keeps_cursorInv` / `cursor_le_len_after_history` (C05's invariant through the call
   glue: `0 ≤ cursor_Current ≤ buffer_Len` after every history of modelled C calls and getter calls),
   `cand_loop_hands_out` / `enumerate_then_loop` (the documented enumeration loop hands out `paginated_candidates()`);
6. NULL context (`null_answers`), the legacy mode getters (`value_mode`, `mode_getters_default`), non-vacuity examples.

`buffer_Len` is the number of SYMBOLS of the pre-edit buffer (`editor.len()`), not the number of characters of
`buffer_String`: a syllable without a word is displayed spelled out (harness statistic
`observations_with_a_spelled_syllable_in_the_display`), so `BufferLenIsChars` below is NOT a theorem; it is stated and
refuted (`buffer_len_is_chars_refuted`) on the facts level.
-/
namespace Chewing.C17CApi
open Chewing.CApi Chewing.Gen.CApiKeys Chewing.Gen.CApiGetters Chewing.CStr

/-! ## 1. the generated table against the documented meaning -/

/-- the documented meaning of the plain getters, written by hand from the C header / io.rs -/
def documentedGetters : List (String × String × String × String × String) :=
  [("chewing_buffer_Check", "is_empty", "not_as_c_int", "", "ERROR"),
   ("chewing_buffer_Len", "len", "as_c_int", "", "ERROR"),
   ("chewing_cursor_Current", "cursor", "as_c_int", "", "ERROR"),
   ("chewing_bopomofo_Check", "entering_syllable", "as_c_int", "", "ERROR"),
   ("chewing_commit_Check", "display_commit", "not_is_empty", "", "ERROR"),
   ("chewing_aux_Check", "notification", "not_is_empty", "", "ERROR"),
   ("chewing_aux_Length", "notification", "chars_count", "", "ERROR"),
   ("chewing_cand_TotalPage", "total_page", "unwrap_or_default", "", "ERROR"),
   ("chewing_cand_TotalChoice", "all_candidates", "len_or_0", "", "ERROR"),
   ("chewing_cand_ChoicePerPage", "candidates_per_page", "as_c_int", "", "ERROR"),
   ("chewing_cand_CurrentPage", "current_page_no", "unwrap_or_default", "", "ERROR"),
   ("chewing_cand_CheckDone", "is_selecting", "false_if", "", "ERROR"),
   ("chewing_cand_list_has_next", "has_next_selection_point", "selecting_as_c_int", "", "FALSE"),
   ("chewing_cand_list_has_prev", "has_prev_selection_point", "selecting_as_c_int", "", "FALSE"),
   ("chewing_keystroke_CheckIgnore", "last_key_behavior", "is", "Ignore", "ERROR"),
   ("chewing_keystroke_CheckAbsorb", "last_key_behavior", "is", "Absorb", "ERROR"),
   ("chewing_buffer_String", "display", "heap_or_null", "", "empty_heap"),
   ("chewing_bopomofo_String", "syllable_buffer_display", "heap_or_null", "", "empty_heap"),
   ("chewing_commit_String", "display_commit", "heap_or_null", "", "empty_heap"),
   ("chewing_aux_String", "notification", "heap_unwrap", "", "empty_heap"),
   ("chewing_buffer_String_static", "display", "static", "preedit_buf", "global_empty"),
   ("chewing_bopomofo_String_static", "syllable_buffer_display", "static", "bopomofo_buf", "global_empty"),
   ("chewing_commit_String_static", "display_commit", "static", "commit_buf", "global_empty"),
   ("chewing_aux_String_static", "notification", "static", "aux_buf", "global_empty")]

/-- **the table the translator reads off `capi/src/io.rs` is the documented one** -/
theorem getter_table_documented : getterTable = documentedGetters := rfl

/-- every function of the enumeration protocol has the reviewed body the model writes out -/
theorem enum_shapes_reviewed :
    enumShapes.map (·.1) =
      ["chewing_cand_Enumerate", "chewing_cand_hasNext", "chewing_cand_String", "chewing_cand_String_static",
       "chewing_cand_string_by_index", "chewing_cand_string_by_index_static", "chewing_interval_Enumerate",
       "chewing_interval_hasNext", "chewing_zuin_Check", "chewing_zuin_String", "chewing_get_phoneSeq",
       "chewing_get_phoneSeqLen", "chewing_interval_Get"] ∧ ∀ r ∈ enumShapes, r.2 = 1 := ⟨rfl, by decide⟩

/-- the static getters write the buffer C15's table names for them, and every such buffer exists -/
theorem static_rows_match_c15 :
    ∀ r ∈ getterTable, r.2.2.1 = "static" →
      (r.1, r.2.2.2.1) ∈ Gen.CApi.staticGetters ∧ 1 ≤ bufCap r.2.2.2.1 := by decide +kernel

/-- buffer capacities (generated by the C15 extractor) -/
theorem buf_caps : bufCap "preedit_buf" = 256 ∧ bufCap "commit_buf" = 256 ∧ bufCap "aux_buf" = 256 ∧
    bufCap "cand_buf" = 256 ∧ bufCap "bopomofo_buf" = 16 := by decide +kernel

/-! ### what each plain getter computes (all facts, all slots) -/

/-- a plain getter is its row of the table applied to the facts -/
theorem getOn_plain (f : GFacts) (s : GSlots) {fn : String} {row : String × String × String × String}
    (hr : getterRow fn = some row) :
    getOn f s (.plain fn) = (getValue f row.1 row.2.1 row.2.2.1).map fun r => (s.setBuf r.2, r.1) := by
  simp only [getOn, hr]

/-- the names in the table are distinct: looking a row up by its name finds that row -/
theorem getterRow_mem : ∀ r ∈ getterTable, getterRow r.1 = some r.2 := find_row (by decide +kernel)

/-- … so the getter named in row `i` is that row applied to the facts.  (Naming the row by its position keeps the string
    comparisons of the lookup out of the `value_*` theorems: they are made once, in `getterRow_mem`.) -/
theorem getOn_row (f : GFacts) (s : GSlots) (i : Nat) {fn : String} {row : String × String × String × String}
    (hr : getterTable[i]? = some (fn, row)) :
    getOn f s (.plain fn) = (getValue f row.1 row.2.1 row.2.2.1).map fun r => (s.setBuf r.2, r.1) :=
  getOn_plain f s (getterRow_mem _ (List.mem_of_getElem? hr))

/-- the NULL-context answer of the getter named in a row is the last column of that row -/
theorem getNull_row : ∀ r ∈ getterTable, getNull (.plain r.1) = nullValue r.2.2.2.2 :=
  fun r hr => by simp only [getNull, getterRow_mem r hr]

section Values
variable (f : GFacts) (s : GSlots)

theorem value_buffer_Check :
    getOn f s (.plain "chewing_buffer_Check") = .ok (s, .int (boolInt (!f.isEmpty))) :=
  (getOn_row f s 0 rfl).trans rfl
theorem value_buffer_Len : getOn f s (.plain "chewing_buffer_Len") = .ok (s, .int (asCInt f.len)) :=
  (getOn_row f s 1 rfl).trans rfl
theorem value_cursor_Current : getOn f s (.plain "chewing_cursor_Current") = .ok (s, .int (asCInt f.cursor)) :=
  (getOn_row f s 2 rfl).trans rfl
theorem value_bopomofo_Check :
    getOn f s (.plain "chewing_bopomofo_Check") = .ok (s, .int (boolInt f.enteringSyllable)) :=
  (getOn_row f s 3 rfl).trans rfl
theorem value_commit_Check :
    getOn f s (.plain "chewing_commit_Check") = .ok (s, .int (boolInt (!f.commit.isEmpty))) :=
  (getOn_row f s 4 rfl).trans rfl
theorem value_aux_Check :
    getOn f s (.plain "chewing_aux_Check") = .ok (s, .int (boolInt (!f.notice.isEmpty))) :=
  (getOn_row f s 5 rfl).trans rfl
/-- `chewing_aux_Length` counts CHARACTERS (`chars().count()`), not bytes -/
theorem value_aux_Length :
    getOn f s (.plain "chewing_aux_Length") = .ok (s, .int (asCInt f.notice.length)) :=
  (getOn_row f s 6 rfl).trans rfl
theorem value_cand_TotalPage :
    getOn f s (.plain "chewing_cand_TotalPage") = .ok (s, .int (asCInt (f.totalPage.getD 0))) :=
  (getOn_row f s 7 rfl).trans rfl
theorem value_cand_TotalChoice :
    getOn f s (.plain "chewing_cand_TotalChoice") =
      .ok (s, .int (match f.allCandidates with | some cs => asCInt cs.length | none => 0)) :=
  (getOn_row f s 8 rfl).trans rfl
theorem value_cand_ChoicePerPage :
    getOn f s (.plain "chewing_cand_ChoicePerPage") = .ok (s, .int (asCInt f.options.candidatesPerPage)) :=
  (getOn_row f s 9 rfl).trans rfl
theorem value_cand_CurrentPage :
    getOn f s (.plain "chewing_cand_CurrentPage") = .ok (s, .int (asCInt (f.currentPageNo.getD 0))) :=
  (getOn_row f s 10 rfl).trans rfl
theorem value_cand_CheckDone :
    getOn f s (.plain "chewing_cand_CheckDone") = .ok (s, .int (if f.isSelecting then 0 else 1)) :=
  (getOn_row f s 11 rfl).trans rfl
theorem value_cand_list_has_next :
    getOn f s (.plain "chewing_cand_list_has_next") =
      .ok (s, .int (if !f.isSelecting then 0 else boolInt f.hasNextSel)) :=
  (getOn_row f s 12 rfl).trans rfl
theorem value_cand_list_has_prev :
    getOn f s (.plain "chewing_cand_list_has_prev") =
      .ok (s, .int (if !f.isSelecting then 0 else boolInt f.hasPrevSel)) :=
  (getOn_row f s 13 rfl).trans rfl
theorem value_CheckIgnore :
    getOn f s (.plain "chewing_keystroke_CheckIgnore") = .ok (s, .int (if f.last = .ignore then 1 else 0)) :=
  (getOn_row f s 14 rfl).trans rfl
theorem value_CheckAbsorb :
    getOn f s (.plain "chewing_keystroke_CheckAbsorb") = .ok (s, .int (if f.last = .absorb then 1 else 0)) :=
  (getOn_row f s 15 rfl).trans rfl
theorem value_buffer_String :
    getOn f s (.plain "chewing_buffer_String") = .ok (s, .heap (heapCstr (utf8Encode f.display))) :=
  (getOn_row f s 16 rfl).trans rfl
theorem value_bopomofo_String :
    getOn f s (.plain "chewing_bopomofo_String") = .ok (s, .heap (heapCstr (utf8Encode f.bopo))) :=
  (getOn_row f s 17 rfl).trans rfl
theorem value_commit_String :
    getOn f s (.plain "chewing_commit_String") = .ok (s, .heap (heapCstr (utf8Encode f.commit))) :=
  (getOn_row f s 18 rfl).trans rfl
theorem value_buffer_String_static :
    getOn f s (.plain "chewing_buffer_String_static") =
      .ok (s.setBuf (some ("preedit_buf", copyCstr 256 (utf8Encode f.display))),
           .static (copyCstr 256 (utf8Encode f.display))) :=
  (getOn_row f s 20 rfl).trans rfl
theorem value_commit_String_static :
    getOn f s (.plain "chewing_commit_String_static") =
      .ok (s.setBuf (some ("commit_buf", copyCstr 256 (utf8Encode f.commit))),
           .static (copyCstr 256 (utf8Encode f.commit))) :=
  (getOn_row f s 22 rfl).trans rfl
theorem value_aux_String_static :
    getOn f s (.plain "chewing_aux_String_static") =
      .ok (s.setBuf (some ("aux_buf", copyCstr 256 (utf8Encode f.notice))),
           .static (copyCstr 256 (utf8Encode f.notice))) :=
  (getOn_row f s 23 rfl).trans rfl
theorem value_bopomofo_String_static :
    getOn f s (.plain "chewing_bopomofo_String_static") =
      .ok (s.setBuf (some ("bopomofo_buf", copyCstr 16 (utf8Encode f.bopo))),
           .static (copyCstr 16 (utf8Encode f.bopo))) :=
  (getOn_row f s 21 rfl).trans rfl
end Values

/-! ## 2. purity at the C level -/

/-- the getters that do not read the getter-only slots: every plain getter, the mode getters, `string_by_index(_static)`,
    `zuin_Check/String`, `get_phoneSeq(Len)` -/
def Getter.blind : Getter → Bool
  | .plain _ => true
  | .mode _ => true
  | .candStringByIndex _ => true
  | .candStringByIndexStatic _ => true
  | .zuinCheck => true
  | .zuinString => true
  | .phoneSeq => true
  | .phoneSeqLen => true
  | _ => false

def GCall.blind : GCall → Bool
  | .op _ => true
  | .get q => Getter.blind q

/-- the modelled calls of a history / their return values among the results -/
def strip : List GCall → List COp
  | [] => []
  | .op o :: cs => o :: strip cs
  | .get _ :: cs => strip cs

def rcsOf : List GRes → List Int
  | [] => []
  | .rc r :: rs => r :: rcsOf rs
  | .val _ :: rs => rcsOf rs

/-- a plain getter that answers: its row, the value of the row, and the one buffer written -/
theorem getOn_plain_ok {f : GFacts} {s s' : GSlots} {fn : String} {v : GVal}
    (h : getOn f s (.plain fn) = .ok (s', v)) :
    ∃ row w, getterRow fn = some row ∧ getValue f row.1 row.2.1 row.2.2.1 = .ok (v, w) ∧ s' = s.setBuf w := by
  simp only [getOn] at h
  split at h
  · cases h
  · next m conv arg n hr =>
    obtain ⟨r, hv, he⟩ := Outcome.of_map_ok h
    cases he
    exact ⟨_, r.2, hr, hv, rfl⟩

/-- a slot-blind getter hands out the same value whatever the slots hold -/
theorem getOn_blind (f : GFacts) {q : Getter} (hb : Getter.blind q = true) {s s' : GSlots} {v : GVal}
    (h : getOn f s q = .ok (s', v)) (s2 : GSlots) : ∃ s2', getOn f s2 q = .ok (s2', v) := by
  cases q with
  | plain fn =>
    obtain ⟨row, w, hr, hv, _⟩ := getOn_plain_ok h
    exact ⟨_, by rw [getOn_plain f s2 hr, hv]; rfl⟩
  | candStringByIndex i =>
    cases hlk : (f.allCandidates.getD [])[indexOfInt i]? with
    | none =>
      simp only [getOn, hlk, Outcome.ok.injEq, Prod.mk.injEq] at h ⊢
      exact ⟨s2, rfl, h.2⟩
    | some t =>
      cases hh : heapCstr (utf8Encode t) with
      | none => simp only [getOn, hlk, hh] at h; cases h
      | some b =>
        simp only [getOn, hlk, hh, Outcome.ok.injEq, Prod.mk.injEq] at h ⊢
        exact ⟨s2, rfl, h.2⟩
  | candStringByIndexStatic i =>
    cases hlk : (f.allCandidates.getD [])[indexOfInt i]? <;>
      simp only [getOn, hlk, Outcome.ok.injEq, Prod.mk.injEq] at h ⊢ <;> exact ⟨_, rfl, h.2⟩
  | mode _ | zuinCheck | zuinString | phoneSeq | phoneSeqLen =>
    simp only [getOn, Outcome.ok.injEq, Prod.mk.injEq] at h ⊢
    exact ⟨_, rfl, h.2⟩
  | _ => cases hb

section Purity
variable {D L : Type} (env : Env D L) (bopo : L → Text)

/-- a getter call, spelled out -/
theorem get_ok {g g' : GCtx D L} {q : Getter} {v : GVal} (h : g.get env bopo q = .ok (g', v)) :
    ∃ f s', GFacts.ofEditor env bopo g.ctx.editor = .ok f ∧ getOn f g.slots q = .ok (s', v) ∧
      g' = { g with slots := s' } := by
  unfold GCtx.get at h
  split at h
  · next f hf =>
    obtain ⟨r, hg, hr⟩ := Outcome.of_map_ok h
    cases hr
    exact ⟨f, r.1, hf, hg, rfl⟩
  all_goals cases h

/-- **no getter call changes the context of the modelled calls**: the editor (state, buffers, options, dictionary),
    the selection keys, the keyboard.  A getter writes the getter-only slots at most. -/
theorem get_keeps_ctx {g g' : GCtx D L} {q : Getter} {v : GVal} (h : g.get env bopo q = .ok (g', v)) :
    g'.ctx = g.ctx := by
  obtain ⟨f, s', _, _, rfl⟩ := get_ok env bopo h
  rfl

/-- a slot-blind getter answers from the context of the modelled calls alone -/
theorem get_sim {g1 g2 g1' : GCtx D L} (hs : g1.ctx = g2.ctx) {q : Getter} (hb : Getter.blind q = true) {v : GVal}
    (h : g1.get env bopo q = .ok (g1', v)) : ∃ g2', g2.get env bopo q = .ok (g2', v) ∧ g2'.ctx = g2.ctx := by
  obtain ⟨f, s', hf, hg, rfl⟩ := get_ok env bopo h
  obtain ⟨s2', h2⟩ := getOn_blind f hb hg g2.slots
  refine ⟨{ g2 with slots := s2' }, ?_, rfl⟩
  unfold GCtx.get
  rw [← hs, hf]
  simp only [h2, Outcome.map]

/-- **repeating a getter gives an equal value** (slot-blind getters; the enumeration protocol is stateful by design) -/
theorem repeat_getter {g g' : GCtx D L} {q : Getter} (hb : Getter.blind q = true) {v : GVal}
    (h : g.get env bopo q = .ok (g', v)) : ∃ g'', g'.get env bopo q = .ok (g'', v) ∧ g''.ctx = g.ctx := by
  obtain ⟨g'', h2, hc⟩ := get_sim env bopo (get_keeps_ctx env bopo h).symm hb h
  exact ⟨g'', h2, by rw [hc, get_keeps_ctx env bopo h]⟩

/-- a call of a history that returns is a modelled call that returns or a getter call that returns -/
theorem step_ok {g g' : GCtx D L} {c : GCall} {r : GRes} (h : g.step env bopo c = .ok (g', r)) :
    (∃ o c' rc, c = .op o ∧ g.ctx.apply env o = .ok (c', rc) ∧ g' = { g with ctx := c' } ∧ r = .rc rc) ∨
    (∃ q v, c = .get q ∧ g.get env bopo q = .ok (g', v) ∧ r = .val v) := by
  cases c with
  | op o =>
    obtain ⟨⟨c', rc⟩, ha, hr⟩ := Outcome.of_map_ok h
    cases hr
    exact Or.inl ⟨o, c', rc, rfl, ha, rfl, rfl⟩
  | get q =>
    obtain ⟨⟨gq, v⟩, hg, hr⟩ := Outcome.of_map_ok h
    cases hr
    exact Or.inr ⟨q, v, rfl, hg, rfl⟩

theorem gctx_run_collects :
    Collects (fun (g : GCtx D L) c => (g.step env bopo c).map fun r => (r.1, [r.2])) (GCtx.run env bopo) :=
  ⟨fun _ => rfl, fun g c cs => by
    rw [GCtx.run]
    rcases g.step env bopo c with ⟨g', r⟩ | _ | _ <;> simp only [Outcome.map]
    cases g'.run env bopo cs <;> rfl⟩

/-- one call of a history of modelled calls and slot-blind getters: same result from contexts that differ in the
    getter-only slots only -/
theorem blind_step_sim {g1 g2 g1' : GCtx D L} (hs : g1.ctx = g2.ctx) {c : GCall} (hb : GCall.blind c = true) {r : GRes}
    (h : g1.step env bopo c = .ok (g1', r)) : ∃ g2', g2.step env bopo c = .ok (g2', r) ∧ g1'.ctx = g2'.ctx := by
  rcases step_ok env bopo h with ⟨o, c', rc, rfl, ha, rfl, rfl⟩ | ⟨q, v, rfl, hg, rfl⟩
  · exact ⟨{ g2 with ctx := c' }, by simp only [GCtx.step, ← hs, ha, Outcome.map], rfl⟩
  · obtain ⟨g2', h2, hc⟩ := get_sim env bopo hs hb hg
    exact ⟨g2', by simp only [GCtx.step, h2, Outcome.map], by rw [get_keeps_ctx env bopo hg, hc, hs]⟩

/-- … and so for whole histories -/
theorem blind_run_sim (cs : List GCall) (hb : ∀ c ∈ cs, GCall.blind c = true) :
    ∀ (g1 g2 g1' : GCtx D L) (rs : List GRes), g1.ctx = g2.ctx → g1.run env bopo cs = .ok (g1', rs) →
      ∃ g2', g2.run env bopo cs = .ok (g2', rs) ∧ g1'.ctx = g2'.ctx :=
  (gctx_run_collects env bopo).sim (gctx_run_collects env bopo) (fun g1 g2 => g1.ctx = g2.ctx) (F := id) (G := id)
    rfl rfl cs fun c hc g1 g2 g1' e hs h => by
      obtain ⟨⟨_, r⟩, h1, heq⟩ := Outcome.of_map_ok h
      cases heq
      obtain ⟨g2', h2, hs'⟩ := blind_step_sim env bopo hs (hb c hc) h1
      exact .inl ⟨c, g2', [r], by rw [h2]; rfl, hs', fun _ => rfl, fun _ => rfl⟩

/-- **C17 at the C level — getter calls are invisible to the modelled calls.**  Take ANY history of modelled C calls
    with getter calls (plain, `_static`, enumeration protocol — any of them) interleaved anywhere.  The modelled calls
    return exactly what they return in the history WITHOUT the getter calls, and the context they leave (editor state,
    buffers, options, dictionary, selection keys, keyboard) is the same. -/
theorem getters_do_not_disturb (cs : List GCall) :
    ∀ (g g' : GCtx D L) (rs : List GRes), g.run env bopo cs = .ok (g', rs) →
      g.ctx.run env (strip cs) = .ok (g'.ctx, rcsOf rs) := by
  intro g g' rs h
  obtain ⟨_, hr, rfl⟩ := (gctx_run_collects env bopo).sim (C06CApi.cctx_run_collects env) (fun g c => g.ctx = c)
    (F := strip) (G := rcsOf) rfl rfl cs (fun c _ g _ g' e hs h => by
      subst hs
      obtain ⟨⟨_, r⟩, h1, heq⟩ := Outcome.of_map_ok h
      cases heq
      rcases step_ok env bopo h1 with ⟨o, c', rc, rfl, ha, rfl, rfl⟩ | ⟨q, v, rfl, hg, rfl⟩
      · exact .inl ⟨o, c', [rc], by rw [ha]; rfl, rfl, fun _ => rfl, fun _ => rfl⟩
      · exact .inr ⟨get_keeps_ctx env bopo hg, fun _ => rfl, fun _ => rfl⟩) g g.ctx g' rs rfl h
  exact hr

/-- **inserting one getter call (of ANY kind) in front of a history of modelled calls and slot-blind getters changes no
    result**: every return value and every getter value of the history is what it is without the inserted call, and the
    final context of the modelled calls is the same. -/
theorem insert_getter {g gq g1 : GCtx D L} {q : Getter} {v : GVal} (hq : g.get env bopo q = .ok (gq, v))
    (post : List GCall) (hb : ∀ c ∈ post, GCall.blind c = true) {rs : List GRes}
    (h : g.run env bopo post = .ok (g1, rs)) :
    ∃ g2, g.run env bopo (.get q :: post) = .ok (g2, .val v :: rs) ∧ g2.ctx = g1.ctx := by
  obtain ⟨g2, h2, hc⟩ := blind_run_sim env bopo post hb g gq g1 rs (get_keeps_ctx env bopo hq).symm h
  refine ⟨g2, ?_, hc.symm⟩
  simp only [GCtx.run, GCtx.step, hq, Outcome.map, h2]

end Purity

/-! ## 3. consistency between the getters -/

theorem asCInt_small (n : Nat) (h : n < 2147483648) : asCInt n = (n : Int) := by
  unfold asCInt
  have : n % 4294967296 = n := Nat.mod_eq_of_lt (by omega)
  rw [this, if_pos h]

/-- `aux_Check = 1 ↔ aux_Length > 0` (a notification shorter than 2^31 characters) -/
theorem aux_check_iff_length (f : GFacts) (s : GSlots) (h : f.notice.length < 2147483648) :
    ∃ chk len, getOn f s (.plain "chewing_aux_Check") = .ok (s, .int chk) ∧
      getOn f s (.plain "chewing_aux_Length") = .ok (s, .int len) ∧ (chk = 1 ↔ 0 < len) ∧
      len = (f.notice.length : Int) := by
  refine ⟨_, _, value_aux_Check f s, value_aux_Length f s, ?_, asCInt_small _ h⟩
  rw [asCInt_small _ h]
  cases f.notice <;> simp [boolInt]

/-- `commit_Check = 1 ↔` the commit string is non-empty `↔ commit_String` is not "" -/
theorem commit_check_iff (f : GFacts) (s : GSlots) :
    ∃ chk, getOn f s (.plain "chewing_commit_Check") = .ok (s, .int chk) ∧ (chk = 1 ↔ f.commit ≠ []) ∧
      (chk = 0 ∨ chk = 1) := by
  refine ⟨_, value_commit_Check f s, ?_, ?_⟩
  · cases f.commit <;> simp [boolInt]
  · cases f.commit <;> simp [boolInt]

/-- `cand_CheckDone = 1 ↔` no list is open; it is the negation of `is_selecting()` -/
theorem check_done_iff (f : GFacts) (s : GSlots) :
    ∃ d, getOn f s (.plain "chewing_cand_CheckDone") = .ok (s, .int d) ∧ (d = 1 ↔ f.isSelecting = false) ∧
      (d = 0 ↔ f.isSelecting = true) := by
  refine ⟨_, value_cand_CheckDone f s, ?_, ?_⟩ <;> cases f.isSelecting <;> simp

/-- FULL statement "buffer_Len is the number of characters of buffer_String" -/
def BufferLenIsChars : Prop := ∀ f : GFacts, f.isEmpty = (f.len == 0) → f.len < 2147483648 → asCInt f.len = (f.display.length : Int)

/-- … is NOT what the code says: `buffer_Len` is `editor.len()`, the number of SYMBOLS; a syllable without a word is
    displayed spelled out (one symbol, two or more characters).  Facts of such a buffer (observed by the harness:
    statistic `observations_with_a_spelled_syllable_in_the_display`): -/
theorem buffer_len_is_chars_refuted : ¬ BufferLenIsChars := by
  intro h
  have := h { display := [0x3118, 0x311C], len := 1, isEmpty := false, cursor := 1, commit := [], notice := [], bopo := [],
              enteringSyllable := false, isSelecting := false, allCandidates := none, paginated := none,
              totalPage := none, currentPageNo := none, hasNextSel := false, hasPrevSel := false,
              intervals := [(0, 1, false)], last := .absorb, options := Config.init.opts } rfl (by decide)
  revert this
  decide

section Consistency
variable {D L : Type} (env : Env D L) (bopo : L → Text)

/-- the facts of an editor of the model: the six getters that can fail have answered (equations for the four used
    below; `hn`, `hp` are the answers of `has_next/prev_selection_point`), and every fact is a field of the editor or
    one of these answers -/
theorem ofEditor_ok {e : Editor D L} {f : GFacts} (h : GFacts.ofEditor env bopo e = .ok f) :
    ∃ ivs all pag tp hn hp, Shared.conversion env e.shared = .ok ivs ∧ e.allCandidates env = .ok all ∧
      e.paginatedCandidates env = .ok pag ∧ e.totalPage env = .ok tp ∧
      f = { display := ivs.flatMap (·.text), len := e.shared.com.len, isEmpty := e.shared.com.isEmpty,
            cursor := e.shared.com.cursor, commit := e.shared.commitBuf, notice := e.shared.noticeBuf,
            bopo := bopo e.shared.syl, enteringSyllable := !env.sylIsEmpty e.shared.syl,
            isSelecting := e.isSelecting, allCandidates := all, paginated := pag, totalPage := tp,
            currentPageNo := e.currentPageNo, hasNextSel := hn, hasPrevSel := hp,
            intervals := ivs.map fun iv => (iv.start, iv.stop, iv.isPhrase), last := e.shared.last,
            options := cfgOfOptions e.shared.options,
            phoneSeq := e.shared.com.inner.symbols.filterMap fun | .syl k => some k | .chr _ => none } := by
  unfold GFacts.ofEditor at h
  split at h
  · next ivs all pag tp hn hp h1 h2 h3 h4 _ _ =>
    exact ⟨ivs, all, pag, tp, hn, hp, h1, h2, h3, h4, (Outcome.ok.inj h).symm⟩
  all_goals cases h

/-- with no list open the candidate getters have nothing to report -/
theorem closed_getters {e : Editor D L} (hs : e.isSelecting = false) :
    e.allCandidates env = .ok none ∧ e.totalPage env = .ok none ∧ e.currentPageNo = none := by
  obtain ⟨sh, st⟩ := e
  cases st <;> first | exact ⟨rfl, rfl, rfl⟩ | cases hs

/-- the value of a plain getter on a context whose facts are `f` -/
theorem value_of_facts {g : GCtx D L} {f : GFacts} (hf : GFacts.ofEditor env bopo g.ctx.editor = .ok f) {fn : String}
    {s' : GSlots} {v : GVal} (hv : getOn f g.slots (.plain fn) = .ok (s', v)) : g.value env bopo fn = .ok v := by
  simp only [GCtx.value, GCtx.get, hf, hv, Outcome.map]

/-- **`buffer_Check = 1 ↔ buffer_Len > 0`**, and `buffer_Len` is the number of symbols of the pre-edit buffer -/
theorem buffer_check_iff_len {g : GCtx D L} {f : GFacts} (hf : GFacts.ofEditor env bopo g.ctx.editor = .ok f)
    (hlen : g.ctx.editor.shared.com.len < 2147483648) :
    ∃ chk len, g.value env bopo "chewing_buffer_Check" = .ok (.int chk) ∧
      g.value env bopo "chewing_buffer_Len" = .ok (.int len) ∧ (chk = 1 ↔ 0 < len) ∧
      len = (g.ctx.editor.shared.com.len : Int) := by
  obtain ⟨_, _, _, _, _, _, _, _, _, _, rfl⟩ := ofEditor_ok env bopo hf
  refine ⟨_, _, value_of_facts env bopo hf (value_buffer_Check _ _),
    value_of_facts env bopo hf (value_buffer_Len _ _), ?_, asCInt_small _ hlen⟩
  · show boolInt (!g.ctx.editor.shared.com.isEmpty) = 1 ↔ 0 < asCInt g.ctx.editor.shared.com.len
    rw [asCInt_small _ hlen]
    unfold CompEditor.isEmpty Composition.isEmpty CompEditor.len
    cases g.ctx.editor.shared.com.inner.len <;> simp [boolInt]

/-- **`0 ≤ cursor_Current ≤ buffer_Len`** under C05's invariant of the composition editor -/
theorem cursor_le_len {g : GCtx D L} {f : GFacts} (hf : GFacts.ofEditor env bopo g.ctx.editor = .ok f)
    (hi : C05.CursorInv g.ctx.editor.shared.com) (hlen : g.ctx.editor.shared.com.len < 2147483648) :
    ∃ cur len, g.value env bopo "chewing_cursor_Current" = .ok (.int cur) ∧
      g.value env bopo "chewing_buffer_Len" = .ok (.int len) ∧ 0 ≤ cur ∧ cur ≤ len := by
  have hle : g.ctx.editor.shared.com.cursor ≤ g.ctx.editor.shared.com.len := hi.2
  obtain ⟨_, _, _, _, _, _, _, _, _, _, rfl⟩ := ofEditor_ok env bopo hf
  refine ⟨_, _, value_of_facts env bopo hf (value_cursor_Current _ _),
    value_of_facts env bopo hf (value_buffer_Len _ _), ?_, ?_⟩
  · show 0 ≤ asCInt g.ctx.editor.shared.com.cursor
    rw [asCInt_small _ (by omega)]; omega
  · show asCInt g.ctx.editor.shared.com.cursor ≤ asCInt g.ctx.editor.shared.com.len
    rw [asCInt_small _ (by omega), asCInt_small _ hlen]; omega

/-- C05's invariant holds after every history of editor operations (`C05.cursor_le_len_editor`), hence
    `cursor_le_len` applies to every context whose editor was reached from a fresh one -/
theorem cursor_le_len_history (ops : List (Op L)) (e e' : Editor D L) (h0 : e.shared.com = {})
    (h : e.run env ops = .ok e') : C05.CursorInv e'.shared.com :=
  C05.cursor_le_len_editor env ops e e' (by rw [h0]; exact C05.cursorInv_new) h

/-- `chewing_commit_Check` of this model is the `CCtx.commitCheck` of the call-glue model, for which
    `C06CApi.C_getters_truthful` proves `= 1 ↔` the key result is Commit (with `C02.commit_string_iff_result`) -/
theorem commit_check_is_glue_getter {g : GCtx D L} {f : GFacts} (hf : GFacts.ofEditor env bopo g.ctx.editor = .ok f) :
    g.value env bopo "chewing_commit_Check" = .ok (.int g.ctx.commitCheck) ∧
    g.value env bopo "chewing_keystroke_CheckIgnore" = .ok (.int g.ctx.keystrokeCheckIgnore) ∧
    g.value env bopo "chewing_keystroke_CheckAbsorb" = .ok (.int g.ctx.keystrokeCheckAbsorb) := by
  obtain ⟨_, _, _, _, _, _, _, _, _, _, rfl⟩ := ofEditor_ok env bopo hf
  refine ⟨?_, value_of_facts env bopo hf (value_CheckIgnore _ _), value_of_facts env bopo hf (value_CheckAbsorb _ _)⟩
  rw [value_of_facts env bopo hf (value_commit_Check _ _)]
  unfold CCtx.commitCheck
  cases g.ctx.editor.shared.commitBuf <;> simp [boolInt]

/-- **after a key: `commit_Check = 1 ↔` the key was answered Commit** (`C06CApi.C_getters_truthful` on this model's getter) -/
theorem commit_check_iff_key_result (hH : C02.ConvHeadText env) {g : GCtx D L} {ev : KeyEvent} {e' : Editor D L} {b : KB}
    (h : g.ctx.editor.processKey env ev = .ok (e', b)) {f : GFacts}
    (hf : GFacts.ofEditor env bopo e' = .ok f) :
    ∃ chk, ({ g with ctx := { g.ctx with editor := e' } } : GCtx D L).value env bopo "chewing_commit_Check" = .ok (.int chk) ∧
      (chk = 1 ↔ b = .commit) := by
  refine ⟨_, (commit_check_is_glue_getter env bopo (g := { g with ctx := { g.ctx with editor := e' } }) hf).1, ?_⟩
  exact (C06CApi.C_getters_truthful env hH (c := g.ctx) h).2.2.1

/-- the facts of an editor with a list open: the list, its number of pages, the current page -/
theorem open_facts {e : Editor D L} {f : GFacts} {s : Selecting} (hf : GFacts.ofEditor env bopo e = .ok f)
    (hs : e.state = .selecting s) :
    ∃ cs n, Selecting.candidates env s e.shared = .ok cs ∧ Selecting.totalPage env s e.shared = .ok n ∧
      f.allCandidates = some cs ∧ f.totalPage = some n ∧ f.isSelecting = true ∧ f.currentPageNo = some s.pageNo ∧
      f.options.candidatesPerPage = e.shared.options.candidatesPerPage := by
  obtain ⟨_, all, _, tp, _, _, _, hall, _, htp, rfl⟩ := ofEditor_ok env bopo hf
  unfold Editor.totalPage at htp
  rw [hs] at htp
  obtain ⟨n, ht, rfl⟩ := Outcome.of_map_ok htp
  obtain ⟨cs, hc, _⟩ := C07.page_count env ht
  cases hall.symm.trans (C07.total_is_length env hs hc).2.1
  refine ⟨cs, n, hc, ht, rfl, rfl, ?_, ?_, rfl⟩
  · show e.isSelecting = true
    unfold Editor.isSelecting; rw [hs]
  · show e.currentPageNo = some s.pageNo
    unfold Editor.currentPageNo; rw [hs]

/-- **while a list is open: `cand_TotalPage = ⌈TotalChoice / ChoicePerPage⌉`** (C07's `page_count`), with the facts behind
    the four counters -/
theorem total_page_ceil {e : Editor D L} {f : GFacts} {s : Selecting} (hf : GFacts.ofEditor env bopo e = .ok f)
    (hs : e.state = .selecting s) :
    ∃ cs, f.allCandidates = some cs ∧ f.isSelecting = true ∧ f.currentPageNo = some s.pageNo ∧
      f.options.candidatesPerPage = e.shared.options.candidatesPerPage ∧ 0 < f.options.candidatesPerPage ∧
      f.totalPage = some (pageCount cs.length f.options.candidatesPerPage) ∧
      cs.length ≤ pageCount cs.length f.options.candidatesPerPage * f.options.candidatesPerPage ∧
      (∀ k, cs.length ≤ k * f.options.candidatesPerPage → pageCount cs.length f.options.candidatesPerPage ≤ k) := by
  obtain ⟨cs, n, hc, ht, hall, htp, hsel, hcur, hper⟩ := open_facts env bopo hf hs
  obtain ⟨cs', hc', hpos, rfl, hcov, hleast, _⟩ := C07.page_count env ht
  cases hc.symm.trans hc'
  rw [hper]
  exact ⟨cs, hall, hsel, hcur, rfl, hpos, htp, hcov, hleast⟩

/-- **`CurrentPage < TotalPage` while a list is open** — under C07's page invariant (`Editor.PageInv`, kept by every
    operation: `C07.page_in_range`) — unless nothing is listed at all -/
theorem current_page_in_range {e : Editor D L} {f : GFacts} {s : Selecting} (hf : GFacts.ofEditor env bopo e = .ok f)
    (hs : e.state = .selecting s) (hp : Editor.PageInv env e) :
    ∃ cur tp, f.currentPageNo = some cur ∧ f.totalPage = some tp ∧ (cur < tp ∨ f.allCandidates = some []) := by
  obtain ⟨cs, n, hc, ht, hall, htp, _, hcur, _⟩ := open_facts env bopo hf hs
  refine ⟨_, _, hcur, htp, (hp s hs n ht).imp_right fun h => ?_⟩
  cases hc.symm.trans h
  exact hall

/-- **no list open: `CheckDone = 1` and the counters answer 0** (`TotalPage`, `TotalChoice`, `CurrentPage`; the list
    navigation getters answer 0, `cand_hasNext` answers 0) -/
theorem counters_zero_when_done {e : Editor D L} {f : GFacts} (hf : GFacts.ofEditor env bopo e = .ok f)
    (hs : e.isSelecting = false) (sl : GSlots) :
    getOn f sl (.plain "chewing_cand_CheckDone") = .ok (sl, .int 1) ∧
    getOn f sl (.plain "chewing_cand_TotalPage") = .ok (sl, .int 0) ∧
    getOn f sl (.plain "chewing_cand_TotalChoice") = .ok (sl, .int 0) ∧
    getOn f sl (.plain "chewing_cand_CurrentPage") = .ok (sl, .int 0) ∧
    getOn f sl (.plain "chewing_cand_list_has_next") = .ok (sl, .int 0) ∧
    getOn f sl (.plain "chewing_cand_list_has_prev") = .ok (sl, .int 0) ∧
    getOn f sl .candHasNext = .ok (sl, .int 0) := by
  obtain ⟨_, all, _, tp, _, _, _, hall, _, htp, rfl⟩ := ofEditor_ok env bopo hf
  obtain ⟨h1, h2, h3⟩ := closed_getters env hs
  cases hall.symm.trans h1
  cases htp.symm.trans h2
  rw [value_cand_CheckDone, value_cand_TotalPage, value_cand_TotalChoice, value_cand_CurrentPage,
    value_cand_list_has_next, value_cand_list_has_prev]
  simp [getOn, hs, h3, falseValue, asCInt]

end Consistency

/-! ## 4. the `_static` variants -/

/-- the static variant `fnS` and the heap variant `fnH` of a getter of the text `t`, on the same facts -/
def StaticAgrees (f : GFacts) (s : GSlots) (fnS fnH : String) (t : Text) : Prop :=
  ∃ s' v w, getOn f s (.plain fnS) = .ok (s', v) ∧ getOn f s (.plain fnH) = .ok (s, w) ∧
    v.text = some (utf8Encode t) ∧ w.text = some (utf8Encode t) ∧
    s'.candIter = s.candIter ∧ s'.intervalIter = s.intervalIter

def StaticPrefix (f : GFacts) (s : GSlots) (fnS : String) (cap : Nat) (t : Text) : Prop :=
  ∃ s' v k, getOn f s (.plain fnS) = .ok (s', v) ∧ k ≤ t.length ∧ v.text = some (utf8Encode (t.take k)) ∧
    CStr.utf8Len (t.take k) ≤ cap - 1 ∧ (k = t.length ∨ cap - 1 < CStr.utf8Len (t.take (k + 1)))

/-- a `_static` call writes its own buffer only: the iterator slots and the other buffers stay -/
theorem plain_keeps_iters (f : GFacts) (s s' : GSlots) (fn : String) (v : GVal)
    (h : getOn f s (.plain fn) = .ok (s', v)) : s'.candIter = s.candIter ∧ s'.intervalIter = s.intervalIter := by
  obtain ⟨_, w, _, _, rfl⟩ := getOn_plain_ok h
  unfold GSlots.setBuf
  split <;> exact ⟨rfl, rfl⟩

/-- the two relations for ANY getter pair whose values are the `cap`-byte copy and the heap copy of the text `t` -/
theorem static_of_values {f : GFacts} {s : GSlots} {fnS buf : String} {cap : Nat} {t : Text} (hcap : 1 ≤ cap)
    (hS : getOn f s (.plain fnS) =
      .ok (s.setBuf (some (buf, copyCstr cap (utf8Encode t))), .static (copyCstr cap (utf8Encode t))))
    (ht : C15.IsText t) :
    StaticPrefix f s fnS cap t ∧
    ∀ {fnH}, getOn f s (.plain fnH) = .ok (s, .heap (heapCstr (utf8Encode t))) → CStr.utf8Len t < cap →
      StaticAgrees f s fnS fnH t := by
  -- C15: the copy is a NUL-terminated whole-character prefix (`cstr_wellformed_all`), the whole text when it fits
  -- (`static_eq_heap_partial`); the heap copy is the whole text (`heap_text_valid`)
  obtain ⟨_, k, hk, h1, _, h3, h4, _⟩ := C15.cstr_wellformed_all cap hcap t ht
  refine ⟨⟨_, _, k, hS, hk, h1, h3, h4⟩, fun hH hfit => ?_⟩
  obtain ⟨b, hb, h2, _⟩ := C15.heap_text_valid t ht
  obtain ⟨hc, hi⟩ := plain_keeps_iters f s _ fnS _ hS
  exact ⟨_, _, _, hS, hH, C15.static_eq_heap_partial cap t ht hfit, by rw [hb]; exact h2, hc, hi⟩

/-- **`_static` = heap variant whenever the text fits the buffer** (255 bytes; the phonetic buffer 15) -/
theorem static_eq_heap_fits (f : GFacts) (s : GSlots) :
    (C15.IsText f.display → CStr.utf8Len f.display < 256 →
      StaticAgrees f s "chewing_buffer_String_static" "chewing_buffer_String" f.display) ∧
    (C15.IsText f.commit → CStr.utf8Len f.commit < 256 →
      StaticAgrees f s "chewing_commit_String_static" "chewing_commit_String" f.commit) ∧
    (C15.IsText f.bopo → CStr.utf8Len f.bopo < 16 →
      StaticAgrees f s "chewing_bopomofo_String_static" "chewing_bopomofo_String" f.bopo) :=
  ⟨fun ht => (static_of_values (by decide) (value_buffer_String_static f s) ht).2 (value_buffer_String f s),
   fun ht => (static_of_values (by decide) (value_commit_String_static f s) ht).2 (value_commit_String f s),
   fun ht => (static_of_values (by decide) (value_bopomofo_String_static f s) ht).2 (value_bopomofo_String f s)⟩

/-- `chewing_aux_String` unwraps `CString::new`: for a text (no U+0000) it hands out the whole notification -/
theorem value_aux_String (f : GFacts) (s : GSlots) (ht : C15.IsText f.notice) :
    ∃ w, getOn f s (.plain "chewing_aux_String") = .ok (s, w) ∧ w.text = some (utf8Encode f.notice) := by
  obtain ⟨buf, h1, h2, _⟩ := C15.heap_text_valid f.notice ht
  have hv : getValue f "notification" "heap_unwrap" "" =
      (match heapCstr (utf8Encode f.notice) with
        | some b => Outcome.ok (GVal.heap (some b), none)
        | none => Outcome.panic "CString::new unwrap") := rfl
  rw [getOn_row f s 19 rfl, hv, h1]
  exact ⟨_, rfl, h2⟩

/-- **… a NUL-terminated whole-character prefix otherwise** -/
theorem static_prefix (f : GFacts) (s : GSlots) :
    (C15.IsText f.display → StaticPrefix f s "chewing_buffer_String_static" 256 f.display) ∧
    (C15.IsText f.commit → StaticPrefix f s "chewing_commit_String_static" 256 f.commit) ∧
    (C15.IsText f.notice → StaticPrefix f s "chewing_aux_String_static" 256 f.notice) ∧
    (C15.IsText f.bopo → StaticPrefix f s "chewing_bopomofo_String_static" 16 f.bopo) :=
  ⟨fun ht => (static_of_values (by decide) (value_buffer_String_static f s) ht).1,
   fun ht => (static_of_values (by decide) (value_commit_String_static f s) ht).1,
   fun ht => (static_of_values (by decide) (value_aux_String_static f s) ht).1,
   fun ht => (static_of_values (by decide) (value_bopomofo_String_static f s) ht).1⟩

/-! ## 5. histories: a getter inserted anywhere, the cursor invariant at the C level, the enumeration loop -/

section Histories
variable {D L : Type} (env : Env D L) (bopo : L → Text)

/-- **a getter call of ANY kind inserted ANYWHERE**: after any history `pre` (modelled calls and getters of every kind),
    inserting one getter call before a continuation `post` of modelled calls and slot-blind getters changes no result of
    `pre` and none of `post`, and the final context of the modelled calls is the same -/
theorem insert_getter_anywhere (pre post : List GCall) (hb : ∀ c ∈ post, GCall.blind c = true) (q : Getter)
    {g gp gq g1 : GCtx D L} {rp rs : List GRes} {v : GVal}
    (hpre : g.run env bopo pre = .ok (gp, rp)) (hq : gp.get env bopo q = .ok (gq, v))
    (hpost : gp.run env bopo post = .ok (g1, rs)) :
    g.run env bopo (pre ++ post) = .ok (g1, rp ++ rs) ∧
    ∃ g2, g.run env bopo (pre ++ .get q :: post) = .ok (g2, rp ++ .val v :: rs) ∧ g2.ctx = g1.ctx := by
  obtain ⟨g2, h2, hc⟩ := insert_getter env bopo hq post hb hpost
  exact ⟨(gctx_run_collects env bopo).append hpost hpre, g2, (gctx_run_collects env bopo).append h2 hpre, hc⟩

/-- one modelled C call keeps C05's invariant of the composition editor (`C05.cursor_le_len_editor` through the glue) -/
theorem apply_keeps_cursorInv {c c' : CCtx D L} {op : COp} {rc : Int} (hi : C05.CursorInv c.editor.shared.com)
    (h : c.apply env op = .ok (c', rc)) : C05.CursorInv c'.editor.shared.com := by
  obtain ⟨gl, e', b, _, hr, rfl, _⟩ := C06CApi.apply_ok env h
  have hrun := C06CApi.runCall_run env c.editor gl.call
  rw [hr] at hrun
  exact C05.cursor_le_len_editor env _ c.editor e' hi hrun.symm

theorem run_keeps_cursorInv (ops : List COp) : ∀ (c c' : CCtx D L) (rcs : List Int),
    C05.CursorInv c.editor.shared.com → c.run env ops = .ok (c', rcs) → C05.CursorInv c'.editor.shared.com :=
  fun _ _ _ => (C06CApi.cctx_run_collects env).keeps (I := fun c => C05.CursorInv c.editor.shared.com)
    (fun hi h => by
      obtain ⟨⟨c1, rc⟩, h1, e⟩ := Outcome.of_map_ok h
      cases e
      exact apply_keeps_cursorInv env hi h1) ops

/-- **`0 ≤ cursor_Current ≤ buffer_Len` after EVERY history of modelled C calls and getter calls** from a context that
    satisfies C05's invariant (a new context does: `C05.cursorInv_new`) -/
theorem cursor_le_len_after_history (cs : List GCall) {g g' : GCtx D L} {rs : List GRes} {f : GFacts}
    (hi : C05.CursorInv g.ctx.editor.shared.com) (h : g.run env bopo cs = .ok (g', rs))
    (hf : GFacts.ofEditor env bopo g'.ctx.editor = .ok f) (hlen : g'.ctx.editor.shared.com.len < 2147483648) :
    ∃ cur len, g'.value env bopo "chewing_cursor_Current" = .ok (.int cur) ∧
      g'.value env bopo "chewing_buffer_Len" = .ok (.int len) ∧ 0 ≤ cur ∧ cur ≤ len :=
  cursor_le_len env bopo hf
    (run_keeps_cursorInv env (strip cs) g.ctx g'.ctx (rcsOf rs) hi (getters_do_not_disturb env bopo cs g g' rs h)) hlen

end Histories

/-- **the documented loop `Enumerate; while hasNext { String }` hands out exactly the strings in the iterator slot**, in
    order, and leaves the slot exhausted (a list is open; fuel above the number of strings) -/
theorem cand_loop_hands_out (f : GFacts) (hsel : f.isSelecting = true) (cs : List Text) :
    ∀ (s : GSlots) (acc : List GVal) (n : Nat), cs.length < n → s.candIter = some cs →
      ∃ s', candLoop f n s acc = .ok (s', acc.reverse ++ cs.map candHeap) ∧ s'.candIter = some [] := by
  induction cs with
  | nil =>
    intro s acc n hn hit
    obtain ⟨n, rfl⟩ := Nat.exists_eq_succ_of_ne_zero (Nat.ne_of_gt hn)
    exact ⟨s, by simp [candLoop, getOn, hsel, hit], hit⟩
  | cons t ts ih =>
    intro s acc n hn hit
    obtain ⟨n, rfl⟩ := Nat.exists_eq_succ_of_ne_zero (Nat.ne_of_gt (Nat.zero_lt_of_lt hn))
    obtain ⟨s', h1, h2⟩ := ih { s with candIter := some ts } (candHeap t :: acc) n (by simpa using hn) rfl
    exact ⟨s', by simp [candLoop, getOn, hsel, hit, h1], h2⟩

/-- `chewing_cand_Enumerate` + the loop = `paginated_candidates()`: everything from the first item of the current page on
    (`C07.enumerate_is_page`: `all_candidates().drop(page * per_page)`) -/
theorem enumerate_then_loop (f : GFacts) (hsel : f.isSelecting = true) {cs : List Text} (hp : f.paginated = some cs)
    (s : GSlots) (n : Nat) (hn : cs.length < n) :
    ∃ s1 s2, getOn f s .candEnumerate = .ok (s1, .unit) ∧
      candLoop f n s1 [] = .ok (s2, cs.map candHeap) ∧ s2.candIter = some [] := by
  obtain ⟨s2, h1, h2⟩ := cand_loop_hands_out f hsel cs { s with candIter := some cs } [] n hn rfl
  refine ⟨{ s with candIter := some cs }, s2, ?_, by simpa using h1, h2⟩
  simp only [getOn, hp]

/-- **the deprecated `chewing_zuin_Check` is the INVERTED `chewing_bopomofo_Check`** (`x ^ 1` on 0 / 1), and
    `chewing_zuin_String` is `chewing_bopomofo_String` plus the number of characters -/
theorem zuin_is_inverted_bopomofo (f : GFacts) (s : GSlots) :
    ∃ b z, getOn f s (.plain "chewing_bopomofo_Check") = .ok (s, .int b) ∧ getOn f s .zuinCheck = .ok (s, .int z) ∧
      z = 1 - b ∧ (b = 0 ∨ b = 1) ∧
      getOn f s .zuinString = .ok (s, .strCount (heapCstr (utf8Encode f.bopo)) (asCInt f.bopo.length)) ∧
      getOn f s (.plain "chewing_bopomofo_String") = .ok (s, .heap (heapCstr (utf8Encode f.bopo))) := by
  refine ⟨_, _, value_bopomofo_Check f s, rfl, ?_, ?_, rfl, value_bopomofo_String f s⟩ <;> cases f.enteringSyllable <;> decide

/-- for a NULL context `chewing_zuin_Check` answers -2 (`ERROR ^ 1`), not -1 -/
theorem zuin_check_null : getNull .zuinCheck = .ok (.int (-2)) := by decide

section PhoneSeq
variable {D L : Type} (env : Env D L) (bopo : L → Text)

/-- **`chewing_get_phoneSeqLen` is the length of `chewing_get_phoneSeq`, the number of syllables among the symbols of the
    pre-edit buffer, hence `≤ buffer_Len`** -/
theorem phone_seq_len_le_buffer_len {e : Editor D L} {f : GFacts} (hf : GFacts.ofEditor env bopo e = .ok f) (s : GSlots)
    (hlen : e.shared.com.len < 2147483648) :
    ∃ seq n len, getOn f s .phoneSeq = .ok (s, .ushorts seq) ∧ getOn f s .phoneSeqLen = .ok (s, .int n) ∧
      getOn f s (.plain "chewing_buffer_Len") = .ok (s, .int len) ∧ n = (seq.length : Int) ∧ n ≤ len ∧
      seq = e.shared.com.inner.symbols.filterMap (fun | .syl k => some k | .chr _ => none) := by
  obtain ⟨_, _, _, _, _, _, _, _, _, _, rfl⟩ := ofEditor_ok env bopo hf
  have hle : (e.shared.com.inner.symbols.filterMap (fun | .syl k => some k | .chr _ => none)).length ≤ e.shared.com.len :=
    List.length_filterMap_le _ _
  have hlt := Nat.lt_of_le_of_lt hle hlen
  refine ⟨_, _, _, rfl, rfl, value_buffer_Len _ s, asCInt_small _ hlt, ?_, rfl⟩
  show asCInt _ ≤ asCInt e.shared.com.len
  rw [asCInt_small _ hlt, asCInt_small _ hlen]
  exact Int.ofNat_le.mpr hle

end PhoneSeq

/-! ## 6. NULL context, mode getters -/

/-- a legacy mode getter `chewing_get_<X>` is `chewing_config_get_int` of the option C16's generated table names for it
    (`Config.legacyGet`), read from the editor's options -/
theorem value_mode (f : GFacts) (s : GSlots) (fn : String) :
    getOn f s (.mode fn) = .ok (s, .int (Config.legacyGet fn { Config.init with opts := f.options })) := rfl

/-- on the default options of the editor model: Chinese mode 1, half shape 0, 10 per page, limit 39, the rest 0 -/
theorem mode_getters_default :
    ["chewing_get_ChiEngMode", "chewing_get_ShapeMode", "chewing_get_candPerPage", "chewing_get_maxChiSymbolLen",
     "chewing_get_addPhraseDirection", "chewing_get_spaceAsSelection", "chewing_get_escCleanAllBuf",
     "chewing_get_autoShiftCur", "chewing_get_easySymbolInput", "chewing_get_phraseChoiceRearward",
     "chewing_get_autoLearn"].map (fun fn => Config.legacyGet fn { Config.init with opts := cfgOfOptions {} })
      = [1, 0, 10, 39, 0, 0, 0, 0, 0, 0, 0] := by decide +kernel

/-- English mode / full shape answer 0 / 1 -/
theorem mode_getters_switched :
    Config.legacyGet "chewing_get_ChiEngMode"
      { Config.init with opts := cfgOfOptions { languageMode := .english, characterForm := .full } } = 0 ∧
    Config.legacyGet "chewing_get_ShapeMode"
      { Config.init with opts := cfgOfOptions { languageMode := .english, characterForm := .full } } = 1 := by decide +kernel


/-- every `int` getter answers -1 for a NULL context — except `cand_list_has_next/prev`, which answer 0; the heap string
    getters hand out an owned "", the static ones the global "" -/
theorem null_answers :
    (∀ fn ∈ ["chewing_buffer_Check", "chewing_buffer_Len", "chewing_cursor_Current", "chewing_bopomofo_Check",
        "chewing_commit_Check", "chewing_aux_Check", "chewing_aux_Length", "chewing_cand_TotalPage",
        "chewing_cand_TotalChoice", "chewing_cand_ChoicePerPage", "chewing_cand_CurrentPage", "chewing_cand_CheckDone",
        "chewing_keystroke_CheckIgnore", "chewing_keystroke_CheckAbsorb"], getNull (.plain fn) = .ok (.int (-1))) ∧
    getNull (.plain "chewing_cand_list_has_next") = .ok (.int 0) ∧
    getNull (.plain "chewing_cand_list_has_prev") = .ok (.int 0) ∧
    (∀ fn ∈ ["chewing_buffer_String", "chewing_bopomofo_String", "chewing_commit_String", "chewing_aux_String"],
      getNull (.plain fn) = .ok (.heap (some [0]))) ∧
    (∀ fn ∈ ["chewing_buffer_String_static", "chewing_bopomofo_String_static", "chewing_commit_String_static",
        "chewing_aux_String_static"], getNull (.plain fn) = .ok .globalEmpty) := by
  -- the names are those of rows `i .. i + n` of the table; the lookups are `getterRow_mem`'s, the answer is the last column
  have key : ∀ (i n : Nat) (v : GVal), (∀ r ∈ (getterTable.drop i).take n, nullValue r.2.2.2.2 = .ok v) →
      ∀ fn ∈ ((getterTable.drop i).take n).map (·.1), getNull (.plain fn) = .ok v := fun i n v h fn hfn => by
    obtain ⟨r, hr, rfl⟩ := List.mem_map.mp hfn
    rw [getNull_row r (List.mem_of_mem_drop (List.mem_of_mem_take hr)), h r hr]
  refine ⟨fun fn hfn => ?_, key 12 1 _ (by decide) _ (.head _), key 13 1 _ (by decide) _ (.head _),
    key 16 4 _ (by decide), key 20 4 _ (by decide)⟩
  rcases List.mem_append.mp (show fn ∈ ((getterTable.drop 0).take 12).map (·.1) ++
      ((getterTable.drop 14).take 2).map (·.1) from hfn) with h | h
  · exact key 0 12 _ (by decide) fn h
  · exact key 14 2 _ (by decide) fn h

/-! ## 7. non-vacuity -/

/-- facts of an open list: 13 candidates, 4 per page, page 1 of 4 -/
def exFacts : GFacts :=
  { display := [0x6E2C], len := 1, isEmpty := false, cursor := 1, commit := [], notice := [0x52A0, 0x5165], bopo := [],
    enteringSyllable := false, isSelecting := true,
    allCandidates := some ((List.range 13).map fun i => [0x6E2C + i]),
    paginated := some (((List.range 13).map fun i => [0x6E2C + i]).drop 4),
    totalPage := some 4, currentPageNo := some 1, hasNextSel := false, hasPrevSel := false,
    intervals := [(0, 1, true)], last := .absorb, options := { Config.init.opts with candidatesPerPage := 4 } }

example : getOn exFacts {} (.plain "chewing_cand_TotalPage") = .ok ({}, .int 4) := value_cand_TotalPage exFacts {}
example : getOn exFacts {} (.plain "chewing_cand_TotalChoice") = .ok ({}, .int 13) := value_cand_TotalChoice exFacts {}
example : getOn exFacts {} (.plain "chewing_cand_CurrentPage") = .ok ({}, .int 1) := value_cand_CurrentPage exFacts {}
example : getOn exFacts {} (.plain "chewing_aux_Length") = .ok ({}, .int 2) := value_aux_Length exFacts {}
example : (getOn exFacts {} (.plain "chewing_aux_String")).map (·.2.text) = .ok (some [0xE5, 0x8A, 0xA0, 0xE5, 0x85, 0xA5]) := by
  rw [getOn_row exFacts {} 19 rfl]; decide +kernel
/-- the hypotheses of `static_eq_heap_fits` / `static_prefix` are satisfiable, and a text LONGER than the buffer is cut at a
    character: 6 three-byte characters into the 16-byte phonetic buffer give 5 characters (15 bytes) -/
example : C15.IsText exFacts.display ∧ CStr.utf8Len exFacts.display < 256 := by
  refine ⟨?_, by decide⟩
  intro c hc
  simp only [exFacts, List.mem_singleton] at hc
  subst hc
  exact ⟨by decide, by decide⟩
example : (GVal.static (copyCstr 16 (utf8Encode (List.replicate 6 0x3105)))).text =
    some (utf8Encode (List.replicate 5 0x3105)) := by decide +kernel
/-- the enumeration loop on page 1 hands out items 4 … 12 -/
example : (match getOn exFacts {} .candEnumerate with
    | .ok (s, _) => (candLoop exFacts 100 s []).map (fun (r : GSlots × List GVal) => r.2.length)
    | _ => .panic "") = .ok 9 := by decide +kernel
/-- `chewing_cand_Enumerate` with no list open keeps a STALE iterator; `chewing_cand_hasNext` hides it (answers 0),
    `chewing_cand_String` would still pop it -/
example : (getOn { exFacts with isSelecting := false, paginated := none } { candIter := some [[65]] } .candEnumerate).map (·.1.candIter)
    = .ok (some [[65]]) := by decide +kernel
example : (getOn { exFacts with isSelecting := false } { candIter := some [[65]] } .candHasNext).map (·.2) = .ok (.int 0) := by
  decide +kernel

end Chewing.C17CApi
