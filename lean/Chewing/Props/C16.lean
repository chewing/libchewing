import Chewing.Proofs.Config
import Chewing.Proofs.KeyedList
/-!
# C16 — Configuration round-trips, rejects bad values, and its aliases agree

Statement (properties.jsonl): every documented option can be set to each value of its documented range
and read back unchanged; a value outside the range is rejected with an error and leaves every option
unchanged (except that an unknown keyboard number selects the default layout, as documented); each legacy
setter/getter is equivalent to the named option it stands for; selecting a keyboard layout by number and
by name results in identical handling of every key, and the layout reported as current is always the one
in effect.

The theorems are about `Chewing.Config` (Model/Config.lean), an interpreter of the tables that the
translator regenerates from `capi/src/io.rs` & co. on every run (`Chewing.Gen.Cfg`).  The *specification*
side — the documented names, ranges, legacy pairs and layout numbering — is written out here by hand
(`DocRange`, `DocNames`, `LegacySpec`, `DocKbNames`) from `capi/src/lib.rs` / `doc/libchewing.texi` and
uses the public constants by name.  Statements quantify over every context `c`, every integer `v`, every
name/string, every history of configuration calls.  `decide` is used only for facts about the finite
generated tables (13 option rows, 17 layouts) and for the values inside a documented range.

Handling of a key is a function of the context (`keyboard`, syllable editor, options); the theorems
`kb_select_equiv` / `kb_current_is_effective` show the two selection APIs produce the *same context*,
resp. that the reported layout determines the pair in effect.  That the real key handlers depend on
nothing else is checked behaviourally by the harness (all 17 layouts × 95 keys × both APIs).
-/
namespace Chewing.C16
open Chewing.Config Chewing.Gen.Cfg

/-- the 15 documented option names -/
def DocNames : List String :=
  ["chewing.user_phrase_add_direction", "chewing.disable_auto_learn_phrase", "chewing.auto_shift_cursor",
   "chewing.candidates_per_page", "chewing.language_mode", "chewing.easy_symbol_input",
   "chewing.esc_clear_all_buffer", "chewing.keyboard_type", "chewing.auto_commit_threshold",
   "chewing.phrase_choice_rearward", "chewing.selection_keys", "chewing.character_form",
   "chewing.space_is_select_key", "chewing.conversion_engine", "chewing.enable_fullwidth_toggle_key"]

/-- the two string-valued options -/
def DocStrNames : List String := ["chewing.keyboard_type", "chewing.selection_keys"]

/-- documented range of every integer option, in terms of the public constants -/
def DocRange : List (String × Int × Int) :=
  [("chewing.user_phrase_add_direction", 0, 1),
   ("chewing.disable_auto_learn_phrase", AUTOLEARN_ENABLED, AUTOLEARN_DISABLED),
   ("chewing.auto_shift_cursor", 0, 1),
   ("chewing.candidates_per_page", MIN_SELKEY, MAX_SELKEY),
   ("chewing.language_mode", SYMBOL_MODE, CHINESE_MODE),
   ("chewing.easy_symbol_input", 0, 1),
   ("chewing.esc_clear_all_buffer", 0, 1),
   ("chewing.auto_commit_threshold", MIN_CHI_SYMBOL_LEN, MAX_CHI_SYMBOL_LEN),
   ("chewing.phrase_choice_rearward", 0, 1),
   ("chewing.character_form", HALFSHAPE_MODE, FULLSHAPE_MODE),
   ("chewing.space_is_select_key", 0, 1),
   ("chewing.conversion_engine", SIMPLE_CONVERSION_ENGINE, FUZZY_CHEWING_CONVERSION_ENGINE),
   ("chewing.enable_fullwidth_toggle_key", 0, 1)]

/-- `v` is a documented value of the integer option `name` -/
def InRange (name : String) (v : Int) : Prop := ∃ lo hi, (name, lo, hi) ∈ DocRange ∧ lo ≤ v ∧ v ≤ hi

/-- legacy function pairs and the option each stands for -/
def LegacySpec : List (String × String × String) :=
  [("chewing_set_ChiEngMode", "chewing_get_ChiEngMode", "chewing.language_mode"),
   ("chewing_set_ShapeMode", "chewing_get_ShapeMode", "chewing.character_form"),
   ("chewing_set_candPerPage", "chewing_get_candPerPage", "chewing.candidates_per_page"),
   ("chewing_set_maxChiSymbolLen", "chewing_get_maxChiSymbolLen", "chewing.auto_commit_threshold"),
   ("chewing_set_addPhraseDirection", "chewing_get_addPhraseDirection", "chewing.user_phrase_add_direction"),
   ("chewing_set_spaceAsSelection", "chewing_get_spaceAsSelection", "chewing.space_is_select_key"),
   ("chewing_set_escCleanAllBuf", "chewing_get_escCleanAllBuf", "chewing.esc_clear_all_buffer"),
   ("chewing_set_autoShiftCur", "chewing_get_autoShiftCur", "chewing.auto_shift_cursor"),
   ("chewing_set_easySymbolInput", "chewing_get_easySymbolInput", "chewing.easy_symbol_input"),
   ("chewing_set_phraseChoiceRearward", "chewing_get_phraseChoiceRearward", "chewing.phrase_choice_rearward"),
   ("chewing_set_autoLearn", "chewing_get_autoLearn", "chewing.disable_auto_learn_phrase")]

/-- documented layout names; the position is the documented number (`enum KB`, tests/test-keyboard.c) -/
def DocKbNames : List String :=
  ["KB_DEFAULT", "KB_HSU", "KB_IBM", "KB_GIN_YIEH", "KB_ET", "KB_ET26", "KB_DVORAK", "KB_DVORAK_HSU",
   "KB_DACHEN_CP26", "KB_HANYU_PINYIN", "KB_THL_PINYIN", "KB_MPS2_PINYIN", "KB_CARPALX",
   "KB_COLEMAK_DH_ANSI", "KB_COLEMAK_DH_ORTH", "KB_WORKMAN", "KB_COLEMAK"]

def nKb : Nat := 17

/-- a valid selection-key string: 10 ASCII characters (a C string has no NUL) -/
def ValidSelKeys (s : Text) : Prop := s.length = 10 ∧ ∀ x ∈ s, 0 < x ∧ x < 128

/-- `EditorOptions` in the source has exactly the fields of the model's `Options`, in order -/
theorem fields_match : optFields = Options.fieldNames ∧ optFields.length = nFields := ⟨rfl, rfl⟩

/-- has_option / get_int / set_int / get_str / set_str list the same (documented) names
    (as sets: the order of the `match` arms in the source is irrelevant) -/
theorem names_agree :
    (∀ n, n ∈ getIntArms.map Prod.fst ↔ n ∈ setIntArms.map Prod.fst) ∧
    (∀ n, n ∈ getStrNames ↔ n ∈ setStrNames) ∧ (∀ n, n ∈ setStrNames ↔ n ∈ DocStrNames) ∧
    (∀ n, n ∈ hasOptionNames ↔ n ∈ setIntArms.map Prod.fst ∨ n ∈ setStrNames) ∧
    (∀ n, n ∈ hasOptionNames ↔ n ∈ DocNames) ∧
    (∀ n, n ∈ setIntArms.map Prod.fst ↔ n ∈ DocRange.map Prod.fst) ∧
    (setIntArms.map Prod.fst).Nodup ∧ (getIntArms.map Prod.fst).Nodup := by
  -- As the source stands the lists even agree in order, and syntactic equality of lists of literals is
  -- far cheaper to check than mutual inclusion.  Reordering `match` arms in io.rs breaks these `rfl`s, not
  -- the statement.
  have get_set : getIntArms.map Prod.fst = setIntArms.map Prod.fst := rfl
  have get_str : getStrNames = setStrNames := rfl
  have str_doc : setStrNames = DocStrNames := rfl
  have has_doc : hasOptionNames = DocNames := rfl
  have set_doc : setIntArms.map Prod.fst = DocRange.map Prod.fst := rfl
  have has : hasOptionNames = ((setIntArms.map Prod.fst).insertIdx 7 kbTypeName).insertIdx 10 selKeysName := rfl
  have nd : (setIntArms.map Prod.fst).Nodup := by decide +kernel
  refine ⟨fun _ => get_set ▸ .rfl, fun _ => get_str ▸ .rfl, fun _ => str_doc ▸ .rfl, fun n => ?_,
    fun _ => has_doc ▸ .rfl, fun _ => set_doc ▸ .rfl, nd, get_set ▸ nd⟩
  have : n ∈ setStrNames ↔ n = kbTypeName ∨ n = selKeysName := by simp [setStrNames, kbTypeName, selKeysName]
  rw [has, List.mem_insertIdx (by decide), List.mem_insertIdx (by decide), this]
  simp only [or_assoc, or_comm, or_left_comm]

/-- `chewing_config_has_option` answers 1 exactly on the documented names -/
theorem has_option_iff (name : String) : hasOption name = 1 ↔ name ∈ DocNames := by
  unfold hasOption
  rw [← names_agree.2.2.2.2.1 name]
  split <;> simp [*]

/-- kernel-evaluated, row by row: the setter accepts exactly the documented range, the getter reads every value
    of it back (context-free check, see `rowOK_sound`), and what the getter reports on a fresh context lies in
    the range.  Set arm, get arm and range of one option stand side by side in the three tables, which list the
    options in the same order. -/
theorem rows_ok : ∀ x ∈ setIntArms.zip (getIntArms.zip DocRange), rowOK x.1.2 x.2.1.2 x.2.2.2 = true ∧
    x.2.2.2.1 ≤ decode x.2.1.2.2 (init.opts.get x.2.1.2.1) ∧
    decode x.2.1.2.2 (init.opts.get x.2.1.2.1) ≤ x.2.2.2.2 := by decide +kernel

theorem doc_row {name : String} {r : Int × Int} (h : (name, r) ∈ DocRange) :
    ∃ s g, assoc name setIntArms = some s ∧ assoc name getIntArms = some g ∧ rowOK s g r = true ∧
      r.1 ≤ getInt name init ∧ getInt name init ≤ r.2 := by
  have nd : (DocRange.map Prod.fst).Nodup := names_agree.2.2.2.2.2.2.1
  obtain ⟨g, hg, hz⟩ := assoc_zip (la := getIntArms) (lc := DocRange) (key := Prod.fst) rfl nd h
  obtain ⟨s, hs, hz⟩ :=
    assoc_zip (la := setIntArms) (lc := getIntArms.zip DocRange) (key := Prod.fst ∘ Prod.snd) rfl nd hz
  have := rows_ok _ hz
  rw [← getInt_of_arm hg init] at this
  exact ⟨s, g, hs, hg, this⟩

/-- per documented row: exactly the values of the range are accepted, and they read back -/
theorem row_sound {name : String} {lo hi : Int} (h : (name, lo, hi) ∈ DocRange) (v : Int) (c : Ctx) :
    (lo ≤ v ∧ v ≤ hi → (setInt name v c).2 = OK ∧ getInt name (setInt name v c).1 = v) ∧
    (¬ (lo ≤ v ∧ v ≤ hi) → setInt name v c = (c, ERROR)) := by
  obtain ⟨s, g, hs, hg, hok, _⟩ := doc_row h
  exact rowOK_sound hs hg hok v c

/-- **set_get**: an in-range value is accepted and reads back unchanged — every option, value, context -/
theorem set_get (name : String) (v : Int) (c : Ctx) (h : InRange name v) :
    (setInt name v c).2 = OK ∧ getInt name (setInt name v c).1 = v := by
  obtain ⟨lo, hi, hmem, hv⟩ := h
  exact (row_sound hmem v c).1 hv

/-- **set_rejects** (and **unknown_name_rejected** for set_int): anything that is not a documented value of
    a documented integer option is rejected with ERROR and the WHOLE context is unchanged -/
theorem set_rejects (name : String) (v : Int) (c : Ctx) (h : ¬ InRange name v) :
    setInt name v c = (c, ERROR) := by
  cases hs : assoc name setIntArms with
  | none => apply setInt_of_none; rw [setIntEffect_eq, hs]; split <;> rfl
  | some _ =>
    obtain ⟨⟨n, lo, hi⟩, hmem, rfl⟩ := List.mem_map.mp ((names_agree.2.2.2.2.2.1 name).mp (assoc_key_mem hs))
    exact (row_sound hmem v c).2 fun hv => h ⟨lo, hi, hmem, hv⟩

/-- the validation of the code accepts exactly the documented range -/
theorem accepted_iff_documented (name : String) (v : Int) (c : Ctx) :
    (setInt name v c).2 = OK ↔ InRange name v := by
  constructor
  · intro h
    refine Classical.byContradiction fun hn => ?_
    rw [set_rejects name v c hn] at h
    simp [ERROR, OK] at h
  · exact fun h => (set_get name v c h).1

/-- **unknown_name_rejected**: a name that is not a documented integer option is refused by both
    entry points (this includes the two string options) -/
theorem unknown_name_rejected (name : String) (v : Int) (c : Ctx) (h : name ∉ DocRange.map Prod.fst) :
    setInt name v c = (c, ERROR) ∧ getInt name c = ERROR := by
  refine ⟨set_rejects name v c ?_, ?_⟩
  · rintro ⟨lo, hi, hmem, _⟩
    exact h (List.mem_map.mpr ⟨_, hmem, rfl⟩)
  · unfold getInt
    rw [assoc_none fun hm => h ((names_agree.2.2.2.2.2.1 name).mp ((names_agree.1 name).mp hm))]

/-- every getter reads a field of its own, and none reads `lookup_strategy` (which the engine option writes
    besides its own field) -/
theorem frames_ok : (getIntArms.map (·.2.1)).Nodup ∧
    ∀ g ∈ getIntArms, g.2.1 < nFields ∧ g.2.1 ≠ lookupStrategyField := by decide +kernel

/-- **other_options_unchanged**: `set_int name` changes what no other option reports — neither another
    integer option, nor the layout, nor the selection keys -/
theorem other_options_unchanged (name name' : String) (v : Int) (c : Ctx) (hne : name' ≠ name) :
    getInt name' (setInt name v c).1 = getInt name' c ∧
    (setInt name v c).1.kbCompat = c.kbCompat ∧ (setInt name v c).1.keyboard = c.keyboard ∧
    (setInt name v c).1.syl = c.syl ∧ (setInt name v c).1.selKeys = c.selKeys := by
  refine ⟨getInt_setInt_other (fun s g' hs hg' => ?_) v c, setInt_kbCompat _ _ _, setInt_keyboard _ _ _,
    setInt_syl _ _ _, setInt_selKeys _ _ _⟩
  obtain ⟨hlt, hl⟩ := frames_ok.2 _ (assoc_mem hg')
  refine ⟨hlt, fun hf => hne ?_, hl⟩
  -- the getter of `name` reads the field its setter writes; were that the field of `name'`, the names would agree
  obtain ⟨⟨n, r⟩, hmem, rfl⟩ := List.mem_map.mp ((names_agree.2.2.2.2.2.1 name).mp (assoc_key_mem hs))
  obtain ⟨s₀, g, hs₀, hg, hg1, _⟩ := doc_row hmem
  simp only [rowOK, Bool.and_eq_true, beq_iff_eq] at hg1
  obtain rfl : s₀ = s := Option.some.inj (hs₀.symm.trans hs)
  exact congrArg Prod.fst (key_unique (List.pairwise_map.mp frames_ok.1) (assoc_mem hg') (assoc_mem hg) (hf.trans hg1.1.1.1.1.symm))

/-- a successful `chewing_config_set_int` reports exactly: the new value for `name`, the old one for everything else -/
theorem set_get_all (name name' : String) (v : Int) (c : Ctx) (h : InRange name v) :
    getInt name' (setInt name v c).1 = if name' = name then v else getInt name' c := by
  split
  · next he => subst he; exact (set_get _ v c h).2
  · next hne => exact (other_options_unchanged name name' v c hne).1

/-- `chewing_config_get_int` looks at the options only -/
theorem getInt_congr (name : String) (c c' : Ctx) (h : c'.opts = c.opts) : getInt name c' = getInt name c := by
  unfold getInt
  split
  · rfl
  · next f g _ => cases g <;> simp [readRule, h]

/-- what every getter reports is a documented value — an invariant of all histories.  (In particular the
    model's `illTyped` sentinel is never returned.) -/
def GettersInRange (c : Ctx) : Prop := ∀ name ∈ DocRange.map Prod.fst, InRange name (getInt name c)

theorem gettersInRange_setInt (name : String) (v : Int) (c : Ctx) (h : GettersInRange c) :
    GettersInRange (setInt name v c).1 := by
  by_cases hr : InRange name v
  · intro name' hn
    rw [set_get_all name name' v c hr]
    split
    · next he => subst he; exact hr
    · exact h name' hn
  · rw [set_rejects name v c hr]; exact h

theorem gettersInRange_of_opts (c c' : Ctx) (ho : c'.opts = c.opts) (h : GettersInRange c) : GettersInRange c' :=
  fun name hn => by rw [getInt_congr name c c' ho]; exact h name hn

/-- the forwarders found in the source are exactly the documented pairs (each setter and its getter go to the
    same, documented, option; there are no other forwarders) -/
theorem legacy_tables :
    (LegacySpec.all fun t => assoc t.1 legacySetters == some t.2.2 && assoc t.2.1 legacyGetters == some t.2.2) = true ∧
    legacySetters.length = LegacySpec.length ∧ legacyGetters.length = LegacySpec.length := by decide +kernel

/-- **legacy_equiv**: each legacy setter is `chewing_config_set_int` on the option it stands for (return code dropped),
    each legacy getter is `chewing_config_get_int` on the same option — all values, all contexts -/
theorem legacy_equiv (s g name : String) (hmem : (s, g, name) ∈ LegacySpec) (v : Int) (c : Ctx) :
    legacySet s v c = (setInt name v c).1 ∧ legacyGet g c = getInt name c := by
  have h := List.all_eq_true.mp legacy_tables.1 _ hmem
  simp only [Bool.and_eq_true, beq_iff_eq] at h
  exact ⟨by unfold legacySet; rw [h.1], by unfold legacyGet; rw [h.2]⟩

/-- consequently a legacy pair round-trips documented values and ignores the others -/
theorem legacy_set_get (s g name : String) (hmem : (s, g, name) ∈ LegacySpec) (v : Int) (c : Ctx) :
    (InRange name v → legacyGet g (legacySet s v c) = v) ∧ (¬ InRange name v → legacySet s v c = c) := by
  obtain ⟨h1, _⟩ := legacy_equiv s g name hmem v c
  refine ⟨fun h => ?_, fun h => ?_⟩
  · rw [h1, (legacy_equiv s g name hmem v _).2]; exact (set_get name v c h).2
  · rw [h1, set_rejects name v c h]

theorem selKeys_flags : selKeysStrLen = 10 ∧ selKeysRequireAscii = true ∧ getStrAbortsOnNul = false ∧
    setSelKeyLen = 10 ∧ maxSelKey = 10 ∧ initSelKeys.length = 10 := by decide

/-- the arm `"chewing.keyboard_type"` of `chewing_config_set_str` -/
theorem setStr_kbType_eq (value : Text) (c : Ctx) :
    setStr kbTypeName value c =
      match assoc value kbFromStrText with
      | none => (c, ERROR)
      | some k => ({ c with kbCompat := k, keyboard := (pairByName k).1, syl := (pairByName k).2 }, OK) := by
  unfold setStr
  rw [if_neg (by decide), if_pos rfl]
  rfl

/-- the arm `"chewing.selection_keys"` of `chewing_config_set_str`; the code tests the byte length, which for
    an ASCII string is the number of characters -/
theorem setStr_selKeys_eq (s : Text) (c : Ctx) :
    setStr selKeysName s c =
      if s.length = 10 ∧ ∀ x ∈ s, x < 128 then ({ c with selKeys := padKeys (s.map Int.ofNat) }, OK)
      else (c, ERROR) := by
  have hc : (utf8Size s ≠ selKeysStrLen ∨ (selKeysRequireAscii = true ∧ ¬ s.all (· < 128))) ↔
      ¬ (s.length = 10 ∧ ∀ x ∈ s, x < 128) := by
    by_cases ha : ∀ x ∈ s, x < 128
    · have ha' : ¬ ∃ x, x ∈ s ∧ 128 ≤ x := by simpa using ha
      simp [selKeys_flags.1, utf8Size_ascii s ha, ha']
    · have ha' : ∃ x, x ∈ s ∧ 128 ≤ x := by simpa using ha
      simp [selKeys_flags.2.1, ha']
  unfold setStr
  rw [if_neg (by decide), if_neg (by decide), if_pos rfl]
  by_cases h : s.length = 10 ∧ ∀ x ∈ s, x < 128
  · rw [if_pos h, if_neg fun h' => hc.mp h' h]
  · rw [if_neg h, if_pos (hc.mpr h)]

/-- any other name is refused -/
theorem setStr_cases (name : String) (value : Text) (c : Ctx) :
    name = kbTypeName ∨ name = selKeysName ∨ setStr name value c = (c, ERROR) := by
  by_cases h1 : name = kbTypeName
  · exact .inl h1
  by_cases h2 : name = selKeysName
  · exact .inr (.inl h2)
  refine .inr (.inr ?_)
  unfold setStr
  rw [if_neg h1, if_neg h2]
  split <;> rfl

/-- names, numbers and `Display` of `KeyboardLayoutCompat` are the documented ones and are mutually inverse -/
theorem kb_name_tables :
    kbDisplay = DocKbNames ∧ kbVariants.length = nKb ∧
    (∀ k < nKb, assoc k kbTryFrom = some k) ∧ kbTryFrom.length = nKb ∧
    (∀ k < nKb, assoc (kbDisplayText.getD k []) kbFromStrText = some k) ∧
    kbFromStrText.map Prod.fst = kbFromStr.map (fun p => p.1.toList.map Char.toNat) ∧
    kbDisplayText = kbDisplay.map (fun s => s.toList.map Char.toNat) ∧
    kbDefault = 0 ∧ kbStr2NumDefault = 0 ∧ kbTypeTruncates = false := by decide +kernel

/-- **kb_tables_agree**: the dispatch table inside `chewing_config_set_str("chewing.keyboard_type")` and the
    one inside `chewing_set_KBType` map every layout to the same (keyboard, syllable editor) -/
theorem kb_tables_agree : ∀ kb, pairByName kb = pairByNum kb := by
  have h : kbByName = kbByNum := by decide +kernel
  intro kb; unfold pairByName pairByNum; rw [h]

theorem kbOfNum_known : ∀ k < nKb, kbOfNum (k : Int) = k := by decide +kernel

/-- **kb_select_equiv** (⇒ identical handling of every key): selecting a layout by its number and by its
    name yields the same context, from any context -/
theorem kb_select_equiv (kb : Nat) (hkb : kb < nKb) (c : Ctx) :
    (setKBType kb c).1 = (setStr kbTypeName (kbDisplayText.getD kb []) c).1 ∧
    (setKBType kb c).2 = OK ∧ (setStr kbTypeName (kbDisplayText.getD kb []) c).2 = OK := by
  rw [setStr_kbType_eq, kb_name_tables.2.2.2.2.1 kb hkb]
  simp [setKBType, kbOfNum_known kb hkb, kb_tables_agree, OK]

/-- every key handler `h` (any function of the keyboard and syllable editor in effect, and the rest of the
    context) therefore treats every key the same under both selection APIs -/
theorem kb_same_keys {α κ : Type} (h : Ctx → κ → α) (kb : Nat) (hkb : kb < nKb) (c : Ctx) (key : κ) :
    h (setKBType kb c).1 key = h (setStr kbTypeName (kbDisplayText.getD kb []) c).1 key := by
  rw [(kb_select_equiv kb hkb c).1]

/-- `KeyboardLayoutCompat::try_from` knows exactly the numbers below `nKb` -/
theorem kbOfNum_eq (n : Int) : kbOfNum n = if 0 ≤ n ∧ n < nKb then n.toNat else kbDefault := by
  split
  · next h =>
    have := kbOfNum_known n.toNat (by omega)
    rwa [Int.toNat_of_nonneg h.1] at this
  · next h =>
    have ht : kbTypeTruncates = false := by decide
    have hk : ∀ k ∈ kbTryFrom.map Prod.fst, k < nKb := by decide
    unfold kbOfNum
    simp only [ht, Bool.false_eq_true, if_false]
    by_cases hr : 0 ≤ n ∧ n ≤ 255
    · have : assoc n.toNat kbTryFrom = none := assoc_none fun hm => by
        have := hk _ hm; omega
      simp [hr, this]
    · simp [hr]

/-- **kb_unknown_default**: a number that is not a layout number selects the default layout and the
    call reports -1; nothing else changes -/
theorem kb_unknown_default (n : Int) (c : Ctx) (h : n < 0 ∨ (nKb : Int) ≤ n) :
    setKBType n c =
      ({ c with kbCompat := kbDefault, keyboard := (pairByNum kbDefault).1, syl := (pairByNum kbDefault).2 }, -1) := by
  unfold setKBType
  rw [kbOfNum_eq, if_neg (by omega)]
  have hd : kbDefault = 0 := by decide
  have : ((kbDefault : Nat) : Int) ≠ n := by rw [hd]; unfold nKb at h; omega
  simp [this]

/-- the invariant behind "the layout reported as current is the one in effect" -/
def KbInv (c : Ctx) : Prop := c.kbCompat < nKb ∧ (c.keyboard, c.syl) = pairByNum c.kbCompat

theorem kbOfNum_lt (n : Int) : kbOfNum n < nKb := by
  rw [kbOfNum_eq]
  split
  · omega
  · decide

/-- **kb_current_is_effective**: after ANY history of configuration calls, the layout reported by
    `chewing_get_KBType` / `chewing_get_KBString` / `get_str("chewing.keyboard_type")` is a valid layout and
    the keyboard and syllable editor in effect are the pair that layout stands for -/
theorem kb_current_is_effective (c : Ctx) (h : Reachable c) :
    c.kbCompat < nKb ∧ (c.keyboard, c.syl) = pairByNum c.kbCompat ∧
    getKBType c = c.kbCompat ∧ kbStr2Num (getKBString c) = c.kbCompat := by
  have hv : ∀ p ∈ kbFromStrText, p.2 < nKb := by decide
  obtain ⟨h1, h2⟩ : KbInv c := by
    refine reachable_induction (by unfold KbInv; decide) (fun name v c hc => ?_) (fun name value c hc => ?_)
      (fun n c _ => ⟨kbOfNum_lt n, rfl⟩) (fun keys len c hc => ?_) h
    · unfold KbInv
      rw [setInt_kbCompat, setInt_keyboard, setInt_syl]; exact hc
    · rcases setStr_cases name value c with rfl | rfl | h
      · rw [setStr_kbType_eq]
        split
        · exact hc
        · next k hk => exact ⟨hv _ (assoc_mem hk), by simp [kb_tables_agree]⟩
      · rw [setStr_selKeys_eq]; split <;> exact hc
      · rw [h]; exact hc
    · unfold setSelKey; split <;> exact hc
  refine ⟨h1, h2, rfl, ?_⟩
  unfold kbStr2Num getKBString
  rw [kb_name_tables.2.2.2.2.1 _ h1]; rfl

theorem setSelKey_eq (keys : List Int) (len : Int) (c : Ctx) :
    setSelKey keys len c = if len = 10 then { c with selKeys := keys } else c := by
  simp [setSelKey, selKeys_flags.2.2.2.1]

/-- **selkeys_roundtrip**: a valid selection-key string is accepted, stored key by key, and reads back
    unchanged through both getters; nothing else changes -/
theorem selkeys_roundtrip (s : Text) (c : Ctx) (h : ValidSelKeys s) :
    setStr selKeysName s c = ({ c with selKeys := s.map Int.ofNat }, OK) ∧
    getStr selKeysName (setStr selKeysName s c).1 = .ok (OK, some s) ∧
    getSelKey (setStr selKeysName s c).1 = s.map Int.ofNat := by
  obtain ⟨hl, hx⟩ := h
  have hlt : ∀ x ∈ s, x < 128 := fun x hx' => (hx x hx').2
  have hset : setStr selKeysName s c = ({ c with selKeys := s.map Int.ofNat }, OK) := by
    rw [setStr_selKeys_eq, if_pos ⟨hl, hlt⟩, padKeys_of_length _ (by simp [hl, maxSelKey])]
  refine ⟨hset, ?_, by rw [hset]; rfl⟩
  rw [hset]
  have hz : s.contains 0 = false := by
    rw [Bool.eq_false_iff]; intro hc
    have := hx 0 (List.contains_iff_mem.mp hc); omega
  unfold getStr
  rw [if_neg (by decide)]
  simp only [if_neg (by decide : selKeysName ≠ kbTypeName)]
  rw [show selKeysText { c with selKeys := s.map Int.ofNat } = s from selKeysText_ofNat s hlt, hz]; rfl

/-- **selkeys_rejects**: a string that is not 10 ASCII characters is rejected, the whole context is
    unchanged (in particular a 10-byte string of fewer characters, the F05 witness) -/
theorem selkeys_rejects (s : Text) (c : Ctx) (h : ¬ (s.length = 10 ∧ ∀ x ∈ s, x < 128)) :
    setStr selKeysName s c = (c, ERROR) := by
  rw [setStr_selKeys_eq, if_neg h]

/-- the F05 witness `"ééééé"` (10 bytes, 5 characters) is rejected by the repaired code -/
example (c : Ctx) : setStr selKeysName [233, 233, 233, 233, 233] c = (c, ERROR) :=
  selkeys_rejects _ c (by decide)

/-- the string options and `chewing_set_KBType` / `chewing_set_selKey` leave every integer option alone, and the two
    string options do not disturb each other -/
theorem str_ops_frame (name : String) (value : Text) (n : Int) (keys : List Int) (len : Int) (c : Ctx) :
    (setStr name value c).1.opts = c.opts ∧ (setKBType n c).1.opts = c.opts ∧
    (setSelKey keys len c).opts = c.opts ∧
    (setKBType n c).1.selKeys = c.selKeys ∧ (setSelKey keys len c).kbCompat = c.kbCompat ∧
    (setStr kbTypeName value c).1.selKeys = c.selKeys ∧ (setStr selKeysName value c).1.kbCompat = c.kbCompat := by
  refine ⟨?_, rfl, ?_, rfl, ?_, ?_, ?_⟩
  · rcases setStr_cases name value c with rfl | rfl | h
    · rw [setStr_kbType_eq]; split <;> rfl
    · rw [setStr_selKeys_eq]; split <;> rfl
    · rw [h]
  · unfold setSelKey; split <;> rfl
  · unfold setSelKey; split <;> rfl
  · rw [setStr_kbType_eq]; split <;> rfl
  · rw [setStr_selKeys_eq]; split <;> rfl

/-- an unknown string-option name, or an unknown layout name, is rejected and changes nothing -/
theorem str_unknown_rejected (name : String) (value : Text) (c : Ctx) :
    (name ∉ DocStrNames → setStr name value c = (c, ERROR) ∧ getStr name c = .ok (ERROR, none)) ∧
    (assoc value kbFromStrText = none → setStr kbTypeName value c = (c, ERROR)) := by
  constructor
  · intro h
    have hs : name ∉ setStrNames := fun hm => h ((names_agree.2.2.1 name).mp hm)
    have hg : name ∉ getStrNames := fun hm => hs ((names_agree.2.1 name).mp hm)
    exact ⟨by unfold setStr; rw [if_pos hs], by unfold getStr; rw [if_pos hg]⟩
  · intro h
    rw [setStr_kbType_eq, h]

/-- `get_str("chewing.keyboard_type")` is the name of the reported layout -/
theorem getStr_kb (c : Ctx) (h : c.kbCompat < nKb) :
    getStr kbTypeName c = .ok (OK, some (getKBString c)) := by
  have h1 : ¬ (kbTypeName ∉ getStrNames) := by decide
  have hz : ∀ k < nKb, (kbDisplayText.getD k []).contains 0 = false := by decide +kernel
  have := hz _ h
  unfold getStr
  rw [if_neg h1]
  simp only [↓reduceIte, getKBString, this]
  rfl

/-- full-strength claim: whatever `chewing_set_selKey` accepts, the named option accepts too (so the
    legacy setter is the named option in another syntax) -/
def LegacySelKeyEquivFull : Prop :=
  ∀ (keys : List Int) (c : Ctx), keys.length = 10 →
    ∃ s : Text, (∀ x ∈ s, x ≠ 0) ∧ (setStr selKeysName s c).2 = OK ∧ setSelKey keys 10 c = (setStr selKeysName s c).1

/-- the class of the known finding: some key is not an ASCII code -/
def KnownF05b (keys : List Int) : Prop := ∃ k ∈ keys, ¬ (0 < k ∧ k < 128)

/-- **refuted** on the current tree: `chewing_set_selKey` stores `[200; 10]`, which no accepted
    `chewing.selection_keys` string produces (finding F05b, recorded in KNOWN_FINDINGS.txt) -/
theorem legacy_selkey_equiv_refuted : ¬ LegacySelKeyEquivFull := by
  intro h
  obtain ⟨s, _, hok, heq⟩ := h (List.replicate 10 200) init (by decide)
  rw [setStr_selKeys_eq] at hok heq
  by_cases hv : s.length = 10 ∧ ∀ x ∈ s, x < 128
  · obtain ⟨hlen, hlt⟩ := hv
    rw [if_pos ⟨hlen, hlt⟩] at heq
    have hsel : List.replicate 10 (200 : Int) = s.map Int.ofNat := by
      rw [setSelKey_eq, if_pos rfl, padKeys_of_length _ (by simp [hlen, maxSelKey])] at heq
      exact congrArg Ctx.selKeys heq
    match s, hlen with
    | x :: _, _ =>
      have hx := hlt x List.mem_cons_self
      simp only [List.map_cons, List.replicate_succ, List.cons.injEq, Int.ofNat_eq_natCast] at hsel
      have := hsel.1
      omega
  · rw [if_neg hv] at hok
    simp [ERROR, OK] at hok

/-- **partial**: outside the known class — every key an ASCII code, as documented for `chewing_set_selKey` —
    the legacy setter/getter pair is the named option: same resulting context, same keys read back -/
theorem legacy_selkey_equiv_partial (keys : List Int) (c : Ctx) (hl : keys.length = 10) (hk : ¬ KnownF05b keys) :
    let s : Text := keys.map Int.toNat
    ValidSelKeys s ∧ setSelKey keys 10 c = (setStr selKeysName s c).1 ∧
    getStr selKeysName (setSelKey keys 10 c) = .ok (OK, some s) ∧ getSelKey (setSelKey keys 10 c) = keys := by
  intro s
  have hk' : ∀ k ∈ keys, 0 < k ∧ k < 128 := fun k hm => Classical.byContradiction fun hn => hk ⟨k, hm, hn⟩
  have hv : ValidSelKeys s := by
    refine ⟨by simp [s, hl], fun x hx => ?_⟩
    obtain ⟨k, hm, rfl⟩ := List.mem_map.mp hx
    have := hk' k hm; omega
  have hback : s.map Int.ofNat = keys := by
    rw [List.map_map]
    exact (List.map_congr_left fun k hm => by
      have := hk' k hm; show ((k.toNat : Nat) : Int) = k; omega).trans (List.map_id _)
  obtain ⟨h1, h2, _⟩ := selkeys_roundtrip s c hv
  have hset : setSelKey keys 10 c = (setStr selKeysName s c).1 := by
    rw [h1, hback, setSelKey_eq, if_pos rfl]
  refine ⟨hv, hset, by rw [hset]; exact h2, ?_⟩
  rw [setSelKey_eq, if_pos rfl]; rfl

/-- a wrong length is ignored by the legacy setter (whole context unchanged) -/
theorem legacy_selkey_bad_len (keys : List Int) (len : Int) (c : Ctx) (h : len ≠ 10) : setSelKey keys len c = c := by
  rw [setSelKey_eq, if_neg h]

/-- since the repair of F05, `chewing_config_get_str` never aborts, whatever the legacy setter stored -/
theorem getStr_never_panics (name : String) (c : Ctx) : (getStr name c).isOk = true := by
  unfold getStr
  split
  · rfl
  · simp only [selKeys_flags.2.2.1]; split <;> (split <;> simp [Outcome.isOk])

/-- **getters_in_range**: after ANY history of configuration calls (valid or not, through any entry point)
    every integer option reports a value of its documented range -/
theorem getters_in_range (c : Ctx) (h : Reachable c) : GettersInRange c := by
  refine reachable_induction (fun name hn => ?_) gettersInRange_setInt
    (fun name value c hc => gettersInRange_of_opts c _ (str_ops_frame name value 0 [] 0 c).1 hc)
    (fun n c hc => gettersInRange_of_opts c _ rfl hc)
    (fun keys len c hc => gettersInRange_of_opts c _ (str_ops_frame "" [] 0 keys len c).2.2.1 hc) h
  obtain ⟨⟨n, lo, hi⟩, hmem, rfl⟩ := List.mem_map.mp hn
  obtain ⟨_, _, _, _, _, hinit⟩ := doc_row hmem
  exact ⟨lo, hi, hmem, hinit⟩

-- non-vacuity: the hypotheses above are satisfiable, and the model is not trivial

example : InRange "chewing.candidates_per_page" 7 := ⟨1, 10, by decide +kernel⟩
example : ¬ InRange "chewing.candidates_per_page" 11 := by
  have : ∀ r ∈ DocRange, r.2.2 < 11 ∨ r.1 ≠ "chewing.candidates_per_page" := by decide +kernel
  rintro ⟨lo, hi, hm, _, h2⟩
  exact (this _ hm).elim (fun h => absurd h2 (Int.not_le.mpr h)) (· rfl)
example : (setInt "chewing.candidates_per_page" 7 init).1 ≠ init := by decide +kernel
example : getInt "chewing.candidates_per_page" (setInt "chewing.candidates_per_page" 7 init).1 = 7 := by decide +kernel
example : ValidSelKeys [97, 115, 100, 102, 103, 104, 106, 107, 108, 59] := by unfold ValidSelKeys; decide
example : (setKBType 6 init).1.keyboard = 1 ∧ (setKBType 6 init).1 ≠ init := by decide +kernel
example : Reachable (setKBType 6 init).1 := ⟨[.setKBType 6], rfl⟩
example : KnownF05b (List.replicate 10 200) := ⟨200, by decide, by decide⟩
example : ¬ KnownF05b [49, 50, 51, 52, 53, 54, 55, 56, 57, 48] := by
  rintro ⟨k, hm, hn⟩; revert hn; revert k; decide

end Chewing.C16
