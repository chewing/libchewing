import Chewing.Proofs.EditorPure
import Chewing.Proofs.EditorLinkMeta2
import Chewing.Proofs.ProcessState
import Chewing.Gen.ProcessState
/-!
# C17 — Queries are pure, contexts are independent, reset gives a clean editor

Model: `Chewing.Model.Editor` (validated per step against the real editor, harness `editor`), the
definitions of `Proofs/EditorPure.lean`.  All theorems hold for EVERY environment `env`.

**1. Queries are pure.**  In a functional model a getter is a function `Editor → value`: it cannot
change the editor.  `query_pure`, `insert_getters`, `getter_repeat`, `queries_block` are therefore true by
construction (proved by induction over the history, nothing deep).  The substance is the
correspondence: that the REAL getters behave like functions of the state — checked on the real editor
by `oracle_c17.rs` (every getter twice after every operation: equal answers, snapshot (hook H1) and
dictionary unchanged; forked twins with / without getter bursts) and on the real C API by
`capi_pure.rs` (all `chewing_*` getters incl. `_static` and enumerate/hasNext/get loops inserted at
random positions vs. the same calls without them).  The C layer is covered by that differential
execution, not by a model; `Ctx` below is only a small wrapper model of the four iterator slots:
the enumerate-style calls write nothing but their own slot (`cgetters_keep_editor`,
`insert_cgetters`), and a slot read after its own `Enumerate` is a function of the editor alone
(`enumerate_overwrites`).

**2. Contexts are independent.**  Two contexts are two editor values, each with its own dictionary
value (= they do not share a user-dictionary file; a shared file would be an `Env` operation of one
changing the `D` of the other and is outside this product model).  `contexts_independent`: an
interleaved history projects to the two separate histories, results included; `contexts_independent_panic`:
an interleaved history that panics does so with the panic of one context running alone; `steps_commute`;
`other_context_untouched`.  Real shared process state, by reading `capi/src/io.rs`: the `OWNED`
registry (pointer → kind, consulted by `chewing_free` only; feeds no result) and the logger slot
`LOGGER`.  The logger slot IS observable by the application (a callback receives another context's
lines, or none): `LoggerIsolated` is the full statement, `logger_isolated_refuted` the witness
(finding F33, class `F33-logger-global`, reproduced on the real C API in every run by
`capi_pure.rs`), `logger_isolated_partial` excludes exactly that class.  "From different threads":
the schedule is not modelled; the C harness runs the two contexts on two threads.
CREATION is part of the statement: `Proofs/ProcessState.lean` models the process (`Proc`: live contexts by
id + the logger slot) with `chewing_new2` taking the contents found under ITS syspath / userpath as an
argument (`CreateArgs`: dictionaries, `swkb.dat`, `symbols.dat`, estimator clock), and
`creation_args_local` proves that a context's events are a function of its creation arguments and its
call history only — whatever other contexts, created before or after it with other arguments, do.  That
the code has no process-wide item besides the reviewed ones (`LOGGER`, `OWNED`, the cfg-guarded hook
`CALLBACK`; every other `static` is an immutable table) is checked by the translator
(`tools/extractors/process_state.py`, fails closed on a new stateful item) and pinned by
`process_state_inventory`; the experiment itself runs on the real C API in `capi_pure.rs` section D
(contexts with different data directories in one process, both creation orders, interleaved and one
thread per context, vs. each alone in a fresh process).

**3. Reset gives a clean editor.**  `clear_eq_fresh`: after the F25 fix `e.clear` IS the editor the
constructors produce from the same configuration, dictionary, tables, layout object and estimator
clock (`Editor.fresh (e.config)`), except for the pending flush level `dirty`; hence every
continuation, with queries anywhere, returns the same (`reset_is_fresh`), and `dirty` is 0 after every
key (`processKey_dirty`), so the exception concerns only a reset directly after an API learn/unlearn.
The estimator clock is a constructor argument (`LaxUserFreqEstimate::new`), so "same clock" is a
legitimate fresh editor; the C API instead restarts the clock from the newest stored time
(`max_from`).
Before the fix the statement was FALSE (`reset_is_fresh_refuted_before_fix`, DESIGN F25);
`f25_history_now_agrees` replays the former counter-example on the repaired model.  At the C level
`chewing_Reset` additionally has to drop the four iterator slots (second fix; `ctx_reset_eq_fresh`,
`ctx_reset_is_fresh` over ALL call lists incl. slot reads without Enumerate, `ctx_reset_refuted_before_fix`).
Bisimulation form: `Bisim`, `bisim_runs` (bisimilar editors are indistinguishable by any history of
operations and queries), `reset_is_fresh_bisim`; `query_meta_blind` (no getter reads the clock or the
flush level), `simple_ops_meta_blind` (the seven operations that neither read nor write them), and the
reduction `resetFreshModuloClock_of_relation`: the clock-and-flush-insensitive statement follows from the
step property of ONE relation.
Linked (section at the end): that step property IS proved, through every arm of `processKey` and
every other entry point (all 14 operations; `Proofs/EditorLinkMeta.lean`, `Proofs/EditorLinkMeta2.lean`:
`applyR_metaEq`), for the relation "equal up to the estimator clock and the pending flush level"
(`EdMetaEq`), in every environment in which time stamps and flushing are unobservable (`MetaBlindEnv`:
`estimate` does not depend on the clock — C08: Δt = 0 on the editor path —, the time stamp stored by
`update_phrase` is unobservable, `reopen` + `flush` leaves the observable dictionary unchanged).  Hence
`reset_is_fresh_modulo_clock`: a reset editor and a fresh editor whose clock is ARBITRARY (a new C context
restarts it from the newest stored time) and whose flush level is 0 show the client the same on every
history of operations and queries.  `metaBlind_needed`: without the hypothesis the statement is false (an
estimator that reads the clock tells them apart).  The hypothesis itself is about the components behind
`Env` (C08 / C09 / C10), not about the editor; the C harness compares reset contexts with new contexts whose
clock differs, the Rust harness masks the flush level until the first key.
-/
namespace Chewing.C17

variable {D L : Type} (env : Env D L)

/-! ## 1. Queries are pure -/

/-- a query returns its answer and leaves the editor value as it is (by construction of the model) -/
theorem query_keeps_state (e : Editor D L) (q : Query) :
    e.stepQ env (.query q) = .ok (e, .ans q (e.query env q)) := rfl

/-- **query_pure**: for EVERY editor value (reachable or not) and every getter: the call leaves the state
    unchanged, a repetition returns an equal value, and whatever operation follows behaves as if the
    getter had not been called -/
theorem query_pure (e : Editor D L) (q : Query) (o : Op L) :
    (∃ v, e.stepQ env (.query q) = .ok (e, .ans q v) ∧ e.runQ env [.query q, .query q] = .ok (e, [.ans q v, .ans q v])) ∧
    (e.runQ env [.query q, .op o]).map (fun r => (r.1, Ev.rets r.2)) = (e.runQ env [.op o]).map (fun r => (r.1, Ev.rets r.2)) := by
  refine ⟨⟨e.query env q, rfl, rfl⟩, ?_⟩
  simp only [Editor.runQ, Editor.stepQ, Outcome.map_map]
  cases e.applyR env o <;> rfl

/-- **inserting getters changes nothing**: a history with queries interleaved at arbitrary positions
    ends in the same editor, with the same return values of all operations (and the same panic, if an
    operation panics), as the history without them -/
theorem insert_getters (l : List (OpQ L)) : ∀ e : Editor D L,
    (e.runQ env l).map (fun r => (r.1, Ev.rets r.2)) = e.runR env (OpQ.strip l) := by
  induction l with
  | nil => intro e; rfl
  | cons c cs ih =>
    intro e
    cases c with
    | query q =>
      simp only [Editor.runQ, Editor.stepQ, OpQ.strip, Outcome.map_map, Ev.rets]
      exact ih e
    | op o =>
      simp only [Editor.runQ, Editor.stepQ, OpQ.strip, Editor.runR]
      cases e.applyR env o with
      | ok x =>
        obtain ⟨e', v⟩ := x
        simp only [Outcome.map_ok, Outcome.map_map]
        rw [← ih e', Outcome.map_map]
        rfl
      | panic p => rfl
      | outOfFuel => rfl

/-- the same, quantified the way the property is worded: whatever mixed history `l` is obtained from
    `ops` by inserting queries -/
theorem insert_getters_of_strip (ops : List (Op L)) (l : List (OpQ L)) (h : OpQ.strip l = ops) (e : Editor D L) :
    (e.runQ env l).map (fun r => (r.1, Ev.rets r.2)) = e.runR env ops := by
  rw [← h]; exact insert_getters env l e

/-- **repeating a getter returns an equal value** (and the rest of the history is unaffected) -/
theorem getter_repeat (e : Editor D L) (q : Query) (rest : List (OpQ L)) :
    e.runQ env (.query q :: .query q :: rest) =
      (e.runQ env rest).map fun r => (r.1, .ans q (e.query env q) :: .ans q (e.query env q) :: r.2) := by
  simp only [Editor.runQ, Editor.stepQ, Outcome.map_map]

/-- a block of queries anywhere: each is answered from the same editor value, whatever was asked
    before it in the block -/
theorem queries_block (e : Editor D L) (qs : List Query) (rest : List (OpQ L)) :
    e.runQ env (qs.map .query ++ rest) =
      (e.runQ env rest).map fun r => (r.1, qs.map (fun q => .ans q (e.query env q)) ++ r.2) := by
  induction qs with
  | nil => simp [Outcome.map_id']
  | cons q qs ih =>
    simp only [List.map_cons, List.cons_append, Editor.runQ, Editor.stepQ, ih, Outcome.map_map]

/-! ### the iterator slots of the C context -/

/-- every C-level getter, the enumerate-style ones included, leaves the editor alone -/
theorem cgetters_keep_editor (c : Ctx D L) (q : CQuery) : (c.cquery env q).1.ed = c.ed := by
  cases q <;> simp only [Ctx.cquery] <;> (try split) <;> rfl

/-- inserting any C-level getters (partial enumerations included) changes neither the editor nor the
    return value of any operation -/
theorem insert_cgetters (l : List (CCall L)) : ∀ c : Ctx D L,
    (c.run env l).map (fun r => (r.1.ed, r.2)) = c.ed.runR env (CCall.strip l) := by
  induction l with
  | nil => intro c; rfl
  | cons x xs ih =>
    intro c
    cases x with
    | q q =>
      simp only [Ctx.run, CCall.strip]
      rw [ih, cgetters_keep_editor]
    | op o =>
      simp only [Ctx.run, CCall.strip, Editor.runR, Ctx.cop]
      cases c.ed.applyR env o with
      | ok x =>
        obtain ⟨e', v⟩ := x
        simp only [Outcome.map_ok, Outcome.map_map]
        have := ih { c with ed := e' }
        simp only at this
        rw [← this, Outcome.map_map]
      | panic p => rfl
      | outOfFuel => rfl

/-- a slot that has just been (re)started by its own `Enumerate` depends on the editor only, not on
    what earlier enumerations left in it; outside `Selecting`, where `chewing_cand_Enumerate` leaves a
    stale slot, `chewing_cand_hasNext` answers 0 whatever the slot holds -/
theorem enumerate_overwrites (c₁ c₂ : Ctx D L) (h : c₁.ed = c₂.ed) :
    (c₁.cquery env .kbtypeEnumerate).1.kb = (c₂.cquery env .kbtypeEnumerate).1.kb ∧
    (∀ l, Shared.conversion env c₁.ed.shared = .ok l →
      (c₁.cquery env .intervalEnumerate).1.iv = (c₂.cquery env .intervalEnumerate).1.iv) ∧
    (∀ l, c₁.ed.query env .paginatedCandidates = .ok (.texts l) →
      (c₁.cquery env .candEnumerate).1.cand = (c₂.cquery env .candEnumerate).1.cand) ∧
    ((c₁.ed.query env .isSelecting = .ok (.bool false)) →
      (c₁.cquery env .candHasNext).2 = .bool false ∧ (c₂.cquery env .candHasNext).2 = .bool false) := by
  have hno : ∀ c : Ctx D L, c.ed.query env .isSelecting = .ok (.bool false) → (c.cquery env .candHasNext).2 = .bool false := by
    intro c hs
    simp only [Editor.query] at hs
    simp only [Ctx.cquery]
    split
    · next s hst => rw [hst] at hs; simp at hs
    · rfl
  refine ⟨rfl, fun l hl => ?_, fun l hl => ?_, fun hs => ⟨hno c₁ hs, hno c₂ (h ▸ hs)⟩⟩
  · simp only [Ctx.cquery, hl, h ▸ hl]
  · simp only [Ctx.cquery, hl, h ▸ hl]

/-- the documented loop `Enumerate; while hasNext { Get }` returns the phrase intervals of the current
    conversion, whatever an earlier (possibly abandoned) enumeration left in the slot -/
theorem interval_loop (c : Ctx D L) (l : List Interval) (h : Shared.conversion env c.ed.shared = .ok l) (fuel : Nat)
    (hf : l.length ≤ fuel) :
    (Slot.drain fuel (c.cquery env .intervalEnumerate).1.iv).1 = l.filter (·.isPhrase) := by
  simp only [Ctx.cquery, h]
  rw [Slot.drain_some]
  exact Nat.le_trans (List.length_filter_le ..) hf

/-! ## 2. Contexts are independent -/

section pair
variable {D₁ L₁ D₂ L₂ : Type} (envA : Env D₁ L₁) (envB : Env D₂ L₂)

/-- a call on one context leaves the other context's editor value untouched -/
theorem other_context_untouched (p p' : Pair D₁ L₁ D₂ L₂) (v : Tagged) :
    (∀ o, p.step envA envB (.inl o) = .ok (p', v) → p'.b = p.b) ∧
    (∀ o, p.step envA envB (.inr o) = .ok (p', v) → p'.a = p.a) := by
  constructor <;> intro o h <;>
    rcases Pair.step_ok envA envB h with ⟨_, _, _, hc, _, rfl, _⟩ | ⟨_, _, _, hc, _, rfl, _⟩ <;>
    first | rfl | cases hc

/-- a call on A and a call on B commute: either order gives the same pair of editors and the same two
    return values -/
theorem steps_commute (p : Pair D₁ L₁ D₂ L₂) (o₁ : Op L₁) (o₂ : Op L₂) (a' : Editor D₁ L₁) (b' : Editor D₂ L₂)
    (v₁ v₂ : Value) (h₁ : p.a.applyR envA o₁ = .ok (a', v₁)) (h₂ : p.b.applyR envB o₂ = .ok (b', v₂)) :
    p.run envA envB [.inl o₁, .inr o₂] = .ok ({ a := a', b := b' }, [.a v₁, .b v₂]) ∧
    p.run envA envB [.inr o₂, .inl o₁] = .ok ({ a := a', b := b' }, [.b v₂, .a v₁]) := by
  constructor <;> simp [Pair.run, Pair.step, h₁, h₂, Outcome.map]

/-- **A interleaved with B behaves as A alone, and B as B alone**: any interleaved history that runs
    to completion projects to the two separate histories — final editors and every return value -/
theorem contexts_independent (h : List (Op L₁ ⊕ Op L₂)) :
    ∀ (p p' : Pair D₁ L₁ D₂ L₂) (vs : List Tagged), p.run envA envB h = .ok (p', vs) →
      p.a.runR envA (lefts h) = .ok (p'.a, Tagged.as vs) ∧ p.b.runR envB (rights h) = .ok (p'.b, Tagged.bs vs) := by
  intro p p' vs hr
  -- each context watches the pair: its own calls are its steps, the other's leave it alone
  obtain ⟨_, ha, rfl⟩ := (Pair.run_collects envA envB).sim (Editor.runR_collects envA) (fun p a => p.a = a)
    (F := lefts) (G := Tagged.as) rfl rfl h (fun c _ p _ p' e hR hs => by
      subst hR
      obtain ⟨⟨_, t⟩, hs', heq⟩ := Outcome.of_map_ok hs
      cases heq
      rcases Pair.step_ok envA envB hs' with ⟨o, a, v, rfl, ha, rfl, rfl⟩ | ⟨o, b, v, rfl, _, rfl, rfl⟩
      · exact .inl ⟨o, a, [v], by rw [ha]; rfl, rfl, fun _ => rfl, fun _ => rfl⟩
      · exact .inr ⟨rfl, fun _ => rfl, fun _ => rfl⟩) p p.a p' vs rfl hr
  obtain ⟨_, hb, rfl⟩ := (Pair.run_collects envA envB).sim (Editor.runR_collects envB) (fun p b => p.b = b)
    (F := rights) (G := Tagged.bs) rfl rfl h (fun c _ p _ p' e hR hs => by
      subst hR
      obtain ⟨⟨_, t⟩, hs', heq⟩ := Outcome.of_map_ok hs
      cases heq
      rcases Pair.step_ok envA envB hs' with ⟨o, a, v, rfl, _, rfl, rfl⟩ | ⟨o, b, v, rfl, hb, rfl, rfl⟩
      · exact .inr ⟨rfl, fun _ => rfl, fun _ => rfl⟩
      · exact .inl ⟨o, b, [v], by rw [hb]; rfl, rfl, fun _ => rfl, fun _ => rfl⟩) p p.b p' vs rfl hr
  exact ⟨ha, hb⟩

/-- … and when the interleaved history panics, it is the panic of one of the two contexts running alone
    (same message): interleaving creates no new failures -/
theorem contexts_independent_panic (h : List (Op L₁ ⊕ Op L₂)) :
    ∀ (p : Pair D₁ L₁ D₂ L₂) (s : String), p.run envA envB h = .panic s →
      p.a.runR envA (lefts h) = .panic s ∨ p.b.runR envB (rights h) = .panic s := by
  -- a mapped outcome panics only if the outcome does
  have hm : ∀ {α β : Type} {f : α → β} {r : Outcome α} {s : String}, r.map f = .panic s → r = .panic s := by
    intro _ _ _ r _ h; cases r <;> cases h <;> rfl
  induction h with
  | nil => intro p s hr; cases hr
  | cons c cs ih =>
    intro p s hr
    cases c with
    | inl o =>
      simp only [Pair.run, Pair.step] at hr
      simp only [lefts, rights, Editor.runR]
      cases ha : p.a.applyR envA o with
      | ok x =>
        rw [ha] at hr
        exact (ih _ _ (hm hr)).imp (fun h1 => by show Outcome.map _ (Editor.runR envA x.1 (lefts cs)) = _; rw [h1]; rfl) id
      | panic s' => rw [ha] at hr; cases hr; exact .inl rfl
      | outOfFuel => rw [ha] at hr; cases hr
    | inr o =>
      simp only [Pair.run, Pair.step] at hr
      simp only [lefts, rights, Editor.runR]
      cases hb : p.b.applyR envB o with
      | ok x =>
        rw [hb] at hr
        exact (ih _ _ (hm hr)).imp id (fun h2 => by show Outcome.map _ (Editor.runR envB x.1 (rights cs)) = _; rw [h2]; rfl)
      | panic s' => rw [hb] at hr; cases hr; exact .inr rfl
      | outOfFuel => rw [hb] at hr; cases hr

end pair

/-! ### creation: a context is a function of ITS creation arguments and ITS call history -/

section process
variable (dflt : NewDefaults L)

/-- `chewing_new2` on a free id yields the context made of the code's defaults and of the arguments of
    THIS call, whatever the process already holds (other contexts, logger slot) -/
theorem new2_reads_its_arguments_only (p : Proc D L) (id : Nat) (a : CreateArgs D) (hfree : p.ctxs id = none) :
    ∃ p', p.step env dflt (.new2 id a) = .ok (p', some (id, .created)) ∧ p'.ctxs id = some (Ctx.create dflt a) ∧
      ∀ j, j ≠ id → p'.ctxs j = p.ctxs j := by
  refine ⟨{ (p.set id (some (Ctx.create dflt a))) with logger := (p.logger.step (.new2 id a.withLogger)).1 }, ?_, ?_, ?_⟩
  · simp only [Proc.step, hfree]
  · simp [Proc.set]
  · intro j hj; simp [Proc.set, hj]

/-- **`creation_args_local`**: run ANY history of creations (with any arguments: other data directories,
    other user paths), calls and deletions in a fresh process; if it runs to completion, the events of
    context `id` are exactly the events of the calls made on `id` — its own `chewing_new2` with its own
    arguments included — run ALONE in a fresh process, and the context ends in the same state -/
theorem creation_args_local (id : Nat) (h : List (PCall D L)) (p' : Proc D L) (es : List (Nat × PEv))
    (hr : (Proc.empty : Proc D L).run env dflt h = .ok (p', es)) :
    ∃ q', (Proc.empty : Proc D L).run env dflt (PCall.only id h) = .ok (q', PEv.only id es) ∧
      p'.ctxs id = q'.ctxs id :=
  Proc.run_local env dflt id h Proc.empty Proc.empty p' es rfl hr

/-- the same from any two processes that agree on context `id` only (e.g. one of them already holds
    other contexts, or another logger) -/
theorem creation_args_local_any_process (id : Nat) (h : List (PCall D L)) (p q p' : Proc D L)
    (es : List (Nat × PEv)) (hpq : p.ctxs id = q.ctxs id) (hr : p.run env dflt h = .ok (p', es)) :
    ∃ q', q.run env dflt (PCall.only id h) = .ok (q', PEv.only id es) ∧ p'.ctxs id = q'.ctxs id :=
  Proc.run_local env dflt id h p q p' es hpq hr

/-- a call on one context neither changes nor shows anything of another one (creation and deletion
    included) -/
theorem process_step_other (p p' : Proc D L) (c : PCall D L) (e : Option (Nat × PEv)) (id : Nat) (hne : c.id ≠ id)
    (h : p.step env dflt c = .ok (p', e)) : p'.ctxs id = p.ctxs id ∧ ∀ x, e = some x → x.1 ≠ id :=
  Proc.step_other env dflt p p' c e id hne h

/-- the translator's inventory of process-wide items that can change: exactly the reviewed ones — the
    logger slot (modelled, F33), the `OWNED` registry (C15) and the cfg-guarded verification hook -/
theorem process_state_inventory :
    Gen.processStateful = [("capi/src/io.rs", "LOGGER"), ("capi/src/io.rs", "OWNED"), ("src/verif.rs", "CALLBACK")] := rfl

/-- of the stateful items, the body of `chewing_new2` names the logger slot only -/
theorem new2_names_logger_only : Gen.new2Statics = ["LOGGER"] := rfl

/-- non-vacuity: two contexts with different symbol tables in one process, one deleted, the other queried -/
example (a b : CreateArgs D) :
    ((Proc.empty : Proc D L).run env dflt [.new2 0 a, .new2 1 b, .call 1 (.q .kbtypeEnumerate), .delete 0]).map (·.2) =
      .ok [(0, .created), (1, .created), (1, .ev (.ans .none)), (0, .deleted)] := rfl

example (a b : CreateArgs D) :
    (PCall.only 1 [.new2 0 a, .new2 1 b, .call 1 (.q .kbtypeEnumerate), .delete 0] : List (PCall D L)) =
      [.new2 1 b, .call 1 (.q .kbtypeEnumerate)] := rfl

end process

/-! ### the process-wide logger slot (finding F33) -/

/-- full statement: as long as context `c` has not removed its own callback, every log line emitted by
    `c` is delivered to `c`'s callback -/
def LoggerIsolated : Prop :=
  ∀ (c : Nat) (h : List LogCall), (∀ x ∈ h, x.uninstalls c = false) →
    ∀ d ∈ LogSlot.run (some c) h, d.1 = c → d.2 = some c

/-- **F33**: context 0 has its logger installed; `chewing_new2(.., loggerB, dataB)` for context 1
    redirects context 0's lines to context 1's callback and data pointer -/
theorem logger_isolated_refuted : ¬ LoggerIsolated := by
  intro h
  have := h 0 [.new2 1 true, .work 0] (by decide) (0, some 1) (by decide) rfl
  exact absurd this (by decide)

/-- the second half of F33: after `chewing_delete(B)` context A's lines reach no callback at all -/
theorem logger_silenced_by_delete :
    LogSlot.run (some 0) [.new2 1 true, .delete 1, .work 0] = [(0, none)] := by decide

/-- a call outside the class `F33-logger-global` that does not remove `c`'s callback leaves the slot with `c`, and a
    line it emits is delivered there -/
theorem logSlot_step_own {c : Nat} {x : LogCall} (hown : x.uninstalls c = false) (hforeign : x.foreign c = false) :
    (LogSlot.step (some c) x).1 = some c ∧ ∀ d, (LogSlot.step (some c) x).2 = some d → d.2 = some c := by
  rcases x with ⟨k, _ | _⟩ | k | ⟨k, _ | _⟩ | k <;>
    simp_all [LogSlot.step, LogCall.foreign, LogCall.uninstalls]

/-- outside the class `F33-logger-global` (no other context is created with a logger, deleted, or has
    its logger changed while `c` is logging) the lines of `c` reach `c`'s callback -/
theorem logger_isolated_partial (c : Nat) (h : List LogCall)
    (hown : ∀ x ∈ h, x.uninstalls c = false) (hforeign : ∀ x ∈ h, x.foreign c = false) :
    ∀ d ∈ LogSlot.run (some c) h, d.1 = c → d.2 = some c := by
  induction h with
  | nil => intro d hd; cases hd
  | cons x xs ih =>
    -- the slot stays with `c` (`logSlot_step_own`), so the rest of the history starts as this one did
    obtain ⟨h1, h2⟩ := logSlot_step_own (hown x List.mem_cons_self) (hforeign x List.mem_cons_self)
    have ih := ih (fun y hy => hown y (List.mem_cons_of_mem _ hy)) (fun y hy => hforeign y (List.mem_cons_of_mem _ hy))
    intro d hd _
    rw [LogSlot.run, h1] at hd
    split at hd
    · next d' hd' =>
      rcases List.mem_cons.mp hd with rfl | hd
      · exact h2 _ hd'
      · exact ih d hd ‹_›
    · exact ih d hd ‹_›

/-! ## 3. Reset gives a clean editor -/

/-- **a reset editor is a fresh editor**: `Editor::clear` yields exactly what the constructors produce
    from the same configuration, dictionary, tables, layout object (cleared) and estimator clock — every
    other field has its initial value — except that the pending flush level is carried over -/
theorem clear_eq_fresh (e : Editor D L) :
    e.clear env = (Editor.fresh (e.config env)).withDirty e.shared.dirty := by
  simp [Editor.clear, Shared.clear, Editor.fresh, Editor.config, Editor.withDirty, CompEditor.clear,
    Composition.clear]

/-- … and with no flush pending (the case after every key, see `processKey_dirty`) it IS the fresh editor -/
theorem clear_eq_fresh_of_clean (e : Editor D L) (h : e.shared.dirty = 0) :
    e.clear env = Editor.fresh (e.config env) := by
  rw [clear_eq_fresh, h]; rfl

/-- **reset_is_fresh**: after a reset issued in ANY editor value `e` (every state, reachable or not),
    every continuation — operations and queries in any order — ends in the same editor and returns the
    same values as on the fresh editor -/
theorem reset_is_fresh (e : Editor D L) (l : List (OpQ L)) :
    (e.clear env).runQ env l = ((Editor.fresh (e.config env)).withDirty e.shared.dirty).runQ env l := by
  rw [clear_eq_fresh]

/-- every key event ends with the dictionary flushed: `dirty = 0` -/
theorem processKey_dirty (e e' : Editor D L) (ev : KeyEvent) (b : KB) (h : e.processKey env ev = .ok (e', b)) :
    e'.shared.dirty = 0 := by
  obtain ⟨sh, st, _, ht⟩ := C05.processKey_split env h
  obtain ⟨_, _, sh2, _, hsh⟩ := C05.tail_spec env ht
  rw [hsh]
  split
  · rfl
  · omega

/-- the fresh editor is what the public constructors give: `Editor::new` (default options, default engine
    kind, some initial layout `l0`), then `set_editor_options`, `set_conversion_engine`,
    `set_syllable_editor` -/
theorem fresh_by_constructors (cfg : Config D L) (l0 : L) :
    let new : Editor D L := Editor.fresh { cfg with options := {}, engine := .chewing, syl := l0 }
    (fun e : Editor D L => e.setLayout env cfg.syl)
      ((fun e : Editor D L => { e with shared := { e.shared with engine := cfg.engine } })
        (new.setOptions env cfg.options)) = Editor.fresh cfg := by
  simp only [Editor.setOptions, Editor.setLayout, Editor.leaveIfEmpty, Editor.fresh]
  have : (St.entering == St.enteringSyllable) = false := by decide
  by_cases h : (LangMode.chinese != cfg.options.languageMode) = true <;> simp [h, this]

/-! ### bisimulation form, and what is known about the clock and the pending flush level -/

/-- what the client sees of a run: every return value and every answer, or the panic -/
def seen (r : Outcome (Editor D L × List Ev)) : Outcome (List Ev) := r.map (·.2)

/-- `R` is a bisimulation for the calls of the editor (operations AND queries): related editors answer
    every call alike — same value and related successors, or the same panic -/
def Bisim (R : Editor D L → Editor D L → Prop) : Prop :=
  ∀ e₁ e₂ c, R e₁ e₂ →
    match e₁.stepQ env c, e₂.stepQ env c with
    | .ok (e₁', v₁), .ok (e₂', v₂) => R e₁' e₂' ∧ v₁ = v₂
    | .panic p, .panic q => p = q
    | .outOfFuel, .outOfFuel => True
    | _, _ => False

/-- bisimilar editors are indistinguishable by any history -/
theorem bisim_runs (R : Editor D L → Editor D L → Prop) (hR : Bisim env R) :
    ∀ (l : List (OpQ L)) (e₁ e₂ : Editor D L), R e₁ e₂ → seen (e₁.runQ env l) = seen (e₂.runQ env l) := by
  intro l
  induction l with
  | nil => intro e₁ e₂ _; rfl
  | cons c cs ih =>
    intro e₁ e₂ h
    have hs := hR e₁ e₂ c h
    simp only [Editor.runQ, seen]
    -- the four rows of `Bisim`: both return, the same panic, both out of fuel, or no such pair
    split at hs
    · next a₁ v₁ a₂ v₂ h₁ h₂ =>
      obtain ⟨hr, rfl⟩ := hs
      have := congrArg (Outcome.map (v₁ :: ·)) (ih a₁ a₂ hr)
      simpa only [h₁, h₂, seen, Outcome.map_map] using this
    · next h₁ h₂ => rw [h₁, h₂, hs]
    · next h₁ h₂ => rw [h₁, h₂]
    · exact hs.elim

/-- equality is a bisimulation (the model is a function of the editor value) -/
theorem bisim_eq : Bisim env (fun e₁ e₂ : Editor D L => e₁ = e₂) := by
  intro e₁ e₂ c h
  subst h
  cases e₁.stepQ env c with
  | ok x => exact ⟨rfl, rfl⟩
  | panic p => rfl
  | outOfFuel => trivial

/-- a relation that answers every getter alike and is kept by every operation (equal return values, or the
    same panic) is a bisimulation -/
theorem bisim_of_step (R : Editor D L → Editor D L → Prop)
    (hq : ∀ e₁ e₂, R e₁ e₂ → ∀ q, e₁.query env q = e₂.query env q)
    (hstep : ∀ e₁ e₂ o, R e₁ e₂ → match e₁.applyR env o, e₂.applyR env o with
      | .ok (a₁, v₁), .ok (a₂, v₂) => R a₁ a₂ ∧ v₁ = v₂ | .panic p, .panic q => p = q | .outOfFuel, .outOfFuel => True | _, _ => False) :
    Bisim env R := by
  intro e₁ e₂ c h
  cases c with
  | query q => exact ⟨h, by rw [hq e₁ e₂ h q]⟩
  | op o =>
    have := hstep e₁ e₂ o h
    simp only [Editor.stepQ]
    cases h₁ : e₁.applyR env o <;> cases h₂ : e₂.applyR env o <;> rw [h₁, h₂] at this <;>
      first | exact this.elim | exact this | exact ⟨this.1, congrArg Ev.ret this.2⟩

/-- **reset_is_fresh, bisimulation form**: whatever bisimulation `R` relates the reset editor to a candidate
    fresh editor `f`, no history tells them apart.  With `R := Eq` and `f := fresh (config e)` (up to the
    flush level) this is `reset_is_fresh`; a coarser `R` that ignores the clock and the flush level
    gives the C-level statement (`ResetFreshModuloClock`; proved under `MetaBlindEnv` as
    `reset_is_fresh_modulo_clock`) -/
theorem reset_is_fresh_bisim (R : Editor D L → Editor D L → Prop) (hR : Bisim env R) (e f : Editor D L)
    (h : R (e.clear env) f) (l : List (OpQ L)) : seen ((e.clear env).runQ env l) = seen (f.runQ env l) :=
  bisim_runs env R hR l _ _ h

/-- the two fields no getter reads: the estimator clock and the pending flush level -/
def setMeta (e : Editor D L) (t k : Nat) : Editor D L := { e with shared := { e.shared with time := t, dirty := k } }

/-- the proofs about the clock and the flush level (`Proofs/EditorLinkMeta2.lean`) speak of `Editor.sm` -/
theorem setMeta_eq_sm (e : Editor D L) (t k : Nat) : setMeta e t k = e.sm t k := rfl

/-- **no getter can see the clock or the flush level** -/
theorem query_meta_blind (e : Editor D L) (t k : Nat) (q : Query) : (setMeta e t k).query env q = e.query env q := by
  cases q <;> rfl

/-- the operations that neither read nor write them commute with changing them -/
theorem simple_ops_meta_blind (e : Editor D L) (t k : Nat) (o : Op L)
    (ho : match o with
      | .clear | .ack | .clearSyl | .setOptions _ | .setLayout _ | .setEngine _ | .cancelSelecting => True
      | _ => False) :
    (setMeta e t k).applyR env o = (e.applyR env o).map fun r => (setMeta r.1 t k, r.2) := by
  simp only [setMeta_eq_sm]
  have hrev : ∀ (e' : Editor D L) (v : Value), ((e'.sm t k).revalidate env).map (fun x => (x, v)) =
      ((e'.revalidate env).map fun x => (x, v)).map fun r => (r.1.sm t k, r.2) := fun e' v => by
    rw [revalidate_sm, Outcome.map_map, Outcome.map_map]
  cases o <;> simp only at ho
  case clear => rfl
  case ack => rfl
  case setEngine => rfl
  case cancelSelecting =>
    obtain ⟨sh, st⟩ := e
    cases st <;> rfl
  case clearSyl =>
    exact congrArg (fun x => Outcome.ok (x, Value.unit))
      (leaveIfEmpty_sm { e with shared := { e.shared with syl := env.clearSyl e.shared.syl } } t k)
  case setLayout l =>
    exact (congrArg (fun x => (Editor.revalidate env x).map (·, Value.unit))
      (leaveIfEmpty_sm { e with shared := { e.shared with syl := l } } t k)).trans (hrev _ _)
  case setOptions o =>
    exact (congrArg (fun x => (Editor.revalidate env x).map (·, Value.unit)) (setOptions_sm e t k o)).trans (hrev _ _)

/-- the statement a C client cares about — a reset context against a NEW context, whose clock restarts from
    the newest stored time and whose flush level is 0 — for environments in which timestamps and flushing
    are unobservable, conditional on a relation `R` that contains every `setMeta` pair, is transitive, answers
    every getter alike and is kept by every operation.  The last condition is the frame property "the clock
    reaches nothing but the time argument of `estimate` / `updatePhrase`, the flush level nothing but
    `reopenFlush`" through every arm of `processKey`; `EdMetaEq` has it under `MetaBlindEnv`
    (`reset_is_fresh_modulo_clock` at the end of this file).  The harness runs the same comparison as paired
    executions (C API: the new context's clock differs; Rust API: flush level masked until the first key). -/
def ResetFreshModuloClock : Prop :=
  ∀ (R : Editor D L → Editor D L → Prop), (∀ e t k, R e (setMeta e t k)) → (∀ e₁ e₂ e₃, R e₁ e₂ → R e₂ e₃ → R e₁ e₃) →
    (∀ e₁ e₂, R e₁ e₂ → ∀ q, e₁.query env q = e₂.query env q) →
    (∀ e₁ e₂ o, R e₁ e₂ → match e₁.applyR env o, e₂.applyR env o with
      | .ok (a₁, v₁), .ok (a₂, v₂) => R a₁ a₂ ∧ v₁ = v₂ | .panic p, .panic q => p = q | .outOfFuel, .outOfFuel => True | _, _ => False) →
    ∀ (e : Editor D L) (t : Nat) (l : List (OpQ L)),
      seen ((e.clear env).runQ env l) = seen ((Editor.fresh { e.config env with time := t }).runQ env l)

/-- … which DOES follow once such a relation is exhibited (so what is left to show is exactly the step
    property of the relation "equal up to clock and flush level": `applyR_metaEq`, used in the last section) -/
theorem resetFreshModuloClock_of_relation : ResetFreshModuloClock env := by
  intro R hmeta htrans hq hstep e t l
  refine reset_is_fresh_bisim env R (bisim_of_step env R hq hstep) e _ ?_ l
  rw [clear_eq_fresh]
  -- `(fresh (config e)).withDirty dirty` with its clock set to `t` and its flush level to 0 IS the fresh editor
  exact hmeta ((Editor.fresh (e.config env)).withDirty e.shared.dirty) t 0

/-! ### the C context: `chewing_Reset` -/

/-- **a reset context is a new context**: `chewing_Reset` yields the context `chewing_new2` gives for the
    same configuration (editor as in `clear_eq_fresh`, all iterator slots empty) -/
theorem ctx_reset_eq_fresh (c : Ctx D L) :
    c.reset env = { Ctx.fresh (c.ed.config env) with ed := (Editor.fresh (c.ed.config env)).withDirty c.ed.shared.dirty } := by
  simp only [Ctx.reset, Ctx.fresh, clear_eq_fresh]

/-- … hence every continuation of C calls — operations, plain getters, enumerate-style calls, and slot reads
    WITHOUT a preceding Enumerate — shows the client the same on both -/
theorem ctx_reset_is_fresh (c : Ctx D L) (l : List (CCall L)) :
    (c.reset env).trace env l =
      ({ Ctx.fresh (c.ed.config env) with ed := (Editor.fresh (c.ed.config env)).withDirty c.ed.shared.dirty } : Ctx D L).trace env l := by
  rw [ctx_reset_eq_fresh]

/-- the reset as it was coded before kept the slots; for clients that follow the documented protocol (a
    slot is read only after its own Enumerate) that was invisible on the editor part: the editors agree -/
theorem ctx_reset_before_fix_editor (c : Ctx D L) : (c.resetBeforeFix env).ed = (c.reset env).ed := rfl

/-! ### F25: the statement was false before the fix -/

/-- a minimal environment in which syllables can be typed and a candidate list opened: key `h`
    (code 32) starts a syllable, key `4` (code 4) completes it; every syllable has one word -/
def f25Env : Env Unit Nat where
  lookupAll _ key _ := if key.length = 1 then [{ text := [28204], freq := 1 }] else []
  userLookupAll _ _ _ := []
  addPhrase _ _ _ := some ()
  updatePhrase _ _ _ _ _ := ()
  removePhrase _ _ _ := ()
  reopenFlush _ := ()
  convert _ _ _ := .ok [[]]
  estimate _ f _ := .ok f
  keyPress l ev := if ev.code = 32 then (.absorb, 1) else if ev.code = 4 ∧ l ≠ 0 then (.commit, l) else (.keyError, l)
  fuzzyKeyPress l ev := if ev.code = 32 then (.absorb, 1) else if ev.code = 4 ∧ l ≠ 0 then (.commit, l) else (.keyError, l)
  removeLast _ := 0
  clearSyl _ := 0
  sylIsEmpty l := l == 0
  read l := l
  altSyllables _ _ := []

/-- the same, but the conversion engine finds no path (C01's finding class) -/
def noWordEnv : Env Unit Nat := { f25Env with convert := fun _ _ _ => .panic "conv-no-path" }

def f25Start : Editor Unit Nat := Editor.fresh { syl := 0, engine := .chewing, dict := (), abbr := [], symSel := {}, options := {}, time := 0 }

def kH : Op Nat := .key { index := 32, code := 32, unicode := 104 }
def k4 : Op Nat := .key { index := 4, code := 4, unicode := 52 }
def kDown : Op Nat := .key { index := 57, code := KC.down, unicode := 65533 }
def kHome : Op Nat := .key { index := 58, code := KC.home, unicode := 65533 }
def kEsc : Op Nat := .key { index := 49, code := KC.esc, unicode := 65533 }

/-- type four syllables, open the candidate list -/
def f25Prefix : List (Op Nat) := [kH, k4, kH, k4, kH, k4, kH, k4, kDown]
/-- type two syllables, Home, open the candidate list, Esc -/
def f25Cont : List (Op Nat) := [kH, k4, kH, k4, kHome, kDown, kEsc]

/-- **F25 (before the fix)**: reset while the candidate list is open kept the saved cursor 4; after the
    same seven keys the reset editor has its cursor at 2, the fresh editor at 0 -/
theorem reset_is_fresh_refuted_before_fix :
    ∃ e : Editor Unit Nat, f25Start.run f25Env f25Prefix = .ok e ∧
      ((e.clearBeforeFix f25Env).run f25Env f25Cont).map (·.query f25Env .cursor) = .ok (.ok (.nat 2)) ∧
      ((Editor.fresh (e.config f25Env)).run f25Env f25Cont).map (·.query f25Env .cursor) = .ok (.ok (.nat 0)) := by
  refine ⟨_, rfl, ?_, ?_⟩ <;> decide

/-- the same history on the repaired model: the reset editor and the fresh editor end equal -/
theorem f25_history_now_agrees :
    ∃ e : Editor Unit Nat, f25Start.run f25Env f25Prefix = .ok e ∧
      ((e.clear f25Env).run f25Env f25Cont).map (·.query f25Env .cursor) = .ok (.ok (.nat 0)) ∧
      ((Editor.fresh (e.config f25Env)).run f25Env f25Cont).map (·.query f25Env .cursor) = .ok (.ok (.nat 0)) := by
  refine ⟨_, rfl, ?_, ?_⟩ <;> decide

/-- **the iterator half of the reset defect (before the second fix)**: open a candidate list,
    `chewing_cand_Enumerate`, `chewing_Reset`, `chewing_cand_String`: the old reset hands out the first
    candidate of the list that no longer exists, a new context (and the repaired reset) nothing -/
theorem ctx_reset_refuted_before_fix :
    ∃ c : Ctx Unit Nat, (Ctx.trace f25Env { ed := f25Start } [.op kH, .op k4, .op kDown, .q .candEnumerate]).map (·.1) = .ok c ∧
      ((c.resetBeforeFix f25Env).cquery f25Env .candString).2 = .text (some [28204]) ∧
      ((c.reset f25Env).cquery f25Env .candString).2 = .text none ∧
      ((Ctx.fresh (c.ed.config f25Env)).cquery f25Env .candString).2 = .text none := by
  refine ⟨_, rfl, ?_, ?_, ?_⟩ <;> decide

/-! ## Non-vacuity -/

/-- a history with getters at several positions, on a state with an open candidate list -/
example : ∃ e tr, f25Start.runQ f25Env
      [.op kH, .query .syllableBuffer, .op k4, .query .symbols, .query .symbols, .op kDown,
       .query .allCandidates, .query .totalPage, .op kEsc, .query .cursor] = .ok (e, tr) ∧
    Ev.rets tr = [.kb .absorb, .kb .absorb, .kb .absorb, .kb .absorb] := ⟨_, _, rfl, by decide⟩

example : (f25Start.run f25Env f25Prefix).map (·.query f25Env .allCandidates) = .ok (.ok (.texts [[28204]])) := by decide

/-- non-vacuity: two contexts, an interleaved history that completes; each context's return values in its own order -/
example : ∃ p' vs, (Pair.run f25Env f25Env { a := f25Start, b := f25Start }
      [.inl kH, .inr kH, .inr k4, .inl k4, .inr kDown]) = .ok (p', vs) ∧
    Tagged.as vs = [.kb .absorb, .kb .absorb] ∧ Tagged.bs vs = [.kb .absorb, .kb .absorb, .kb .absorb] :=
  ⟨_, _, rfl, by decide, by decide⟩


/-- the hypothesis of `contexts_independent_panic` is satisfiable: when the conversion
    engine of context B finds no path its commit panics (C01's finding class), and it is B alone that panics -/
example : (Pair.run f25Env noWordEnv { a := f25Start, b := f25Start } [.inl kH, .inr kH, .inr k4, .inl k4, .inr .commit]) = .panic "conv-no-path" ∧
    f25Start.runR noWordEnv (rights ([.inl kH, .inr kH, .inr k4, .inl k4, .inr .commit] : List (Op Nat ⊕ Op Nat))) = .panic "conv-no-path" :=
  ⟨rfl, rfl⟩

/-! ## the clock and the flush level are unobservable -/

/-- `setMeta` stays inside the relation "equal up to the clock and the flush level" -/
theorem edMetaEq_setMeta (e : Editor D L) (t k : Nat) : EdMetaEq e (setMeta e t k) :=
  setMeta_eq_sm e t k ▸ EdMetaEq.of_sm e t k

/-- … and the relation is exactly that: the second editor is the first with another clock / flush level -/
theorem edMetaEq_iff (e₁ e₂ : Editor D L) : EdMetaEq e₁ e₂ ↔ ∃ t k, e₂ = setMeta e₁ t k := by
  simp only [setMeta_eq_sm]
  exact ⟨fun h => h.out, fun ⟨t, k, h⟩ => h ▸ .of_sm e₁ t k⟩

/-- related editors answer every getter alike -/
theorem edMetaEq_query {e₁ e₂ : Editor D L} (h : EdMetaEq e₁ e₂) (q : Query) : e₁.query env q = e₂.query env q := by
  obtain ⟨t, k, rfl⟩ := (edMetaEq_iff e₁ e₂).mp h
  exact (query_meta_blind env e₁ t k q).symm

/-- `EdMetaEq` is a bisimulation: getters by `edMetaEq_query`; the step property through every arm of the
    state machine is `applyR_metaEq` -/
theorem edMetaEq_bisim (h : MetaBlindEnv env) : Bisim env (EdMetaEq (D := D) (L := L)) :=
  bisim_of_step env EdMetaEq (fun _ _ hr q => edMetaEq_query env hr q) (applyR_metaEq env h)

/-- **reset gives a fresh editor modulo the estimator clock and the pending flush level**: in every
    environment in which time stamps and flushing are unobservable, the reset editor and the fresh editor
    built from the same configuration with ANY clock `t` (and flush level 0) are indistinguishable by any
    history of operations and queries — same return values, same answers, same panic -/
theorem reset_is_fresh_modulo_clock (h : MetaBlindEnv env) (e : Editor D L) (t : Nat) (l : List (OpQ L)) :
    seen ((e.clear env).runQ env l) = seen ((Editor.fresh { e.config env with time := t }).runQ env l) :=
  resetFreshModuloClock_of_relation env EdMetaEq (fun e t k => edMetaEq_setMeta e t k)
    (fun _ _ _ h1 h2 => h1.trans h2) (fun _ _ hr q => edMetaEq_query env hr q) (applyR_metaEq env h) e t l

/-- more generally: changing the clock and the flush level of ANY editor is invisible -/
theorem setMeta_invisible (h : MetaBlindEnv env) (e : Editor D L) (t k : Nat) (l : List (OpQ L)) :
    seen (e.runQ env l) = seen ((setMeta e t k).runQ env l) :=
  bisim_runs env EdMetaEq (edMetaEq_bisim env h) l _ _ (edMetaEq_setMeta e t k)

/-- non-vacuity of the hypothesis: the toy environment of this file satisfies it -/
theorem f25Env_metaBlind : MetaBlindEnv f25Env := ⟨fun _ _ _ _ => rfl, fun _ _ _ _ _ _ => rfl, fun _ => rfl⟩

/-- a history that reaches the clock readers: an API learn of a known phrase (estimate + update_phrase at
    the clock, flush level raised), keys, a commit, queries -/
def metaHist : List (OpQ Nat) :=
  [.op (.learn [1] [28204]), .op kH, .op k4, .query .symbols, .op (.learn [1] [28204]), .op .commit,
   .query .displayCommit, .op (.unlearn [1] [28204]), .op kH, .query .syllableBuffer]

/-- non-vacuity: after nine keys the clock stands at 9; the reset editor (clock 9) and the fresh editor with
    clock 0 really differ, both run `metaHist` to the end, and show the same -/
example : ∃ e : Editor Unit Nat, f25Start.run f25Env f25Prefix = .ok e ∧
    (e.clear f25Env).shared.time = 9 ∧ (Editor.fresh { e.config f25Env with time := 0 }).shared.time = 0 ∧
    (e.clear f25Env) ≠ Editor.fresh { e.config f25Env with time := 0 } ∧
    seen ((e.clear f25Env).runQ f25Env metaHist) = seen ((Editor.fresh { e.config f25Env with time := 0 }).runQ f25Env metaHist) ∧
    (seen ((e.clear f25Env).runQ f25Env metaHist)).isOk = true := by
  refine ⟨_, rfl, by decide, by decide, ?_, reset_is_fresh_modulo_clock f25Env f25Env_metaBlind _ 0 _, by decide⟩
  intro hc
  have : (Editor.clear f25Env _).shared.time = (Editor.fresh _).shared.time := congrArg (·.shared.time) hc
  revert this
  decide

/-- an environment whose estimator READS the clock (it overflows from clock 5 on) -/
def clockEnv : Env Unit Nat :=
  { f25Env with estimate := fun t f _ => if t < 5 then .ok f else .panic "estimate-clock" }

/-- **the hypothesis is needed**: with an estimator that reads the clock, a reset editor (clock 9) and a
    fresh editor with clock 0 are told apart by one API learn -/
theorem metaBlind_needed :
    ∃ (e : Editor Unit Nat) (t : Nat) (l : List (OpQ Nat)),
      seen ((e.clear clockEnv).runQ clockEnv l) ≠ seen ((Editor.fresh { e.config clockEnv with time := t }).runQ clockEnv l) :=
  ⟨setMeta f25Start 9 0, 0, [.op (.learn [1] [28204])], by decide⟩

/-- … and `clockEnv` indeed violates `MetaBlindEnv` -/
theorem clockEnv_not_metaBlind : ¬ MetaBlindEnv clockEnv := by
  intro h
  have := h.estimate_clock 0 9 0 0
  exact absurd this (by decide)

end Chewing.C17
