import Chewing.Props.EditorTie
/-!
Companion of Props/C01.lean (audited with it): the exhaustive tie of the editor model to the real `Editor` on the closed
small worlds explored by `editor --bfs` (run `editor-bfs` of this check).  Statements and header: Props/EditorTie.lean.
-/
namespace Chewing.C01

/-- see `EditorTie.editor_tie_lift` -/
theorem editor_tie_lift {D L : Type} (env : Env D L) (I : Editor D L → Op L → Option (Unit × Editor D L))
    (R : Editor D L → Prop) (Sig : Op L → Prop)
    (hclosed : ∀ s op o s', R s → Sig op → I s op = some (o, s') → R s')
    (hagree : ∀ s op, R s → Sig op → I s op = EditorTie.modelStep env s op) :
    ∀ (ops : List (Op L)) (s : Editor D L), R s → (∀ op ∈ ops, Sig op) →
      runM I s ops = runM (EditorTie.modelStep env) s ops :=
  EditorTie.editor_tie_lift env I R Sig hclosed hagree

/-- see `EditorTie.editor_tie_states` -/
theorem editor_tie_states {D L : Type} (I : Editor D L → Op L → Option (Unit × Editor D L))
    (R : Editor D L → Prop) (Sig : Op L → Prop)
    (hclosed : ∀ s op o s', R s → Sig op → I s op = some (o, s') → R s') :
    ∀ (ops : List (Op L)) (s : Editor D L) (tr : List (Unit × Editor D L)), R s → (∀ op ∈ ops, Sig op) →
      runM I s ops = some tr → ∀ x ∈ tr, R x.2 :=
  EditorTie.editor_tie_states I R Sig hclosed

/-- see `EditorTie.run_of_runM` -/
theorem editor_tie_run {D L : Type} (env : Env D L) (ops : List (Op L)) (s : Editor D L) (tr : List (Unit × Editor D L))
    (h : runM (EditorTie.modelStep env) s ops = some tr) :
    Editor.run env s ops = .ok ((tr.getLast?.map (·.2)).getD s) :=
  EditorTie.run_of_runM env ops s tr h

/-- see `EditorTie.closed_world_bounded` -/
theorem editor_tie_closed_world_bounded {D L : Type} (env : Env D L) (G : D → Prop) (hE : C01.EnvOK env G)
    (sh : Shared D L) (hg : G sh.dict) (hcom : sh.com = {}) (hpp : 0 < sh.options.candidatesPerPage)
    (hsym : C01.SymWF sh.symSel) (ops : List (Op L)) (hno : ∀ o, Op.setOptions o ∉ ops)
    (e' : Editor D L) (hr : ({ shared := sh, state := .entering } : Editor D L).run env ops = .ok e') :
    e'.shared.com.len ≤ sh.options.autoCommitThreshold + 1 :=
  EditorTie.closed_world_bounded env G hE sh hg hcom hpp hsym ops hno e' hr

end Chewing.C01
