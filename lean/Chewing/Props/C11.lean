import Chewing.Proofs.Der
import Chewing.Proofs.TriePhrase
import Chewing.Proofs.TrieBuilder
import Chewing.Proofs.TrieSort
import Chewing.Proofs.TrieLayout
import Chewing.Proofs.TrieLookup
import Chewing.Proofs.TrieDoc
import Chewing.Proofs.TrieFuzzy
import Chewing.Proofs.TrieOrder
import Chewing.Proofs.TrieEntries
import Chewing.Proofs.TrieConforms
import Chewing.Proofs.TrieEntriesRuns
import Chewing.Proofs.TrieBuild
import Chewing.Proofs.TrieFirstN
import Chewing.Proofs.TrieValidWrite
import Chewing.Proofs.TrieOrderIndep
import Chewing.Proofs.TrieOrderIndepPerm
import Chewing.Proofs.TrieReader
/-!
# C11 — A trie dictionary file returns exactly what was put in, in the documented order

Model: `Chewing.Model.Der` (the shapes of the `der` crate the format uses) and
`Chewing.Model.TrieCodec` (`TrieBuilder::{insert, write}`, `Trie::{new, lookup_all_phrases,
entries, about}` at the level of the file's bytes), tied to `src/dictionary/trie.rs` by
byte-for-byte correspondence on generated entry sets (`harness/src/bin/codec.rs`).

Findings repaired in the repository (`fix:` commits, see KNOWN_FINDINGS.txt):
* F13 `data_len as u16` / `child_len as u16` truncated silently: since the fix `write` returns an error beyond
  the 16-bit limits, which is what the model does (`writeLoop` returns `none`).  The statement is
  therefore about *successful* writes, together with `writes_within_limits`: inside the format's
  limits `write` does succeed.
* the phrase comparator of `write` was not a total order on leaves mixing single characters with
  longer phrases (`sort_by` panicked on such a leaf of more than 20 phrases): since the fix single characters
  sort before longer phrases (`comparator_total_preorder`).
* `trie.asn1` constrained `freq` to 0..65535 although a `u32` is encoded (`format_constants`).

Since the repair of C13's finding F47 (`Syllable::try_from` accepts only values that are syllables) the reader
treats a stored syllable field that is not such a value differently: `Trie::new` rejects the file
(`validate_index`, `TrieValidate.sylsOk`), `entries()` would panic on it (`try_from(..).unwrap()`) and the fuzzy
predicate is false for it.  None of this can happen on a written file: the keys given to `insert` are
`&[Syllable]`, i.e. valid codes (`ValidEntry`), and the syllable field of a node record is the syllable of the
builder node (`validate_write`, `writeLoop_syls`).

The ORDER of `entries()` (last section): `entries_correct` / `C11_full` say "each (key, phrase) once"; `entries_order`
gives the enumeration as a list — keys in `Cli.trieOrder` (sorted by syllable code with a prefix first, maximal prefix
chains reversed: the depth-first walk pops its results deepest first), each key with its leaf in written order.
-/
namespace Chewing.C11
open Chewing.Der Chewing.TrieCodec

/-- inputs as the Rust types constrain them: `String`s hold Unicode scalar values, a `Syllable` is a
    non-zero `u16` that `Syllable::try_from` accepts (`validCode`, in `ValidEntry`: since the repair of C13's
    finding F47 the invariant of the type `Syllable` — `try_from`, the builder, `update`, `remove_*` yield nothing
    else —, so a `&[Syllable]` key handed to `TrieBuilder::insert` consists of such codes by construction; before
    the repair every non-zero `u16` was a `Syllable`), `freq : u32`, `last_used : Option<u64>` -/
def ValidInput (info : Info) (es : List Entry) : Prop := ValidInfo info ∧ ∀ e ∈ es, ValidEntry e

/-- a query: non-zero syllable codes.  (A query is a `&[Syllable]` too, hence consists of valid codes; the
    theorems need no more than `≠ 0` of it — the exact predicate compares codes, the fuzzy predicate applies
    `try_from` to the STORED syllable only — and are stated for every such key.) -/
def ValidKey (k : List Nat) : Prop := ∀ s ∈ k, s ≠ 0

/-- the phrases inserted for a key: insertion order, a re-inserted phrase replacing the earlier one
    where it stood (`none` = the key was never inserted) -/
def inserted (es : List Entry) (k : List Nat) : Option (List Phrase) := refFind es k

/-- the documented order of a leaf with inserted phrase vector `ps`: the single characters keep
    their insertion order; the multi-character phrases are ordered by descending frequency (both as
    subsequences, so also in a leaf that holds both kinds, where the single characters come first) -/
def OrderDocumented (ps result : List Phrase) : Prop :=
  result.Perm ps ∧
  result.filter isSingle = ps.filter isSingle ∧
  (result.filter fun p => !isSingle p).Pairwise (fun a b => b.freq ≤ a.freq) ∧
  result.Pairwise (fun a b => isSingle b = true → isSingle a = true)

/-- `groups` holds exactly the inserted keys satisfying `P`, each once, with its phrase vector -/
def GroupsOf (es : List Entry) (P : List Nat → Prop) (groups : List (List Nat × List Phrase)) : Prop :=
  (groups.map (·.1)).Nodup ∧ ∀ k ps, (k, ps) ∈ groups ↔ (inserted es k = some ps ∧ P k)

/-- what a reader returns for a group: the leaf in its written order -/
def leafOut (g : List Nat × List Phrase) : List Phrase := sortLeaf g.2

/-- **the full statement** (on the model; tied to the code by the correspondence run).  For all
    metadata and every finite sequence of inserts:
    * inside the format's limits writing succeeds (outside it fails loudly, never silently);
    * a successfully written file opens, with identical metadata;
    * an exact lookup of any key returns exactly the phrases inserted for it (frequencies and
      timestamps included, a re-inserted phrase having replaced the earlier one), in the documented
      order; nothing for a key never inserted;
    * a fuzzy prefix lookup returns, leaf by leaf, exactly the inserted keys of the same length whose
      every syllable begins with the corresponding partial syllable, each once;
    * the other lookup methods of the trait agree with it: `lookup_first_n_phrases(key, n, strategy)`
      returns exactly the first `n` phrases of the full result (at most `n`, a prefix, nothing
      missing — the "first n = prefix of the full result" clause of C09 for this back end),
      `lookup_first_phrase` its first element;
    * enumeration yields exactly the inserted set, each (key, phrase) once;
    * the bytes conform to the documented format.
    ("equal input gives byte-identical files", the input being a SET of entries with the documented within-key
    order: `order_independent` — the bytes are a function of the metadata and the map key ↦ inserted phrase vector,
    whatever the order in which different keys were inserted; `deterministic` is the literal functionality of
    `write`.) -/
def C11_full : Prop :=
  ∀ (info : Info) (es : List Entry), ValidInput info es →
    ((TrieCodec.Builder.ofEntries info es).Fits → (TrieCodec.Builder.ofEntries info es).write.isSome = true) ∧
    ∀ bytes, (TrieCodec.Builder.ofEntries info es).write = some bytes →
      ∃ t, openTrie bytes = some t ∧
        about t = info ∧
        (∀ k, ValidKey k →
          lookupAll t k .standard = sortLeaf ((inserted es k).getD []) ∧
          OrderDocumented ((inserted es k).getD []) (lookupAll t k .standard)) ∧
        (∀ k, ValidKey k → inserted es k = none → lookupAll t k .standard = []) ∧
        (∀ q, ValidKey q → ∃ groups, GroupsOf es (fun k => fuzzyMatch k q = true) groups ∧
          lookupAll t q .fuzzyPartialPrefix = groups.flatMap leafOut) ∧
        (∀ st k n, ValidKey k → lookupFirstN t k n st = (lookupAll t k st).take n) ∧
        (∀ st k, ValidKey k → lookupFirst t k st = (lookupAll t k st).head?) ∧
        (∃ groups, GroupsOf es (fun _ => True) groups ∧
          entries t = .ok (groups.flatMap fun g => (leafOut g).map fun p => (g.1, p))) ∧
        Conforms bytes

/-- definite length, minimal form -/
theorem der_roundtrip_length (n : Nat) (r : Bytes) (h : n ≤ maxLen) : decLen (encLen n ++ r) = some (n, r) :=
  decLen_encLen n r h

/-- UTF8String -/
theorem der_roundtrip_utf8 (t : Text) (r : Bytes) (h : ∀ c ∈ t, IsScalar c) (hl : (utf8Enc t).length ≤ maxLen) :
    decUtf8 (encUtf8 t ++ r) = some (t, r) := decUtf8_encUtf8 t r h hl

/-- INTEGER for the `u8` (version), `u32` (freq) and `u64` (timestamp) uses -/
theorem der_roundtrip_uint (w v : Nat) (r : Bytes) (hw : w = 1 ∨ w = 4 ∨ w = 8) (hv : v < 256 ^ w) :
    decUint w (encUint w v ++ r) = some (v, r) := by
  rcases hw with rfl | rfl | rfl <;> exact decUint_encUint _ v r (by decide) (by decide) hv

/-- OCTET STRING -/
theorem der_roundtrip_octets (b r : Bytes) (hl : b.length ≤ maxLen) : decOctets (encOctets b ++ r) = some (b, r) :=
  decOctets_encOctets b r hl

/-- SEQUENCE (`read_nested`: the body has to be consumed exactly) -/
theorem der_roundtrip_sequence {α : Type} (f : Bytes → Option (α × Bytes)) (body r : Bytes) (a : α)
    (hf : f body = some (a, [])) (h : body.length ≤ maxLen) : decSeq f (encSeq body ++ r) = some (a, r) :=
  decSeq_encSeq f body r a hf h

/-- `[0] IMPLICIT Uint64 OPTIONAL` at the end of a record -/
theorem der_roundtrip_ctx0 (o : Option Nat) (ho : ∀ v, o = some v → v < 256 ^ 8) :
    decCtx0U64 (encCtx0U64 o) = some (o, []) := decCtx0U64_enc o ho

/-- a phrase record decodes to the phrase, text, frequency and timestamp -/
theorem phrase_roundtrip (p : Phrase) (r : Bytes) (hv : ValidPhrase p) (hl : (encPhrase p).length ≤ maxLen) :
    decPhrase (encPhrase p ++ r) = some (p, r) := decPhrase_encPhrase p r hv hl

/-- a leaf's slice decodes to exactly the phrases written, in order -/
theorem phrase_seq_roundtrip (ps : List Phrase) (hv : ∀ p ∈ ps, ValidPhrase p ∧ (encPhrase p).length ≤ maxLen) :
    decPhrases (encPhrases ps) = ps := decPhrases_encPhrases ps hv

/-- equal input gives byte-identical files: the written bytes are a function of metadata and the
    sequence of inserts (the implementation's agreement with this function is the byte-for-byte
    correspondence; the harness also writes every input twice) -/
theorem deterministic (info info' : Info) (es es' : List Entry) (hi : info = info') (he : es = es') :
    (TrieCodec.Builder.ofEntries info es).write = (TrieCodec.Builder.ofEntries info' es').write := by
  subst hi; subst he; rfl

/-- **`order_independent`** — "equal input gives byte-identical files" for the input the property speaks of, a finite
    SET of entries: the written bytes (and whether `write` succeeds at all) depend only on the metadata and on the map
    key ↦ inserted phrase vector (`inserted`: the phrases of the key in insertion order, a re-inserted phrase replacing
    the earlier one where it stood) — NOT on the order in which different keys were inserted, although the builder keeps
    every node's children in first-insertion order and the two trees differ.  No validity hypothesis is needed.
    (Proof, `Proofs/TrieOrderIndep.lean`: reachable trees have distinct sibling syllables and no dead node
    (`Good_ofEntries`); two such trees with the same `find` have, level by level, the same children once these are
    sorted by syllable (`kids_rel`), which is all the breadth-first loop of `write` looks at (`writeLoop_congr`).) -/
theorem order_independent (info : Info) (es es' : List Entry) (h : ∀ k, inserted es k = inserted es' k) :
    (TrieCodec.Builder.ofEntries info es).write = (TrieCodec.Builder.ofEntries info es').write :=
  write_ofEntries_ext info es es' h

/-- the same for arbitrary builders with the shape invariant of reachable ones: the bytes are a function of
    `(info, find)` -/
theorem bytes_function_of_map (b b' : TrieCodec.Builder) (hg : b.kids.Good) (hg' : b'.kids.Good)
    (hi : b.info = b'.info) (h : ∀ k, b.find k = b'.find k) : b.write = b'.write := write_ext b b' hg hg' hi h

/-- every rearrangement of the inserts that keeps, for every key, the inserts of that key in their order gives
    identical bytes (`SameKeyOrder es es'`: for every key `k`, `es.filter (·.1 == k) = es'.filter (·.1 == k)`) -/
theorem same_key_order_same_bytes (info : Info) (es es' : List Entry) (h : SameKeyOrder es es') :
    (TrieCodec.Builder.ofEntries info es).write = (TrieCodec.Builder.ofEntries info es').write :=
  order_independent info es es' (fun k => refFind_sameKeyOrder h k)

/-- **`perm_same_bytes`** — any permutation of the inserts generated by swapping ADJACENT inserts with DIFFERENT keys
    (`KeySwap`, inductively defined: reflexive, transitive, one swap anywhere in the list) gives identical bytes … -/
theorem perm_same_bytes (info : Info) (es es' : List Entry) (h : KeySwap es es') :
    (TrieCodec.Builder.ofEntries info es).write = (TrieCodec.Builder.ofEntries info es').write :=
  same_key_order_same_bytes info es es' h.sameKeyOrder

/-- … and these are exactly the permutations that keep the relative order of the inserts with the same key -/
theorem keySwap_characterised (es es' : List Entry) :
    KeySwap es es' ↔ ∀ k, es.filter (fun e => e.1 == k) = es'.filter (fun e => e.1 == k) := keySwap_iff es es'

theorem keySwap_is_permutation (es es' : List Entry) (h : KeySwap es es') : es.Perm es' := h.perm

/-- two single characters under one key, in the two possible orders: the same entry SET … -/
def withinKeyA : List Entry := [([10268], { text := [28204], freq := 1 }), ([10268], { text := [20874], freq := 1 })]
def withinKeyB : List Entry := [([10268], { text := [20874], freq := 1 }), ([10268], { text := [28204], freq := 1 })]

/-- **the hypothesis of `order_independent` is exact**: the order of the inserts WITHIN a key matters where the
    property says so (single characters keep their insertion order) — `withinKeyA` and `withinKeyB` are valid inputs
    holding the same entries (one is the reverse of the other), both are written successfully, and the bytes differ -/
theorem within_key_order_matters :
    withinKeyB = withinKeyA.reverse ∧ withinKeyA.Perm withinKeyB ∧
    ((TrieCodec.Builder.ofEntries {} withinKeyA).write).isSome = true ∧
    ((TrieCodec.Builder.ofEntries {} withinKeyB).write).isSome = true ∧
    (TrieCodec.Builder.ofEntries {} withinKeyA).write ≠ (TrieCodec.Builder.ofEntries {} withinKeyB).write ∧
    inserted withinKeyA [10268] ≠ inserted withinKeyB [10268] := by
  refine ⟨rfl, List.Perm.swap _ _ _, ?_⟩
  decide +kernel

/-- `insert` is a map update: the phrase replaces the stored phrase with the same text where it
    stood, or is appended; other keys are untouched -/
theorem insert_semantics (b : TrieCodec.Builder) (k k' : List Nat) (p : Phrase) :
    (b.insert k p).find k' = if k' = k then some (upsert ((b.find k).getD []) p) else b.find k' :=
  find_insert b k k' p

/-- re-insert replaces in place: the texts of the leaf keep their positions, and the stored
    phrase with the re-inserted text is the new one -/
theorem reinsert_replaces (ps : List Phrase) (p : Phrase) (hnd : (ps.map (·.text)).Nodup)
    (hin : p.text ∈ ps.map (·.text)) :
    (upsert ps p).map (·.text) = ps.map (·.text) ∧ ∀ q ∈ upsert ps p, q.text = p.text → q = p := by
  refine ⟨?_, upsert_find ps p hnd⟩
  rw [upsert_texts, if_pos hin]

/-- the builder built from an entry list is the reference map -/
theorem builder_is_map (info : Info) (es : List Entry) (k : List Nat) :
    (TrieCodec.Builder.ofEntries info es).find k = inserted es k := find_ofEntries info es k

/-- in the buffers of `write` every node's record holds the index range of exactly
    its leaf and its sorted children (`Laid`), from the loop invariant
    `written ++ queue = enqueued`, `child_begin = |enqueued|` -/
theorem bfs_layout (b : TrieCodec.Builder) (hb : b.WF) (recs : List Rec) (data : Bytes)
    (h : b.buffers = some (recs, data)) (hr : recs.length < 4294967296) (hd : data.length < 4294967296) :
    Laid recs data 0 b.root := TrieCodec.bfs_layout b hb recs data h hr hd

/-- inside the format's limits `write` does not fail -/
theorem writes_within_limits (b : TrieCodec.Builder) (hf : b.Fits) : b.write.isSome = true := write_isSome b hf

/-- **validate_write**: the structural check `Trie::new` performs on the decoded index since the repair of C12's
    findings F16 / F17 (`validate_index`: child ranges after their node and in ascending order, inside the index, no
    leaf record but at the first position of a child range, leaf data inside the phrase bytes) accepts the index of
    EVERY file `TrieBuilder::write` produces — the scan runs along the order in which the BFS emits the records and
    its `next` is the writer's `child_begin` (`writeLoop_scan`).  The check added with the repair of C13's F47 — the
    syllable field of every node record other than the root is a value `Syllable::try_from` accepts — holds because
    that field is the syllable of a builder node, a `Syllable` handed to `insert` (`writeLoop_syls`, `Forest.WF`).
    So `openTrie` (which ends with that check) opens every written file (`read_write`). -/
theorem validate_write (b : TrieCodec.Builder) (hb : b.WF) (recs : List Rec) (data : Bytes)
    (h : b.buffers = some (recs, data)) (hr : recs.length < 4294967296) (hd : data.length < 4294967296) :
    TrieValidate.validate recs data.length = true ∧ validIndex (recs.flatMap recBytes) data = true :=
  ⟨validate_buffers b hb recs data h hr hd, validIndex_write b hb recs data h hr hd⟩

/-- the real reader on a written file: metadata, and every lookup is the walk on the builder tree -/
theorem read_write (b : TrieCodec.Builder) (hb : b.WF) (hi : ValidInfo b.info) (bytes : Bytes) (hw : b.write = some bytes) :
    ∃ t, openTrie bytes = some t ∧ about t = b.info ∧
      ∀ st key, ValidKey key → lookupAll t key st = tLookup st key b.root := by
  obtain ⟨recs, data, _, _, hopen, hlaid, _⟩ := write_laid b hb hi bytes hw
  exact ⟨_, hopen, rfl, lookupAll_eq_tLookup hlaid (root_pre b hb)⟩

/-- **the file written for a valid input, read**: it opens, with the metadata given, to a `Trie` every method of
    which answers as the map `inserted es` prescribes (the builder is well formed and its tree is that map) -/
theorem opened (info : Info) (es : List Entry) (hv : ValidInput info es) (bytes : Bytes)
    (hw : (TrieCodec.Builder.ofEntries info es).write = some bytes) :
    ∃ t, openTrie bytes = some t ∧ about t = info ∧ Answers t (inserted es) := by
  have hwf := WF_ofEntries info es hv.2
  obtain ⟨recs, data, _, _, hopen, hlaid, hcount, _⟩ :=
    write_laid _ hwf (by rw [info_ofEntries]; exact hv.1) bytes hw
  exact ⟨_, hopen, info_ofEntries info es, laid_answers hlaid (root_pre _ hwf) hcount (find_ofEntries info es)⟩

/-- writing and reading back gives identical metadata -/
theorem info_roundtrip (info : Info) (es : List Entry) (hv : ValidInput info es) (bytes : Bytes)
    (hw : (TrieCodec.Builder.ofEntries info es).write = some bytes) :
    ∃ t, openTrie bytes = some t ∧ about t = info := by
  obtain ⟨t, ho, ha, _⟩ := opened info es hv bytes hw
  exact ⟨t, ho, ha⟩

/-- an exact lookup returns the phrases inserted for the key (last insert of a
    text wins), as the writer ordered them; nothing for a key never inserted -/
theorem lookup_correct (info : Info) (es : List Entry) (hv : ValidInput info es) (bytes : Bytes)
    (hw : (TrieCodec.Builder.ofEntries info es).write = some bytes) :
    ∃ t, openTrie bytes = some t ∧
      ∀ k, ValidKey k → lookupAll t k .standard = sortLeaf ((inserted es k).getD []) := by
  obtain ⟨t, ho, _, h⟩ := opened info es hv bytes hw
  exact ⟨t, ho, h.exact⟩

theorem absent_key_empty (info : Info) (es : List Entry) (hv : ValidInput info es) (bytes : Bytes)
    (hw : (TrieCodec.Builder.ofEntries info es).write = some bytes) :
    ∃ t, openTrie bytes = some t ∧ ∀ k, ValidKey k → inserted es k = none → lookupAll t k .standard = [] := by
  obtain ⟨t, h1, h2⟩ := lookup_correct info es hv bytes hw
  exact ⟨t, h1, fun k hk hn => by rw [h2 k hk, hn]; rfl⟩

/-- what the writer does to a leaf -/
theorem order_documented (ps : List Phrase) : OrderDocumented ps (sortLeaf ps) :=
  ⟨sortLeaf_perm ps, sortLeaf_singles ps, sortLeaf_multis ps, sortLeaf_singles_first ps⟩

/-- a leaf of single characters is returned in insertion order -/
theorem order_single_leaf (ps : List Phrase) (h : ∀ p ∈ ps, p.text.length = 1) : sortLeaf ps = ps :=
  sortBy_id _ _ (fun _ _ b hb => phraseLt_single (h b hb))

/-- a leaf of multi-character phrases is returned by descending frequency -/
theorem order_multi_leaf (ps : List Phrase) (h : ∀ p ∈ ps, p.text.length ≠ 1) :
    (sortLeaf ps).Pairwise (fun a b => b.freq ≤ a.freq) := by
  have hm := sortLeaf_multis ps
  have : (sortLeaf ps).filter (fun p => !isSingle p) = sortLeaf ps := by
    rw [List.filter_eq_self]
    intro p hp
    have := h p (mem_sortBy.mp hp)
    simpa [isSingle] using this
  rwa [this] at hm

/-- the comparator of `write` is a total preorder (so `sort_by` cannot panic and every stable sort
    gives the model's result): asymmetric, and "not after" is transitive -/
theorem comparator_total_preorder (a b c : Phrase) :
    (phraseLt a b = true → phraseLt b a = false) ∧
    (phraseLt b a = false → phraseLt c b = false → phraseLt c a = false) :=
  ⟨phraseLt_asymm a b, phraseLt_negtrans a b c⟩

/-- a fuzzy prefix lookup returns, leaf after leaf, exactly the inserted keys with
    the query's number of syllables whose every syllable begins with the corresponding partial
    syllable (`startsWith`), each once -/
theorem fuzzy_correct (info : Info) (es : List Entry) (hv : ValidInput info es) (bytes : Bytes)
    (hw : (TrieCodec.Builder.ofEntries info es).write = some bytes) :
    ∃ t, openTrie bytes = some t ∧
      ∀ q, ValidKey q → ∃ groups, GroupsOf es (fun k => fuzzyMatch k q = true) groups ∧
        lookupAll t q .fuzzyPartialPrefix = groups.flatMap leafOut := by
  obtain ⟨t, ho, _, h⟩ := opened info es hv bytes hw
  exact ⟨t, ho, h.fuzzy⟩

/-- `fuzzyMatch` is the prefix relation of C13 position by position: for composable syllables,
    `startsWith s p` holds iff `s` and `p` agree on every component up to the last one present in
    `p` (`Chewing.C13.startsWith_iff`) -/
theorem fuzzyMatch_iff (k q : List Nat) :
    fuzzyMatch k q = true ↔ k.length = q.length ∧ ∀ (i s p : Nat), k[i]? = some s → q[i]? = some p → startsWith s p = true := by
  induction k generalizing q with
  | nil =>
    cases q with
    | nil => simp [fuzzyMatch]
    | cons p q => simp [fuzzyMatch]
  | cons s k ih =>
    cases q with
    | nil => simp [fuzzyMatch]
    | cons p q =>
      simp only [fuzzyMatch, Bool.and_eq_true, ih q, List.length_cons, Nat.add_right_cancel_iff]
      constructor
      · rintro ⟨h1, h2, h3⟩
        refine ⟨h2, ?_⟩
        intro i s' p' hs hp
        cases i with
        | zero => simp at hs hp; subst hs; subst hp; exact h1
        | succ i => exact h3 i s' p' (by simpa using hs) (by simpa using hp)
      · rintro ⟨h1, h2⟩
        exact ⟨h2 0 s p rfl rfl, h1, fun i s' p' hs hp => h2 (i + 1) s' p' (by simpa using hs) (by simpa using hp)⟩


/-- enumeration yields every inserted key once, with exactly its phrases -/
theorem entries_correct (info : Info) (es : List Entry) (hv : ValidInput info es) (bytes : Bytes)
    (hw : (TrieCodec.Builder.ofEntries info es).write = some bytes) :
    ∃ t, openTrie bytes = some t ∧
      ∃ groups, GroupsOf es (fun _ => True) groups ∧
        entries t = .ok (groups.flatMap fun g => (leafOut g).map fun p => (g.1, p)) := by
  obtain ⟨t, ho, _, h⟩ := opened info es hv bytes hw
  exact ⟨t, ho, h.entries⟩

/-- **first n = prefix of the full result**: `lookup_first_n_phrases(key, n, strategy)` is exactly the
    first `n` phrases of `lookup_all_phrases(key, strategy)`, for every `n` and both strategies (what
    the trait documents, and C09's clause for the `Trie` back end).  Before the F11 fix the code
    returned whole leaves beyond `n`. -/
theorem first_n_prefix (info : Info) (es : List Entry) (hv : ValidInput info es) (bytes : Bytes)
    (hw : (TrieCodec.Builder.ofEntries info es).write = some bytes) :
    ∃ t, openTrie bytes = some t ∧ ∀ st k n, ValidKey k →
      lookupFirstN t k n st = (lookupAll t k st).take n := by
  obtain ⟨t, ho, _, h⟩ := opened info es hv bytes hw
  exact ⟨t, ho, h.firstN⟩

/-- consequences in the usual vocabulary: at most `n` phrases, exactly `min n (all)` of them, and
    the full result extends it -/
theorem first_n_length (info : Info) (es : List Entry) (hv : ValidInput info es) (bytes : Bytes)
    (hw : (TrieCodec.Builder.ofEntries info es).write = some bytes) :
    ∃ t, openTrie bytes = some t ∧ ∀ st k n, ValidKey k →
      (lookupFirstN t k n st).length = min n (lookupAll t k st).length ∧
      (lookupFirstN t k n st).length ≤ n ∧
      ∃ rest, lookupAll t k st = lookupFirstN t k n st ++ rest := by
  obtain ⟨t, ho, _, h⟩ := opened info es hv bytes hw
  refine ⟨t, ho, fun st k n hk => ?_⟩
  rw [h.firstN st k n hk, List.length_take]
  exact ⟨rfl, Nat.min_le_left _ _, _, (List.take_append_drop n _).symm⟩

/-- an exact `lookup_first_n_phrases` returns the first `n` phrases of the key's leaf in the
    documented order -/
theorem first_n_standard (info : Info) (es : List Entry) (hv : ValidInput info es) (bytes : Bytes)
    (hw : (TrieCodec.Builder.ofEntries info es).write = some bytes) :
    ∃ t, openTrie bytes = some t ∧
      ∀ k n, ValidKey k → lookupFirstN t k n .standard = (sortLeaf ((inserted es k).getD [])).take n := by
  obtain ⟨t, ho, _, h⟩ := opened info es hv bytes hw
  exact ⟨t, ho, fun k n hk => by rw [h.firstN .standard k n hk, h.exact k hk]⟩

/-- `lookup_first_phrase` is the first element of `lookup_all_phrases`, for both strategies; for an
    exact lookup: the first phrase of the key's leaf in the documented order, `none` for a key never
    inserted -/
theorem first_phrase_correct (info : Info) (es : List Entry) (hv : ValidInput info es) (bytes : Bytes)
    (hw : (TrieCodec.Builder.ofEntries info es).write = some bytes) :
    ∃ t, openTrie bytes = some t ∧
      (∀ st k, ValidKey k → lookupFirst t k st = (lookupAll t k st).head?) ∧
      (∀ k, ValidKey k → lookupFirst t k .standard = (sortLeaf ((inserted es k).getD [])).head?) := by
  obtain ⟨t, ho, _, h⟩ := opened info es hv bytes hw
  exact ⟨t, ho, h.first, fun k hk => by rw [h.first .standard k hk, h.exact k hk]⟩

/-- the written bytes are a `Document` of trie.asn1 (constants regenerated from the
    file on every run: `format_constants`) whose index is the BFS layout of a tree -/
theorem conforms (info : Info) (es : List Entry) (hv : ValidInput info es) (bytes : Bytes)
    (hw : (TrieCodec.Builder.ofEntries info es).write = some bytes) : Conforms bytes :=
  write_conforms _ (WF_ofEntries info es hv.2) (by rw [info_ofEntries]; exact hv.1) bytes hw

/-- **independent writer**: every conforming file — whoever wrote it — opens, and denotes the map
    `findNode · (l, sub)` of the tree whose BFS layout its index is; the reader returns exactly this
    map: metadata, exact lookups (nothing for other keys), fuzzy lookups as the walk over that tree,
    `entries()` each (key, phrase) once.  (`conforms` says `TrieBuilder::write` is one such writer;
    the harness feeds the real `Trie` the files of a second one, the model's writer.) -/
theorem reader_on_conforming_file (bytes : Bytes) (hc : Conforms bytes) :
    ∃ (info : Info) (l : Option (List Phrase)) (sub : Forest) (t : Trie),
      openTrie bytes = some t ∧ about t = info ∧
      (∀ st k, ValidKey k → lookupAll t k st = tLookup st k (.node 0 l sub)) ∧
      (∀ k, ValidKey k → lookupAll t k .standard = sortLeaf ((findNode k (l, sub)).getD [])) ∧
      (∀ st k n, ValidKey k → lookupFirstN t k n st = (lookupAll t k st).take n) ∧
      ∃ groups : List (List Nat × List Phrase),
        (groups.map (·.1)).Nodup ∧ (∀ k ps, (k, ps) ∈ groups ↔ findNode k (l, sub) = some ps) ∧
        entries t = .ok (groups.flatMap fun g => (leafOut g).map fun p => (g.1, p)) := by
  obtain ⟨info, recs, phrases, l, sub, rfl, hlen, hi, _, hrb, hpre, hcount, hlaid, hvalid⟩ := hc
  have a := laid_answers (info := info) hlaid hpre hcount fun _ => rfl
  obtain ⟨groups, ⟨hnd, hmem⟩, hent⟩ := a.entries
  exact ⟨info, l, sub, _, openTrie_doc _ _ _ hi hlen (by unfold validIndex; rw [parseRecs_flatMap _ hrb]; exact hvalid),
    rfl, lookupAll_eq_tLookup hlaid hpre, a.exact, a.firstN, groups, hnd,
    fun k ps => by rw [hmem, and_true], hent⟩

/-- the ASN.1 module, the constants of trie.rs and the model agree (magic, version, field lists,
    record size, value ranges) -/
theorem format_constants : FormatConstantsAgree := format_constants_agree

/-- in the index the children of a node are strictly ascending by syllable (after the leaf) -/
theorem children_ascending {sub : Forest} (hw : sub.WF) :
    (sortBy sylLt sub.toItems).Pairwise (fun a b => a.syl < b.syl) := sorted_kids_ascending' hw.good

theorem C11 : C11_full := by
  intro info es hv
  refine ⟨writes_within_limits _, fun bytes hw => ?_⟩
  obtain ⟨t, ho, ha, h⟩ := opened info es hv bytes hw
  refine ⟨t, ho, ha, fun k hk => ⟨h.exact k hk, ?_⟩, fun k hk hn => ?_, h.fuzzy, h.firstN, h.first, h.entries,
    conforms info es hv bytes hw⟩
  · rw [h.exact k hk]
    exact order_documented _
  · rw [h.exact k hk, hn]
    rfl

/-! ## non-vacuity -/

/-- a concrete input: two keys, one a prefix of the other, a re-insert, a timestamp -/
def sampleEntries : List Entry :=
  [([10268], { text := [28204], freq := 1 }), ([10268, 8708], { text := [28204, 35430], freq := 100, lastUsed := some 5 }),
   ([10268], { text := [20874], freq := 70000 }), ([10268], { text := [28204], freq := 9 })]

theorem sampleEntries_valid : ValidInput {} sampleEntries := by
  refine ⟨by unfold ValidInfo; decide, ?_⟩
  intro e he
  simp only [sampleEntries, List.mem_cons, List.not_mem_nil, or_false] at he
  rcases he with rfl | rfl | rfl | rfl <;> exact ⟨by decide, by decide⟩

example : ValidInput {} sampleEntries := sampleEntries_valid

theorem sampleEntries_written : ((TrieCodec.Builder.ofEntries {} sampleEntries).write).isSome = true := by decide +kernel

example : ((TrieCodec.Builder.ofEntries {} sampleEntries).write).isSome = true := sampleEntries_written

example : ValidKey [10268, 8708] := by unfold ValidKey; decide

example : inserted sampleEntries [10268] = some [{ text := [28204], freq := 9 }, { text := [20874], freq := 70000 }] := by
  decide

/-- the sample file read back by the model's reader -/
def sampleTrie : Option Trie := ((TrieCodec.Builder.ofEntries {} sampleEntries).write).bind openTrie

/-- what `sampleTrie` is: five index records (the root; the node ㄘㄜˋ; its leaf; its child ㄕˋ; that child's leaf) and
    three phrase records.  The examples below run the reader on this value. -/
def sampleRead : Trie := ⟨{},
  [0, 0, 0, 1, 0, 1, 0, 0,  0, 0, 0, 2, 0, 2, 40, 28,  0, 0, 0, 0, 0, 22, 0, 0,  0, 0, 0, 4, 0, 1, 34, 4,
   0, 0, 0, 22, 0, 16, 0, 0],
  [48, 8, 12, 3, 230, 184, 172, 2, 1, 9,  48, 10, 12, 3, 229, 134, 138, 2, 3, 1, 17, 112,
   48, 14, 12, 6, 230, 184, 172, 232, 169, 166, 2, 1, 100, 128, 1, 5]⟩

theorem sampleTrie_eq : sampleTrie = some sampleRead := by decide +kernel

-- `order_independent` / `perm_same_bytes` are not vacuous: the sample with its inserts rearranged (the second key first,
-- the three inserts of the first key in their order) is a different insert sequence with the same map — and the same bytes
def sampleRearranged : List Entry :=
  [([10268, 8708], { text := [28204, 35430], freq := 100, lastUsed := some 5 }), ([10268], { text := [28204], freq := 1 }),
   ([10268], { text := [20874], freq := 70000 }), ([10268], { text := [28204], freq := 9 })]

example : KeySwap sampleEntries sampleRearranged :=
  KeySwap.swap [] _ ([10268], { text := [28204], freq := 1 }) _ (by decide)
example : sampleEntries ≠ sampleRearranged := by decide
example : (TrieCodec.Builder.ofEntries {} sampleEntries).write = (TrieCodec.Builder.ofEntries {} sampleRearranged).write :=
  perm_same_bytes {} _ _ (KeySwap.swap [] _ ([10268], { text := [28204], freq := 1 }) _ (by decide))
-- two different keys below one node, inserted in the two orders: the builder trees differ (children in insertion
-- order), the bytes do not
example : (TrieCodec.Builder.ofEntries {} [([3], { text := [65], freq := 1 }), ([2], { text := [66], freq := 1 })]).kids.toItems.map Item.syl
    = [3, 2] ∧
    (TrieCodec.Builder.ofEntries {} [([2], { text := [66], freq := 1 }), ([3], { text := [65], freq := 1 })]).kids.toItems.map Item.syl
    = [2, 3] := by decide

-- exact lookup: the re-inserted 測 (freq 9) kept its place before 冊; single characters in insertion order
example : (sampleTrie.map fun t => lookupAll t [10268] .standard) =
    some [{ text := [28204], freq := 9 }, { text := [20874], freq := 70000 }] := by rw [sampleTrie_eq]; decide +kernel

-- a key never inserted, and a key that is only a prefix of the query
example : (sampleTrie.map fun t => lookupAll t [8708] .standard) = some [] := by rw [sampleTrie_eq]; decide +kernel
example : (sampleTrie.map fun t => lookupAll t [10268, 8708, 8708] .standard) = some [] := by rw [sampleTrie_eq]; decide +kernel

-- fuzzy prefix lookup: ㄘ + ㄕ matches ㄘㄜˋ ㄕˋ; the hypothesis of `fuzzy_correct` is met non-trivially
example : fuzzyMatch [10268, 8708] [10240, 8704] = true := by decide
example : (sampleTrie.map fun t => lookupAll t [10240, 8704] .fuzzyPartialPrefix) =
    some [{ text := [28204, 35430], freq := 100, lastUsed := some 5 }] := by rw [sampleTrie_eq]; decide +kernel

-- `lookup_first_n_phrases(…, n, …)` on the two-phrase leaf: nothing for n = 0, the first phrase for n = 1 (the
-- truncation cuts inside the leaf: the full result has 2), everything for n = 3; `lookup_first_phrase` its head
example : (sampleTrie.map fun t => lookupFirstN t [10268] 0 .standard) = some [] := by rw [sampleTrie_eq]; decide +kernel
example : (sampleTrie.map fun t => lookupFirstN t [10268] 1 .standard) = some [{ text := [28204], freq := 9 }] := by rw [sampleTrie_eq]; decide +kernel
example : (sampleTrie.map fun t => lookupFirstN t [10268] 3 .standard) =
    some [{ text := [28204], freq := 9 }, { text := [20874], freq := 70000 }] := by rw [sampleTrie_eq]; decide +kernel

/-- two one-syllable keys beginning with ㄘ (ㄘㄚ, ㄘㄜˋ), two phrases each: a fuzzy lookup of ㄘ has two threads -/
def sampleTwoLeaves : Option Trie :=
  ((TrieCodec.Builder.ofEntries {}
    [([10268], { text := [28204], freq := 1 }), ([10268], { text := [20874], freq := 2 }),
     ([10249], { text := [25830], freq := 3 }), ([10249], { text := [25831], freq := 4 })]).write).bind openTrie

def twoLeavesRead : Trie := ⟨{},
  [0, 0, 0, 1, 0, 2, 0, 0,  0, 0, 0, 3, 0, 1, 40, 9,  0, 0, 0, 4, 0, 1, 40, 28,  0, 0, 0, 0, 0, 20, 0, 0,
   0, 0, 0, 20, 0, 20, 0, 0],
  [48, 8, 12, 3, 230, 147, 166, 2, 1, 3,  48, 8, 12, 3, 230, 147, 167, 2, 1, 4,  48, 8, 12, 3, 230, 184, 172, 2, 1, 1,
   48, 8, 12, 3, 229, 134, 138, 2, 1, 2]⟩

theorem sampleTwoLeaves_eq : sampleTwoLeaves = some twoLeavesRead := by decide +kernel

-- the full fuzzy result: both leaves, 4 phrases; n = 1 stops after the first leaf and cuts inside it; n = 3 takes
-- both leaves (2 is not > 3, then 4 is) and cuts inside the second one — the loop alone returns 4 phrases (the
-- behaviour before the F11 fix), the truncation makes it the first 3
example : (sampleTwoLeaves.map fun t => (lookupAll t [10240] .fuzzyPartialPrefix).map (·.text)) =
    some [[25830], [25831], [28204], [20874]] := by rw [sampleTwoLeaves_eq]; decide +kernel
example : (sampleTwoLeaves.map fun t => (lookupFirstN t [10240] 1 .fuzzyPartialPrefix).map (·.text)) =
    some [[25830]] := by rw [sampleTwoLeaves_eq]; decide +kernel
example : (sampleTwoLeaves.map fun t => (lookupFirstN t [10240] 3 .fuzzyPartialPrefix).map (·.text)) =
    some [[25830], [25831], [28204]] := by rw [sampleTwoLeaves_eq]; decide +kernel
example : (sampleTwoLeaves.map fun t => (collectN t.index t.data 3
    ((walk t.index .fuzzyPartialPrefix [10240] [viewAt t.index 0]).getD []) []).length) = some 4 := by rw [sampleTwoLeaves_eq]; decide +kernel

-- the validation is not vacuous: the sample file with ONE index byte overwritten (the child-begin field of the root,
-- 1 -> 0: the root becomes its own child, C12's finding F16) decodes as DER but is rejected by `openTrie`
example : ((TrieCodec.Builder.ofEntries {} sampleEntries).write.map fun bytes =>
    (bytes[28]?, openTrie (bytes.set 28 0), (openTrie bytes).isSome)) = some (some 1, none, true) := by decide +kernel

-- nor is its syllable clause (since the repair of C13's F47): the low byte of the syllable field of record 1
-- (ㄘㄜˋ = 0x281c) overwritten with 0x1e gives tone index 6, a value `Syllable::try_from` rejects — the file is refused;
-- a `Trie` holding that index (which `openTrie` never returns) makes `entries()` panic and a fuzzy lookup miss the node
example : ((TrieCodec.Builder.ofEntries {} sampleEntries).write.map fun bytes =>
    (bytes[40]?, validCode 0x281c, validCode 0x281e, openTrie (bytes.set 40 0x1e))) = some (some 0x1c, true, false, none) := by
  decide +kernel
example : (sampleTrie.map fun t => (t.index[15]?, (entries { t with index := t.index.set 15 0x1e }).map (·.length),
    lookupAll { t with index := t.index.set 15 0x1e } [10240] .fuzzyPartialPrefix, (lookupAll t [10240] .fuzzyPartialPrefix).length)) =
    some (some 0x1c, .panic "syllable-invalid", [], 2) := by rw [sampleTrie_eq]; decide +kernel

-- the input hypothesis excludes exactly such keys: a `u16` that is not a `Syllable` is not a valid entry
example : ¬ ValidEntry ([0x6a07], { text := [28204], freq := 1 }) := by
  intro h
  exact absurd (h.1 0x6a07 (by simp)).2.2 (by decide)

-- enumeration: three (key, phrase) pairs (the iterator pops each round's results: deepest first)
example : (sampleTrie.map fun t => (entries t).map fun es => es.map (·.1)) =
    some (.ok [[10268, 8708], [10268], [10268]]) := by rw [sampleTrie_eq]; decide +kernel

-- the order clause on a leaf mixing both kinds: the single character first, then by descending frequency
example : sortLeaf [{ text := [1, 2], freq := 5 }, { text := [3], freq := 1 }, { text := [4, 5], freq := 7 }] =
    [{ text := [3], freq := 1 }, { text := [4, 5], freq := 7 }, { text := [1, 2], freq := 5 }] := by decide

/-! ## the ORDER of the enumeration

`entries_correct` determines `entries()` up to a permutation of the keys.  The order itself
(`Proofs/TrieEntriesOrder.lean`, `Proofs/TrieEntriesRuns.lean`): `Trie::entries()` walks the index depth first with
an explicit stack — it descends along FIRST children (children of a node lie in the index in ascending order of
their syllable code, `children_ascending`; the leaf record comes before them) and pushes the leaf of every node it
passes onto `results`; at a node that has nothing but a leaf the descent ends and `results` is emptied by `pop()`,
i.e. **deepest key first**; then the walk ascends to the next sibling of the innermost unfinished node.  As a list:
sort the keys lexicographically by syllable code with a proper prefix before its extensions (`Cli.keyLe`), cut the
sorted list into its maximal runs in which every key is a prefix of the next one (`Cli.runs` — these are exactly
the descents), reverse every run (`Cli.trieOrder`).  Under each key the phrases come in the written leaf order
(`leafOut` = `sortLeaf`, described by `order_documented`). -/

/-- **`entries_order`** — the enumeration of a written file as an EQUATION between lists: for every duplicate-free
    list `keys` of the inserted keys (in any order), `entries()` yields the keys in the order `Cli.trieOrder keys`
    and under each key exactly its leaf in written order -/
theorem entries_order (info : Info) (es : List Entry) (hv : ValidInput info es) (bytes : Bytes)
    (hw : (TrieCodec.Builder.ofEntries info es).write = some bytes)
    (keys : List (List Nat)) (hnd : keys.Nodup) (hkeys : ∀ k, k ∈ keys ↔ ∃ ps, inserted es k = some ps) :
    ∃ t, openTrie bytes = some t ∧
      entries t = .ok ((Cli.trieOrder keys).flatMap fun k =>
        (leafOut (k, (inserted es k).getD [])).map fun p => (k, p)) := by
  obtain ⟨t, ho, _, h⟩ := opened info es hv bytes hw
  exact ⟨t, ho, h.order keys hnd hkeys⟩

/-- the inserted keys are the first components of the inserted entries -/
theorem inserted_some_iff (es : List Entry) (k : List Nat) : (∃ ps, inserted es k = some ps) ↔ k ∈ es.map (·.1) := by
  unfold inserted refFind
  have key : ∀ (es : List Entry) (acc : Option (List Phrase)),
      (∃ ps, es.foldl (fun acc e => if e.1 = k then some (upsert (acc.getD []) e.2) else acc) acc = some ps) ↔
        (∃ ps, acc = some ps) ∨ k ∈ es.map (·.1) := by
    intro es
    induction es with
    | nil => intro acc; simp
    | cons e es ih =>
      intro acc
      simp only [List.foldl_cons, List.map_cons, List.mem_cons]
      rw [ih]
      by_cases h : e.1 = k
      · simp [h]
      · have : ¬ k = e.1 := fun c => h c.symm
        simp [h, this]
  simpa using key es none

/-- … for instance with the keys in the order of their first insertion -/
theorem entries_order_first_inserted (info : Info) (es : List Entry) (hv : ValidInput info es) (bytes : Bytes)
    (hw : (TrieCodec.Builder.ofEntries info es).write = some bytes) :
    ∃ t, openTrie bytes = some t ∧
      entries t = .ok ((Cli.trieOrder (Trie.dedupKeys (es.map (·.1)))).flatMap fun k =>
        (leafOut (k, (inserted es k).getD [])).map fun p => (k, p)) :=
  entries_order info es hv bytes hw _ (Trie.dedupKeys_nodup _)
    (fun k => by rw [Trie.mem_dedupKeys, inserted_some_iff])

/-- what the order is, in the terms of the tree (for a well-formed tree): the pre-order key list is sorted by
    `Cli.keyLe`, and the enumeration is that list cut into prefix chains, each chain reversed -/
theorem entries_order_is_reversed_descents {it : Item} (hn : NodeInv it) :
    (pre [] it).Pairwise (fun a b => Cli.keyLe a b = true) ∧
    ord [] it [] = (Cli.runs (pre [] it)).flatMap List.reverse := by
  refine ⟨pre_sorted it hn [], ?_⟩
  have := ord_eq_runs it hn [] [] (chainTo_nil _)
  simpa using this

-- the order on a small key set: ㄅ < ㄅㄆ < ㄅㄇ < ㄆ sorted; (ㄅ, ㄅㄆ) is a descent and comes out deepest first
example : Cli.trieOrder [[2], [1, 3], [1], [1, 2]] = [[1, 2], [1], [1, 3], [2]] := by decide
-- three nested keys and a sibling below the middle one
example : Cli.trieOrder [[1], [1, 2], [1, 2, 3], [1, 2, 4], [1, 5]] = [[1, 2, 3], [1, 2], [1], [1, 2, 4], [1, 5]] := by decide
-- the sample file: `entries_order_first_inserted` evaluated
example : Cli.trieOrder (Trie.dedupKeys (sampleEntries.map (·.1))) = [[10268, 8708], [10268]] := by decide

end Chewing.C11
