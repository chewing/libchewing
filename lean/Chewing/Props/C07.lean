import Chewing.Proofs.EditorSteps
import Chewing.Proofs.EditorSelect
import Chewing.Proofs.EditorOpenList
import Chewing.Props.C04
import Chewing.Props.C01
import Chewing.Props.C06
import Chewing.Proofs.EditorApi
/-!
# C07 — candidate lists are complete, consistently paged, and choosing i yields item i

Statement (properties.jsonl): while a candidate list is open its reported total equals the number of
candidates that can be enumerated, the page count is that total divided by the page size rounded up,
the current page index is below the page count, and the pages partition the list in order.  For a
phrase range the list contains every phrase the dictionaries hold for exactly the highlighted
syllables; choosing the i-th candidate puts exactly that string at the highlighted range and closes
the list, and an out-of-range index is rejected without any change.

Everything is a theorem about the executable editor model (`Model/Editor.lean`, getters and C glue in
`Model/Candidates.lean`), **for every environment** (dictionary, layout, engines as functions) and
every state; hypotheses on the environment are explicit.  The model is tied to the Rust code on every
run by the per-step correspondence of the `editor` harness (records `ed key/select/jump/startsel/…`
and `ed cands` = the four candidate getters), from the implementation's own pre-state.

Sections: 1 paging (all lists, page sizes, page indices) · 2 the current page is in range (invariant
of every operation: key / choice / jump / open step and — since the F32 repair, `revalidate_selecting` —
option / layout / dictionary calls while a list is open: `page_in_range`, every history) · 3 choosing ·
4 completeness of a phrase list; the highlighted range consists of syllables (`range_is_syllables`).
-/
namespace Chewing.C07
open Chewing.C06

variable {D L : Type} (env : Env D L)

/-! ## 1. Paging -/

/-- the reported total (`chewing_cand_TotalChoice`) is the length of the list the getters enumerate:
    `all_candidates()`, and `paginated_candidates()` on page 0 -/
theorem total_is_length {e : Editor D L} {s : Selecting} {cs : List Text}
    (hs : e.state = .selecting s) (hc : Selecting.candidates env s e.shared = .ok cs) :
    CApi.totalChoice env e = .ok cs.length ∧ e.allCandidates env = .ok (some cs) ∧
    (s.pageNo = 0 → CApi.enumerate env e = .ok cs) := by
  have hall : e.allCandidates env = .ok (some cs) := by
    unfold Editor.allCandidates; rw [hs]; simp only [hc, Outcome.map]
  refine ⟨by rw [CApi.totalChoice, hall]; rfl, hall, fun h0 => ?_⟩
  unfold CApi.enumerate Editor.paginatedCandidates; rw [hs]
  simp only [h0, Nat.zero_mul, hc, Outcome.map, Option.getD, List.drop_zero]
  rfl

/-- what `chewing_cand_Enumerate` hands out on the current page: the list from item `page * per` on;
    its first `per` strings are page `page` -/
theorem enumerate_is_page {e : Editor D L} {s : Selecting} {cs : List Text}
    (hs : e.state = .selecting s) (hc : Selecting.candidates env s e.shared = .ok cs)
    (hfit : s.pageNo * e.shared.options.candidatesPerPage < 2 ^ 64) :
    CApi.enumerate env e = .ok (cs.drop (s.pageNo * e.shared.options.candidatesPerPage)) ∧
    (cs.drop (s.pageNo * e.shared.options.candidatesPerPage)).take e.shared.options.candidatesPerPage
      = pageItems cs e.shared.options.candidatesPerPage s.pageNo := by
  refine ⟨?_, rfl⟩
  unfold CApi.enumerate Editor.paginatedCandidates; rw [hs]
  simp only [hc, Outcome.map, Option.getD]
  rw [if_neg (by omega)]

/-- **the page count is the total divided by the page size, rounded up**: whenever `total_page()`
    answers `tp` for a list of `n` candidates, `tp = ⌈n / per⌉` (least `k` with `n ≤ k·per`), in closed
    form `n / per` plus one if there is a remainder -/
theorem page_count {s : Selecting} {sh : Shared D L} {tp : Nat} (h : Selecting.totalPage env s sh = .ok tp) :
    ∃ cs, Selecting.candidates env s sh = .ok cs ∧ 0 < sh.options.candidatesPerPage ∧
      tp = pageCount cs.length sh.options.candidatesPerPage ∧
      cs.length ≤ tp * sh.options.candidatesPerPage ∧
      (∀ k, cs.length ≤ k * sh.options.candidatesPerPage → tp ≤ k) ∧
      tp = cs.length / sh.options.candidatesPerPage +
        (if cs.length % sh.options.candidatesPerPage = 0 then 0 else 1) := by
  obtain ⟨cs, hc, hper, rfl⟩ := totalPage_ok env h
  exact ⟨cs, hc, hper, rfl, pageCount_covers _ _ hper, fun k hk => pageCount_least _ _ k hper hk,
    pageCount_eq _ _ hper⟩

/-- the Rust API does not validate the page size (the C API admits 1..10 only): `per = 0` panics -/
theorem per_page_zero_panics {s : Selecting} {sh : Shared D L} {cs : List Text}
    (hc : Selecting.candidates env s sh = .ok cs) (h0 : sh.options.candidatesPerPage = 0) :
    Selecting.totalPage env s sh = .panic "div-ceil-zero" := totalPage_zero_panics env hc h0

/-- **the pages partition the list in order** (for every list, page size ≥ 1): pages
    `0 … pageCount-1` concatenated are the list; every page but the last is full; every page below
    the count is non-empty and has at most `per` items; pages at or beyond the count are empty -/
theorem pages_partition {α : Type} (cs : List α) (per : Nat) (hper : 0 < per) :
    (List.range (pageCount cs.length per)).flatMap (pageItems cs per) = cs ∧
    (∀ p, p + 1 < pageCount cs.length per → (pageItems cs per p).length = per) ∧
    (∀ p, p < pageCount cs.length per → 0 < (pageItems cs per p).length ∧ (pageItems cs per p).length ≤ per) ∧
    (∀ p, pageCount cs.length per ≤ p → pageItems cs per p = []) :=
  ⟨Chewing.pages_partition cs per hper, fun p hp => page_full cs per p hp,
   fun p hp => ⟨page_nonempty cs per p hper hp, pageItems_length_le cs per p⟩,
   fun p hp => page_beyond cs per p hper hp⟩

/-- item `i` (`i < per`) of page `p` is item `p·per + i` of the list -/
theorem page_item {α : Type} (cs : List α) (per p i : Nat) (hi : i < per) :
    (pageItems cs per p)[i]? = cs[p * per + i]? := Chewing.page_item cs per p i hi

/-! ## 2. The current page is below the page count -/

/-- **every key event** keeps "current page < page count, or nothing listed" -/
theorem page_or_empty_key (hf : FlushKeepsLookups env) {e e' : Editor D L} {ev : KeyEvent} {b : KB}
    (h : e.processKey env ev = .ok (e', b)) (hi : e.PageInv env) : e'.PageInv env :=
  processKey_pageInv env hf h hi

/-- whatever opens a list (a key in `Entering` / `EnteringSyllable`) opens it on page 0; re-targeting
    with `j` / `k` restarts at page 0 -/
theorem opens_on_page_zero {sh sh' : Shared D L} {ev : KeyEvent} {s : Selecting} :
    (enteringNext env sh ev = .ok (sh', .toState (.selecting s)) → s.pageNo = 0) ∧
    (enteringSyllableNext env sh ev = .ok (sh', .toState (.selecting s)) → s.pageNo = 0) :=
  ⟨fun e => opens0_enteringNext env sh ev sh' _ e s rfl, fun e => opens0_enteringSyllableNext env sh ev sh' _ e s rfl⟩

/-- the layout's table of alternative syllables (`SyllableEditor::alt_syllables`, a constant table per
    layout in every implementation) does not depend on the content of the phonetic buffer -/
def ClearSylKeepsAlt : Prop := ∀ l c, env.altSyllables (env.clearSyl l) c = env.altSyllables l c

/-- what `Editor::revalidate_selecting` leaves open: a list that was open, its selector and the shared state
    untouched, on a page (the old one, or the last) strictly below the page count -/
theorem revalidate_open {e e' : Editor D L} (h : e.revalidate env = .ok e') {s : Selecting}
    (hs : e'.state = .selecting s) :
    ∃ s0 tp k, e.state = .selecting s0 ∧ s = { s0 with pageNo := k } ∧ e'.shared = e.shared ∧
      Selecting.totalPage env s0 e.shared = .ok tp ∧ k < tp := by
  rcases revalidate_cases env h with ⟨rfl, hlt⟩ | ⟨s0, tp, hs0, ht, h0, _, rfl⟩ | ⟨_, _, _, rfl⟩
  · obtain ⟨tp, ht, hlt⟩ := hlt s hs
    exact ⟨s, tp, s.pageNo, hs, rfl, rfl, ht, hlt⟩
  · cases hs
    exact ⟨s0, tp, tp - 1, hs0, rfl, rfl, ht, Nat.sub_lt h0 Nat.one_pos⟩
  · cases hs

/-- `Editor::revalidate_selecting` — the last step of `set_editor_options`, `set_syllable_editor`,
    `learn_phrase`, `unlearn_phrase` since the F32 repair — **establishes** the page invariant, whatever
    the page number was before: afterwards no list is open, or the page is strictly below the page count -/
theorem revalidate_in_range {e e' : Editor D L} (h : e.revalidate env = .ok e') :
    ∀ s, e'.state = .selecting s → ∃ tp, Selecting.totalPage env s e'.shared = .ok tp ∧ s.pageNo < tp := by
  intro s hs
  obtain ⟨s0, tp, k, _, rfl, hsh, ht, hk⟩ := revalidate_open env h hs
  exact ⟨tp, hsh ▸ ht, hk⟩

theorem revalidate_listOk {e e' : Editor D L} (h : e.revalidate env = .ok e') {s : Selecting}
    (hs : e'.state = .selecting s) : ListOk env s e'.shared := by
  obtain ⟨s0, tp, k, _, rfl, hsh, ht, hk⟩ := revalidate_open env h hs
  exact hsh ▸ listOk_of_lt env ht hk

/-- the operations that may change what is listed, or the page size (the Boolean form of `Op.revalidates`) -/
def Op.reconfigures {L : Type} : Op L → Bool
  | .setOptions _ | .setLayout _ | .learn _ _ | .unlearn _ _ => true
  | _ => false

/-- **after an option / layout / dictionary call** a list that is still open is not empty and its page is
    strictly below the page count (no "or nothing listed": a list that became empty was closed) -/
theorem reconfigured_list_in_range {e e' : Editor D L} {op : Op L} (hop : Op.reconfigures op = true)
    (h : e.apply env op = .ok e') :
    ∀ s, e'.state = .selecting s → ∃ tp, Selecting.totalPage env s e'.shared = .ok tp ∧ s.pageNo < tp :=
  let ⟨_, _, _, _, hx⟩ := apply_revalidates h (by cases op <;> first | trivial | cases hop)
  revalidate_in_range env hx

/-- **one operation, seen from an open list.**  Keys, choices, opening and the jumps are the state machine's
    (`hkey` … `hjump`).  The option / layout / dictionary calls end with `revalidate_selecting` (`hreval`).  After
    every other operation an open list was open before, with the same candidates and page count (`hsame`):
    `clear_syllable_editor` does not revalidate; it need not: what is listed reads the phonetic buffer only through
    `alt_syllables` (`hca`, `SameList`). -/
theorem apply_all (hca : ClearSylKeepsAlt env) {P : Editor D L → Prop} {e : Editor D L} {op : Op L}
    (hkey : ∀ ev, ResAll (fun x => P x.1) (e.processKey env ev))
    (hselect : ∀ n, ResAll (fun x => P x.1) (e.select env n))
    (hstart : ResAll (fun x => P x.1) (e.startSelecting env))
    (hjump : ∀ w, ResAll (fun x => P x.1) (e.jump env w))
    (hreval : ∀ x : Editor D L, (∀ s, x.state = .selecting s → e.state = .selecting s) → ResAll P (x.revalidate env))
    (hsame : ∀ e' : Editor D L, (∀ s, e'.state = .selecting s → e.state = .selecting s ∧
      Selecting.candidates env s e'.shared = Selecting.candidates env s e.shared ∧
      Selecting.totalPage env s e'.shared = Selecting.totalPage env s e.shared) → P e') :
    ResAll P (e.apply env op) := by
  cases op with
  | key ev => exact .map (hkey ev)
  | select n => exact .map (hselect n)
  | startSelecting => exact .map hstart
  | jump w => exact .map (hjump w)
  | cancelSelecting =>
    refine .ok ?_
    unfold Editor.cancelSelecting
    split
    · exact hsame _ fun s hs => nomatch hs
    · exact hsame _ fun s hs => ⟨hs, rfl, rfl⟩
  | commit =>
    -- a commit that is not refused finds the state `Entering`
    exact .map (commit_api_all env (fun _ => hsame _ fun s hs => ⟨hs, rfl, rfl⟩) fun sh he _ _ =>
      hsame _ fun s hs => nomatch he.symm.trans hs)
  | clear => exact .ok (hsame _ fun s hs => nomatch hs)
  | ack => exact .ok (hsame _ fun s hs => ⟨hs, rfl, rfl⟩)
  | setEngine k => exact .ok (hsame _ fun s hs => ⟨hs, rfl, rfl⟩)
  | clearSyl =>
    refine .ok (hsame _ fun s hs => ?_)
    have hl : SameList env e.shared (Editor.clearSyllableEditor env e).shared := by
      unfold Editor.clearSyllableEditor Editor.leaveIfEmpty
      split <;> exact ⟨fun _ _ => rfl, hca _, rfl⟩
    exact ⟨(leaveIfEmpty_selecting env _ hs :), candidates_congr env hl s, totalPage_congr env hl s⟩
  | setOptions o | setLayout l | learn k p | unlearn k p =>
    intro e' h
    obtain ⟨x, _, hs, _, hx⟩ := apply_revalidates h trivial
    exact hreval x hs e' hx

/-- **every operation keeps the invariant** — keys, choices, jumps, opening / closing, commit, reset, and
    (since the F32 repair) the option / layout / dictionary calls, also while a list is open -/
theorem page_or_empty_op (hf : FlushKeepsLookups env) (hca : ClearSylKeepsAlt env) {e e' : Editor D L} {op : Op L}
    (h : e.apply env op = .ok e') (hi : e.PageInv env) : e'.PageInv env :=
  apply_all env hca (P := Editor.PageInv env)
    (fun _ _ hr => processKey_pageInv env hf hr hi) (fun _ _ hr => select_pageInv env hr hi)
    (fun _ hr => startSelecting_pageInv env hr hi) (fun _ _ hr => jump_pageInv env hr hi)
    (fun _ _ _ hr _ hs => listOk_pageOk env (revalidate_listOk env hr hs))
    (fun _ hsame s hs tp ht =>
      let ⟨h1, hc, hp⟩ := hsame s hs
      hc ▸ hi s h1 tp (hp ▸ ht)) e' h

/-- the escape-clause form for EVERY start state and environment: "current page < page count, or nothing
    listed" survives every history (no reachability hypothesis: page 0 of an empty list satisfies it) -/
def page_or_empty_anystate_full : Prop :=
  ∀ (D L : Type) (env : Env D L), FlushKeepsLookups env → ClearSylKeepsAlt env →
    ∀ (e e' : Editor D L) (ops : List (Op L)), e.PageInv env → e.run env ops = .ok e' → e'.PageInv env

/-- **current page < page count, or nothing listed, in every state reached by ANY history from ANY state**
    satisfying it, for every environment (the statement without the escape clause, from reachable states, is
    `page_in_range` / `open_list_on_a_page` below) -/
theorem page_or_empty_anystate : page_or_empty_anystate_full :=
  fun _ _ env hf hca _ _ ops hi h =>
    (Editor.folds env).always (fun hi h => page_or_empty_op env hf hca h hi) ops hi h

/-- a freshly created editor satisfies the invariant (no list open) -/
theorem page_inv_init (sh : Shared D L) : Editor.PageInv env { shared := sh, state := .entering } := by
  intro s hs; cases hs

/-- **a phrase list opened by Down / Space / `chewing_cand_open` is non-empty and on page 0**: its page
    index is strictly below the page count, and its range is a non-empty part of the buffer -/
theorem opened_phrase_list_in_range {sh sh' : Shared D L} {s : Selecting} {tp : Nat}
    (h : openPhrase env sh = .ok (sh', .toState (.selecting s)))
    (ht : Selecting.totalPage env s sh' = .ok tp) :
    s.pageNo < tp ∧ ∃ p, s.sel = .phrase p ∧ p.begin_ < p.end_ ∧ p.end_ ≤ p.com.len := by
  obtain ⟨cs, hc, hper, rfl⟩ := totalPage_ok env ht
  obtain ⟨h0, hne, hp⟩ := openPhrase_nonempty env h hc
  refine ⟨?_, hp⟩
  rw [h0]
  exact pageCount_pos _ _ hper (List.length_pos_iff.mpr hne)

/-- what `PhraseSelector::init` (opening, `j` / `k`, `chewing_cand_list_first`) returns: a non-empty
    range inside the buffer for which the dictionary has a phrase — or (F02 / F03 repair) the one-syllable
    range of a syllable the dictionary has no word for (`PhraseSel.WordlessSyl`: the range query answers
    "no phrase", the range is `begin .. begin + 1`, the symbol at `begin` is a syllable; `open_phrase` then
    does not open the list and `j` / `k` close it) -/
theorem init_range {fw : Bool} {st : Strategy} {com : Composition} {cur : Nat} {d : D} {p : PhraseSel}
    (h : PhraseSel.init env fw st com cur d = .ok p) :
    p.begin_ < p.end_ ∧ p.end_ ≤ p.com.len ∧ p.com = com ∧
    (PhraseSel.rangeHasPhrase env p d p.begin_ p.end_ = .ok true ∨ PhraseSel.WordlessSyl env p d) := init_ok env h

/-! ### F32 (repaired): the former witness -/

/-- two words for syllable 1, nothing else -/
def f32Env : Env Unit Nat :=
  { toyEnv with lookupAll := fun _ k _ => if k = [1] then [⟨[28204], 1, none⟩, ⟨[31574], 1, none⟩] else [] }

/-- one syllable in the buffer, one candidate per page -/
def f32Start : Editor Unit Nat :=
  { shared := { syl := 0, dict := (),
                com := { cursor := 1, inner := { symbols := [.syl 1], gaps := [.begin] } },
                options := { candidatesPerPage := 1 } } }

/-- open the list, go to the second page, then raise the page size (`chewing_set_candPerPage(10)`) -/
def f32Ops : List (Op Nat) :=
  [.startSelecting, .key { index := 55, code := KC.right, unicode := 65533 },
   .setOptions { candidatesPerPage := 10 }]

/-- **F32 repaired** (before the repair: page 1 of 1 page, nothing enumerable):
    after `chewing_set_candPerPage(10)` on page 1 of a two-candidate list the list is on its only page 0
    and both candidates are enumerated -/
theorem f32_history_repaired :
    ∃ (e' : Editor Unit Nat) (s : Selecting),
      f32Start.run f32Env f32Ops = .ok e' ∧ e'.state = .selecting s ∧ s.pageNo = 0 ∧
      Selecting.totalPage f32Env s e'.shared = .ok 1 ∧
      CApi.enumerate f32Env e' = .ok [[28204], [31574]] ∧ e'.PageInv f32Env := by
  refine ⟨_, _, rfl, rfl, rfl, rfl, rfl, ?_⟩
  exact page_or_empty_anystate Unit Nat f32Env (fun _ _ _ => rfl) (fun _ _ => rfl) f32Start _ f32Ops (page_inv_init f32Env _) rfl

/-- a dictionary that holds one two-syllable user phrase (besides a word per syllable) until it is removed -/
def f32EnvB : Env Bool Nat where
  lookupAll d k _ := if k = [1] then [⟨[28204], 1, none⟩] else if k = [2] then [⟨[35430], 1, none⟩]
    else if k = [1, 2] ∧ d then [⟨[28204, 35430], 1, none⟩] else []
  userLookupAll d k _ := if k = [1, 2] ∧ d then [⟨[28204, 35430], 1, none⟩] else []
  addPhrase _ _ _ := some true
  updatePhrase d _ _ _ _ := d
  removePhrase _ _ _ := false
  reopenFlush d := d
  convert _ _ _ := .ok [[]]
  estimate _ f _ := .ok f
  keyPress l _ := (.keyError, l)
  fuzzyKeyPress l _ := (.keyError, l)
  removeLast _ := 0
  clearSyl _ := 0
  sylIsEmpty l := l == 0
  read l := l
  altSyllables _ _ := []

/-- **the other half of F32 repaired**: `chewing_userphrase_remove` of the only phrase of the highlighted
    range (two syllables, list opened at the end of the buffer, rearward) used to leave an open list with 0
    candidates, 0 pages, page 0; now the list is closed and the saved cursor restored -/
theorem f32_empty_list_closed :
    ∃ (e1 e' : Editor Bool Nat) (s : Selecting),
      let start : Editor Bool Nat :=
        { shared := { syl := 0, dict := true, options := { phraseChoiceRearward := true },
                      com := { cursor := 2, inner := { symbols := [.syl 1, .syl 2], gaps := [.begin, .normal] } } } }
      start.run f32EnvB [.startSelecting] = .ok e1 ∧ e1.state = .selecting s ∧
      Selecting.candidates f32EnvB s e1.shared = .ok [[28204, 35430]] ∧
      e1.run f32EnvB [.unlearn [1, 2] [28204, 35430]] = .ok e' ∧ e'.state = .entering ∧
      e'.shared.com.cursor = 2 ∧ e'.shared.com.stack = [] :=
  ⟨_, _, _, rfl, rfl, rfl, rfl, rfl, rfl, rfl⟩

/-! ### FX1 (repaired; found on the C API by `capi_props`): a list over an EMPTY symbol table was opened

`chewing_new2` over a data directory without `symbols.dat` loads an empty symbol table; grave, Ctrl-0/1 and Down on a
character without special symbols (`new_symbol` / the fall-back of `new_special_symbol`) used to open the symbol list
nevertheless: an open list with 0 candidates, 0 pages, page 0.  Since `fix: a symbol list without entries is not
opened` such a request is ignored (and choosing a category whose sub-table is empty closes the list), so the escape
clause "or nothing listed" of the page invariant is not needed: **`page_in_range`** below is the statement
without it.  What it needs instead is where the range of a phrase list comes from (`Down` / `Space` cycling, `j` /
`k`, the four jumps only stop on a range with a phrase or on the one they started from; `jump_to_first_selection_point`
re-initialises from the anchor inside the current range): C01's reachable-state invariant in its exclusion-free
strength (`C01.SafeInv`, kept by every valid operation: `C01_step`) — proofs in `Proofs/EditorOpenList.lean`,
`Proofs/PhraseSelHas.lean`. -/

/-- **every operation keeps the strict invariant** (from a state satisfying C01's safety invariant) — keys in all
    four states, choices, the four jumps, opening / closing, commit, reset, and the option / layout / engine /
    dictionary calls, also while a list is open -/
theorem page_in_range_op {G : D → Prop} (hf : FlushKeepsLookups env) (hca : ClearSylKeepsAlt env) {e e' : Editor D L}
    {op : Op L} (hinv : C01.SafeInv env G e)
    (h : e.apply env op = .ok e') (hi : e.ListInv env) : e'.ListInv env :=
  apply_all env hca (P := Editor.ListInv env)
    (fun _ _ hr => processKey_listInv env hf hinv hr hi) (fun _ _ hr => select_listInv env hr hi)
    (fun _ hr => startSelecting_listInv env hr hi) (fun _ _ hr => jump_listInv env hinv hr hi)
    (fun _ hx _ hr _ hs =>
      -- `revalidate_selecting` may change the page, not the selector
      let ⟨s0, _, _, hs0, hpage, _⟩ := revalidate_open env hr hs
      ⟨revalidate_listOk env hr hs, hpage ▸ (hi s0 (hx s0 hs0)).2⟩)
    (fun _ hsame s hs =>
      let ⟨h1, _, hp⟩ := hsame s hs
      ⟨fun tp ht => (hi s h1).1 tp (hp ▸ ht), (hi s h1).2⟩) e' h

/-- the full-strength claim of "the current page index is below the page count": the strict invariant survives
    every history of valid operations from a state satisfying C01's safety invariant -/
def page_in_range_full : Prop :=
  ∀ (D L : Type) (env : Env D L) (G : D → Prop), C01.EnvOK env G → FlushKeepsLookups env → ClearSylKeepsAlt env →
    ∀ (e e' : Editor D L) (ops : List (Op L)), C01.SafeInv env G e → e.ListInv env → (∀ op ∈ ops, C01.OpValid op) →
      e.run env ops = .ok e' → e'.ListInv env ∧ C01.SafeInv env G e'

/-- **current page < page count — no "or nothing listed" — in every state reached by ANY history** of keys,
    choices, jumps, opening / closing, commit, reset, option / layout / engine / dictionary calls, made while a
    list is open or not, from a state satisfying C01's safety invariant (a fresh editor does: `C01.initial_safe`,
    `list_inv_init`).  Before the FX1 repair this held only with the escape clause (`page_or_empty_anystate`). -/
theorem page_in_range : page_in_range_full := by
  intro D L env G hE hf hca e e' ops hs hi hv h
  refine (Editor.folds env).inv (I := fun e => e.ListInv env ∧ C01.SafeInv env G e) (V := C01.OpValid) ?_ ops hv ⟨hi, hs⟩ h
  intro e op e' hv ⟨hi, hs⟩ h
  exact ⟨page_in_range_op env hf hca hs h hi, C01.OkAnd.get (C01.C01_step hE e op hs hv) h⟩

/-- a freshly created editor satisfies the strict invariant (no list open) -/
theorem list_inv_init (sh : Shared D L) : Editor.ListInv env { shared := sh, state := .entering } := by
  intro s hs; cases hs

/-- no symbol table (the default `symSel := {}`), empty buffers -/
def fx1Start : Editor Unit Nat := { shared := { syl := 0, dict := () } }
/-- the grave key -/
def fx1Ops : List (Op Nat) := [.key { index := 14, code := KC.grave, unicode := 96 }]

/-- the statement's claim: **every open list, of every kind, after every history, lists something and is on a
    page strictly below its page count** (the getters answer: no panic) -/
def open_list_on_a_page_full : Prop :=
  ∀ (D L : Type) (env : Env D L) (G : D → Prop), C01.EnvOK env G → FlushKeepsLookups env → ClearSylKeepsAlt env →
    ∀ (e e' : Editor D L) (ops : List (Op L)) (s : Selecting), C01.SafeInv env G e → e.ListInv env →
      (∀ op ∈ ops, C01.OpValid op) → e.run env ops = .ok e' → e'.state = .selecting s →
      ∃ tp cs, Selecting.totalPage env s e'.shared = .ok tp ∧ s.pageNo < tp ∧
        Selecting.candidates env s e'.shared = .ok cs ∧ cs ≠ []

/-- **FX1 repaired — the full theorem** (`fx1_history_repaired` below evaluates the witness of the finding) -/
theorem open_list_on_a_page : open_list_on_a_page_full := by
  intro D L env G hE hf hca e e' ops s hs hi hv hrun hst
  obtain ⟨hl, hs'⟩ := page_in_range D L env G hE hf hca e e' ops hs hi hv hrun
  have hsel : C01.SelInv env False e'.shared s := by
    have := hs'.st; rw [hst] at this; exact this
  obtain ⟨tp, ht, _⟩ := C01.totalPage_ok hE hs'.sh hsel
  obtain ⟨cs, hc, hper, _⟩ := totalPage_ok env ht
  exact ⟨tp, cs, ht, (hl s hst).1 tp ht, hc, listOk_nonempty env (hl s hst).1 hc hper⟩

/-- **the former FX1 witness, evaluated**: with an empty symbol table the grave key is ignored — no list is
    opened, nothing changes but the reported behaviour -/
theorem fx1_history_repaired :
    ∃ e' : Editor Unit Nat, fx1Start.run f32Env fx1Ops = .ok e' ∧ e'.state = .entering ∧
      e'.shared.last = .ignore ∧ e'.shared.com = fx1Start.shared.com ∧ e'.ListInv f32Env :=
  ⟨_, rfl, rfl, rfl, rfl, fun s hs => by cases hs⟩

/-! ## 3. Choosing -/

/-- the index addressed by choosing `n` on the current page is `page·per + n` — for every list a
    `Vec` can hold (shorter than 2⁶⁴) the saturation of the `usize` arithmetic is unobservable -/
theorem offset_item {s : Selecting} {sh : Shared D L} {cs : List Text} (n : Nat) (hlen : cs.length < 2 ^ 64) :
    cs[Selecting.offset s sh n]? = cs[s.pageNo * sh.options.candidatesPerPage + n]? := by
  unfold Selecting.offset
  rcases Nat.le_total (s.pageNo * sh.options.candidatesPerPage + n) (2 ^ 64 - 1) with h | h
  · rw [Nat.min_eq_left h]
  · rw [Nat.min_eq_right h, List.getElem?_eq_none (by omega), List.getElem?_eq_none (by omega)]

/-- … which is item `n` of the page on display (`n < per`) -/
theorem offset_is_page_item {s : Selecting} {sh : Shared D L} {cs : List Text} (n : Nat) (hlen : cs.length < 2 ^ 64)
    (hn : n < sh.options.candidatesPerPage) :
    cs[Selecting.offset s sh n]? = (pageItems cs sh.options.candidatesPerPage s.pageNo)[n]? := by
  rw [offset_item n hlen, Chewing.page_item _ _ _ _ hn]

/-- **an out-of-range index is rejected without any change** — every kind of list: the selector,
    the page and the whole shared state come back as they were, the answer is Bell -/
theorem choose_out_of_range_rejected {s : Selecting} {sh : Shared D L} {cs : List Text} {n : Nat}
    (hc : Selecting.candidates env s sh = .ok cs) (h : cs.length ≤ Selecting.offset s sh n) :
    Selecting.select env s sh n = .ok (s, sh, .spin .bell) := by
  unfold Selecting.select
  simp only [hc]
  rw [if_pos h]

/-- … at the API (`Editor::select` = `chewing_cand_choose_by_index`): `Err`, the editor is unchanged
    except that the last key behaviour reads Bell -/
theorem editor_choose_out_of_range {e : Editor D L} {s : Selecting} {cs : List Text} {n : Nat}
    (hs : e.state = .selecting s) (hc : Selecting.candidates env s e.shared = .ok cs)
    (h : cs.length ≤ Selecting.offset s e.shared n) :
    e.select env n = .ok ({ e with shared := { e.shared with last := .bell } }, false) := by
  unfold Editor.select
  rw [hs]
  simp only [choose_out_of_range_rejected env hc h, applyTrans_spin]
  rw [← hs]
  -- `self.state.is_entering() && last == Absorb` (C01's fix of `Editor::select`): the last behaviour is Bell
  simp only [show (KB.bell == KB.absorb) = false by decide, Bool.and_false, Bool.false_eq_true, ↓reduceIte]
  rfl

/-- a choice closes the list, or is rejected with nothing changed, or (symbol table: a category with
    a sub-table) keeps the list open on page 0 with the buffer untouched — nothing else -/
theorem choose_outcomes {s s' : Selecting} {sh sh' : Shared D L} {t : Trans} {n : Nat}
    (h : Selecting.select env s sh n = .ok (s', sh', t)) :
    t = .toState .entering ∨ (t = .spin .bell ∧ sh' = sh ∧ s' = s) ∨ (t = .spin .absorb ∧ sh' = sh ∧ s'.pageNo = 0) :=
  select_shape env s sh n _ h

/-- an index that addresses item `ph` of a phrase list: `ph` is pushed over the highlighted range and the list
    closes — or the push fails, and the choice with it -/
theorem select_phrase {s : Selecting} {sh : Shared D L} {p : PhraseSel} {cs : List Text} {n : Nat} {ph : Text}
    (hsel : s.sel = .phrase p) (hc : PhraseSel.candidates env p sh.dict sh.syl = .ok cs)
    (hget : cs[Selecting.offset s sh n]? = some ph) :
    Selecting.select env s sh n =
      match sh.com.select (p.interval ph) with
      | .ok com =>
        .ok (s, { sh with com := if sh.options.autoShiftCursor then com.popCursor.moveRight else com.popCursor },
             .toState .entering)
      | .panic q => .panic q
      | .outOfFuel => .outOfFuel := by
  have hlt : ¬ cs.length ≤ Selecting.offset s sh n := by
    intro hle; rw [List.getElem?_eq_none hle] at hget; cases hget
  unfold Selecting.select
  simp only [Selecting.candidates, hsel, hc, hget]
  rw [if_neg hlt]
  rfl

/-- **choosing index `n` of a phrase list places exactly item `page·per + n`**: the interval
    `begin..end ↦ that string` is pushed as a selection, the saved cursor is restored (then moved right
    if `auto_shift_cursor`), the list closes; nothing else of the shared state changes -/
theorem choose_phrase {s : Selecting} {sh : Shared D L} {p : PhraseSel} {cs : List Text} {n : Nat} {ph : Text}
    {com : CompEditor}
    (hsel : s.sel = .phrase p) (hc : PhraseSel.candidates env p sh.dict sh.syl = .ok cs)
    (hget : cs[Selecting.offset s sh n]? = some ph) (hcom : sh.com.select (p.interval ph) = .ok com) :
    Selecting.select env s sh n =
      .ok (s, { sh with com := if sh.options.autoShiftCursor then com.popCursor.moveRight else com.popCursor },
           .toState .entering) := by
  rw [select_phrase env hsel hc hget, hcom]

/-- what pushing the chosen interval does to the buffer (C04): the new choice replaces exactly the
    earlier choices it overlaps; symbols, cursor and saved cursors are untouched -/
theorem choose_places {e e' : CompEditor} {iv : Interval} (h : e.select iv = .ok e') :
    e'.inner.selections = e.inner.selections.filter (fun s => !s.intersect iv) ++ [iv] ∧
    e'.inner.symbols = e.inner.symbols ∧ e'.cursor = e.cursor ∧ e'.stack = e.stack ∧
    (∀ x, x ∈ e'.inner.selections ↔ x = iv ∨ (x ∈ e.inner.selections ∧ x.intersect iv = false)) := by
  obtain ⟨c, hc, rfl⟩ := C04.select_ok h
  exact ⟨C04.pushSelection_selections _ _ _ hc, C04.pushSelection_symbols hc, rfl, rfl,
    fun x => C04.push_replaces_only_overlapping _ _ _ hc x⟩

/-- the string placed is the chosen one, over exactly the highlighted range -/
theorem interval_is_range (p : PhraseSel) (ph : Text) :
    (p.interval ph).start = p.begin_ ∧ (p.interval ph).stop = p.end_ ∧ (p.interval ph).text = ph ∧
    (p.interval ph).isPhrase = true := ⟨rfl, rfl, rfl, rfl⟩

/-- an in-range choice on a phrase list closes the list -/
theorem choose_phrase_closes {s s' : Selecting} {sh sh' : Shared D L} {t : Trans} {p : PhraseSel} {cs : List Text} {n : Nat}
    (hsel : s.sel = .phrase p) (hc : PhraseSel.candidates env p sh.dict sh.syl = .ok cs)
    (hin : Selecting.offset s sh n < cs.length) (h : Selecting.select env s sh n = .ok (s', sh', t)) :
    t = .toState .entering := by
  rw [select_phrase env hsel hc (List.getElem?_eq_getElem hin)] at h
  split at h
  · cases h; rfl
  · cases h
  · cases h

/-- at the API: an in-range choice on a phrase list closes the list -/
theorem editor_choose_closes {e e' : Editor D L} {s : Selecting} {p : PhraseSel} {cs : List Text} {n : Nat} {okk : Bool}
    (hs : e.state = .selecting s) (hsel : s.sel = .phrase p)
    (hc : PhraseSel.candidates env p e.shared.dict e.shared.syl = .ok cs)
    (hin : Selecting.offset s e.shared n < cs.length) (h : e.select env n = .ok (e', okk)) :
    e'.state = .entering :=
  editorSelect_all (Q := fun x => x.1.state = .entering) env (fun hns => absurd hs (hns s))
    (fun s0 s' sh t _ hs0 hq _ => by
      cases hs.symm.trans hs0
      cases choose_phrase_closes env hsel hc hin hq
      rfl) _ h

/-- **special-symbol list**: an in-range choice inserts / replaces exactly the listed character,
    restores the saved cursor and closes the list -/
theorem choose_special {s : Selecting} {sh : Shared D L} {sym0 : Sym} {cs : List Text} {n : Nat}
    (hsel : s.sel = .special sym0) (hm : specialMenu sym0 = .ok cs)
    (hin : Selecting.offset s sh n < cs.length) :
    ∃ ch, cs[Selecting.offset s sh n]? = some [ch] ∧
      Selecting.select env s sh n = placeSymbol s sh (.chr ch) := Chewing.choose_special env hsel hm hin

/-- **symbol table**, inside a category: the listed character is placed; at the top level a plain
    entry places its first character, a category with a sub-table that holds symbols opens it on page 0 with
    the buffer untouched, and (FX1 repair) a category WITHOUT symbols closes the list: nothing is inserted, the
    saved cursor is restored -/
theorem choose_symbol {s : Selecting} {sh : Shared D L} {y : SymSel} {n : Nat} (hsel : s.sel = .symbol y) :
    (∀ c row, y.cursor = some c → y.table[c]? = some row → Selecting.offset s sh n < row.length →
      Selecting.candidates env s sh = .ok (row.map fun ch => [ch]) ∧
      Selecting.select env s sh n =
        (placeSymbol s sh (.chr (row[Selecting.offset s sh n]?.getD 0))).map
          fun (_, sh', t) => ({ s with sel := .symbol { y with cursor := none } }, sh', t)) ∧
    (∀ name idx row, y.cursor = none → y.category[Selecting.offset s sh n]? = some (name, some idx) →
      y.table[idx % 256]? = some row → row ≠ [] →
      Selecting.select env s sh n =
        .ok ({ s with sel := .symbol { y with cursor := some (idx % 256) }, pageNo := 0 }, sh, .spin .absorb)) ∧
    (∀ name idx, y.cursor = none → y.category[Selecting.offset s sh n]? = some (name, some idx) →
      y.table[idx % 256]? = some [] →
      Selecting.select env s sh n =
        .ok ({ s with sel := .symbol { y with cursor := some (idx % 256) }, pageNo := 0 },
             Shared.cancelSelecting sh, .toState .entering)) ∧
    (∀ name ch, y.cursor = none → y.category[Selecting.offset s sh n]? = some (name, none) → name.head? = some ch →
      Selecting.select env s sh n =
        (placeSymbol s sh (.chr ch)).map fun (_, sh', t) => ({ s with sel := .symbol { y with cursor := none } }, sh', t)) := by
  refine ⟨?_, fun name idx row hcur hcat hrow hne => choose_symbol_descend env hsel hcur hcat hrow hne,
    fun name idx hcur hcat hrow => choose_symbol_empty_category env hsel hcur hcat hrow,
    fun name ch hcur hcat hch => choose_symbol_plain env hsel hcur hcat hch⟩
  intro c row hcur hrow hin
  have := choose_symbol_leaf env hsel hcur hrow hin
  rw [List.getElem?_eq_getElem hin]
  exact this

/-! ## 4. Completeness of a phrase list -/

/-- the symbols of the range are all syllables, with these codes -/
def RangeIs (p : PhraseSel) (key : List Nat) : Prop :=
  sliceSyms p.com.symbols p.begin_ p.end_ = .ok (key.map Sym.syl)

theorem sylPrefix_map (key : List Nat) : sylPrefix (key.map Sym.syl) = key := by
  induction key with
  | nil => rfl
  | cons k ks ih => simp only [List.map, sylPrefix, ih]

/-- **a phrase list is complete**: for a range of syllables `key`, the list is exactly the strings of
    the dictionary's answer for `key` (all layers; `env.lookupAll` = `Layered::lookup_all_phrases`), in
    order — followed, for a single syllable, by the answers for the layout's alternative syllables -/
theorem phrase_list_complete {p : PhraseSel} {d : D} {l : L} {key : List Nat} {cs : List Text}
    (hr : RangeIs p key) (hc : PhraseSel.candidates env p d l = .ok cs) :
    (p.end_ - p.begin_ ≠ 1 → cs = (env.lookupAll d key p.strategy).map (·.text)) ∧
    (p.end_ - p.begin_ = 1 → ∃ c, p.com.symbol? p.begin_ = some (.syl c) ∧
      cs = (env.lookupAll d key p.strategy).map (·.text) ++
           (env.altSyllables l c).flatMap fun a => (env.lookupAll d [a] p.strategy).map (·.text)) ∧
    (∀ ph ∈ env.lookupAll d key p.strategy, ph.text ∈ cs) := by
  obtain ⟨syms, hs, h⟩ := phraseCandidates_spec env hc
  cases hr.symm.trans hs
  rw [sylPrefix_map] at h
  rcases h with ⟨hne, rfl⟩ | ⟨h1, c, hsym, rfl⟩
  · exact ⟨fun _ => rfl, fun h => absurd h hne, fun ph hph => List.mem_map_of_mem hph⟩
  · exact ⟨fun hne => absurd h1 hne, fun _ => ⟨c, hsym, rfl⟩,
      fun ph hph => List.mem_append_left _ (List.mem_map_of_mem hph)⟩

/-! ### the highlighted range is made of syllables (F40 repaired; an invariant of every operation) -/

/-- the hypothesis-free form of the claim (every environment, every initial shared state, no exclusion): in
    every state reached by a history that returns, the range of an open phrase list consists of syllables.
    Stronger than the property needs (it also speaks about environments whose dictionary breaks its own
    contract and about the recorded class F02/F03 of C01); neither proved nor refuted. -/
def range_is_syllables_unconditional : Prop :=
  ∀ (D L : Type) (env : Env D L) (e e' : Editor D L) (ops : List (Op L)) (s : Selecting) (p : PhraseSel),
    e.state = .entering → e.run env ops = .ok e' → e'.state = .selecting s → s.sel = .phrase p →
    ∃ key, RangeIs p key

/-- **the claim behind "exactly the highlighted syllables"**: for every environment satisfying C01's explicit
    hypotheses `EnvOK`, from every state satisfying the reachable-state invariant (`C01.initial_inv`: a fresh
    editor does), after EVERY history of valid public operations outside C01's recorded class F02/F03
    (`C01.Allowed`) — keys in all states incl. Down / Space cycling through the ranges, `select(n)`,
    start / cancel selecting, commit, reset, option / layout / engine / dictionary calls, and the four
    `jump_to_*_selection_point` calls while a phrase list is open — the range of an open phrase list is a
    non-empty run of syllables inside the selector's buffer, which is the editor's buffer -/
def range_is_syllables_full : Prop :=
  ∀ (D L : Type) (env : Env D L) (G : D → Prop), C01.EnvOK env G →
    ∀ (e e' : Editor D L), C01.EditorInv env G True e → ∀ (ops : List (Op L)), C01.Allowed env e ops →
    ∀ (s : Selecting) (p : PhraseSel), e.run env ops = .ok e' → e'.state = .selecting s → s.sel = .phrase p →
    p.begin_ < p.end_ ∧ p.end_ ≤ p.com.symbols.length ∧ C04.AllSyl p.com p.begin_ p.end_ ∧
    p.com = e'.shared.com.inner ∧ ∃ key, RangeIs p key ∧ key.length = p.end_ - p.begin_

/-- a list of syllables is the image of its codes -/
theorem map_sylPrefix : ∀ {l : List Sym}, (∀ x ∈ l, ∃ k, x = .syl k) → (sylPrefix l).map Sym.syl = l
  | [], _ => rfl
  | x :: xs, h => by
    obtain ⟨k, rfl⟩ := h x (List.mem_cons_self ..)
    rw [sylPrefix, List.map_cons, map_sylPrefix fun y hy => h y (List.mem_cons_of_mem _ hy)]

/-- a run of syllables inside the buffer is a `RangeIs` range -/
theorem rangeIs_of_allSyl {p : PhraseSel} (hlt : p.begin_ < p.end_) (hle : p.end_ ≤ p.com.symbols.length)
    (hsyl : C04.AllSyl p.com p.begin_ p.end_) : ∃ key, RangeIs p key ∧ key.length = p.end_ - p.begin_ := by
  obtain ⟨key, hmap⟩ : ∃ key : List Nat, key.map Sym.syl = (p.com.symbols.drop p.begin_).take (p.end_ - p.begin_) := ⟨_, map_sylPrefix (by
    intro x hx
    obtain ⟨i, hi⟩ := List.mem_iff_getElem?.mp hx
    rw [List.getElem?_take, List.getElem?_drop] at hi
    split at hi
    · next hi' =>
      obtain ⟨k, hk⟩ := hsyl (p.begin_ + i) (Nat.le_add_right ..) (Nat.add_lt_of_lt_sub' hi')
      exact ⟨k, Option.some.inj (hi.symm.trans hk)⟩
    · cases hi)⟩
  refine ⟨key, ?_, ?_⟩
  · rw [RangeIs, C01.sliceSyms_ok (Nat.le_of_lt hlt) hle, hmap]
  · rw [← List.length_map (f := Sym.syl), hmap, List.length_take_of_le]
    rw [List.length_drop]
    exact Nat.sub_le_sub_right hle _

/-- in a state satisfying C01's invariant the range of an open phrase list is a run of syllables -/
theorem range_of_inv {D L : Type} {env : Env D L} {G : D → Prop} {e : Editor D L} (hi : C01.EditorInv env G True e)
    {s : Selecting} {p : PhraseSel} (hs : e.state = .selecting s) (hsel : s.sel = .phrase p) :
    p.begin_ < p.end_ ∧ p.end_ ≤ p.com.symbols.length ∧ C04.AllSyl p.com p.begin_ p.end_ ∧
    p.com = e.shared.com.inner ∧ ∃ key, RangeIs p key ∧ key.length = p.end_ - p.begin_ := by
  have hst := hi.st
  rw [hs] at hst
  have hp := hst.sel
  rw [hsel] at hp
  exact ⟨hp.lt, hp.le, hp.syl, hp.com, rangeIs_of_allSyl hp.lt hp.le hp.syl⟩

/-- **the range of an open phrase list consists of syllables, in every state reached** (the full claim,
    `jump_to_*_selection_point` on an open phrase list included — the corner where finding F40/F41 lived: repaired
    by `fix: init_single_word remembers the position of the word`, `f40_history_repaired` below evaluates
    the former witness history; the oracle reports any range with a non-syllable as `new`) -/
theorem range_is_syllables : range_is_syllables_full := by
  intro D L env G hE e e' hi ops ha s p hrun hs hsel
  exact range_of_inv (C01.OkAnd.get (C01.C01_partial_run hE ops e hi ha) hrun) hs hsel

/-- a layout whose keys 32, Space spell syllable 1; one word for it -/
def f40Env : Env Unit Nat :=
  { toyEnv with
    lookupAll := fun _ k _ => if k = [1] then [⟨[28204], 1, none⟩] else []
    keyPress := fun l ev => if ev.code = 32 then (.absorb, 1) else if ev.code = 48 then (.commit, l) else (.keyError, l)
    read := fun _ => 1 }

/-- simple engine, buffer "？" with the cursor in front of it -/
def f40Start : Editor Unit Nat :=
  { shared := { syl := 0, dict := (),
                com := { cursor := 0, inner := { symbols := [.chr 65311], gaps := [.begin] } },
                options := { conversionEngine := .simple } } }

/-- type one syllable (the simple engine opens its single-word list), then `chewing_cand_list_first` -/
def f40Ops : List (Op Nat) :=
  [.key { index := 32, code := 32, unicode := 104 }, .key { index := 48, code := 48, unicode := 32 }, .jump 0]

/-- **F40 repaired** (before the repair the range became `syllable + "？"`): after
    `jump_to_first_selection_point` on the simple engine's single-word list the range is still the syllable
    alone, and the list is that syllable's -/
theorem f40_history_repaired :
    ∃ (e' : Editor Unit Nat) (s : Selecting) (p : PhraseSel),
      f40Start.run f40Env f40Ops = .ok e' ∧ e'.state = .selecting s ∧ s.sel = .phrase p ∧
      p.begin_ = 0 ∧ p.end_ = 1 ∧ p.com.symbols = [.syl 1, .chr 65311] ∧ RangeIs p [1] ∧
      Selecting.candidates f40Env s e'.shared = .ok [[28204]] :=
  ⟨_, _, _, rfl, rfl, rfl, rfl, rfl, rfl, rfl, rfl⟩

/-- **a phrase list is complete — without the premise `RangeIs`**: in every state satisfying C01's
    reachable-state invariant (hence, by `range_is_syllables` / `C01_partial_run`, in every state reached by
    a history outside C01's recorded class) the highlighted symbols ARE syllables `key`, one per position of
    the range, and the list is exactly the dictionary's answer for `key`, in order — followed, for a single
    syllable, by the answers for the layout's alternative syllables -/
theorem open_phrase_list_complete {D L : Type} {env : Env D L} {G : D → Prop} {e : Editor D L}
    (hi : C01.EditorInv env G True e) {s : Selecting} {p : PhraseSel} {cs : List Text}
    (hs : e.state = .selecting s) (hsel : s.sel = .phrase p) (hc : Selecting.candidates env s e.shared = .ok cs) :
    ∃ key, RangeIs p key ∧ key.length = p.end_ - p.begin_ ∧
      (p.end_ - p.begin_ ≠ 1 → cs = (env.lookupAll e.shared.dict key p.strategy).map (·.text)) ∧
      (p.end_ - p.begin_ = 1 → ∃ c, p.com.symbol? p.begin_ = some (.syl c) ∧
        cs = (env.lookupAll e.shared.dict key p.strategy).map (·.text) ++
             (env.altSyllables e.shared.syl c).flatMap fun a => (env.lookupAll e.shared.dict [a] p.strategy).map (·.text)) ∧
      (∀ ph ∈ env.lookupAll e.shared.dict key p.strategy, ph.text ∈ cs) := by
  obtain ⟨_, _, _, _, key, hr, hlen⟩ := range_of_inv hi hs hsel
  have hc' : PhraseSel.candidates env p e.shared.dict e.shared.syl = .ok cs := by
    unfold Selecting.candidates at hc; rw [hsel] at hc; exact hc
  exact ⟨key, hr, hlen, phrase_list_complete env hr hc'⟩

/-- … over histories: every open phrase list reached is complete -/
theorem phrase_list_complete_reached {D L : Type} {env : Env D L} {G : D → Prop} (hE : C01.EnvOK env G)
    (e e' : Editor D L) (hi : C01.EditorInv env G True e) (ops : List (Op L)) (ha : C01.Allowed env e ops)
    {s : Selecting} {p : PhraseSel} {cs : List Text}
    (hrun : e.run env ops = .ok e') (hs : e'.state = .selecting s) (hsel : s.sel = .phrase p)
    (hc : Selecting.candidates env s e'.shared = .ok cs) :
    ∃ key, RangeIs p key ∧ key.length = p.end_ - p.begin_ ∧
      ∀ ph ∈ env.lookupAll e'.shared.dict key p.strategy, ph.text ∈ cs := by
  obtain ⟨key, h1, h2, _, _, h5⟩ :=
    open_phrase_list_complete (C01.OkAnd.get (C01.C01_partial_run hE ops e hi ha) hrun) hs hsel hc
  exact ⟨key, h1, h2, h5⟩

/-! ### the opened range is the longest one with a phrase; the selector loops terminate -/

/-- the range query reads the selector's buffer and strategy only -/
theorem rangeHasPhrase_range (s : PhraseSel) (d : D) (b e x y : Nat) :
    PhraseSel.rangeHasPhrase env { s with begin_ := x, end_ := y } d b e = PhraseSel.rangeHasPhrase env s d b e := rfl

/-- the shrinking loop of `PhraseSelector::init` stops at the FIRST range that has a phrase: choosing
    forward it keeps the beginning and every longer range up to the initial end has none; choosing rearward
    it keeps the end and every longer range down to the initial beginning has none
    (proof in `Proofs/EditorOpenList.lean`) -/
theorem initLoop_longest (d : D) : ∀ (fuel : Nat) (s s' : PhraseSel), PhraseSel.initLoop env s d fuel = .ok s' →
    (s.forward = true → s'.begin_ = s.begin_ ∧
      ∀ e', s'.end_ < e' → e' ≤ s.end_ → PhraseSel.rangeHasPhrase env s d s.begin_ e' = .ok false) ∧
    (s.forward = false → s'.end_ = s.end_ ∧
      ∀ b', s.begin_ ≤ b' → b' < s'.begin_ → PhraseSel.rangeHasPhrase env s d b' s.end_ = .ok false) :=
  _root_.Chewing.initLoop_longest env d

/-- **the range a phrase list is opened with** (Down / Space / `chewing_cand_open`, `j` / `k`,
    `chewing_cand_list_first`: `PhraseSelector::init`) **is the longest one at the cursor that has a
    phrase**: it has a phrase or is the one-syllable range of a syllable without a word (`init_range`), and — choosing forward — it starts at the cursor and no longer
    range up to the next break point has one; choosing rearward it ends after the cursor and no longer range
    down to the previous break point has one.  (Shorter ranges follow with Down / Space.)  For every
    environment; what the oracle's check D evaluates on the real editor. -/
theorem opened_range_longest {fw : Bool} {st : Strategy} {com : Composition} {cur : Nat} {d : D} {p : PhraseSel}
    (h : PhraseSel.init env fw st com cur d = .ok p) :
    (fw = true → p.begin_ = (if cur == com.len then cur - 1 else cur) ∧
      ∀ e', p.end_ < e' → e' ≤ p.nextBreakPoint cur → PhraseSel.rangeHasPhrase env p d p.begin_ e' = .ok false) ∧
    (fw = false → p.end_ = min (cur + 1) com.len ∧
      ∀ b', p.afterPreviousBreakPoint cur ≤ b' → b' < p.begin_ → PhraseSel.rangeHasPhrase env p d b' p.end_ = .ok false) :=
  _root_.Chewing.opened_range_longest env h

/-! ## non-vacuity -/

/-- the list the F32 witness history opens and pages forward (its first two operations): two candidates, one per
    page, two pages, in range on page 1 -/
example : ∃ (e' : Editor Unit Nat) (s : Selecting),
    f32Start.run f32Env (f32Ops.take 2) = .ok e' ∧ e'.state = .selecting s ∧ s.pageNo = 1 ∧
    Selecting.totalPage f32Env s e'.shared = .ok 2 ∧ e'.PageInv f32Env := by
  refine ⟨_, _, rfl, rfl, rfl, rfl, ?_⟩
  exact page_or_empty_anystate Unit Nat f32Env (fun _ _ _ => rfl) (fun _ _ => rfl) f32Start _ (f32Ops.take 2) (page_inv_init f32Env _) rfl

/-- `open_list_on_a_page` is not vacuous: C01's toy environment satisfies every hypothesis, the fresh editor both
    invariants, and the history "type syllable 3, Down" ends with an open list — of one candidate, on page 0 of 1 -/
example : ∃ (e' : Editor (List Nat) Nat) (s : Selecting),
    (C01.stdEditor [3]).run C01.toyEnv [.key C01.keyJ, .key C01.keyJ, .key C01.keyDown] = .ok e' ∧
    e'.state = .selecting s ∧
    ∃ tp cs, Selecting.totalPage C01.toyEnv s e'.shared = .ok tp ∧ s.pageNo < tp ∧
      Selecting.candidates C01.toyEnv s e'.shared = .ok cs ∧ cs ≠ [] := by
  refine ⟨_, _, rfl, rfl, ?_⟩
  exact open_list_on_a_page _ _ C01.toyEnv _ C01.toyEnv_ok (fun _ _ _ => rfl) (fun _ _ => rfl) (C01.stdEditor [3]) _
    [.key C01.keyJ, .key C01.keyJ, .key C01.keyDown] _ (C01.stdEditor_inv [3]) (list_inv_init C01.toyEnv _)
    (by intro op _; cases op <;> trivial) rfl rfl

/-- choosing index 0 on page 1 (per page 1) of that list places the second word -/
example : ∃ (e1 : Editor Unit Nat) (s : Selecting) (x : Selecting × Shared Unit Nat × Trans),
    f32Start.run f32Env (f32Ops.take 2) = .ok e1 ∧ e1.state = .selecting s ∧
    Selecting.select f32Env s e1.shared 0 = .ok x ∧ x.2.2 = .toState .entering ∧
    x.2.1.com.inner.selections = [⟨0, 1, true, [31574]⟩] :=
  ⟨_, _, _, rfl, rfl, rfl, rfl, rfl⟩

/-- an out-of-range index (also `usize::MAX` = `-1` of the C API) on that list is rejected -/
example : ∃ (e1 : Editor Unit Nat), f32Start.run f32Env (f32Ops.take 2) = .ok e1 ∧
    (e1.select f32Env 1).map (·.2) = .ok false ∧ (e1.select f32Env (2 ^ 64 - 1)).map (·.2) = .ok false ∧
    (e1.select f32Env 1).map (·.1.state) = .ok e1.state :=
  ⟨_, rfl, rfl, rfl, rfl⟩

/-- type a syllable twice, Home, open the list (`PhraseSelector::init` shrinks 0..2 to 0..1), the four jumps
    (`prev_selection_point` searches up to the break point, `next_selection_point` /
    `jump_to_last_selection_point` stop at the one-syllable range), Down (`PhraseSelector::next` wraps around) -/
def jumpOps : List (Op Nat) :=
  [.key C01.keyJ, .key C01.keyJ, .key C01.keyJ, .key C01.keyJ, .key C01.keyHome,
   .startSelecting, .jump 3, .jump 2, .jump 1, .jump 0, .key C01.keyDown]

/-- `range_is_syllables` / `phrase_list_complete_reached` are not vacuous: C01's toy environment satisfies
    `EnvOK`, a fresh editor the invariant, and the history `jumpOps` is allowed and leaves a phrase list open -/
example : ∃ e' s p cs,
    (C01.stdEditor [3]).run C01.toyEnv jumpOps = .ok e' ∧
    e'.state = .selecting s ∧ s.sel = .phrase p ∧ Selecting.candidates C01.toyEnv s e'.shared = .ok cs ∧
    (p.begin_, p.end_) = (0, 1) ∧ p.com.symbols = [.syl 3, .syl 3] ∧ cs = [[3]] ∧
    (∃ key, RangeIs p key ∧ key.length = p.end_ - p.begin_ ∧
      ∀ ph ∈ C01.toyEnv.lookupAll e'.shared.dict key p.strategy, ph.text ∈ cs) := by
  refine ⟨_, _, _, _, rfl, rfl, rfl, rfl, rfl, rfl, rfl, ?_⟩
  exact phrase_list_complete_reached C01.toyEnv_ok (C01.stdEditor [3]) _ (C01.stdEditor_inv [3]) jumpOps
    (C01.allowed_of_plain jumpOps _ (by
      intro op hop
      simp only [jumpOps, List.mem_cons, List.not_mem_nil, or_false] at hop
      rcases hop with rfl | rfl | rfl | rfl | rfl | rfl | rfl | rfl | rfl | rfl | rfl <;> trivial))
    rfl rfl rfl rfl

/-- `opened_range_longest` is not vacuous: two equal syllables, a word for the syllable but no two-syllable
    phrase — `init` at position 0 (forward) answers 0..1, and the longer range 0..2 has no phrase -/
example : ∃ p, PhraseSel.init f32Env true .standard { symbols := [.syl 1, .syl 1], gaps := [.begin, .normal] } 0 () = .ok p ∧
    (p.begin_, p.end_) = (0, 1) ∧ p.nextBreakPoint 0 = 2 ∧ PhraseSel.rangeHasPhrase f32Env p () 0 2 = .ok false :=
  ⟨_, rfl, rfl, rfl, rfl⟩

/-- the second alternative of `init_range` is inhabited (F02 / F03 repair): a syllable the dictionary has no
    word for keeps its one-syllable range, and the range query answers "no phrase" -/
example : ∃ p, PhraseSel.init f32Env true .standard { symbols := [.syl 2], gaps := [.begin] } 0 () = .ok p ∧
    (p.begin_, p.end_) = (0, 1) ∧ PhraseSel.WordlessSyl f32Env p () :=
  ⟨_, rfl, rfl, rfl, rfl, _, rfl, rfl⟩

example : pageCount 7 3 = 3 ∧ pageItems [1, 2, 3, 4, 5, 6, 7] 3 2 = [7] ∧ pageCount 6 3 = 2 ∧ pageCount 0 3 = 0 := by decide

end Chewing.C07
