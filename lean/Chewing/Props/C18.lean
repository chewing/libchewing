import Chewing.Props.C05
import Chewing.Props.C06
import Chewing.Proofs.EditorModes
import Chewing.Proofs.FullWidthTable
import Chewing.Proofs.EditorLink
/-!
# C18 — English and full-width modes pass characters through faithfully

Statement (properties.jsonl): *in English mode with half-width form every printable ASCII key yields
exactly that character — committed at once when the buffer is empty, otherwise inserted at the cursor —
and in full-width form each printable ASCII character is replaced by one full-width character, distinct
characters staying distinct.  Caps Lock toggles the language mode, Shift-Space toggles the character
form only while that toggle is enabled, and changing a mode never alters text already in the buffer.*

Theorems, all over the editor state-machine model (`Model/Editor.lean`), for EVERY environment
(dictionary, phonetic layout, engines — English mode never consults them) and every editor value
(hence at every point of every history: `capslock_after_any_history`):

* table part (kernel evaluation over the tables regenerated from `src/conversion/symbol.rs`):
  `fullwidth_total`, `fullwidth_not_ascii`, `fullwidth_inj` on the 95 printable characters;
* `AsciiKey` — the events `KeyboardLayout::map_ascii` produces for the 95 characters (a character key,
  no Ctrl / NumLock, Space unshifted); `english_key` — such a key in English mode reaches
  `commitOrInsert` with `charOut form c` (`c` itself / its full-width replacement);
* `eng_key_commits` — empty buffer: the key answers *commit*, the commit buffer is exactly that one
  character, buffer, state and every option untouched (total: no panic);
* `eng_key_inserts` — non-empty buffer: the character is inserted exactly at the cursor, cursor + 1,
  every other symbol in place, nothing committed (total given `cursor ≤ len`, which C05 proves
  invariant); `eng_key_inserts_dispatch` is the same before the auto-commit tail with no assumption on
  the threshold;
* `eng_distinct` — distinct printable characters produce distinct output in either form;
* `capslock_toggles_lang` (all four states), `shiftspace_toggles_form` / `shiftspace_disabled` /
  `form_fixed_outside_entering`, `options_change_only_by_toggle` (no other key in any state changes any
  option), `capslock_dispatch` (the buffer is untouched in each of the four states), `setOptions_preserves_buffer`.
* Chinese mode, the branches that share the tables: `chinese_shifted_key`, `chinese_shifted_letter`
  (same behaviour as English mode), `chinese_shifted_symbol` (special symbols are inserted into the buffer).
* linked (section `Linked`): `buffer_bounded_along` — `EditorInv` (C01) + "buffer within the threshold in
  `Entering`" is an invariant of key histories — and the whole-key theorems restated without a premise on the
  buffer length (`capslock_toggles_lang_linked`, `shiftspace_toggles_form_linked`, `eng_key_inserts_linked`).
* the text SHOWN (last section): `SameText` / `SameText.display`, `capslock_dispatch_text`, `capslock_keeps_text`,
  `shiftspace_keeps_text`, `setOptions_keeps_text`, `capslock_keeps_nth` / `shiftspace_keeps_nth` (no premise on the
  length), `toggle_keeps_display_full` (def) + `toggle_keeps_display_refuted` + `toggle_keeps_display_partial`: no mode
  change touches the chosen alternative `nth_conversion`, the engine, the dictionary or the composition, hence not
  what `display()` answers — in every state, for every environment.
* Outside the statement but recorded: `numlock_key_verbatim` (keypad keys ignore the character form),
  `eng_full_unprintable_bell` (F01 as repaired).
-/
namespace Chewing.C18
open Chewing.C05 Chewing.C06

/-! ## The table -/

/-- the 95 printable ASCII code points -/
def Printable (c : Nat) : Prop := 32 ≤ c ∧ c ≤ 126

instance (c : Nat) : Decidable (Printable c) := by unfold Printable; infer_instance

theorem printable_index {c : Nat} (h : Printable c) : c - 32 < 95 ∧ asciiAt (c - 32) = c := by
  unfold Printable at h; unfold asciiAt; omega

/-- the table read at a printable character: its replacement, and the way back -/
theorem fullwidth_spec {c : Nat} (h : Printable c) :
    ∃ w, fullWidthSymbolInput c = some w ∧ 126 < w ∧ narrow w = c := by
  have := allLt_spec fullwidth_tab (c - 32) (printable_index h).1
  rw [(printable_index h).2] at this
  split at this
  · next w hw => exact ⟨w, hw, by simpa using this⟩
  · cases this

/-- every printable character has a full-width replacement … -/
theorem fullwidth_total {c : Nat} (h : Printable c) : ∃ w, fullWidthSymbolInput c = some w :=
  let ⟨w, hw, _⟩ := fullwidth_spec h
  ⟨w, hw⟩

/-- … which is never a printable ASCII character itself (one full-width character, visibly replaced) -/
theorem fullwidth_not_ascii {c w : Nat} (h : Printable c) (hw : fullWidthSymbolInput c = some w) : 126 < w := by
  obtain ⟨v, hv, h1, _⟩ := fullwidth_spec h
  cases hv.symm.trans hw
  exact h1

/-- distinct characters stay distinct -/
theorem fullwidth_inj {c d : Nat} (hc : Printable c) (hd : Printable d)
    (h : fullWidthSymbolInput c = fullWidthSymbolInput d) : c = d := by
  obtain ⟨w, hw, _, hn⟩ := fullwidth_spec hc
  obtain ⟨v, hv, _, hm⟩ := fullwidth_spec hd
  cases (hw.symm.trans h).trans hv
  exact hn.symm.trans hm

/-- what a printable character becomes in the given character form -/
def charOut (form : CharForm) (c : Nat) : Nat :=
  match form with
  | .half => c
  | .full => (fullWidthSymbolInput c).getD c

/-- faithful in half-width form, injective in both -/
theorem charOut_half (c : Nat) : charOut .half c = c := rfl

/-- the output in full-width form: never the typed ASCII character, and `narrow` leads back to it -/
theorem charOut_full {c : Nat} (hc : Printable c) : 126 < charOut .full c ∧ narrow (charOut .full c) = c := by
  obtain ⟨w, hw, h⟩ := fullwidth_spec hc
  simpa only [charOut, hw, Option.getD_some] using h

theorem eng_distinct (form : CharForm) {c d : Nat} (hc : Printable c) (hd : Printable d)
    (h : charOut form c = charOut form d) : c = d := by
  cases form with
  | half => exact h
  | full => rw [← (charOut_full hc).2, h, (charOut_full hd).2]

/-- in full-width form the output is never the typed ASCII character -/
theorem charOut_full_wide {c : Nat} (hc : Printable c) : 126 < charOut .full c :=
  (charOut_full hc).1

/-! ## The English arm -/

section English
variable {D L : Type} (env : Env D L)

/-- the key events `KeyboardLayout::map_ascii` produces for the 95 printable characters: a character
    key (codes `N1`…`Space`), the character itself as `unicode`, Shift at most (never on Space), no
    Ctrl, no NumLock.  CapsLock as a *modifier* is allowed (it only selects the shifted character). -/
structure AsciiKey (ev : KeyEvent) : Prop where
  code : 1 ≤ ev.code ∧ ev.code ≤ 48
  uni : Printable ev.unicode
  noCtrl : ev.mods.ctrl = false
  noNum : ev.mods.numlock = false
  space : ev.code = KC.space → ev.mods.shift = false

/-- the named keys of `Entering::next` have the codes 49 … 61: a character key is none of them -/
theorem isNamedKey_char : ∀ c, c ≤ 48 → isNamedKey c = false := by decide +kernel

/-- a printable key falls through to the catch-all arm, provided Space is not the selection key
    (`hsp`: in English mode it is not) -/
theorem asciiKey_defaultArm {sh : Shared D L} {ev : KeyEvent} (hk : AsciiKey ev)
    (hsp : ev.code = KC.space → sh.options.languageMode = .english) : DefaultArm sh ev where
  notNamed := isNamedKey_char _ hk.code.2
  notCaps := fun ⟨h, _⟩ => absurd (h ▸ hk.code.1) (by decide)
  notCtrlDigit := fun ⟨_, h⟩ => by rw [hk.noCtrl] at h; cases h
  notShiftSpace := fun ⟨h, hs, _⟩ => by rw [hk.space h] at hs; cases hs
  notSelSpace := fun ⟨h, _, hc⟩ => by rw [hsp h] at hc; cases hc

theorem inputChar_printable (sh : Shared D L) {ev : KeyEvent} (hp : Printable ev.unicode) :
    inputChar sh ev = commitOrInsert sh (charOut sh.options.characterForm ev.unicode) := by
  unfold inputChar
  cases hf : sh.options.characterForm with
  | half => rfl
  | full =>
    obtain ⟨w, hw⟩ := fullwidth_total hp
    simp only [fullOrBell, hw, charOut, Option.getD_some]

/-- in English mode a printable key goes to `commitOrInsert` with the character in the current form —
    the dictionary, the phonetic layout and the engines are not consulted -/
theorem english_key {sh : Shared D L} {ev : KeyEvent} (hk : AsciiKey ev)
    (hl : sh.options.languageMode = .english) :
    enteringNext env sh ev = commitOrInsert sh (charOut sh.options.characterForm ev.unicode) := by
  rw [enteringNext_default env (asciiKey_defaultArm hk fun _ => hl), if_neg (by rw [hk.noNum]; decide)]
  unfold enteringDefault
  rw [hl]
  exact inputChar_printable sh hk.uni

/-- the dictionary handle after the flush that ends a key event: as it was, or (an update pending) flushed -/
theorem flushed_dict (d : D) (k : Nat) :
    (if k > 0 then env.reopenFlush d else d) = d ∨ (0 < k ∧ (if k > 0 then env.reopenFlush d else d) = env.reopenFlush d) := by
  split
  · next h => exact .inr ⟨h, rfl⟩
  · exact .inl rfl

/-- **a key whose state-machine part does not set off the auto-commit** (not absorbed, or absorbed with the
    buffer within the limit): the key answers what the state machine recorded, the state is the one it chose,
    and the shared state is the one it left with a dirty dictionary flushed; every other field of the result
    is, by `rfl`, that field of `sh` -/
theorem processKey_of_dispatch {e : Editor D L} {ev : KeyEvent} {sh : Shared D L} {st : St}
    (hd : dispatch env e ev = .ok (sh, st))
    (hq : sh.last = .absorb → sh.com.len ≤ sh.options.autoCommitThreshold) :
    e.processKey env ev = .ok ({ shared := { sh with dict := if sh.dirty > 0 then env.reopenFlush sh.dict else sh.dict,
                                                      dirty := if sh.dirty > 0 then 0 else sh.dirty },
                                 state := st }, sh.last) := by
  have hac : (if (st == .entering || st == .enteringSyllable) && sh.last == .absorb then Shared.tryAutoCommit env sh
      else .ok sh) = .ok sh := by
    split
    · next hc => exact C02.tryAutoCommit_noop env (hq (eq_of_beq ((Bool.and_eq_true _ _).mp hc).2))
    · rfl
  rw [processKey_eq, hd]
  dsimp only
  unfold tail
  rw [hac]
  dsimp only
  rw [flush_eq]

/-- **no key touches the chosen alternative, the engine or the options after its state-machine part**, whatever the
    buffer length (the auto-commit of a buffer over the limit writes the commit buffer and the pre-edit only) -/
theorem processKey_nth {e e' : Editor D L} {ev : KeyEvent} {b : KB} {sh : Shared D L} {st : St}
    (hd : dispatch env e ev = .ok (sh, st)) (h : e.processKey env ev = .ok (e', b)) :
    e'.shared.nth = sh.nth ∧ e'.shared.engine = sh.engine ∧ e'.shared.options = sh.options := by
  rw [processKey_eq, hd] at h
  obtain ⟨_, ⟨hsh, _⟩ | ⟨_, _, _, _, sh2, hac, hsh⟩⟩ := tail_cases env h
  · rw [hsh, flush_eq]
    exact ⟨rfl, rfl, rfl⟩
  · rw [hsh, flush_eq]
    rcases tryAutoCommit_threshold env hac with ⟨_, rfl⟩ | ⟨_, _, _, rfl⟩ <;> exact ⟨rfl, rfl, rfl⟩

/-- `Op.key` is `process_keyevent` with the answer dropped -/
theorem apply_key {e e' : Editor D L} {ev : KeyEvent} (h : e.apply env (.key ev) = .ok e') :
    ∃ b, e.processKey env ev = .ok (e', b) := by
  obtain ⟨⟨_, b⟩, hp, rfl⟩ := Outcome.of_map_ok (show (e.processKey env ev).map (·.1) = .ok e' from h)
  exact ⟨b, hp⟩

theorem apply_key_of {e e' : Editor D L} {ev : KeyEvent} {b : KB} (h : e.processKey env ev = .ok (e', b)) :
    e.apply env (.key ev) = .ok e' := by
  show (e.processKey env ev).map (·.1) = _
  rw [h]
  rfl

/-- one symbol inserted makes the buffer one symbol longer -/
theorem insertedAt_len_one {c c' : CompEditor} {x : Sym} (h : InsertedAt c c' [x]) (hi : CursorInv c) :
    c'.len = c.len + 1 := by
  show c'.symbols.length = c.symbols.length + 1
  have : c.cursor ≤ c.symbols.length := hi.2
  rw [h.1]
  simp only [List.length_append, List.length_take, List.length_drop, List.length_cons, List.length_nil]
  omega

/-- **English mode, empty buffer**: a printable key is committed at once — the key answers *commit*,
    the commit buffer is exactly the one character (itself in half-width form, its full-width
    replacement in full-width form), the pre-edit buffer, the state and every option are untouched.
    Total: no panic, whatever the environment. -/
theorem eng_key_commits {e : Editor D L} {ev : KeyEvent} (hs : e.state = .entering)
    (hl : e.shared.options.languageMode = .english) (hk : AsciiKey ev) (hem : e.shared.com.isEmpty = true) :
    ∃ e', e.processKey env ev = .ok (e', .commit) ∧
      e'.shared.commitBuf = [charOut e.shared.options.characterForm ev.unicode] ∧
      e'.shared.com = e.shared.com ∧ e'.state = .entering ∧ e'.shared.options = e.shared.options ∧
      e'.shared.syl = e.shared.syl := by
  have hd : dispatch env e ev =
      .ok ({ preamble e.shared with commitBuf := [charOut e.shared.options.characterForm ev.unicode], last := .commit },
           .entering) := by
    rw [dispatch_entering_eq env ev hs, english_key env (sh := preamble e.shared) hk hl]
    unfold commitOrInsert
    rw [if_pos (by exact hem)]
    rfl
  exact ⟨_, processKey_of_dispatch env hd nofun, rfl, rfl, rfl, rfl, rfl⟩

/-- **English mode, non-empty buffer**, the state-machine step (before the auto-commit tail, no
    assumption on the threshold): the character is inserted exactly at the cursor, the cursor ends
    behind it, every other symbol stays in place, the saved cursors and every option are untouched,
    nothing is committed, the key is absorbed -/
theorem eng_key_inserts_dispatch {e : Editor D L} {ev : KeyEvent} {sh : Shared D L} {st : St}
    (hs : e.state = .entering) (hl : e.shared.options.languageMode = .english) (hk : AsciiKey ev)
    (hne : e.shared.com.isEmpty = false) (h : dispatch env e ev = .ok (sh, st)) :
    st = .entering ∧ sh.last = .absorb ∧
    InsertedAt e.shared.com sh.com [.chr (charOut e.shared.options.characterForm ev.unicode)] ∧
    sh.commitBuf = [] ∧ sh.options = e.shared.options ∧ sh.syl = e.shared.syl := by
  rw [dispatch_entering_eq env ev hs, english_key env (sh := preamble e.shared) hk hl] at h
  obtain ⟨⟨sh', t⟩, hr, hx⟩ := Outcome.of_map_ok h
  rcases commitOrInsert_spec hr with ⟨he, _, _⟩ | ⟨_, rfl, hi, hsh⟩
  · rw [show (preamble e.shared).com = e.shared.com from rfl, hne] at he; cases he
  · cases hx
    rw [hsh]
    exact ⟨rfl, rfl, insertedAt_one hi, rfl, rfl, rfl⟩

/-- **English mode, non-empty buffer**, the whole key event while the buffer is below the limit: total
    (given `cursor ≤ len`, C05's invariant), answers *absorb*, inserts exactly the one character at the
    cursor, commits nothing, changes no option -/
theorem eng_key_inserts {e : Editor D L} {ev : KeyEvent} (hs : e.state = .entering)
    (hl : e.shared.options.languageMode = .english) (hk : AsciiKey ev) (hne : e.shared.com.isEmpty = false)
    (hi : CursorInv e.shared.com) (hlen : e.shared.com.len < e.shared.options.autoCommitThreshold) :
    ∃ e', e.processKey env ev = .ok (e', .absorb) ∧ e'.state = .entering ∧
      InsertedAt e.shared.com e'.shared.com [.chr (charOut e.shared.options.characterForm ev.unicode)] ∧
      e'.shared.commitBuf = [] ∧ e'.shared.options = e.shared.options := by
  obtain ⟨c, hc⟩ := insert_total e.shared.com (.chr (charOut e.shared.options.characterForm ev.unicode)) hi
  have hins := insertedAt_one hc
  have hd : dispatch env e ev = .ok ({ preamble e.shared with com := c, last := .absorb }, .entering) := by
    rw [dispatch_entering_eq env ev hs, english_key env (sh := preamble e.shared) hk hl]
    unfold commitOrInsert
    rw [if_neg (by rw [show (preamble e.shared).com = e.shared.com from rfl, hne]; decide)]
    show Outcome.map _ (withCom _ (e.shared.com.insert (.chr (charOut e.shared.options.characterForm ev.unicode))) _) = _
    rw [hc]
    rfl
  refine ⟨_, processKey_of_dispatch env hd fun _ => ?_, rfl, hins, rfl, rfl⟩
  show c.len ≤ e.shared.options.autoCommitThreshold
  rw [insertedAt_len_one hins hi]
  exact hlen

/-- F01 as repaired: in full-width form a key WITHOUT a full-width replacement (a non-printable key:
    `unicode` = U+FFFD) is answered with a bell and changes nothing (it used to `unwrap()` a `None`) -/
theorem eng_full_unprintable_bell (sh : Shared D L) (ev : KeyEvent)
    (hf : sh.options.characterForm = .full) (hn : fullWidthSymbolInput ev.unicode = none) :
    inputChar sh ev = .ok (sh, .spin .bell) := by
  unfold inputChar
  rw [hf]
  simp only [fullOrBell, hn]

/-- keypad keys (NumLock modifier) are passed through verbatim in EITHER character form and language
    mode — outside the property statement (which is about the 95 `map_ascii` keys), recorded here so
    that the scope is explicit -/
theorem numlock_key_verbatim {sh : Shared D L} {ev : KeyEvent} (hd : DefaultArm sh ev) (hn : ev.mods.numlock = true) :
    enteringNext env sh ev = commitOrInsert sh ev.unicode := by
  rw [enteringNext_default env hd, if_pos hn]

end English

/-! ## Chinese mode: the branches that share the tables

A key the phonetic layout does not get (here: any shifted character key) falls into
`chineseFallback`: a character with an entry in `SPECIAL_SYMBOLS` is inserted into the buffer as that
symbol (in either character form, never committed directly); any other printable character takes the
same commit-or-insert path as in English mode, in the current character form. -/

section ChineseShared
variable {D L : Type} (env : Env D L)

/-- a shifted character key in Chinese mode (easy-symbol input off) is not offered to the phonetic
    layout: it goes to `chineseFallback` -/
theorem chinese_shifted_key {sh : Shared D L} {ev : KeyEvent} (hk : AsciiKey ev) (hsh : ev.mods.shift = true)
    (hl : sh.options.languageMode = .chinese) (he : sh.options.easySymbolInput = false) :
    enteringNext env sh ev = chineseFallback sh ev := by
  have hsp : ev.code ≠ KC.space := fun h => by rw [hk.space h] at hsh; cases hsh
  have hnone : ev.mods.isNone = false := by unfold Mods.isNone; rw [hsh]; rfl
  rw [enteringNext_default env (asciiKey_defaultArm hk fun h => absurd h hsp), if_neg (by rw [hk.noNum]; decide)]
  unfold enteringDefault
  rw [hl]
  dsimp only
  rw [if_neg (by rw [hnone, Bool.and_false]; decide), if_neg (fun h => hsp (eq_of_beq h)), if_neg (by rw [he]; decide),
    if_neg (by rw [hnone]; decide)]

/-- **Chinese mode, a shifted letter** (`A`…`Z`): exactly the English-mode behaviour — committed at
    once / inserted at the cursor, verbatim or in its full-width form -/
theorem chinese_shifted_letter {sh : Shared D L} {ev : KeyEvent} (hk : AsciiKey ev) (hsh : ev.mods.shift = true)
    (hl : sh.options.languageMode = .chinese) (he : sh.options.easySymbolInput = false)
    (hu : 65 ≤ ev.unicode ∧ ev.unicode ≤ 90) :
    enteringNext env sh ev = commitOrInsert sh (charOut sh.options.characterForm ev.unicode) := by
  rw [chinese_shifted_key env hk hsh hl he]
  have hp : Printable ev.unicode := hk.uni
  have hs := special_not_alnum_tab ev.unicode (Nat.lt_succ_of_le hp.2) (.inr (.inl hu))
  unfold chineseFallback
  rw [hs]
  dsimp only
  have : ev.isPrintable = true := by
    unfold KeyEvent.isPrintable
    have := hp.2
    simp only [bne_iff_ne, ne_eq]
    omega
  rw [if_pos this]
  exact inputChar_printable sh hp

/-- **Chinese mode, a shifted symbol key** whose character has an entry in `SPECIAL_SYMBOLS` (`!` → `！`,
    `<` → `，`, …): that symbol is inserted into the buffer at the cursor, in EITHER character form;
    nothing is committed directly -/
theorem chinese_shifted_symbol {sh : Shared D L} {ev : KeyEvent} {s : Nat} (hk : AsciiKey ev)
    (hsh : ev.mods.shift = true) (hl : sh.options.languageMode = .chinese) (he : sh.options.easySymbolInput = false)
    (hs : specialSymbolInput ev.unicode = some s) :
    enteringNext env sh ev = withCom sh (sh.com.insert (.chr s)) fun sh => .ok (sh, .spin .absorb) := by
  rw [chinese_shifted_key env hk hsh hl he]
  unfold chineseFallback
  rw [hs]

end ChineseShared

/-! ## Mode toggles -/

section Toggles
variable {D L : Type} (env : Env D L)

def flipLang : LangMode → LangMode
  | .english => .chinese
  | .chinese => .english

def flipForm : CharForm → CharForm
  | .half => .full
  | .full => .half

theorem flipLang_ne (m : LangMode) : flipLang m ≠ m := by cases m <;> simp [flipLang]
theorem flipLang_flip (m : LangMode) : flipLang (flipLang m) = m := by cases m <;> rfl
theorem flipForm_ne (f : CharForm) : flipForm f ≠ f := by cases f <;> simp [flipForm]
theorem flipForm_flip (f : CharForm) : flipForm (flipForm f) = f := by cases f <;> rfl

/-- `switch_language_mode` replaces the one option field -/
theorem switchLanguageMode_options (sh : Shared D L) :
    (Shared.switchLanguageMode sh).options = { sh.options with languageMode := flipLang sh.options.languageMode } := by
  unfold Shared.switchLanguageMode flipLang
  cases sh.options.languageMode <;> rfl

/-- `switch_character_form` replaces the one option field -/
theorem switchCharacterForm_options (sh : Shared D L) :
    (Shared.switchCharacterForm sh).options = { sh.options with characterForm := flipForm sh.options.characterForm } := by
  unfold Shared.switchCharacterForm flipForm
  cases sh.options.characterForm <;> rfl

/-- the CapsLock event as the front ends send it (`chewing_handle_Capslock`: `Unknown` + the capslock
    modifier, nothing else) -/
structure CapsLockKey (ev : KeyEvent) : Prop where
  code : ev.code = KC.unknown
  caps : ev.mods.capslock = true
  noCtrl : ev.mods.ctrl = false
  noShift : ev.mods.shift = false

/-- the Shift-Space event -/
structure ShiftSpaceKey (ev : KeyEvent) : Prop where
  code : ev.code = KC.space
  shift : ev.mods.shift = true

/-- the shared state the CapsLock arm of each of the four states leaves (after `applyTrans`): the preamble, the
    language mode toggled; besides, `EnteringSyllable` clears the phonetic buffer and `Selecting` pops the saved cursor -/
def afterCaps (e : Editor D L) : Shared D L :=
  { Shared.switchLanguageMode (preamble e.shared) with
    last := .absorb
    syl := match e.state with
      | .enteringSyllable => env.clearSyl e.shared.syl
      | _ => e.shared.syl
    com := match e.state with
      | .selecting _ => e.shared.com.popCursor
      | _ => e.shared.com }

theorem afterCaps_com (e : Editor D L) :
    (afterCaps env e).com.inner = e.shared.com.inner ∧ ((∀ s, e.state ≠ .selecting s) → (afterCaps env e).com = e.shared.com) ∧
      ((∃ s, e.state = .selecting s) → (afterCaps env e).com = e.shared.com.popCursor) := by
  unfold afterCaps
  cases hs : e.state with
  | selecting s => exact ⟨C01.popCursor_inner _, fun hn => absurd rfl (hn s), fun _ => rfl⟩
  | _ => exact ⟨rfl, fun _ => rfl, fun ⟨s, h⟩ => nomatch h⟩

/-- **CapsLock, the state-machine step, as an equation**: in each state the CapsLock arm answers `afterCaps` -/
theorem dispatch_capslock (e : Editor D L) {ev : KeyEvent} (hk : CapsLockKey ev) :
    dispatch env e ev = .ok (afterCaps env e, .entering) := by
  obtain ⟨h1, h2, h3, h4⟩ := hk
  have hcaps : (ev.code == KC.unknown && ev.mods.capslock) = true := by rw [h1, h2]; rfl
  have hbs : ¬ (ev.code == KC.backspace) = true := by rw [h1]; decide
  unfold dispatch afterCaps
  cases hs : e.state with
  | entering =>
    dsimp only
    rw [enteringNext_capslock env h1 h2]
    rfl
  | enteringSyllable =>
    dsimp only
    unfold enteringSyllableNext
    rw [if_neg hbs, if_pos hcaps]
    rfl
  | selecting s =>
    dsimp only
    unfold selectingNext
    rw [if_neg (by rw [h3, h4]; decide), if_neg hbs, if_pos hcaps]
    rfl
  | highlighting m =>
    dsimp only
    unfold highlightingNext
    dsimp only
    rw [if_pos hcaps]
    rfl

/-- **CapsLock, the state-machine step, every state, every environment, no premise**: besides toggling the
    language mode (`capslock_dispatch`) it leaves the chosen alternative, the engine, the dictionary and the
    composition exactly as they were; the buffer with its cursors is untouched, except that a candidate list is
    left as by Esc (the saved cursor returns) -/
theorem capslock_dispatch_text (e : Editor D L) {ev : KeyEvent} (hk : CapsLockKey ev) :
    ∃ sh, dispatch env e ev = .ok (sh, .entering) ∧ sh.last = .absorb ∧ sh.nth = e.shared.nth ∧
      sh.engine = e.shared.engine ∧ sh.dict = e.shared.dict ∧ sh.dirty = e.shared.dirty ∧
      sh.com.inner = e.shared.com.inner ∧ sh.commitBuf = [] ∧
      sh.options = { e.shared.options with languageMode := flipLang e.shared.options.languageMode } ∧
      ((∀ s, e.state ≠ .selecting s) → sh.com = e.shared.com) ∧
      ((∃ s, e.state = .selecting s) → sh.com = e.shared.com.popCursor) :=
  have ⟨hin, hsame, hpop⟩ := afterCaps_com env e
  ⟨_, dispatch_capslock env e hk, rfl, rfl, rfl, rfl, rfl, hin, rfl, switchLanguageMode_options _, hsame, hpop⟩

/-- **CapsLock, the state-machine step, in every one of the four states**: total; the editor returns to
    `Entering`, the key is absorbed, the language mode is toggled and NO other option changes; symbols,
    gaps and selections of the pre-edit buffer are exactly as before (in `Entering`, `EnteringSyllable`
    and `Highlighting` the cursor and the saved cursors too; leaving a candidate list restores the
    saved cursor); nothing is committed -/
theorem capslock_dispatch (e : Editor D L) {ev : KeyEvent} (hk : CapsLockKey ev) :
    ∃ sh, dispatch env e ev = .ok (sh, .entering) ∧ sh.last = .absorb ∧
      sh.options = { e.shared.options with languageMode := flipLang e.shared.options.languageMode } ∧
      sh.com.inner = e.shared.com.inner ∧ sh.commitBuf = [] ∧
      ((∀ s, e.state ≠ .selecting s) → sh.com = e.shared.com) :=
  have ⟨hin, hsame, _⟩ := afterCaps_com env e
  ⟨_, dispatch_capslock env e hk, rfl, switchLanguageMode_options _, hin, rfl, hsame⟩

/-- the whole CapsLock key while the buffer is within the limit, as an equation -/
theorem capslock_key (e : Editor D L) {ev : KeyEvent} (hk : CapsLockKey ev)
    (hlen : e.shared.com.len ≤ e.shared.options.autoCommitThreshold) :
    e.processKey env ev = .ok ({ shared := { afterCaps env e with
        dict := if e.shared.dirty > 0 then env.reopenFlush e.shared.dict else e.shared.dict
        dirty := if e.shared.dirty > 0 then 0 else e.shared.dirty }, state := .entering }, .absorb) :=
  processKey_of_dispatch env (dispatch_capslock env e hk) fun _ => by
    show (afterCaps env e).com.inner.len ≤ (Shared.switchLanguageMode (preamble e.shared)).options.autoCommitThreshold
    rw [(afterCaps_com env e).1, switchLanguageMode_options]
    exact hlen

/-- **Caps Lock toggles the language mode** — the whole key event, in every state, while the buffer is
    within the limit (C05 `bounded_after_key`: it is, after every handled key): total, answers *absorb*,
    toggles the language mode and nothing else among the options, leaves the text in the buffer
    (symbols, gaps, selections) exactly as it was, commits nothing -/
theorem capslock_toggles_lang (e : Editor D L) {ev : KeyEvent} (hk : CapsLockKey ev)
    (hlen : e.shared.com.len ≤ e.shared.options.autoCommitThreshold) :
    ∃ e', e.processKey env ev = .ok (e', .absorb) ∧ e'.state = .entering ∧
      e'.shared.options = { e.shared.options with languageMode := flipLang e.shared.options.languageMode } ∧
      e'.shared.com.inner = e.shared.com.inner ∧ e'.shared.commitBuf = [] ∧
      ((∀ s, e.state ≠ .selecting s) → e'.shared.com = e.shared.com) :=
  have ⟨hin, hsame, _⟩ := afterCaps_com env e
  ⟨_, capslock_key env e hk hlen, rfl, switchLanguageMode_options _, hin, rfl, hsame⟩

theorem shiftspace_dispatch {e : Editor D L} {ev : KeyEvent} (hs : e.state = .entering) (hk : ShiftSpaceKey ev)
    (ht : e.shared.options.enableFullwidthToggleKey = true) :
    dispatch env e ev = .ok ({ Shared.switchCharacterForm (preamble e.shared) with last := .absorb }, .entering) := by
  rw [dispatch_entering_eq env ev hs, enteringNext_shiftSpace env (sh := preamble e.shared) hk.code hk.shift ht]
  rfl

/-- the whole Shift-Space key in `Entering` with the toggle enabled and the buffer within the limit, as an equation -/
theorem shiftspace_key {e : Editor D L} {ev : KeyEvent} (hs : e.state = .entering) (hk : ShiftSpaceKey ev)
    (ht : e.shared.options.enableFullwidthToggleKey = true)
    (hlen : e.shared.com.len ≤ e.shared.options.autoCommitThreshold) :
    e.processKey env ev = .ok ({ shared := { Shared.switchCharacterForm (preamble e.shared) with
        last := .absorb
        dict := if e.shared.dirty > 0 then env.reopenFlush e.shared.dict else e.shared.dict
        dirty := if e.shared.dirty > 0 then 0 else e.shared.dirty }, state := .entering }, .absorb) :=
  processKey_of_dispatch env (shiftspace_dispatch env hs hk ht) fun _ => by
    show e.shared.com.len ≤ (Shared.switchCharacterForm (preamble e.shared)).options.autoCommitThreshold
    rw [switchCharacterForm_options]
    exact hlen

/-- **Shift-Space toggles the character form while the toggle key is enabled** (`Entering`): total,
    answers *absorb*, toggles the form and nothing else, buffer and cursor exactly as before -/
theorem shiftspace_toggles_form {e : Editor D L} {ev : KeyEvent} (hs : e.state = .entering) (hk : ShiftSpaceKey ev)
    (ht : e.shared.options.enableFullwidthToggleKey = true)
    (hlen : e.shared.com.len ≤ e.shared.options.autoCommitThreshold) :
    ∃ e', e.processKey env ev = .ok (e', .absorb) ∧ e'.state = .entering ∧
      e'.shared.options = { e.shared.options with characterForm := flipForm e.shared.options.characterForm } ∧
      e'.shared.com = e.shared.com ∧ e'.shared.commitBuf = [] :=
  ⟨_, shiftspace_key env hs hk ht hlen, rfl, switchCharacterForm_options _, rfl, rfl⟩

theorem applyTrans_options (sh : Shared D L) (st : St) (t : Trans) : (applyTrans sh st t).1.options = sh.options := by
  cases t <;> rfl

/-- **no key in any state changes any option except through the two toggles**: after a key event the
    14 options are exactly as before, or the event was CapsLock and exactly the language mode was
    toggled, or the state was `Entering`, the event Shift-Space, the toggle key enabled, and exactly the
    character form was toggled.  (Typing, selecting, committing, auto-commit, learning: no effect.) -/
theorem options_change_only_by_toggle {e e' : Editor D L} {ev : KeyEvent} {b : KB}
    (h : e.processKey env ev = .ok (e', b)) :
    e'.shared.options = e.shared.options ∨
    (ev.code = KC.unknown ∧ ev.mods.capslock = true ∧
      e'.shared.options = { e.shared.options with languageMode := flipLang e.shared.options.languageMode }) ∨
    (e.state = .entering ∧ ev.code = KC.space ∧ ev.mods.shift = true ∧
      e.shared.options.enableFullwidthToggleKey = true ∧
      e'.shared.options = { e.shared.options with characterForm := flipForm e.shared.options.characterForm }) := by
  obtain ⟨sh, st, hd, _⟩ := processKey_split env h
  rw [(processKey_nth env hd h).2.2]
  -- what the `next` of each of the four states says of the options (`Proofs/EditorModes.lean`); `applyTrans` keeps them
  have hopt : sh.options = e.shared.options ∨
      ((ev.code = KC.unknown ∧ ev.mods.capslock = true) ∧
        sh.options = (Shared.switchLanguageMode (preamble e.shared)).options) ∨
      ((e.state = .entering ∧ ev.code = KC.space ∧ ev.mods.shift = true ∧
          e.shared.options.enableFullwidthToggleKey = true) ∧
        sh.options = (Shared.switchCharacterForm (preamble e.shared)).options) := by
    refine dispatch_all env
      (Q := fun x => x.1.options = e.shared.options ∨ (_ ∧ x.1.options = _) ∨ (_ ∧ x.1.options = _))
      (fun hs sh' t hr => ?_) (fun _ sh' t hr => ?_) (fun s _ r hr => ?_) (fun m _ x hr => ?_) _ hd
    all_goals simp only [applyTrans_options]
    · exact (enteringNext_options env _ ev sh' t hr).imp id (.imp id (.imp (⟨hs, ·⟩) id))
    · exact (enteringSyllableNext_options env _ ev sh' t hr).imp id (.imp id (.imp False.elim id))
    · exact (selectingNext_options env s _ ev r hr).imp id fun h => .inl (h.imp (fun hc => ⟨hc.1, hc.2.1⟩) id)
    · exact (highlightingNext_options env m _ ev x hr).imp id .inl
  rcases hopt with h0 | ⟨hc, h0⟩ | ⟨hc, h0⟩
  · exact .inl h0
  · exact .inr (.inl ⟨hc.1, hc.2, h0.trans (switchLanguageMode_options _)⟩)
  · exact .inr (.inr ⟨hc.1, hc.2.1, hc.2.2.1, hc.2.2.2, h0.trans (switchCharacterForm_options _)⟩)

/-- **Shift-Space toggles the form ONLY while the toggle is enabled**: with the toggle key disabled a
    Shift-Space event leaves every option as it was, in every state -/
theorem shiftspace_disabled {e e' : Editor D L} {ev : KeyEvent} {b : KB} (hk : ShiftSpaceKey ev)
    (ht : e.shared.options.enableFullwidthToggleKey = false)
    (h : e.processKey env ev = .ok (e', b)) : e'.shared.options = e.shared.options := by
  rcases options_change_only_by_toggle env h with h0 | ⟨hc, _⟩ | ⟨_, _, _, hc, _⟩
  · exact h0
  · rw [hk.code] at hc; cases hc
  · rw [ht] at hc; cases hc

/-- outside `Entering` (phonetic keys pending, candidate list open, highlighting) NO key changes the
    character form -/
theorem form_fixed_outside_entering {e e' : Editor D L} {ev : KeyEvent} {b : KB} (hs : e.state ≠ .entering)
    (h : e.processKey env ev = .ok (e', b)) :
    e'.shared.options.characterForm = e.shared.options.characterForm := by
  rcases options_change_only_by_toggle env h with h0 | ⟨_, _, h0⟩ | ⟨hc, _⟩
  · rw [h0]
  · rw [h0]
  · exact absurd hc hs

/-- no key except the CapsLock event changes the language mode -/
theorem lang_fixed_unless_capslock {e e' : Editor D L} {ev : KeyEvent} {b : KB}
    (hk : ¬ (ev.code = KC.unknown ∧ ev.mods.capslock = true))
    (h : e.processKey env ev = .ok (e', b)) :
    e'.shared.options.languageMode = e.shared.options.languageMode := by
  rcases options_change_only_by_toggle env h with h0 | ⟨h1, h2, _⟩ | ⟨_, _, _, _, h0⟩
  · rw [h0]
  · exact absurd ⟨h1, h2⟩ hk
  · rw [h0]

/-- `set_editor_options` (before its final re-validation) changes the options and, when the language changes,
    drops the pending phonetic keys; nothing else of the shared state -/
theorem setOptions_shared (e : Editor D L) (o : Options) :
    ∃ l, (e.setOptions env o).shared = { e.shared with syl := l, options := o } := by
  unfold Editor.setOptions
  rw [leaveIfEmpty_shared]
  dsimp only
  split
  · exact ⟨_, rfl⟩
  · exact ⟨_, rfl⟩

/-- **changing a mode through the configuration interface never alters the buffer**
    (`set_editor_options`: `chewing_set_ChiEngMode`, `chewing_set_ShapeMode`, `chewing_config_set_int`):
    pre-edit buffer, cursor, saved cursors and commit buffer are untouched, whatever the new options -/
theorem setOptions_preserves_buffer (e : Editor D L) (o : Options) :
    (e.setOptions env o).shared.com = e.shared.com ∧ (e.setOptions env o).shared.commitBuf = e.shared.commitBuf ∧
    (e.setOptions env o).shared.options = o := by
  obtain ⟨l, h⟩ := setOptions_shared env e o
  rw [h]
  exact ⟨rfl, rfl, rfl⟩

/-- **mode toggles at every point of a history**: the toggle theorems above quantify over every editor
    value, in particular over the editor reached by ANY history from ANY start; spelled out for
    CapsLock (the invariant `cursor ≤ len` of C05 holds there too) -/
theorem capslock_after_any_history (ops : List (Op L)) (e0 e : Editor D L) {ev : KeyEvent}
    (hi : CursorInv e0.shared.com) (hrun : e0.run env ops = .ok e) (hk : CapsLockKey ev)
    (hlen : e.shared.com.len ≤ e.shared.options.autoCommitThreshold) :
    CursorInv e.shared.com ∧
    ∃ e', e.processKey env ev = .ok (e', .absorb) ∧ e'.state = .entering ∧
      e'.shared.options = { e.shared.options with languageMode := flipLang e.shared.options.languageMode } ∧
      e'.shared.com.inner = e.shared.com.inner := by
  refine ⟨cursor_le_len_editor env ops e0 e hi hrun, ?_⟩
  obtain ⟨e', h1, h2, h3, h4, _⟩ := capslock_toggles_lang env e hk hlen
  exact ⟨e', h1, h2, h3, h4⟩

end Toggles

/-! ## Non-vacuity: the theorems speak about real runs of the model -/

section Examples

def capsEv : KeyEvent := { index := 0, code := KC.unknown, unicode := 65533, mods := { capslock := true } }
def keyA : KeyEvent := { index := 27, code := 27, unicode := 97 }
def keyBang : KeyEvent := { index := 1, code := 1, unicode := 33, mods := { shift := true } }
def shiftSpace : KeyEvent := { index := 48, code := KC.space, unicode := 32, mods := { shift := true } }

example : CapsLockKey capsEv := ⟨rfl, rfl, rfl, rfl⟩
example : AsciiKey keyA := ⟨by decide, by decide, rfl, rfl, by decide⟩
example : AsciiKey keyBang := ⟨by decide, by decide, rfl, rfl, by decide⟩
example : ShiftSpaceKey shiftSpace := ⟨rfl, rfl⟩
example : charOut .full 97 = 65345 ∧ charOut .full 33 = 65281 ∧ charOut .full 32 = 12288 ∧ charOut .half 97 = 97 := by
  decide

/-- CapsLock, then `a` in English mode on the toy environment of C06: `a` is committed verbatim -/
example : (toyEditor.run toyEnv [.key capsEv, .key keyA]).map (fun e => (e.shared.commitBuf, e.shared.options.languageMode))
    = .ok ([97], .english) := by decide

/-- … and after Shift-Space in its full-width form `ａ` -/
example : (toyEditor.run toyEnv [.key capsEv, .key shiftSpace, .key keyA]).map (fun e => e.shared.commitBuf)
    = .ok [65345] := by decide

end Examples

/-! ## "buffer within the threshold" is an invariant of key histories

`capslock_toggles_lang`, `shiftspace_toggles_form` and `eng_key_inserts` assume that the buffer is within
`auto_commit_threshold`; C05's `bounded_after_key` proves the bound after a key under the hypothesis that the
conversion tiles the buffer (C03), which needs a valid composition (C04) and a word for every buffered
syllable — C01's reachable-state invariant `EditorInv`.  Here the chain is closed
(`Proofs/EditorLink.lean`): for every environment satisfying C01's `EnvOK`, `EditorInv` together with
`Bounded` (in state `Entering` the buffer is within the threshold) is an invariant of every key history
(`buffer_bounded_along`), and the three whole-key theorems are restated from it.  In the other states the
bound can be exceeded until the state returns to `Entering` (a syllable typed under the simple engine opens
its candidate list first; fuzzy input inserts while phonetic keys are pending): every transition into
`Entering` is answered *absorb* and runs the auto-commit. -/

section Linked
variable {D L : Type} {env : Env D L} {G : D → Prop} {w : Prop}

/-- in state `Entering` the buffer is within `auto_commit_threshold` -/
def Bounded (e : Editor D L) : Prop :=
  e.state = .entering → e.shared.com.len ≤ e.shared.options.autoCommitThreshold

/-- **C05's bound without the tiling premise** (`C05.bounded_after_key` / `bounded_after_absorb` /
    `bounded_after_key_syllable` in one): for every environment satisfying C01's `EnvOK`, from every state
    satisfying C01's invariant, in any of the four states, a key answered *absorb* or *commit* that ends in
    `Entering` leaves the buffer within the threshold -/
theorem bounded_after_key_linked (hE : C01.EnvOK env G) {e e' : Editor D L} (hi : C01.EditorInv env G w e)
    {ev : KeyEvent} {b : KB} (h : e.processKey env ev = .ok (e', b)) (he : e'.state = .entering)
    (hb : b = .absorb ∨ b = .commit) : e'.shared.com.len ≤ e'.shared.options.autoCommitThreshold :=
  Link.bounded_after_key_linked hE hi h he hb

/-- **C05's `tryAutoCommit_total` without the tiling premise**: at every shared state satisfying C01's invariant
    the auto-commit returns (no underflow, no over-removal, no panic of the engine) and re-establishes the bound -/
theorem tryAutoCommit_total_linked (hE : C01.EnvOK env G) {sh : Shared D L} (h : C01.ShInv env G w sh) :
    ∃ sh2, Shared.tryAutoCommit env sh = .ok sh2 ∧ sh2.com.len ≤ sh2.options.autoCommitThreshold :=
  Link.tryAutoCommit_total_linked hE h

/-- **one key keeps the bound**: every result — *absorb* / *commit* (auto-commit or emptied buffer),
    *ignore* / *bell* (state, buffer and options unchanged) -/
theorem bounded_step (hE : C01.EnvOK env G) {e e' : Editor D L} (hi : C01.EditorInv env G w e) (hB : Bounded e)
    {ev : KeyEvent} {b : KB} (h : e.processKey env ev = .ok (e', b)) : Bounded e' := by
  intro he
  cases b with
  | absorb => exact Link.bounded_after_key_linked hE hi h he (Or.inl rfl)
  | commit => exact Link.bounded_after_key_linked hE hi h he (Or.inr rfl)
  | ignore =>
    obtain ⟨hst, hcom, _, hopt, _⟩ := ignore_persistent env h
    rw [hcom, hopt]
    exact hB (hst ▸ he)
  | bell =>
    obtain ⟨hst, hcom, hopt, _⟩ := bell_persistent env h
    rw [hcom, hopt]
    exact hB (hst ▸ he)

/-- **`len ≤ auto_commit_threshold` (in `Entering`) is an invariant of key histories**, together with C01's
    invariant: every key history runs to the end (no panic, no exhausted fuel) and ends in a state
    satisfying both -/
theorem buffer_bounded_along (hE : C01.EnvOK env G) (keys : List KeyEvent) :
    ∀ e : Editor D L, C01.EditorInv env G w e → Bounded e →
      ∃ e', e.run env (keys.map .key) = .ok e' ∧ C01.EditorInv env G w e' ∧ Bounded e' := by
  induction keys with
  | nil => intro e hi hB; exact ⟨e, rfl, hi, hB⟩
  | cons ev keys ih =>
    intro e hi hB
    obtain ⟨⟨e1, b⟩, hp, hi1⟩ := C01.processKey_ok hE hi ev
    obtain ⟨e2, h2, hi2, hB2⟩ := ih e1 hi1 (bounded_step hE hi hB hp)
    exact ⟨e2, (Editor.folds env).cons_ok.mpr ⟨e1, apply_key_of env hp, h2⟩, hi2, hB2⟩

/-- … in particular from the fresh editor (empty pre-edit) -/
theorem buffer_bounded_fresh (hE : C01.EnvOK env G) (sh : Shared D L) (hg : G sh.dict) (hcom : sh.com = {})
    (hcp : w → sh.options.lookupStrategy = .fuzzyPartialPrefix → C01.engStrategy sh.engine = .fuzzyPartialPrefix)
    (hpp : 0 < sh.options.candidatesPerPage) (hsym : C01.SymWF sh.symSel) (keys : List KeyEvent) :
    ∃ e', ({ shared := sh, state := .entering } : Editor D L).run env (keys.map .key) = .ok e' ∧
      C01.EditorInv env G w e' ∧ Bounded e' :=
  buffer_bounded_along hE keys _ (C01.initial_inv sh hg hcom hcp hpp hsym)
    (fun _ => by show sh.com.len ≤ _; rw [hcom]; exact Nat.zero_le _)

/-- **Caps Lock, restated**: at every state reached in `Entering` along a key history (invariant + bound)
    the whole key event toggles the language mode and nothing else — no premise on the buffer length -/
theorem capslock_toggles_lang_linked {e : Editor D L} (hB : Bounded e) (hs : e.state = .entering) {ev : KeyEvent}
    (hk : CapsLockKey ev) :
    ∃ e', e.processKey env ev = .ok (e', .absorb) ∧ e'.state = .entering ∧
      e'.shared.options = { e.shared.options with languageMode := flipLang e.shared.options.languageMode } ∧
      e'.shared.com = e.shared.com ∧ e'.shared.commitBuf = [] := by
  obtain ⟨e', h1, h2, h3, _, h5, h6⟩ := capslock_toggles_lang env e hk (hB hs)
  exact ⟨e', h1, h2, h3, h6 (fun s hh => by rw [hs] at hh; cases hh), h5⟩

/-- **Shift-Space, restated** -/
theorem shiftspace_toggles_form_linked {e : Editor D L} (hB : Bounded e) (hs : e.state = .entering) {ev : KeyEvent}
    (hk : ShiftSpaceKey ev) (ht : e.shared.options.enableFullwidthToggleKey = true) :
    ∃ e', e.processKey env ev = .ok (e', .absorb) ∧ e'.state = .entering ∧
      e'.shared.options = { e.shared.options with characterForm := flipForm e.shared.options.characterForm } ∧
      e'.shared.com = e.shared.com ∧ e'.shared.commitBuf = [] :=
  shiftspace_toggles_form env hs hk ht (hB hs)

/-- **English mode, non-empty buffer, restated** for states satisfying the invariants: the key is total; its
    state-machine part inserts exactly the one character at the cursor; below the threshold that is all
    (*absorb*, nothing committed); AT the threshold the buffer overflows by one and the auto-commit pushes a
    non-empty leading part out (*commit*), the rest — with the new character — stays in order and fits -/
theorem eng_key_inserts_linked (hE : C01.EnvOK env G) {e : Editor D L} (hi : C01.EditorInv env G w e) (hB : Bounded e)
    {ev : KeyEvent} (hs : e.state = .entering) (hl : e.shared.options.languageMode = .english) (hk : AsciiKey ev)
    (hne : e.shared.com.isEmpty = false) :
    ∃ e' b, e.processKey env ev = .ok (e', b) ∧ e'.state = .entering ∧ e'.shared.options = e.shared.options ∧
      e'.shared.com.len ≤ e'.shared.options.autoCommitThreshold ∧
      ((e.shared.com.len < e.shared.options.autoCommitThreshold ∧ b = .absorb ∧ e'.shared.commitBuf = [] ∧
        InsertedAt e.shared.com e'.shared.com [.chr (charOut e.shared.options.characterForm ev.unicode)]) ∨
       (e.shared.com.len = e.shared.options.autoCommitThreshold ∧ b = .commit ∧
        ∃ sh n, dispatch env e ev = .ok (sh, .entering) ∧
          InsertedAt e.shared.com sh.com [.chr (charOut e.shared.options.characterForm ev.unicode)] ∧ 0 < n ∧
          e'.shared.com.symbols = sh.com.symbols.drop n ∧ e'.shared.com.cursor = sh.com.cursor - n)) := by
  have hcur : CursorInv e.shared.com := hi.sh.ced.cursorInv
  rcases Nat.lt_or_ge e.shared.com.len e.shared.options.autoCommitThreshold with hlt | hge
  · obtain ⟨e', h1, h2, h3, h4, h5⟩ := eng_key_inserts env hs hl hk hne hcur hlt
    refine ⟨e', .absorb, h1, h2, h5, ?_, Or.inl ⟨hlt, rfl, h4, h3⟩⟩
    exact Link.bounded_after_key_linked hE hi h1 h2 (Or.inl rfl)
  · have heq : e.shared.com.len = e.shared.options.autoCommitThreshold := Nat.le_antisymm (hB hs) hge
    obtain ⟨⟨e', b⟩, hp, _⟩ := C01.processKey_ok hE hi ev
    obtain ⟨sh, st, hd, h2⟩ := processKey_split env hp
    obtain ⟨rfl, hlast, hins, _, hopt, _⟩ := eng_key_inserts_dispatch env hs hl hk hne hd
    have hlen : sh.com.len = e.shared.com.len + 1 := insertedAt_len_one hins hcur
    -- one symbol over the limit: the tail of the key is the overflow path
    obtain ⟨hst', ⟨_, _, hq⟩ | ⟨_, _, _, hb, sh2, hac, hsh⟩⟩ := tail_cases env h2
    · have := hq (.inl rfl) hlast
      rw [hopt] at this
      omega
    · obtain ⟨hbd, ho2, n, hsym, hcr⟩ :=
        tryAutoCommit_bound_at env (Link.tilingAt_of_shInv hE (Link.dispatch_shInv hE hi ev hd)) hac
      have hnpos : 0 < n := by
        have : sh2.com.len = sh.com.len - n := by
          show sh2.com.symbols.length = _
          rw [hsym, List.length_drop]
          rfl
        rw [ho2, hopt] at hbd
        omega
      refine ⟨e', b, hp, hst', ?_⟩
      rw [hsh, flush_eq]
      exact ⟨ho2.trans hopt, hbd, .inr ⟨heq, hb, sh, n, hd, hins, hnpos, hsym, hcr⟩⟩

/-! ### non-vacuity: C01's toy environment satisfies `EnvOK`; its fresh editor satisfies both invariants -/

example (keys : List KeyEvent) : ∃ e', (C01.stdEditor [3]).run C01.toyEnv (keys.map .key) = .ok e' ∧
    C01.EditorInv C01.toyEnv (fun _ => True) False e' ∧ Bounded e' :=
  buffer_bounded_along C01.toyEnv_ok keys _ (C01.stdEditor_inv [3]) (fun _ => by decide)

/-- the overflow case of `eng_key_inserts_linked` happens: threshold 1, buffer `[3]` in English mode, key `a` -/
example : ∃ e e', ({ shared := { syl := 0, dict := [3], options := { autoCommitThreshold := 1 } } } : Editor (List Nat) Nat).run
      C01.toyEnv [.key C01.keyJ, .key C01.keyJ, .key capsEv] = .ok e ∧ e.state = .entering ∧
    e.shared.options.languageMode = .english ∧ e.shared.com.len = 1 ∧
    e.processKey C01.toyEnv keyA = .ok (e', .commit) ∧ e'.shared.commitBuf = [3] ∧ e'.shared.com.symbols = [.chr 97] := by
  refine ⟨_, _, rfl, ?_, ?_, ?_, rfl, ?_, ?_⟩ <;> decide

end Linked

/-! ## Changing a mode never alters the text SHOWN

The toggle theorems above (`capslock_toggles_lang`, `shiftspace_toggles_form`, `setOptions_preserves_buffer`) speak
about symbols, gaps and selections.  What the user sees is
`display()`: the reading of the alternative chosen with Tab (`nth_conversion`) among those the engine offers for the
composition.  A mode change that reset `nth_conversion` would keep every symbol and still revert the text shown (and
the text committed next) to the default segmentation.  This section states, for every environment, every editor value
and every mode change — the CapsLock event in each of the four states, the effective Shift-Space event, the
configuration call with any new options — that `nth`, the engine, the dictionary and the composition are untouched, hence
the model's `Shared.display` / `Shared.conversion` (any function of those four) answer the same.  What may change
besides the option: the pending phonetic keys (dropped by CapsLock in `EnteringSyllable` and by a language change
through the setter), an open candidate list (closed by CapsLock, by the setter only if it has no candidates; the saved
cursor returns), the state (`Entering` after a key toggle), the dictionary handle (flushed at the end of a key if an
update was pending).  The FULL statement (`toggle_keeps_display_full`: nothing in the buffer moves, at every editor
value) is refuted on exactly one class — a KEY toggle pressed while the buffer is over `auto_commit_threshold`
(`overEditor`: reachable by lowering the limit; outside `Entering` also by typing): the key's auto-commit pushes the
leading part out; `nth` is untouched even then (`capslock_keeps_nth`, `shiftspace_keeps_nth`). -/

section ToggleText
variable {D L : Type} (env : Env D L)

/-- the conversion engine answers the same before and after the dictionary flush that ends a key event
    (`reopen` + `flush` write pending user phrases out; they do not change what a look-up finds) -/
def FlushKeepsConvert : Prop := ∀ k d c, env.convert k (env.reopenFlush d) c = env.convert k d c

/-- **what `display()` is computed from is as before**: the composition (symbols, gaps, selections), the chosen
    alternative `nth_conversion`, the engine, the dictionary (at most flushed, and only if an update was
    pending); cursor and saved cursors too, except that closing a candidate list returns to the saved cursor -/
structure SameText (e e' : Editor D L) : Prop where
  inner : e'.shared.com.inner = e.shared.com.inner
  nth : e'.shared.nth = e.shared.nth
  engine : e'.shared.engine = e.shared.engine
  dict : e'.shared.dict = e.shared.dict ∨ (0 < e.shared.dirty ∧ e'.shared.dict = env.reopenFlush e.shared.dict)
  cursor : e'.shared.com = e.shared.com ∨ ((∃ s, e.state = .selecting s) ∧ e'.shared.com = e.shared.com.popCursor)

/-- … hence the STRING shown is as before — for ANY function of (engine, dictionary, composition, nth), in
    particular the model's `Shared.display` (= `Editor::display`) and `Shared.conversion` (= `intervals()`) -/
theorem SameText.display {e e' : Editor D L} (h : SameText env e e')
    (hf : e.shared.dirty = 0 ∨ FlushKeepsConvert env) :
    Shared.display env e'.shared = Shared.display env e.shared ∧
    Shared.conversion env e'.shared = Shared.conversion env e.shared := by
  have hc : Shared.conversion env e'.shared = Shared.conversion env e.shared := by
    unfold Shared.conversion
    rw [h.engine, h.inner, h.nth]
    rcases h.dict with hd | ⟨hpos, hd⟩
    · rw [hd]
    · rcases hf with h0 | hf
      · omega
      · rw [hd, hf]
  exact ⟨by unfold Shared.display; rw [hc], hc⟩

/-- **CapsLock never touches the chosen alternative** — the whole key event, every state, every environment,
    whatever the buffer length (the auto-commit of a buffer over the limit leaves `nth_conversion` alone too) -/
theorem capslock_keeps_nth {e e' : Editor D L} {ev : KeyEvent} {b : KB} (hk : CapsLockKey ev)
    (h : e.processKey env ev = .ok (e', b)) : e'.shared.nth = e.shared.nth ∧ e'.shared.engine = e.shared.engine := by
  have ⟨h1, h2, _⟩ := processKey_nth env (dispatch_capslock env e hk) h
  exact ⟨h1, h2⟩

/-- **Caps Lock never alters the text in the buffer** — the whole key event in every state, buffer within the
    limit: total, absorbed, ends in `Entering`, and everything `display()` is computed from is as before -/
theorem capslock_keeps_text (e : Editor D L) {ev : KeyEvent} (hk : CapsLockKey ev)
    (hlen : e.shared.com.len ≤ e.shared.options.autoCommitThreshold) :
    ∃ e', e.processKey env ev = .ok (e', .absorb) ∧ e'.state = .entering ∧ e'.shared.commitBuf = [] ∧
      SameText env e e' := by
  have ⟨hin, hsame, hpop⟩ := afterCaps_com env e
  refine ⟨_, capslock_key env e hk hlen, rfl, rfl, ⟨hin, rfl, rfl, flushed_dict env _ _, ?_⟩⟩
  by_cases hs : ∃ s, e.state = .selecting s
  · exact .inr ⟨hs, hpop hs⟩
  · exact .inl (hsame fun s h => hs ⟨s, h⟩)

/-- **Shift-Space (toggle enabled, `Entering`) never alters the text in the buffer** -/
theorem shiftspace_keeps_text {e : Editor D L} {ev : KeyEvent} (hs : e.state = .entering) (hk : ShiftSpaceKey ev)
    (ht : e.shared.options.enableFullwidthToggleKey = true)
    (hlen : e.shared.com.len ≤ e.shared.options.autoCommitThreshold) :
    ∃ e', e.processKey env ev = .ok (e', .absorb) ∧ e'.state = .entering ∧ e'.shared.commitBuf = [] ∧
      SameText env e e' :=
  ⟨_, shiftspace_key env hs hk ht hlen, rfl, rfl, ⟨rfl, rfl, rfl, flushed_dict env _ _, .inl rfl⟩⟩

/-- **Shift-Space never touches the chosen alternative**, whatever the buffer length -/
theorem shiftspace_keeps_nth {e e' : Editor D L} {ev : KeyEvent} {b : KB} (hs : e.state = .entering)
    (hk : ShiftSpaceKey ev) (ht : e.shared.options.enableFullwidthToggleKey = true)
    (h : e.processKey env ev = .ok (e', b)) : e'.shared.nth = e.shared.nth ∧ e'.shared.engine = e.shared.engine := by
  have ⟨h1, h2, _⟩ := processKey_nth env (shiftspace_dispatch env hs hk ht) h
  exact ⟨h1, h2⟩

/-- `set_editor_options` (before its final re-validation) neither opens nor closes a candidate list -/
theorem setOptions_selecting {e : Editor D L} {o : Options} {s : Selecting}
    (h : (e.setOptions env o).state = .selecting s) : e.state = .selecting s := by
  unfold Editor.setOptions at h
  have h2 := leaveIfEmpty_selecting env _ h
  exact h2

/-- **a mode changed through the configuration interface never alters the text in the buffer**
    (`set_editor_options` including its final `revalidate_selecting`), whatever the new options: composition,
    chosen alternative, engine, dictionary, commit string untouched; the cursor too unless the call closes a
    candidate list that has no candidates -/
theorem setOptions_keeps_text {e e' : Editor D L} {o : Options} (h : e.apply env (.setOptions o) = .ok e') :
    SameText env e e' ∧ e'.shared.commitBuf = e.shared.commitBuf ∧ e'.shared.options = o := by
  have hsel := fun s => setOptions_selecting env (e := e) (o := o) (s := s)
  obtain ⟨l, hx⟩ := setOptions_shared env e o
  have h : Editor.revalidate env (e.setOptions env o) = .ok e' := h
  generalize e.setOptions env o = x at h hx hsel
  obtain ⟨xsh, xst⟩ := x
  subst hx
  rcases revalidate_cases env h with ⟨rfl, _⟩ | ⟨s, tp, _, _, _, _, rfl⟩ | ⟨s, hs, _, rfl⟩
  · exact ⟨⟨rfl, rfl, rfl, .inl rfl, .inl rfl⟩, rfl, rfl⟩
  · exact ⟨⟨rfl, rfl, rfl, .inl rfl, .inl rfl⟩, rfl, rfl⟩
  · exact ⟨⟨C01.popCursor_inner _, rfl, rfl, .inl rfl, .inr ⟨⟨s, hsel s hs⟩, rfl⟩⟩, rfl, rfl⟩

/-- … and the call is total whenever no candidate list is open (with a list open it is as total as the page
    count of that list) -/
theorem setOptions_total (e : Editor D L) (o : Options) (hs : ∀ s, e.state ≠ .selecting s) :
    ∃ e', e.apply env (.setOptions o) = .ok e' := by
  refine ⟨e.setOptions env o, ?_⟩
  show Editor.revalidate env (e.setOptions env o) = _
  apply revalidate_not_selecting
  intro s h
  exact hs s (setOptions_selecting env h)

/-! ### the statement in one piece -/

/-- the events that change a mode -/
inductive ModeChange where
  /-- the CapsLock event, in any state -/
  | capsLock (ev : KeyEvent)
  /-- the Shift-Space event in `Entering` while the toggle key is enabled (disabled, it is an ordinary Space and
      changes no option: `shiftspace_disabled`; in the other states it changes no option either:
      `form_fixed_outside_entering`) -/
  | shiftSpace (ev : KeyEvent)
  /-- `set_editor_options` changing only the two mode fields, to any values -/
  | setModes (lang : LangMode) (form : CharForm)

def ModeChange.op (e : Editor D L) : ModeChange → Op L
  | .capsLock ev => .key ev
  | .shiftSpace ev => .key ev
  | .setModes l f => .setOptions { e.shared.options with languageMode := l, characterForm := f }

def ModeChange.Valid (e : Editor D L) : ModeChange → Prop
  | .capsLock ev => CapsLockKey ev
  | .shiftSpace ev => ShiftSpaceKey ev ∧ e.state = .entering ∧ e.shared.options.enableFullwidthToggleKey = true
  | .setModes _ _ => True

/-- the one class the full statement fails on: a KEY toggle pressed while the buffer is over
    `auto_commit_threshold` (possible after the limit was lowered, and outside `Entering`): the key's auto-commit
    pushes the leading part of the buffer out -/
def ModeChange.Within (e : Editor D L) : ModeChange → Prop
  | .setModes _ _ => True
  | _ => e.shared.com.len ≤ e.shared.options.autoCommitThreshold

/-- the FULL statement: every mode change, at every editor value of every environment, returns and leaves the
    buffer (composition, cursor, saved cursors), the chosen alternative and the text shown exactly as they were -/
def toggle_keeps_display_full : Prop :=
  ∀ (D L : Type) (env : Env D L) (e : Editor D L) (t : ModeChange), t.Valid e →
    ∃ e', e.apply env (t.op e) = .ok e' ∧ e'.shared.com = e.shared.com ∧ e'.shared.nth = e.shared.nth ∧
      Shared.display env e'.shared = Shared.display env e.shared

/-- what holds: for every environment, every editor value and every mode change that returns — always, when no
    list is open or the change is a key — the chosen alternative and the engine are untouched; and unless a key
    toggle meets a buffer over the limit, everything the text shown is computed from (`SameText`) and therefore
    the text shown itself (`Editor::display`, `intervals()`; given that no dictionary update is pending or that
    the flush does not change what the engine answers) are as before, the cursor included unless a candidate
    list is closed (CapsLock; the setter only for a list without candidates), which restores the saved cursor -/
def toggle_keeps_display_stmt : Prop :=
  ∀ (D L : Type) (env : Env D L) (e : Editor D L) (t : ModeChange), t.Valid e →
    (∀ e', e.apply env (t.op e) = .ok e' →
      e'.shared.nth = e.shared.nth ∧ e'.shared.engine = e.shared.engine ∧
      (t.Within e → SameText env e e' ∧
        ((e.shared.dirty = 0 ∨ FlushKeepsConvert env) →
          Shared.display env e'.shared = Shared.display env e.shared ∧
          Shared.conversion env e'.shared = Shared.conversion env e.shared))) ∧
    (t.Within e → (∀ s, e.state ≠ .selecting s) → ∃ e', e.apply env (t.op e) = .ok e')

theorem toggle_keeps_display_partial : toggle_keeps_display_stmt := by
  intro D L env e t hv
  -- whatever the length: `nth` and the engine; within the limit: `SameText` of every result, and there is one
  have hn : ∀ e', e.apply env (t.op e) = .ok e' → e'.shared.nth = e.shared.nth ∧ e'.shared.engine = e.shared.engine := by
    intro e' h
    cases t with
    | capsLock ev => exact let ⟨_, hp⟩ := apply_key env h; capslock_keeps_nth env hv hp
    | shiftSpace ev => exact let ⟨_, hp⟩ := apply_key env h; shiftspace_keeps_nth env hv.2.1 hv.1 hv.2.2 hp
    | setModes l f => exact let ⟨hst, _⟩ := setOptions_keeps_text env h; ⟨hst.nth, hst.engine⟩
  have ht : t.Within e → (∀ e', e.apply env (t.op e) = .ok e' → SameText env e e') ∧
      ((∀ s, e.state ≠ .selecting s) → ∃ e', e.apply env (t.op e) = .ok e') := by
    intro hw
    -- a key that returns `e2` with `SameText`
    have key : ∀ {ev e2 b}, e.processKey env ev = .ok (e2, b) → SameText env e e2 →
        (∀ e', e.apply env (.key ev) = .ok e' → SameText env e e') ∧
        ((∀ s, e.state ≠ .selecting s) → ∃ e', e.apply env (.key ev) = .ok e') := fun h1 hst =>
      ⟨fun e' h => by cases (apply_key_of env h1).symm.trans h; exact hst, fun _ => ⟨_, apply_key_of env h1⟩⟩
    cases t with
    | capsLock ev => exact let ⟨_, h1, _, _, hst⟩ := capslock_keeps_text env e hv hw; key h1 hst
    | shiftSpace ev => exact let ⟨_, h1, _, _, hst⟩ := shiftspace_keeps_text env hv.2.1 hv.1 hv.2.2 hw; key h1 hst
    | setModes l f => exact ⟨fun e' h => (setOptions_keeps_text env h).1, setOptions_total env e _⟩
  exact ⟨fun e' h => ⟨(hn e' h).1, (hn e' h).2, fun hw => ⟨(ht hw).1 e' h, ((ht hw).1 e' h).display env⟩⟩,
    fun hw => (ht hw).2⟩

/-! ### the full statement fails, exactly on the excluded class -/

/-- a REACHABLE editor with the buffer over the limit: two syllables typed, then `auto_commit_threshold` lowered to 1
    through the configuration interface (which does not auto-commit) -/
def overEditor : Editor (List Nat) Nat :=
  match (C01.stdEditor [3]).run C01.toyEnv
      [.key C01.keyJ, .key C01.keyJ, .key C01.keyJ, .key C01.keyJ, .setOptions { autoCommitThreshold := 1 }] with
  | .ok e => e
  | _ => C01.stdEditor [3]

/-- CapsLock there: the key's auto-commit pushes the first character out (commit string `[3]`), one symbol stays;
    the language mode is toggled and `nth` untouched all the same -/
theorem overEditor_capslock :
    (overEditor.apply C01.toyEnv (.key capsEv)).map
      (fun e => (e.shared.com.symbols.length, e.shared.commitBuf, e.shared.options.languageMode, e.shared.nth)) =
      .ok (1, [3], .english, 0) ∧ overEditor.shared.com.symbols.length = 2 := by decide

theorem toggle_keeps_display_refuted : ¬ toggle_keeps_display_full := by
  intro h
  obtain ⟨e', h1, h2, _⟩ := h (List Nat) Nat C01.toyEnv overEditor (.capsLock capsEv) ⟨rfl, rfl, rfl, rfl⟩
  have h3 := overEditor_capslock.1
  have h1 : overEditor.apply C01.toyEnv (.key capsEv) = .ok e' := h1
  rw [h1] at h3
  have h4 : e'.shared.com.symbols.length = 1 := by
    injection h3 with h3
    exact congrArg Prod.fst h3
  rw [h2, overEditor_capslock.2] at h4
  cases h4

/-! ### non-vacuity: a state whose chosen alternative is not the default one and READS differently -/

/-- an environment whose engine offers two alternatives that read differently (`[65, 66]` / `[67, 68]`) -/
def twoEnv : Env (List Nat) Nat :=
  { C01.toyEnv with convert := fun _ _ _ => .ok [[⟨0, 2, true, [65, 66]⟩], [⟨0, 2, true, [67, 68]⟩]] }

/-- two syllables in the buffer, the second alternative chosen (Tab at the end of the buffer) -/
def nthEditor : Editor (List Nat) Nat :=
  match (C01.stdEditor [3]).run twoEnv
      [.key C01.keyJ, .key C01.keyJ, .key C01.keyJ, .key C01.keyJ, .key { index := 53, code := KC.tab, unicode := 65533 }] with
  | .ok e => e
  | _ => C01.stdEditor [3]

/-- it shows the second alternative, not the first; CapsLock, Shift-Space and the setter (either / both modes)
    leave `nth = 1` and that text on display, while toggling the mode -/
example : nthEditor.shared.nth = 1 ∧ Shared.display twoEnv nthEditor.shared = .ok [67, 68] ∧
    Shared.display twoEnv { nthEditor.shared with nth := 0 } = .ok [65, 66] ∧
    (nthEditor.apply twoEnv (.key capsEv)).map
      (fun e => (e.shared.nth, Shared.display twoEnv e.shared, e.shared.options.languageMode)) = .ok (1, .ok [67, 68], .english) ∧
    (nthEditor.apply twoEnv (.key shiftSpace)).map
      (fun e => (e.shared.nth, Shared.display twoEnv e.shared, e.shared.options.characterForm)) = .ok (1, .ok [67, 68], .full) ∧
    (nthEditor.apply twoEnv ((ModeChange.setModes .english .full).op nthEditor)).map
      (fun e => (e.shared.nth, Shared.display twoEnv e.shared, e.shared.options.languageMode, e.shared.options.characterForm)) =
      .ok (1, .ok [67, 68], .english, .full) := by decide

example : (ModeChange.capsLock capsEv).Valid nthEditor ∧ (ModeChange.capsLock capsEv).Within nthEditor ∧
    (ModeChange.shiftSpace shiftSpace).Valid nthEditor ∧ (ModeChange.shiftSpace shiftSpace).Within nthEditor ∧
    nthEditor.shared.dirty = 0 :=
  ⟨⟨rfl, rfl, rfl, rfl⟩, by show nthEditor.shared.com.len ≤ nthEditor.shared.options.autoCommitThreshold; decide,
   ⟨⟨rfl, rfl⟩, by decide, by decide⟩,
   by show nthEditor.shared.com.len ≤ nthEditor.shared.options.autoCommitThreshold; decide, by decide⟩

/-- the theorem applied to that state -/
example : ∃ e', nthEditor.apply twoEnv (.key capsEv) = .ok e' ∧ e'.shared.nth = 1 ∧
    Shared.display twoEnv e'.shared = .ok [67, 68] := by
  obtain ⟨e', h1, _, _, hst⟩ := capslock_keeps_text twoEnv nthEditor (ev := capsEv) ⟨rfl, rfl, rfl, rfl⟩ (by decide)
  refine ⟨e', apply_key_of twoEnv h1, by rw [hst.nth]; decide, ?_⟩
  rw [(hst.display twoEnv (.inl (by decide))).1]
  decide

end ToggleText
end Chewing.C18
