import Chewing.Proofs.EditorCommitHistory
import Chewing.Props.C06
import Chewing.Props.C03
import Chewing.Proofs.EditorLink
/-!
# C02 — What is committed is exactly what was displayed; no text is lost or invented

Model: `Chewing.Model.Editor` (validated per step against the real editor, harness `editor`).  All
theorems hold for EVERY environment `env` (dictionary, phonetic layout, conversion engine,
estimator).  Where characters have to be counted the hypothesis on the engine is explicit:
`ConvTiles env` (every alternative `env.convert` returns tiles the buffer with one character per
symbol — C03's theorem about the real engines), or the weaker `ConvHeadText env`.

Reading.

* *The pre-edit string shown immediately before* is `Shared.display env e.shared` of the editor state
  the key / call arrives in: the concatenated texts of alternative `nth` of the conversion of the
  composition, computed with the dictionary AS IT IS BEFORE the step (auto-learning runs between the
  conversion and the moment the commit buffer is filled; it changes the dictionary and nothing else —
  `learning_touches_dictionary_only`; the conversion is not recomputed afterwards).
* Rust panics and exhausted fuel of `env.convert` and of the dictionary propagate: every statement is
  conditional on the step returning `.ok`.
* *Leading part of the conversion of the full buffer*: the conversion at the moment the overflow is
  detected, i.e. of the buffer INCLUDING what the key just inserted, same `nth`, same dictionary.
  The buffer that remains is converted afresh afterwards and may be segmented differently; the
  property (and the theorems) speak about symbols and committed text, not about the new display.
* *Exactly when the key result says commit*: `commit_string_iff_result` is about key events
  (`process_keyevent` resets the commit buffer first).  The API calls do not reset it; what each of them
  does to the buffer is stated separately (`api_*`).
* *No text is lost or invented* over whole histories (section 5): every public operation is split into
  its editing part and its commit path (`editPart`, `emitted`, `accepted`); `step_accounts` says there are
  exactly three shapes of a step, `emitted_was_displayed` that emitted text is a leading part of the
  display of the edited buffer (or one directly committed key), `history_ledger` that over any operation
  list the characters of all commit strings plus the final pre-edit account for every accepted character.
* The tiling hypothesis is needed only AT the states where a commit path runs (`TilesAt`);
  `tilesAt_of_C03` derives it from C03's theorems with exactly C03's hypotheses (`CompValid`,
  `WellFormed`, `HasWord` under the engine's strategy).  That editor histories reach only `CompValid`
  compositions with a word for every buffered syllable is C01's invariant `EditorInv`; the section
  "linked" at the end connects the two: `history_ledger_linked` has no tiling premise.
-/
namespace Chewing.C02
open Chewing.C06

variable {D L : Type} (env : Env D L)

/-! ## 0. learning is a frame for display -/

/-- **frame**: auto-learning changes the dictionary (and its dirty counter) only — never the
    composition, the chosen alternative, the engine, the options or the per-key buffers -/
theorem learning_touches_dictionary_only {sh sh' : Shared D L} {ivs : List Interval}
    (h : Shared.autoLearn env sh ivs = .ok sh') :
    sh'.com = sh.com ∧ sh'.nth = sh.nth ∧ sh'.engine = sh.engine ∧ sh'.options = sh.options ∧
    sh'.syl = sh.syl ∧ sh'.commitBuf = sh.commitBuf ∧ sh'.noticeBuf = sh.noticeBuf ∧ sh'.last = sh.last ∧
    sh'.time = sh.time ∧ sh'.abbr = sh.abbr ∧ sh'.symSel = sh.symSel :=
  (autoLearn_frame env sh ivs _ h).fields

/-- the same for one `learn_phrase` call (also the API `Editor::learn_phrase`) -/
theorem learnPhrase_touches_dictionary_only {sh sh' : Shared D L} {k : List Nat} {p : Text} {r : Bool}
    (h : Shared.learnPhrase env sh k p = .ok (sh', r)) :
    sh'.com = sh.com ∧ sh'.nth = sh.nth ∧ sh'.engine = sh.engine ∧ sh'.options = sh.options ∧
    sh'.syl = sh.syl ∧ sh'.commitBuf = sh.commitBuf ∧ sh'.noticeBuf = sh.noticeBuf ∧ sh'.last = sh.last ∧
    sh'.time = sh.time ∧ sh'.abbr = sh.abbr ∧ sh'.symSel = sh.symSel :=
  (LearnFrame.fields (learnPhrase_frame env sh k p _ h))

/-! ## 1. committing the whole pre-edit: commit string = display, buffer empty -/

/-- the pre-edit string is the text of the shown conversion, cut at any interval -/
theorem display_split {sh : Shared D L} {ivs : List Interval} (hc : Shared.conversion env sh = .ok ivs) (k : Nat) :
    Shared.display env sh = .ok (textOf (ivs.take k) ++ textOf (ivs.drop k)) := by
  unfold Shared.display
  rw [hc]
  simp only [Outcome.map, textOf, ← List.flatMap_append, List.take_append_drop]

/-- `SharedState::commit` (the Enter arm and the API both call it): the commit buffer is the display
    of the state it was called with; the pre-edit becomes empty (no symbols, no gaps, no selections,
    cursor 0), the alternative counter is reset, the result is *commit*; engine, options, phonetic
    buffer are untouched -/
theorem shared_commit_equals_display {sh sh' : Shared D L} (h : Shared.commit env sh = .ok sh') :
    Shared.display env sh = .ok sh'.commitBuf ∧
    sh'.com.symbols = [] ∧ sh'.com.inner = {} ∧ sh'.com.cursor = 0 ∧ sh'.com.isEmpty = true ∧
    sh'.nth = 0 ∧ sh'.last = .commit ∧
    sh'.engine = sh.engine ∧ sh'.options = sh.options ∧ sh'.syl = sh.syl ∧ sh'.noticeBuf = sh.noticeBuf := by
  obtain ⟨ivs, sh1, hc, hf, rfl⟩ := commit_spec env h
  obtain ⟨_, _, f3, f4, f5, _, f7, _⟩ := hf.fields
  refine ⟨?_, rfl, rfl, rfl, rfl, rfl, rfl, f3, f4, f5, f7⟩
  unfold Shared.display
  rw [hc]; rfl

/-- **which events reach the Enter arm**: in state `Entering`, every event whose key code is Enter — with
    any modifiers, any key index, any character — is ignored when the pre-edit is empty and runs
    `shared.commit()` otherwise -/
theorem enter_arm (sh : Shared D L) {ev : KeyEvent} (hk : ev.code = KC.enter) :
    enteringNext env sh ev = if sh.com.isEmpty then .ok (sh, .spin .ignore) else enteringEnter env sh :=
  enter_arm_aux env sh hk

/-- … and no other key commits a non-empty pre-edit as a whole: if a key reports *commit* from the
    state machine itself (not through the overflow path) while the pre-edit is non-empty, it is Enter
    and the step is `shared.commit()` -/
theorem whole_commit_only_by_enter {sh sh' : Shared D L} {ev : KeyEvent}
    (h : enteringNext env sh ev = .ok (sh', .spin .commit)) (hne : sh.com.isEmpty = false) :
    ev.code = KC.enter ∧ Shared.commit env sh = .ok sh' := by
  rcases cshape_enteringNext env sh ev sh' _ h with ⟨hn, _⟩ | ⟨_, ⟨he, _⟩ | hw⟩
  · exact absurd rfl hn
  · rw [hne] at he; cases he
  · exact hw

/-- **C02, whole-buffer commit by key.**  State `Entering`, non-empty pre-edit, key Enter (any
    modifiers): if the step returns at all it reports *commit*, the commit string is exactly the
    pre-edit string displayed immediately before (`display` of the state the key arrived in: same
    composition, same `nth`, dictionary before learning), and the pre-edit is empty afterwards. -/
theorem commit_equals_display {e e' : Editor D L} {ev : KeyEvent} {b : KB}
    (hs : e.state = .entering) (hne : e.shared.com.isEmpty = false) (hk : ev.code = KC.enter)
    (h : e.processKey env ev = .ok (e', b)) :
    b = .commit ∧ Shared.display env e.shared = .ok e'.shared.commitBuf ∧
    e'.shared.com.symbols = [] ∧ e'.shared.com.cursor = 0 ∧ e'.shared.com.inner = {} ∧
    e'.state = .entering ∧ e'.shared.nth = 0 := by
  obtain ⟨sh, st, hd, ht⟩ := C05.processKey_split env h
  -- the state machine part is `shared.commit()`, answered *commit*
  obtain ⟨rfl, sh1, hc, rfl⟩ := C05.dispatch_entering_all env hs (Q := fun sh st => st = .entering ∧
      ∃ sh1, Shared.commit env (preamble e.shared) = .ok sh1 ∧ sh = { sh1 with last := .commit })
    (by rw [enter_arm env _ hk, if_neg (by rw [show (preamble e.shared).com.isEmpty = false from hne]; decide)]
        exact enteringEnter_all env fun sh1 h1 => ⟨rfl, sh1, h1, rfl⟩) hd
  obtain ⟨hdis, hsym, hin, hcur, _, hnth, _⟩ := shared_commit_equals_display env hc
  rw [display_preamble] at hdis
  -- … which the auto-commit does not follow
  obtain ⟨hst, ⟨hsh, rfl, _⟩ | ⟨_, hab, _⟩⟩ := tail_cases env ht
  · rw [hsh, flush_eq]
    exact ⟨rfl, hdis, hsym, hcur, hin, hst, hnth⟩
  · cases hab

/-- **C02, whole-buffer commit by call** (`Editor::commit` = `chewing_commit_preedit_buf`): the call
    succeeds exactly in state `Entering` with a non-empty pre-edit; then the commit string is the
    pre-edit string displayed immediately before and the pre-edit is empty; when it fails nothing
    changes -/
theorem commit_equals_display_api {e e' : Editor D L} {r : Bool} (h : e.commit env = .ok (e', r)) :
    (r = true ↔ (e.state = .entering ∧ e.shared.com.isEmpty = false)) ∧
    (r = false → e' = e) ∧
    (r = true → Shared.display env e.shared = .ok e'.shared.commitBuf ∧
      e'.shared.com.symbols = [] ∧ e'.shared.com.cursor = 0 ∧ e'.shared.com.inner = {} ∧
      e'.state = .entering ∧ e'.shared.nth = 0 ∧ e'.shared.last = .commit) := by
  refine commit_api_all env (Q := fun x =>
      (x.2 = true ↔ (e.state = .entering ∧ e.shared.com.isEmpty = false)) ∧ (x.2 = false → x.1 = e) ∧
      (x.2 = true → Shared.display env e.shared = .ok x.1.shared.commitBuf ∧
        x.1.shared.com.symbols = [] ∧ x.1.shared.com.cursor = 0 ∧ x.1.shared.com.inner = {} ∧
        x.1.state = .entering ∧ x.1.shared.nth = 0 ∧ x.1.shared.last = .commit))
    (fun hn => ⟨⟨nofun, fun c => absurd c hn⟩, fun _ => rfl, nofun⟩) (fun sh hst hne hq => ?_) _ h
  obtain ⟨hd, hsym, hin, hcur, _, hnth, hlast, _⟩ := shared_commit_equals_display env hq
  exact ⟨⟨fun _ => ⟨hst, hne⟩, fun _ => rfl⟩, nofun, fun _ => ⟨hd, hsym, hcur, hin, hst, hnth, hlast⟩⟩

/-! ## 2. overflow: the auto-commit pushes out a least leading part of the conversion -/

/-- **the loop of `try_auto_commit`, characterised by induction over the interval list**: it returns
    the concatenated texts and the summed lengths of the first `k` intervals, `k` being the least
    number of leading intervals whose removal brings the length to `≤ threshold`, or all of them -/
theorem auto_commit_take (len thr : Nat) (ivs : List Interval) (buf' : Text) (remove' : Nat) (hpre : thr < len)
    (h : Shared.autoCommitTake len thr ivs [] 0 = .ok (buf', remove')) :
    ∃ k, k ≤ ivs.length ∧ (ivs = [] ∨ 0 < k) ∧
      buf' = textOf (ivs.take k) ∧ remove' = sumLen (ivs.take k) ∧ remove' ≤ len ∧
      (∀ j, j < k → thr < len - sumLen (ivs.take j)) ∧
      (k = ivs.length ∨ len - remove' ≤ thr) := by
  obtain ⟨k, h1, h2, h3, h4, h5, h6, h7, _⟩ := autoCommitTake_spec len thr ivs [] 0 buf' remove' (by omega) h
  simp only [List.nil_append, Nat.zero_add] at h3 h4 h6
  exact ⟨k, h1, h2, h3, h4, h5, h6, h7⟩

/-- **C02, overflow.**  When the buffer exceeds the threshold, `try_auto_commit` commits the texts of the
    first `k` intervals of the conversion of the FULL buffer (in order), `k` least such that the rest
    fits (or all intervals); exactly the symbols those intervals cover are removed from the front,
    the rest keeps its order; the result is *commit*; dictionary, engine, `nth`, options are untouched -/
theorem auto_commit_prefix {sh sh' : Shared D L} (h : Shared.tryAutoCommit env sh = .ok sh')
    (hlen : sh.options.autoCommitThreshold < sh.com.len) :
    ∃ ivs k, Shared.conversion env sh = .ok ivs ∧ k ≤ ivs.length ∧ (ivs = [] ∨ 0 < k) ∧
      sh'.commitBuf = textOf (ivs.take k) ∧
      sumLen (ivs.take k) ≤ sh.com.len ∧
      sh'.com.symbols = sh.com.symbols.drop (sumLen (ivs.take k)) ∧
      sh'.com.cursor = sh.com.cursor - sumLen (ivs.take k) ∧
      (∀ j, j < k → sh.options.autoCommitThreshold < sh.com.len - sumLen (ivs.take j)) ∧
      (k = ivs.length ∨ sh.com.len - sumLen (ivs.take k) ≤ sh.options.autoCommitThreshold) ∧
      sh'.last = .commit ∧ sh'.nth = sh.nth ∧ sh'.dict = sh.dict ∧ sh'.engine = sh.engine ∧
      sh'.options = sh.options :=
  shape_of_overflow env h hlen

/-- the committed text is a leading part of what `display` would have shown for the full buffer -/
theorem auto_commit_prefix_of_display {sh sh' : Shared D L} (h : Shared.tryAutoCommit env sh = .ok sh')
    (hlen : sh.options.autoCommitThreshold < sh.com.len) :
    ∃ rest, Shared.display env sh = .ok (sh'.commitBuf ++ rest) := by
  obtain ⟨ivs, k, hc, _, _, hb, _⟩ := auto_commit_prefix env h hlen
  exact ⟨textOf (ivs.drop k), hb ▸ display_split env hc k⟩

/-- under the tiling hypothesis AT THE OVERFLOWING STATE (what C03 proves for a valid composition and a
    well-formed dictionary, `tilesAt_of_C03`): **characters committed + characters remaining = characters
    before** (the buffer including what was just typed), the committed text is non-empty, and the
    remaining buffer fits the threshold -/
theorem auto_commit_conserves_at {sh sh' : Shared D L} (hT : TilesAt env sh)
    (h : Shared.tryAutoCommit env sh = .ok sh') (hlen : sh.options.autoCommitThreshold < sh.com.len) :
    sh'.commitBuf.length + sh'.com.len = sh.com.len ∧ sh'.commitBuf ≠ [] ∧
    sh'.com.len ≤ sh.options.autoCommitThreshold := by
  obtain ⟨ivs, k, hc, hk, hpos, hb, hle, hsym, _, _, hfin, _⟩ := auto_commit_prefix env h hlen
  have ht : Tiles 0 sh.com.len ivs := hT.conversion env hc
  have t1 := (ht.take k).1
  have hrem : sh'.com.len = sh.com.len - sumLen (ivs.take k) := by
    show sh'.com.symbols.length = _
    rw [hsym, List.length_drop]
    rfl
  have hlpos : 0 < sh.com.len := Nat.lt_of_le_of_lt (Nat.zero_le _) hlen
  have hkpos : 0 < k := hpos.elim (fun h0 => by subst h0; exact absurd (show 0 = sh.com.len from ht) (Nat.ne_of_lt hlpos)) id
  rw [hb, t1, hrem]
  refine ⟨Nat.add_sub_cancel' hle, ht.take_text_ne hlpos hkpos, ?_⟩
  rcases hfin with rfl | hfin
  · have := ht.total.1
    rw [List.take_length]
    omega
  · exact hfin

/-- the same for an engine that tiles every composition -/
theorem auto_commit_conserves (hT : ConvTiles env) {sh sh' : Shared D L}
    (h : Shared.tryAutoCommit env sh = .ok sh') (hlen : sh.options.autoCommitThreshold < sh.com.len) :
    sh'.commitBuf.length + sh'.com.len = sh.com.len ∧ sh'.commitBuf ≠ [] ∧
    sh'.com.len ≤ sh.options.autoCommitThreshold :=
  auto_commit_conserves_at env (hT.tilesAt env sh) h hlen

/-- **bounded_after_autocommit**: whatever the length was, after `try_auto_commit` the buffer fits the
    threshold (with a tiling engine) -/
theorem bounded_after_autocommit (hT : ConvTiles env) {sh sh' : Shared D L}
    (h : Shared.tryAutoCommit env sh = .ok sh') : sh'.com.len ≤ sh.options.autoCommitThreshold := by
  by_cases hlen : sh.com.len ≤ sh.options.autoCommitThreshold
  · rw [tryAutoCommit_noop env hlen] at h
    cases h; exact hlen
  · exact (auto_commit_conserves env hT h (by omega)).2.2

/-! ## 3. a commit string is available exactly when the key result says *commit* -/

/-- weakest hypothesis on the engine for "a commit carries text": the first interval of every
    alternative for a non-empty composition has non-empty text -/
def ConvHeadText (env : Env D L) : Prop :=
  ∀ (k : EngineKind) (d : D) (c : Composition) (paths : List (List Interval)),
    env.convert k d c = .ok paths → c.symbols ≠ [] → ∀ p ∈ paths, ∃ iv rest, p = iv :: rest ∧ iv.text ≠ []

theorem ConvTiles.headText (hT : ConvTiles env) : ConvHeadText env := by
  intro k d c paths hp hne p hmem
  have ht := hT k d c paths hp p hmem
  have hpos : 0 < c.symbols.length := List.length_pos_iff.mpr hne
  cases p with
  | nil => exact absurd ht (Nat.ne_of_lt hpos)
  | cons iv rest =>
    exact ⟨iv, rest, rfl, fun hc => ht.take_text_ne hpos (k := 1) Nat.one_pos (by simp [textOf, hc])⟩

/-- **every key step, classified by how it commits.**  (N) not *commit*, commit buffer empty;
    (S) *commit* of one character — the key's own, its full-width form, or a space (`DirectChar`) — pre-edit
    empty before and after (English / full-width direct commit, symbols in Chinese mode); (W) *commit* of the whole pre-edit by
    Enter; (A) *commit* by overflow after the key itself was absorbed. -/
theorem key_step_cases {e e' : Editor D L} {ev : KeyEvent} {b : KB} (h : e.processKey env ev = .ok (e', b)) :
    ∃ sh st, dispatch env e ev = .ok (sh, st) ∧ e'.state = st ∧
      ((b ≠ .commit ∧ sh.last = b ∧ sh.commitBuf = [] ∧ e'.shared = flush env sh) ∨
       (b = .commit ∧ e.state = .entering ∧ e.shared.com.isEmpty = true ∧ e'.shared.com = e.shared.com ∧
          ∃ ch, DirectChar ev ch ∧ e'.shared.commitBuf = [ch]) ∨
       (b = .commit ∧ e.state = .entering ∧ ev.code = KC.enter ∧ e.shared.com.isEmpty = false ∧
          Shared.commit env (preamble e.shared) = .ok sh ∧ e'.shared = flush env sh) ∨
       (b = .commit ∧ (st = .entering ∨ st = .enteringSyllable) ∧ sh.last = .absorb ∧ sh.commitBuf = [] ∧
          sh.options.autoCommitThreshold < sh.com.len ∧
          ∃ sh2, Shared.tryAutoCommit env sh = .ok sh2 ∧ e'.shared = flush env sh2)) := by
  obtain ⟨sh, st, hd, hst, hN | ⟨hb, _, hs, _, he, hcom, ⟨ch, hq, hch⟩, hsh⟩ | ⟨hb, hs, _, hW⟩ | hA⟩ := key_cases env h
  · exact ⟨sh, st, hd, hst, .inl hN⟩
  · refine ⟨sh, st, hd, hst, .inr (.inl ⟨hb, hs, he, ?_, ch, hq, ?_⟩)⟩ <;> rw [hsh, flush, flush_eq]
    · exact hcom
    · exact hch
  · exact ⟨sh, st, hd, hst, .inr (.inr (.inl ⟨hb, hs, hW⟩))⟩
  · exact ⟨sh, st, hd, hst, .inr (.inr (.inr hA))⟩

/-- **no_phantom_commit**: for every state and key, a result other than *commit* leaves the commit
    buffer empty (the buffer is written only on paths that report *commit*) — for every environment -/
theorem no_phantom_commit {e e' : Editor D L} {ev : KeyEvent} {b : KB}
    (h : e.processKey env ev = .ok (e', b)) (hb : b ≠ .commit) : e'.shared.commitBuf = [] := by
  obtain ⟨sh, st, _, _, hcase⟩ := key_step_cases env h
  rcases hcase with ⟨_, _, hbuf, hsh⟩ | ⟨c, _⟩ | ⟨c, _⟩ | ⟨c, _⟩
  · rw [hsh, flush, flush_eq]; exact hbuf
  all_goals exact absurd c hb

/-- with such an engine, a leading part of the conversion of a non-empty buffer that is not the empty part carries text -/
theorem ConvHeadText.take_ne (hH : ConvHeadText env) {s : Shared D L} {ivs : List Interval} {k : Nat}
    (hc : Shared.conversion env s = .ok ivs) (hne : s.com.len ≠ 0) (hk : ivs = [] ∨ 0 < k) : textOf (ivs.take k) ≠ [] := by
  obtain ⟨_, hp, hmem⟩ := conversion_mem env hc
  obtain ⟨iv, rest, rfl, htx⟩ := hH _ _ _ _ hp (fun c => hne (congrArg List.length c)) _ hmem
  obtain ⟨k, rfl⟩ := Nat.exists_eq_succ_of_ne_zero (Nat.ne_of_gt (hk.resolve_left (List.cons_ne_nil _ _)))
  exact List.append_ne_nil_of_left_ne_nil htx _

/-- **commit_has_text**: *commit* ⇒ the commit string is non-empty.  The single-character arms
    (`commitOrInsert`, Space with an empty pre-edit) need no hypothesis; the Enter arm and the overflow
    path need `ConvHeadText env` (implied by `ConvTiles env`): an engine answering with empty texts would
    make Enter report *commit* with an empty string. -/
theorem commit_has_text (hH : ConvHeadText env) {e e' : Editor D L} {ev : KeyEvent}
    (h : e.processKey env ev = .ok (e', .commit)) : e'.shared.commitBuf ≠ [] := by
  obtain ⟨sh, st, _, _, hcase⟩ := key_step_cases env h
  rcases hcase with ⟨c, _⟩ | ⟨_, _, _, _, ch, _, hch⟩ | ⟨_, _, _, hne, hcm, hsh⟩ | ⟨_, _, _, _, hlt, sh2, hac, hsh⟩
  · exact absurd rfl c
  · rw [hch]
    exact List.cons_ne_nil _ _
  -- both commit paths push out a leading part of the conversion of a non-empty buffer
  · rw [hsh, flush, flush_eq]
    obtain ⟨ivs, k, hc, _, hpos, hb, _⟩ := shape_of_commit env hcm
    exact hb ▸ hH.take_ne env hc (fun c => nomatch hne.symm.trans (beq_iff_eq.mpr c)) hpos
  · rw [hsh, flush, flush_eq]
    obtain ⟨ivs, k, hc, _, hpos, hb, _⟩ := auto_commit_prefix env hac hlt
    exact hb ▸ hH.take_ne env hc (by omega) hpos

/-- **C02, third sentence.**  After a key event a non-empty commit string is available exactly when the
    key result says *commit* -/
theorem commit_string_iff_result (hH : ConvHeadText env) {e e' : Editor D L} {ev : KeyEvent} {b : KB}
    (h : e.processKey env ev = .ok (e', b)) : e'.shared.commitBuf ≠ [] ↔ b = .commit :=
  ⟨fun hne => Decidable.byContradiction fun hb => hne (no_phantom_commit env h hb),
   fun hb => by subst hb; exact commit_has_text env hH h⟩

/-- **C02 for a key that overflows the buffer**, in one statement: the key itself was absorbed by the
    state machine leaving a buffer `sh` longer than the threshold; the commit string is a leading part
    of the display of that full buffer, the symbols it covers are removed from the front; with a
    tiling engine, characters committed + characters remaining = characters of the full buffer and
    the rest fits the threshold -/
theorem key_auto_commit (hT : ConvTiles env) {e e' : Editor D L} {ev : KeyEvent}
    (h : e.processKey env ev = .ok (e', .commit))
    (hnw : ¬ (e.state = .entering ∧ ev.code = KC.enter)) (hne : e.shared.com.isEmpty = false) :
    ∃ sh st, dispatch env e ev = .ok (sh, st) ∧ (st = .entering ∨ st = .enteringSyllable) ∧ sh.last = .absorb ∧
      sh.options.autoCommitThreshold < sh.com.len ∧
      (∃ rest, Shared.display env sh = .ok (e'.shared.commitBuf ++ rest)) ∧
      (∃ n, n ≤ sh.com.len ∧ e'.shared.com.symbols = sh.com.symbols.drop n ∧
        e'.shared.commitBuf.length = n) ∧
      e'.shared.commitBuf.length + e'.shared.com.len = sh.com.len ∧
      e'.shared.com.len ≤ sh.options.autoCommitThreshold := by
  obtain ⟨sh, st, hd, _, hcase⟩ := key_step_cases env h
  rcases hcase with ⟨c, _⟩ | ⟨_, _, he, _⟩ | ⟨_, hs, hk, _⟩ | ⟨_, hst, hl, _, hlt, sh2, hac, hsh⟩
  · exact absurd rfl c
  · rw [he] at hne; cases hne
  · exact absurd ⟨hs, hk⟩ hnw
  · obtain ⟨c1, _, c3⟩ := auto_commit_conserves env hT hac hlt
    obtain ⟨rest, hr⟩ := auto_commit_prefix_of_display env hac hlt
    obtain ⟨ivs, k, hc, _, _, hb, hle, hsym, _⟩ := auto_commit_prefix env hac hlt
    have ht : Tiles 0 sh.com.len ivs := (hT.tilesAt env sh).conversion env hc
    rw [hsh, flush, flush_eq]
    exact ⟨sh, st, hd, hst, hl, hlt, ⟨rest, hr⟩, ⟨sumLen (ivs.take k), hle, hsym, hb ▸ (ht.take k).1⟩, c1, c3⟩

/-! ### what the API calls do to the commit buffer (they do not reset it first) -/

/-- `Editor::select(n)`: the choice itself never writes the commit buffer; if the buffer is then longer
    than the threshold the overflow path runs (result *commit*, buffer = the pushed-out prefix),
    otherwise the commit buffer is what it was -/
theorem api_select {e e' : Editor D L} {n : Nat} {r : Bool} (h : e.select env n = .ok (e', r)) :
    (e'.shared.commitBuf = e.shared.commitBuf ∧ (e' = e ∨ e'.shared.last ≠ .commit)) ∨
    (∃ sh, sh.commitBuf = e.shared.commitBuf ∧ sh.last = .absorb ∧
       sh.options.autoCommitThreshold < sh.com.len ∧
       Shared.tryAutoCommit env sh = .ok e'.shared ∧ e'.shared.last = .commit) := by
  obtain ⟨m, _, hb, ⟨hsh, hq⟩ | ⟨_, hab, hlt, hac, hl⟩⟩ := select_path env e n _ h
  · exact .inl ⟨hsh ▸ hb, hq.imp (·.2) (hsh ▸ ·)⟩
  · exact .inr ⟨m, hb, hab, hlt, hac, hl⟩

/-- **the calls other than a key and `select(n)`**: `ack` and `clear` empty the commit buffer, a successful `commit()`
    fills it (`commit_equals_display_api`), every other call — refused or not — leaves it as it is -/
theorem api_commitBuf {e : Editor D L} {op : Op L} {sh' : Shared D L} {st' : St} (h : ApiEff env e op sh' st') :
    sh'.commitBuf = e.shared.commitBuf ∨ (sh'.commitBuf = [] ∧ (op = .ack ∨ op = .clear)) ∨ op = .commit := by
  induction h with
  | committed => exact .inr (.inr rfl)
  | cleared => exact .inr (.inl ⟨rfl, .inr rfl⟩)
  | acked => exact .inr (.inl ⟨rfl, .inl rfl⟩)
  | dict _ _ hf => exact .inl hf.fields.2.2.2.2.2.1
  | left _ ih | relisted _ _ _ _ ih | closed _ _ _ _ _ _ ih => exact ih
  | _ => exact .inl rfl

/-- `Editor::start_selecting` never touches the commit buffer -/
theorem api_startSelecting {e e' : Editor D L} {r : Bool} (h : e.startSelecting env = .ok (e', r)) :
    e'.shared.commitBuf = e.shared.commitBuf :=
  (api_commitBuf env (apply_eff (op := .startSelecting) nofun nofun
    (show e.apply env .startSelecting = .ok e' from congrArg (Outcome.map fun x : Editor D L × Bool => x.1) h))).resolve_right
    (by rintro (⟨_, c | c⟩ | c) <;> cases c)

/-- `Editor::cancel_selecting` never touches the commit buffer -/
theorem api_cancelSelecting (e : Editor D L) : e.cancelSelecting.1.shared.commitBuf = e.shared.commitBuf := by
  unfold Editor.cancelSelecting
  split <;> rfl

/-- `Editor::jump_to_*_selection_point` never touch the shared state at all -/
theorem api_jump {e e' : Editor D L} {w : Nat} {r : Bool} (h : e.jump env w = .ok (e', r)) :
    e'.shared = e.shared :=
  C05.jump_shared env h

/-- `Editor::ack` and `Editor::clear` empty the commit buffer -/
theorem api_ack_clear (e : Editor D L) : e.ack.shared.commitBuf = [] ∧ (e.clear env).shared.commitBuf = [] :=
  ⟨rfl, rfl⟩

/-! ## 5. every operation and whole histories: nothing lost, nothing invented

`editPart env e op` is the shared state after the *editing part* of an operation (state machine / API
call) and before its commit path; `emitted e op e'` is the text the application receives from the
operation; `accepted e op m` the net number of characters the editing part took in.  Definitions in
`Proofs/EditorCommitHistory.lean`. -/

/-- **every operation** (key, `select(n)`, `commit()`, every other public call), for every environment:
    its editing part returns, and the operation has one of three shapes — (K) nothing emitted, the
    pre-edit is what the editing part left; (S) one character passed straight through an empty
    pre-edit; (C) a commit path ran: the emitted text is the text of the first `k` intervals of the
    conversion of the edited buffer (`k ≥ 1` unless the conversion is empty) — all of them and the pre-edit is empty afterwards (Enter,
    `commit()`), or the buffer exceeded the threshold and exactly the symbols under the least
    sufficient leading part were removed from the front (overflow after a key or after `select(n)`).
    There is no fourth way: no operation removes symbols through a commit path without emitting them,
    and none emits text that is not a leading part of what was displayed. -/
theorem step_accounts {e e' : Editor D L} {op : Op L} (ha : e.apply env op = .ok e') :
    ∃ m, editPart env e op = .ok m ∧ StepShape env e op m e' := by
  obtain ⟨m, hm⟩ := editPart_ok env ha
  exact ⟨m, hm, step_shape env ha hm⟩

/-- **nothing invented**: what an operation emits is empty, or one directly committed character (empty
    pre-edit), or a leading part of the pre-edit string `display` shows for the edited buffer -/
theorem emitted_was_displayed {e e' : Editor D L} {op : Op L} {m : Shared D L}
    (ha : e.apply env op = .ok e') (hm : editPart env e op = .ok m) :
    emitted e op e' = [] ∨ (direct e op m = true ∧ ∃ ch, emitted e op e' = [ch]) ∨
    ∃ rest, Shared.display env m = .ok (emitted e op e' ++ rest) := by
  rcases step_shape env ha hm with ⟨_, h, _⟩ | ⟨hd, _, ch, h, _⟩ | ⟨_, ivs, k, hc, _, _, hem, _⟩
  · exact Or.inl h
  · exact Or.inr (Or.inl ⟨hd, ch, h⟩)
  · exact Or.inr (Or.inr ⟨textOf (ivs.drop k), hem ▸ display_split env hc k⟩)

/-- **nothing lost, nothing duplicated** (one operation): with a tiling engine at the edited state,
    characters emitted + symbols remaining = symbols before + characters accepted by the editing part -/
theorem step_ledger {e e' : Editor D L} {op : Op L} {m : Shared D L}
    (ha : e.apply env op = .ok e') (hm : editPart env e op = .ok m) (hT : TilesAt env m) :
    ((emitted e op e').length : Int) + e'.shared.com.len = e.shared.com.len + accepted e op m :=
  shape_ledger env hT (step_shape env ha hm)

/-- … and after a commit path the remaining symbols are exactly those behind the emitted characters -/
theorem step_remaining {e e' : Editor D L} {op : Op L} {m : Shared D L}
    (ha : e.apply env op = .ok e') (hm : editPart env e op = .ok m) (hT : TilesAt env m)
    (hne : emitted e op e' ≠ []) (hd : direct e op m = false) :
    e'.shared.com.symbols = m.com.symbols.drop (emitted e op e').length := by
  rcases step_shape env ha hm with ⟨_, h, _⟩ | ⟨hd', _⟩ | ⟨_, ivs, k, hc, _, _, hem, hcase⟩
  · exact absurd h hne
  · rw [hd] at hd'; cases hd'
  · have ht := hT.conversion env hc
    rw [hem]
    rcases hcase with ⟨hk, hsym, _⟩ | ⟨_, _, hsym, _⟩
    · obtain ⟨t1, t2⟩ := ht.total
      rw [hk, List.take_length, t2, hsym, List.drop_eq_nil_of_le]
      rw [show m.com.symbols.length = m.com.len from rfl]; omega
    · rw [(ht.take k).1]; exact hsym

/-- the log of a history that starts with `op`: the step, its edited state, and the log of the rest -/
theorem runLog_cons {e e' : Editor D L} {op : Op L} {ops : List (Op L)} {outs : List Text} {acc : Int}
    (h : e.runLog env (op :: ops) = .ok (e', outs, acc)) :
    ∃ e1 m outs2 acc2, e.apply env op = .ok e1 ∧ editPart env e op = .ok m ∧
      e1.runLog env ops = .ok (e', outs2, acc2) ∧ outs = emitted e op e1 :: outs2 ∧ acc = accepted e op m + acc2 := by
  unfold Editor.runLog at h
  split at h
  · next e1 m ha hm =>
    split at h
    · next outs2 acc2 hr => cases h; exact ⟨e1, m, outs2, acc2, ha, hm, hr, rfl, rfl⟩
    · cases h
    · cases h
  all_goals cases h

/-- the log of a history is a log of `run`: same final state, one entry per operation … -/
theorem runLog_run {e e' : Editor D L} {ops : List (Op L)} {outs : List Text} {acc : Int}
    (h : e.runLog env ops = .ok (e', outs, acc)) : e.run env ops = .ok e' ∧ outs.length = ops.length := by
  induction ops generalizing e outs acc with
  | nil => cases h; exact ⟨rfl, rfl⟩
  | cons op ops ih =>
    obtain ⟨e1, m, outs2, acc2, ha, _, hr, rfl, _⟩ := runLog_cons env h
    obtain ⟨i1, i2⟩ := ih hr
    exact ⟨(Editor.folds env).cons_ok.mpr ⟨e1, ha, i1⟩, congrArg (· + 1) i2⟩

/-- … and every history that runs has a log -/
theorem run_runLog {e e' : Editor D L} {ops : List (Op L)} (h : e.run env ops = .ok e') :
    ∃ outs acc, e.runLog env ops = .ok (e', outs, acc) := by
  induction ops generalizing e with
  | nil => injection h with h; subst h; exact ⟨[], 0, rfl⟩
  | cons op ops ih =>
    obtain ⟨e1, ha, h⟩ := (Editor.folds env).cons_ok.mp h
    obtain ⟨m, hm⟩ := editPart_ok env ha
    obtain ⟨outs, acc, hr⟩ := ih h
    exact ⟨emitted e op e1 :: outs, accepted e op m + acc, by unfold Editor.runLog; rw [ha, hm]; simp only [hr]⟩

/-- **every step of every history** has one of the three shapes of `step_accounts` -/
theorem history_shapes (e : Editor D L) (ops : List (Op L)) : AllSteps env (StepShape env) e ops := by
  induction ops generalizing e with
  | nil => trivial
  | cons op ops ih => exact fun e' m ha hm => ⟨step_shape env ha hm, ih e'⟩

/-- **C02 over histories: no text is lost or invented.**  For every history of public operations whose
    edited states are tiled by the engine (`TilesAlong`): the characters of all commit strings the
    application received, plus the symbols still in the pre-edit, equal the symbols there were at the
    start plus the characters accepted by the editing parts (typed minus deleted) — the commit paths
    (Enter, `commit()`, overflow after a key, overflow after `select(n)`, direct commit of a key in
    English / full-width mode) never drop, duplicate or add a character. -/
theorem history_ledger {e e' : Editor D L} {ops : List (Op L)} {outs : List Text} {acc : Int}
    (hT : TilesAlong env e ops) (h : e.runLog env ops = .ok (e', outs, acc)) :
    ((outs.flatten).length : Int) + e'.shared.com.len = e.shared.com.len + acc := by
  induction ops generalizing e outs acc with
  | nil => cases h; simp
  | cons op ops ih =>
    obtain ⟨e1, m, outs2, acc2, ha, hm, hr, rfl, rfl⟩ := runLog_cons env h
    have i1 := ih (hT.2 e1 ha) hr
    have i2 := step_ledger env ha hm (hT.1 m hm)
    simp only [List.flatten_cons, List.length_append, Int.natCast_add]
    omega

/-- the same for an engine that tiles every composition -/
theorem history_ledger_convTiles (hT : ConvTiles env) {e e' : Editor D L} {ops : List (Op L)}
    {outs : List Text} {acc : Int} (h : e.runLog env ops = .ok (e', outs, acc)) :
    ((outs.flatten).length : Int) + e'.shared.com.len = e.shared.com.len + acc :=
  history_ledger env (hT.tilesAlong env e ops) h

/-! ### the tiling hypothesis is C03's theorem -/

/-- the editor's engine kinds as C03's engines (`C01.toEngine`, constructor for constructor) -/
def engOf : EngineKind → Conv.Engine
  | .simple => .simple
  | .chewing => .chewing
  | .fuzzy => .fuzzy

/-- **C03 discharges `TilesAt`**, with exactly C03's hypotheses: at a state where the environment's
    engine answers as C03's model of the three real engines (for any tie-breaking oracle `pick` and any
    reading `view` of the dictionary state as a lookup function), the composition is valid
    (`CompValid`: F31 excluded), phrases have one character per syllable (`WellFormed`) and every syllable
    has a word under the engine's strategy (`HasWord`; otherwise every engine shows the syllable's Bopomofo
    spelling, F30 — since the F02 / F03 repair also the Chewing engines, which used to abort), every alternative
    tiles the buffer with one character per symbol. -/
theorem tilesAt_of_C03 {sh : Shared D L} {pick : Nat → List Conv.Path → Nat} {view : D → Dict}
    (henv : env.convert sh.engine sh.dict sh.com.inner =
      Conv.convert pick (engOf sh.engine) (view sh.dict) sh.com.inner)
    (hc : Conv.CompValid sh.com.inner) (hw : Conv.WellFormed (view sh.dict))
    (hh : Conv.HasWord (view sh.dict) (engOf sh.engine).strategy sh.com.inner) :
    TilesAt env sh := by
  intro paths hp p hm
  rw [henv] at hp
  exact tiles_of_chain (C03.alt_chain hc hp p hm) (C03.one_char_per_symbol hc hw hh hp p hm)

/-! ## 4. non-vacuity: a concrete environment with a real (two-entry) dictionary and a trivial engine -/

abbrev ToyDict := List Entry

/-- the first word the dictionary has for a syllable (`?` if none); direct characters as they are -/
def firstWord (d : ToyDict) : Sym → Nat
  | .syl c => ((((d.filter (fun e => e.1 == [c])).map (·.2)).head?).bind (·.text.head?)).getD 63
  | .chr cp => cp

/-- one interval per symbol, text chosen by `f` -/
def perSym (f : Sym → Nat) : Nat → List Sym → List Interval
  | _, [] => []
  | start, s :: rest => { start := start, stop := start + 1, isPhrase := s.isSyl, text := [f s] } :: perSym f (start + 1) rest

theorem perSym_tiles (f : Sym → Nat) (syms : List Sym) : ∀ start, Tiles start (start + syms.length) (perSym f start syms) := by
  induction syms with
  | nil => intro start; simp [perSym, Tiles]
  | cons s rest ih =>
    intro start
    refine ⟨rfl, Nat.lt_succ_self _, by simp, ?_⟩
    have := ih (start + 1)
    simp only [List.length_cons]
    rw [show start + (rest.length + 1) = start + 1 + rest.length by omega]
    exact this

/-- dictionary = entry list (`ㄏ`=100 ↦ "A", `ㄐ`=200 ↦ "B" in `toyDict`); layout: key `h` (code 32) starts
    syllable 100, key `j` (code 33) starts syllable 200, Space completes it; engine: two alternatives,
    each one interval per symbol — the first word of the dictionary, or `*` -/
def richEnv : Env ToyDict Nat where
  lookupAll d key _ := (d.filter (fun e => e.1 == key)).map (·.2)
  userLookupAll _ _ _ := []
  addPhrase d key p := some (d ++ [(key, p)])
  updatePhrase d _ _ _ _ := d
  removePhrase d key t := d.filter (fun e => !(e.1 == key && e.2.text == t))
  reopenFlush d := d
  convert _ d c := .ok [perSym (firstWord d) 0 c.symbols, perSym (fun _ => 42) 0 c.symbols]
  estimate _ f _ := .ok f
  keyPress l ev :=
    if ev.code = 32 then (.absorb, 100) else if ev.code = 33 then (.absorb, 200)
    else if ev.code = KC.space ∧ l ≠ 0 then (.commit, l) else (.keyError, l)
  fuzzyKeyPress l _ := (.keyError, l)
  removeLast _ := 0
  clearSyl _ := 0
  sylIsEmpty l := l == 0
  read l := l
  altSyllables _ _ := []

def toyDict : ToyDict := [([100], { text := [65], freq := 1 }), ([200], { text := [66], freq := 1 })]

/-- the toy engine satisfies the tiling hypothesis (for the real engines this is C03) -/
theorem richEnv_tiles : ConvTiles richEnv := by
  intro k d c paths hp p hmem
  injection hp with hp; subst hp
  simp only [List.mem_cons, List.not_mem_nil, or_false] at hmem
  rcases hmem with rfl | rfl
  · simpa using perSym_tiles (firstWord d) c.symbols 0
  · simpa using perSym_tiles (fun _ => 42) c.symbols 0

example : ConvTiles richEnv ∧ ConvHeadText richEnv := ⟨richEnv_tiles, ConvTiles.headText richEnv richEnv_tiles⟩

def kH : KeyEvent := { index := 32, code := 32, unicode := 104 }
def kJ : KeyEvent := { index := 33, code := 33, unicode := 106 }
def kSpace : KeyEvent := { index := 48, code := KC.space, unicode := 32 }
def kTab : KeyEvent := { index := 53, code := KC.tab, unicode := 65533 }
def kEnter : KeyEvent := { index := 50, code := KC.enter, unicode := 65533 }
/-- Enter with Shift and CapsLock held still reaches the Enter arm -/
def kEnterMods : KeyEvent := { kEnter with mods := { shift := true, capslock := true } }

def rich0 (thr : Nat) : Editor ToyDict Nat :=
  { shared := { syl := 0, dict := toyDict, options := { autoCommitThreshold := thr } } }

/-- type `h␣ j␣`: the pre-edit shows "AB"; Enter commits exactly "AB" and empties the buffer -/
example : ∃ e e', (rich0 39).run richEnv [.key kH, .key kSpace, .key kJ, .key kSpace] = .ok e ∧
    e.state = .entering ∧ e.shared.com.isEmpty = false ∧
    Shared.display richEnv e.shared = .ok [65, 66] ∧
    e.processKey richEnv kEnterMods = .ok (e', .commit) ∧ e'.shared.commitBuf = [65, 66] ∧
    e'.shared.com.symbols = [] := by
  refine ⟨_, _, rfl, ?_, ?_, ?_, rfl, ?_, ?_⟩ <;> decide

/-- … with the second alternative chosen by Tab, display and commit are both "**" (and auto-learning has
    added the phrase to the dictionary in between: the dictionary after the step differs) -/
example : ∃ e e', (rich0 39).run richEnv [.key kH, .key kSpace, .key kJ, .key kSpace, .key kTab] = .ok e ∧
    e.shared.nth = 1 ∧ Shared.display richEnv e.shared = .ok [42, 42] ∧
    e.processKey richEnv kEnter = .ok (e', .commit) ∧ e'.shared.commitBuf = [42, 42] ∧
    e'.shared.dict ≠ e.shared.dict := by
  refine ⟨_, _, rfl, ?_, ?_, rfl, ?_, ?_⟩ <;> decide

/-- the editor after typing `h␣ j␣` -/
def eAB : Editor ToyDict Nat :=
  match (rich0 39).run richEnv [.key kH, .key kSpace, .key kJ, .key kSpace] with
  | .ok e => e
  | _ => rich0 39

/-- the hypotheses of `commit_equals_display` are satisfiable (and its conclusion is what was computed) -/
example : ∃ (e' : Editor ToyDict Nat) (b : KB),
    eAB.state = .entering ∧ eAB.shared.com.isEmpty = false ∧ kEnterMods.code = KC.enter ∧
    eAB.processKey richEnv kEnterMods = .ok (e', b) ∧
    b = .commit ∧ Shared.display richEnv eAB.shared = .ok e'.shared.commitBuf := by
  refine ⟨_, _, by decide, by decide, rfl, rfl, ?_⟩
  have := commit_equals_display richEnv (e := eAB) (ev := kEnterMods) (by decide) (by decide) rfl rfl
  exact ⟨this.1, this.2.1⟩

/-- the API call does the same -/
example : ∃ e e', (rich0 39).run richEnv [.key kH, .key kSpace, .key kJ, .key kSpace] = .ok e ∧
    e.commit richEnv = .ok (e', true) ∧ e'.shared.commitBuf = [65, 66] ∧ e'.shared.com.symbols = [] := by
  refine ⟨_, _, rfl, rfl, ?_, ?_⟩ <;> decide

/-- overflow: threshold 1, the second syllable pushes out "A"; "B"'s syllable remains; result *commit* -/
example : ∃ e e', (rich0 1).run richEnv [.key kH, .key kSpace, .key kJ] = .ok e ∧
    e.processKey richEnv kSpace = .ok (e', .commit) ∧ e'.shared.commitBuf = [65] ∧
    e'.shared.com.symbols = [.syl 200] ∧ e'.shared.com.len ≤ 1 := by
  refine ⟨_, _, rfl, rfl, ?_, ?_, ?_⟩ <;> decide

/-- the hypotheses of `key_auto_commit` are satisfiable -/
example : ∃ (e e' : Editor ToyDict Nat), (rich0 1).run richEnv [.key kH, .key kSpace, .key kJ] = .ok e ∧
    e.processKey richEnv kSpace = .ok (e', .commit) ∧
    ¬ (e.state = .entering ∧ kSpace.code = KC.enter) ∧ e.shared.com.isEmpty = false :=
  ⟨_, _, rfl, rfl, by decide, by decide⟩

/-- the hypothesis of `auto_commit_prefix` is satisfiable: threshold 0 empties a one-symbol buffer … -/
example : ∃ sh sh', Shared.tryAutoCommit richEnv sh = .ok sh' ∧ sh.options.autoCommitThreshold < sh.com.len ∧
    sh'.commitBuf = [65] ∧ sh'.com.symbols = [] := by
  refine ⟨{ syl := 0, dict := toyDict, options := { autoCommitThreshold := 0 },
            com := { cursor := 1, inner := { symbols := [.syl 100], gaps := [.begin] } } }, _, rfl, ?_, ?_, ?_⟩ <;> decide

/-- … and an absorbed key commits nothing (`no_phantom_commit` is not vacuous) -/
example : ∃ e', (rich0 39).processKey richEnv kH = .ok (e', .absorb) ∧ e'.shared.commitBuf = [] :=
  ⟨_, rfl, by decide⟩

/-! ### non-vacuity of section 5 -/

/-- a history through two commit routes — overflow after a key (threshold 1) and Enter; direct commit is not
    possible in this toy layout — with its log and ledger: `h␣ j␣` pushes out "A", Enter commits "B";
    2 characters accepted, 2 emitted, none left -/
example : ∃ e', (rich0 1).runLog richEnv [.key kH, .key kSpace, .key kJ, .key kSpace, .key kEnter] =
      .ok (e', [[], [], [], [65], [66]], 0 + (1 + (0 + (1 + (0 + 0))))) ∧ e'.shared.com.symbols = [] :=
  ⟨_, rfl, by decide⟩

/-- … `commit()` and overflow after `select(n)` are routes too: lower the threshold while a candidate list
    is open, choose: the overflow runs after the choice -/
example : ∃ e' outs acc, (rich0 39).runLog richEnv
      [.key kH, .key kSpace, .key kJ, .key kSpace, .startSelecting,
       .setOptions { autoCommitThreshold := 1 }, .select 0, .commit] = .ok (e', outs, acc) ∧
      outs = [[], [], [], [], [], [], [65], [66]] ∧ acc = 2 ∧ e'.shared.com.symbols = [] := by
  refine ⟨_, _, _, rfl, ?_, ?_, ?_⟩ <;> decide

/-- direct commit (shape S): English mode, empty pre-edit, key `x` commits exactly "x"; in full-width form
    exactly its full-width form "ｘ" — in both cases a `DirectChar` of the key; ledger: 1 accepted, 1 emitted -/
def kX : KeyEvent := { index := 40, code := 40, unicode := 120 }

def engEditor (form : CharForm) : Editor ToyDict Nat :=
  { shared := { syl := 0, dict := toyDict, options := { languageMode := .english, characterForm := form } } }

example : ∃ e', (engEditor .half).processKey richEnv kX = .ok (e', .commit) ∧
    e'.shared.commitBuf = [120] ∧ DirectChar kX 120 :=
  ⟨_, rfl, by decide, Or.inl rfl⟩

example : ∃ e', (engEditor .full).processKey richEnv kX = .ok (e', .commit) ∧
    e'.shared.commitBuf = [65368] ∧ DirectChar kX 65368 :=
  ⟨_, rfl, by decide, Or.inr (Or.inl (by decide))⟩

example : ∃ e', (engEditor .half).runLog richEnv [.key kX, .key kX] = .ok (e', [[120], [120]], 1 + (1 + 0)) :=
  ⟨_, rfl⟩

/-- the hypothesis of `history_ledger` is satisfiable for every history of the toy environment -/
example (e : Editor ToyDict Nat) (ops : List (Op Nat)) : TilesAlong richEnv e ops :=
  richEnv_tiles.tilesAlong richEnv e ops

/-- an environment whose engine IS C03's model of the real engines (tie-breaking oracle `pickFirstMin`),
    over C03's dictionary type; keys `h` / `j` type `ㄘㄜˋ` / `ㄕˋ` -/
def convEnv : Env Dict Nat where
  lookupAll d key s := d.lookup key s
  userLookupAll _ _ _ := []
  addPhrase d _ _ := some d
  updatePhrase d _ _ _ _ := d
  removePhrase d _ _ := d
  reopenFlush d := d
  convert k d c := Conv.convert Conv.pickFirstMin (engOf k) d c
  estimate _ f _ := .ok f
  keyPress l ev :=
    if ev.code = 32 then (.absorb, 10268) else if ev.code = 33 then (.absorb, 1100)
    else if ev.code = KC.space ∧ l ≠ 0 then (.commit, l) else (.keyError, l)
  fuzzyKeyPress l _ := (.keyError, l)
  removeLast _ := 0
  clearSyl _ := 0
  sylIsEmpty l := l == 0
  read l := l
  altSyllables _ _ := []

/-- C03's example composition (a selection, a break, a glue mark, a character) in an editor state: all of
    C03's hypotheses hold, hence `TilesAt` -/
example : TilesAt convEnv
    { syl := 0, dict := C03.dEx, engine := .chewing, com := { cursor := 6, inner := C03.cEx } } :=
  tilesAt_of_C03 convEnv (pick := Conv.pickFirstMin) (view := id) rfl (by decide) C03.dEx_ok.2
    (by decide)

/-- the editor state after typing `ㄘㄜˋ ㄕˋ` over C03's example dictionary -/
def shTS : Shared Dict Nat :=
  { syl := 0, dict := C03.dEx,
    com := { cursor := 2, inner := { symbols := [.syl 10268, .syl 1100], gaps := [.begin, .normal] } } }

/-- … it is what the keys `h␣ j␣` produce in the editor over the real engine model -/
example : (({ shared := { syl := 0, dict := C03.dEx } } : Editor Dict Nat).run convEnv
      [.key kH, .key kSpace, .key kJ, .key kSpace]).map (fun e => (e.shared.com, e.shared.nth, e.state)) =
    .ok (shTS.com, 0, .entering) := by decide +kernel

/-- … it satisfies C03's hypotheses, hence `TilesAt` by `tilesAt_of_C03` -/
example : TilesAt convEnv shTS :=
  tilesAt_of_C03 convEnv (pick := Conv.pickFirstMin) (view := id) rfl (by decide) C03.dEx_ok.2
    (by decide)

/-- … the pre-edit shows the phrase 測試, and `commit()` emits exactly 測試 and empties the pre-edit -/
example : Shared.display convEnv shTS = .ok [28204, 35430] ∧
    (({ shared := shTS } : Editor Dict Nat).apply convEnv .commit).map
      (fun e' => (emitted { shared := shTS } .commit e', e'.shared.com.symbols)) = .ok ([28204, 35430], []) := by
  constructor <;> decide +kernel

/-- without a hypothesis on the engine `commit_has_text` fails: `C06.toyEnv` converts everything to
    nothing, Enter on a one-character buffer reports *commit* with an empty commit string -/
example : ∃ e', ({ shared := { syl := 0, dict := (), com := { cursor := 1, inner := { symbols := [.chr 65], gaps := [.begin] } } } } :
      Editor Unit Nat).processKey toyEnv kEnter = .ok (e', .commit) ∧ e'.shared.commitBuf = [] :=
  ⟨_, rfl, by decide⟩

/-! ## linked: the ledger over histories WITHOUT the tiling premise

`history_ledger` assumes `TilesAlong` (the engine's answer tiles the buffer at every edited state of the
history, ONE CHARACTER PER SYMBOL).  That is a statement about states in which every buffered syllable has a
word: since the F02 / F03 repair a syllable without a word no longer aborts the engine, it is shown — and
committed — as its Bopomofo spelling (1–4 characters for one symbol, C03 `text_shape`), so on such states the
character ledger does NOT hold as an equation (the harness oracle counts a spelled syllable as one symbol).
C01 proves that editor histories outside the word-losing class `Known` (the class of F02 / F03) reach only
states satisfying `EditorInv … True` — composition valid (C04 / `CompValid`), cursor in range (C05), a word for
every buffered syllable — for every environment satisfying `EnvOK`; `EnvOK.convert_ok` / `convert_len` are
C03's theorems about the engines.
`Proofs/EditorLink.lean` shows that the states INSIDE a step (`editPart`) satisfy the shared-state invariant
too and derives `TilesAlong` (`Link.tilesAlong_of_allowed`).  Clauses of `EnvOK` used: ALL of them —
`convert_ok` gives the tiling itself and totality of the commit paths; `wf`, `std_fuzzy`, `add_*`, `update_*`,
`flush_*`, `remove_good` keep "every buffered syllable has a word" and the well-formedness of the dictionary
along learning keys and API calls (the invariant the tiling needs); `estimate_ok` makes learning total. -/

section Linked
open Chewing.C01
variable {env} {G : D → Prop}

/-- **C02 over histories, linked**: for every environment satisfying C01's `EnvOK`, from every state
    satisfying C01's reachable-state invariant, along every history that avoids C01's word-losing class `Known`
    (`Allowed`: valid arguments, no operation after which a buffered syllable is left without a word; the `jump_*` calls on an open phrase list are included since C01
    covers them) the ledger equation holds:
    characters of all commit strings + symbols left = symbols at the start + characters accepted.
    No `TilesAlong` premise. -/
theorem history_ledger_linked (hE : EnvOK env G) {e e' : Editor D L} (hi : EditorInv env G True e) {ops : List (Op L)}
    (ha : Allowed env e ops) {outs : List Text} {acc : Int} (h : e.runLog env ops = .ok (e', outs, acc)) :
    ((outs.flatten).length : Int) + e'.shared.com.len = e.shared.com.len + acc :=
  history_ledger env (Link.tilesAlong_of_allowed hE ops e hi ha) h

/-- … and such a history always HAS a log: it runs to the end (C01), ends in a state satisfying the
    invariant, and the ledger holds -/
theorem history_ledger_total (hE : EnvOK env G) {e : Editor D L} (hi : EditorInv env G True e) {ops : List (Op L)}
    (ha : Allowed env e ops) :
    ∃ e' outs acc, e.runLog env ops = .ok (e', outs, acc) ∧ EditorInv env G True e' ∧
      ((outs.flatten).length : Int) + e'.shared.com.len = e.shared.com.len + acc := by
  obtain ⟨e', hr, hi'⟩ := C01_partial_run hE ops e hi ha
  obtain ⟨outs, acc, hl⟩ := run_runLog env hr
  exact ⟨e', outs, acc, hl, hi', history_ledger_linked hE hi ha hl⟩

/-- **from the fresh editor** (empty pre-edit, well-formed dictionary and symbol tables, options as the C API
    couples them): every allowed history runs, and everything the application received plus what is still
    in the pre-edit is exactly what the editing parts accepted -/
theorem history_ledger_fresh (hE : EnvOK env G) (sh : Shared D L) (hg : G sh.dict) (hcom : sh.com = {})
    (hcp : sh.options.lookupStrategy = .fuzzyPartialPrefix → engStrategy sh.engine = .fuzzyPartialPrefix)
    (hpp : 0 < sh.options.candidatesPerPage) (hsym : SymWF sh.symSel) {ops : List (Op L)}
    (ha : Allowed env { shared := sh, state := .entering } ops) :
    ∃ e' outs acc, ({ shared := sh, state := .entering } : Editor D L).runLog env ops = .ok (e', outs, acc) ∧
      ((outs.flatten).length : Int) + e'.shared.com.len = acc := by
  obtain ⟨e', outs, acc, hl, _, hled⟩ := history_ledger_total hE (initial_inv sh hg hcom (fun _ => hcp) hpp hsym) ha
  refine ⟨e', outs, acc, hl, ?_⟩
  have h0 : ({ shared := sh, state := .entering } : Editor D L).shared.com.len = 0 := by
    show sh.com.len = 0
    rw [hcom]; rfl
  rw [h0] at hled
  omega

/-- **for the environment whose engine is C03's model** (`Link.EngineIsC03`: `env.convert` is `Conv.convert`
    on buffers of at most 128 symbols, over dictionaries satisfying C03's hypotheses) and whose dictionary
    satisfies the dictionary clauses of `EnvOK` (`Link.DictOK`): the same, with C03's theorems in place of
    the hypothesis on the engine -/
theorem history_ledger_C03 {pick : Nat → List Conv.Path → Nat} {view : D → Dict} (hd : Link.DictOK env G)
    (he : Link.EngineIsC03 env G pick view) (sh : Shared D L) (hg : G sh.dict) (hcom : sh.com = {})
    (hcp : sh.options.lookupStrategy = .fuzzyPartialPrefix → engStrategy sh.engine = .fuzzyPartialPrefix)
    (hpp : 0 < sh.options.candidatesPerPage) (hsym : SymWF sh.symSel) {ops : List (Op L)}
    (ha : Allowed env { shared := sh, state := .entering } ops) :
    ∃ e' outs acc, ({ shared := sh, state := .entering } : Editor D L).runLog env ops = .ok (e', outs, acc) ∧
      ((outs.flatten).length : Int) + e'.shared.com.len = acc :=
  history_ledger_fresh (Link.envOK_of_C03 hd he) sh hg hcom hcp hpp hsym ha

/-! ### non-vacuity: a concrete environment over C03's engine model and example dictionary -/

/-- Boolean form of `Conv.SpellNonempty` -/
def spellOKb (c : Composition) : Bool :=
  c.symbols.all fun s => match s with
    | .syl k => !(spell k).isEmpty
    | .chr _ => true

theorem spellOKb_iff (c : Composition) : spellOKb c = true ↔ Conv.SpellNonempty c := by
  unfold spellOKb Conv.SpellNonempty
  rw [List.all_eq_true]
  constructor
  · intro h k hk
    have := h _ hk
    simp only [Bool.not_eq_true', List.isEmpty_eq_false_iff] at this
    exact this
  · intro h x hx
    cases x with
    | syl k => simp only [Bool.not_eq_true', List.isEmpty_eq_false_iff]; exact h k hx
    | chr _ => rfl

/-- `convEnv` with the engine model on the buffers C03's theorems cover (≤ 128 symbols, no syllable with the
    empty spelling) -/
def linkEnv : Env Dict Nat :=
  { convEnv with
    convert := fun k d c =>
      if c.symbols.length ≤ 128 ∧ spellOKb c = true then Conv.convert Conv.pickFirstMin (toEngine k) d c
      else .ok [singles (fun _ => true) c.symbols 0] }

theorem linkEnv_beyond (k : EngineKind) (d : Dict) {c : Composition}
    (hlen : 128 < c.symbols.length ∨ ¬ Conv.SpellNonempty c) :
    linkEnv.convert k d c = .ok [singles (fun _ => true) c.symbols 0] :=
  if_neg fun ⟨h1, h2⟩ => hlen.elim (Nat.not_lt.mpr h1) fun h => h ((spellOKb_iff c).mp h2)

theorem linkEnv_dictOK : Link.DictOK linkEnv (fun d => d = C03.dEx) where
  wf := by intro d hd k s p hp; subst hd; exact C03.dEx_ok.2 k s p hp
  std_fuzzy := by intro d c hd h; subst hd; exact h
  add_good := by intro d k p d' hd h _; cases h; exact hd
  add_mono := by intro d k p d' h c s hh; cases h; exact hh
  update_good := fun _ _ _ _ _ hd _ => hd
  update_mono := fun _ _ _ _ _ _ _ hh => hh
  flush_good := fun _ hd => hd
  flush_mono := fun _ _ _ hh => hh
  remove_good := fun _ _ _ hd => hd
  estimate_ok := fun _ f _ => ⟨f, rfl⟩

theorem linkEnv_engine : Link.EngineIsC03 linkEnv (fun d => d = C03.dEx) Conv.pickFirstMin id where
  pick_ok := C03.pickFirstMin_inRange
  engine := by
    intro k d c h hn
    have : c.symbols.length ≤ 128 ∧ spellOKb c = true := ⟨h, (spellOKb_iff c).mpr hn⟩
    simp only [linkEnv, this, if_true, id, and_self]
  lookup := fun _ _ _ h => h
  wellFormed := by intro d hd; subst hd; exact C03.dEx_ok.2
  freq := by
    intro d hd strat key p hp
    subst hd
    simp only [id, C03.dEx, Dict.ofEntries, List.mem_map, List.mem_filter] at hp
    obtain ⟨x, ⟨hx, _⟩, rfl⟩ := hp
    simp only [List.mem_cons, List.not_mem_nil, or_false] at hx
    rcases hx with rfl | rfl | rfl | rfl <;> decide
  beyond := by
    intro k d c _ _ hlen
    exact linkEnv_beyond k d hlen ▸ singles_pathW _ c
  beyond_len := by
    intro k d c paths _ _ hlen _ hq
    rw [linkEnv_beyond k d hlen] at hq
    cases Outcome.ok.inj hq
    intro p hp
    simp only [List.mem_cons, List.not_mem_nil, or_false] at hp
    subst hp
    exact singles_text _ _ (fun _ _ => rfl) 0

/-- **every key history** on the fresh editor over C03's engine model and example dictionary runs to the
    end and satisfies the ledger — no premise left -/
theorem linkEnv_key_histories (keys : List KeyEvent) :
    ∃ e' outs acc, ({ shared := { syl := 0, dict := C03.dEx } } : Editor Dict Nat).runLog linkEnv (keys.map .key) =
        .ok (e', outs, acc) ∧ ((outs.flatten).length : Int) + e'.shared.com.len = acc :=
  history_ledger_C03 linkEnv_dictOK linkEnv_engine { syl := 0, dict := C03.dEx } rfl rfl (fun h => by cases h)
    (by show (0 : Nat) < 10; omega) symWF_empty
    (allowed_of_plain _ _ (by
      intro op hop
      obtain ⟨k, _, rfl⟩ := List.mem_map.mp hop
      trivial))

/-- … and the history `h␣ j␣ Enter` really commits the two characters it accepted -/
example : (({ shared := { syl := 0, dict := C03.dEx } } : Editor Dict Nat).runLog linkEnv
      [.key kH, .key kSpace, .key kJ, .key kSpace, .key kEnter]).map (fun r => (r.2.1, r.2.2)) =
    .ok ([[], [], [], [], [28204, 35430]], 2) := by decide +kernel

end Linked

end Chewing.C02
